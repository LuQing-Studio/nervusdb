/-
  Proofs.CrashPlan — replay of logged node creations is idempotent and dense: whatever prefix of
  the node table reached the disk, recovery ends with the full node list.
-/
import Nervus.Proofs.CrashWal
namespace Nervus.Crash

def nodesOfOps : List Rec → List (Nat × Nat)
  | [] => []
  | .node x i :: r => (x, i) :: nodesOfOps r
  | _ :: r => nodesOfOps r

def seqFrom (N : List Nat) (i : Nat) : Nat → List (Nat × Nat)
  | 0 => []
  | k + 1 => (getSlot N i, i) :: seqFrom N (i + 1) k

theorem nodesOfOps_append (a b : List Rec) : nodesOfOps (a ++ b) = nodesOfOps a ++ nodesOfOps b := by
  induction a with
  | nil => rfl
  | cons r a ih => cases r <;> simp [nodesOfOps, ih]

theorem seqFrom_append (N : List Nat) (i a b : Nat) :
    seqFrom N i (a + b) = seqFrom N i a ++ seqFrom N (i + a) b := by
  induction a generalizing i with
  | zero => simp [seqFrom]
  | succ a ih =>
    have : a + 1 + b = (a + b) + 1 := by omega
    rw [this]
    simp [seqFrom, ih, show i + 1 + a = i + (a + 1) by omega]

theorem getSlot_eq_getElem : ∀ (N : List Nat) (i : Nat) (h : i < N.length), getSlot N i = N[i]
  | _ :: _, 0, _ => rfl
  | _ :: xs, i + 1, h => getSlot_eq_getElem xs i (Nat.lt_of_succ_lt_succ h)

theorem getSlot_mem (N : List Nat) (i : Nat) (h : i < N.length) : getSlot N i ∈ N :=
  getSlot_eq_getElem N i h ▸ List.getElem_mem h

theorem posOf_take_of_nodup : ∀ (N : List Nat) (i l : Nat), N.Nodup → i < l → l ≤ N.length →
    posOf (getSlot N i) (N.take l) = some i
  | [], i, l, _, hi, hl => by simp at hl; omega
  | y :: ys, 0, l + 1, _, _, _ => by simp [posOf, getSlot]
  | y :: ys, i + 1, l + 1, hnd, hi, hl => by
    have hnd' := List.nodup_cons.mp hnd
    have hlen : i < ys.length := by simp at hl; omega
    have hne : y ≠ getSlot ys i := by
      intro h
      exact hnd'.1 (h ▸ getSlot_mem ys i hlen)
    have ih := posOf_take_of_nodup ys i l hnd'.2 (by omega) (by simp at hl; omega)
    simp [posOf, getSlot, hne, ih]

theorem posOf_none_of_not_mem : ∀ (xs : List Nat) (x : Nat), x ∉ xs → posOf x xs = none
  | [], _, _ => rfl
  | y :: ys, x, h => by
    have h1 : y ≠ x := fun e => h (by simp [e])
    have h2 : x ∉ ys := fun e => h (by simp [e])
    simp [posOf, h1, posOf_none_of_not_mem ys x h2]

theorem getSlot_not_mem_take (N : List Nat) (l : Nat) (hnd : N.Nodup) (h : l < N.length) :
    getSlot N l ∉ N.take l := by
  rw [getSlot_eq_getElem N l h, List.mem_take_iff_getElem]
  rintro ⟨j, hj, e⟩
  have := (List.getElem_inj hnd).mp e
  omega

theorem take_succ_getSlot : ∀ (N : List Nat) (l : Nat), l < N.length →
    N.take (l + 1) = N.take l ++ [getSlot N l] :=
  fun N l h => getSlot_eq_getElem N l h ▸ List.take_succ_eq_append_getElem h

theorem drop_take_cons : ∀ (N : List Nat) (i m : Nat), i < m → m ≤ N.length →
    (N.take m).drop i = getSlot N i :: (N.take m).drop (i + 1) := by
  intro N i m h1 h2
  have hi : i < (N.take m).length := by rw [List.length_take]; omega
  rw [List.drop_eq_getElem_cons hi, List.getElem_take, getSlot_eq_getElem N i (by omega)]

theorem planNodes_acc (ops : List Rec) (exts : List Nat) (len : Nat) (acc : List Nat) :
    planNodes ops exts len acc =
      ((planNodes ops exts len []).1, (planNodes ops exts len []).2.1, (planNodes ops exts len []).2.2.1,
        acc ++ (planNodes ops exts len []).2.2.2) := by
  induction ops generalizing exts len acc with
  | nil => simp [planNodes]
  | cons r ops ih =>
    cases r <;> simp only [planNodes] <;> try (rw [ih])
    case node x i =>
      split
      · split
        · simp
        · rw [ih]
      · split
        · simp
        · rw [ih, ih (acc := [] ++ [x])]; simp

theorem planNodes_append (a b : List Rec) (exts : List Nat) (len : Nat) (acc : List Nat) :
    planNodes (a ++ b) exts len acc =
      (match planNodes a exts len acc with
       | (none, e', l', acc') => planNodes b e' l' acc'
       | r => r) := by
  induction a generalizing exts len acc with
  | nil => simp [planNodes]
  | cons r a ih =>
    cases r <;> simp only [List.cons_append, planNodes] <;> try (exact ih _ _ _)
    case node x i =>
      split
      · split
        · rfl
        · exact ih _ _ _
      · split
        · rfl
        · exact ih _ _ _

/-- the logged nodes are positions `i … i+k-1` of the node list `N`; the node table that reached
    the disk holds the first `l ≥ i` nodes: replay skips those that are there and appends the others
    in order, without error. -/
theorem planNodes_seq (N : List Nat) (hnd : N.Nodup) (h0 : 0 ∉ N) :
    ∀ (ops : List Rec) (i k l : Nat) (acc : List Nat),
      nodesOfOps ops = seqFrom N i k → i + k ≤ N.length → i ≤ l → l ≤ N.length →
      planNodes ops (N.take l) l acc =
        (none, N.take (max l (i + k)), max l (i + k), acc ++ (N.take (max l (i + k))).drop l) := by
  intro ops
  induction ops with
  | nil =>
    intro i k l acc h hk hil hl
    cases k with
    | zero =>
      have h1 : max l (i + 0) = l := by omega
      rw [h1]
      simp [planNodes]
    | succ k => simp [nodesOfOps, seqFrom] at h
  | cons r ops ih =>
    intro i k l acc h hk hil hl
    cases r
    case node x j =>
      cases k with
      | zero => simp [nodesOfOps, seqFrom] at h
      | succ k =>
        simp only [nodesOfOps, seqFrom, List.cons.injEq, Prod.mk.injEq] at h
        obtain ⟨⟨hx, hj⟩, hrest⟩ := h
        have hiN : i < N.length := by omega
        have hx0 : x ≠ 0 := by
          intro e; apply h0; rw [← e, hx]; exact getSlot_mem N i hiN
        simp only [planNodes, hx0, if_false]
        by_cases hlt : i < l
        · rw [hx, posOf_take_of_nodup N i l hnd hlt hl]
          simp only [hj, ne_eq, not_true_eq_false, if_false]
          rw [ih (i + 1) k l acc hrest (by omega) (by omega) hl]
          simp [show i + 1 + k = i + (k + 1) by omega]
        · have hil' : i = l := by omega
          subst hil'
          rw [hx, posOf_none_of_not_mem _ _ (getSlot_not_mem_take N i hnd hiN)]
          simp only [hj, ne_eq, not_true_eq_false, if_false]
          rw [← take_succ_getSlot N i hiN]
          rw [ih (i + 1) k (i + 1) _ hrest (by omega) (by omega) (by omega)]
          have hm : max (i + 1) (i + 1 + k) = max i (i + (k + 1)) := by omega
          have hm2 : max i (i + (k + 1)) = i + (k + 1) := by omega
          rw [hm]
          simp only [List.append_assoc, Prod.mk.injEq, true_and]
          rw [hm2]
          rw [drop_take_cons N i (i + (k + 1)) (by omega) (by omega)]; simp
    all_goals (simp only [nodesOfOps] at h; simp only [planNodes]; exact ih i k l acc h hk hil hl)

def flatOps (ckpt : Nat) : List CTx → List Rec
  | [] => []
  | tx :: rest => if tx.txid ≤ ckpt then flatOps ckpt rest else tx.ops ++ flatOps ckpt rest

def logRuns (ckpt : Nat) : List CTx → List Run
  | [] => []
  | tx :: rest =>
    if tx.txid ≤ ckpt then logRuns ckpt rest
    else if (runOf tx).edges.isEmpty && (runOf tx).props.isEmpty then logRuns ckpt rest
    else runOf tx :: logRuns ckpt rest

theorem planTxs_ok (ckpt : Nat) : ∀ (cs : List CTx) (exts : List Nat) (len : Nat) (pl : Plan)
    (e' : List Nat) (l' : Nat) (acc : List Nat),
    planNodes (flatOps ckpt cs) exts len [] = (none, e', l', acc) →
    planTxs ckpt cs exts len pl =
      { apply := pl.apply ++ acc, runs := pl.runs ++ logRuns ckpt cs, err := pl.err } := by
  intro cs
  induction cs with
  | nil =>
    intro exts len pl e' l' acc h
    simp [flatOps, planNodes] at h
    obtain ⟨_, _, h3⟩ := h
    subst h3
    simp [planTxs, logRuns]
  | cons tx rest ih =>
    intro exts len pl e' l' acc h
    by_cases hc : tx.txid ≤ ckpt
    · simp only [flatOps, hc, if_true] at h
      simp only [planTxs, hc, if_true, logRuns]
      exact ih exts len pl e' l' acc h
    · simp only [flatOps, hc, if_false] at h
      rw [planNodes_append] at h
      simp only [planTxs, hc, if_false, logRuns]
      rcases hp : planNodes tx.ops exts len [] with ⟨err1, x1, l1, a1⟩
      rw [hp] at h
      cases err1 with
      | some e => simp at h
      | none =>
        simp only at h
        rw [planNodes_acc] at h
        rcases hq : planNodes (flatOps ckpt rest) x1 l1 [] with ⟨err2, x2, l2, a2⟩
        rw [hq] at h
        simp only [Prod.mk.injEq] at h
        obtain ⟨he, _, _, hacc⟩ := h
        subst he
        simp only
        by_cases hr : ((runOf tx).edges.isEmpty && (runOf tx).props.isEmpty) = true
        · simp only [hr, if_true]
          rw [ih x1 l1 _ x2 l2 a2 hq]
          simp [← hacc]
        · simp only [hr]
          rw [ih x1 l1 _ x2 l2 a2 hq]
          simp [← hacc]

end Nervus.Crash
