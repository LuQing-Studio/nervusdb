/-
  C12 on one row.  The agreement relation `UAgrees` between a model step and the reference result (what `C12_full`
  and the counterexamples are stated with); MERGE on a pattern that already matches (reference semantics, and the
  model for a single-node pattern); `SET x.k = e` on one row: the reference item against the call the model issues,
  where committing a `set_*_property` / `remove_*_property` call (`applyOp`) is read as the reference's
  `setProps … (propsOf …)` on graphs with distinct ids.
-/
import Nervus.Spec.UpdateSem
import Nervus.Model.QUpdate
import Nervus.Model.UFindings
import Nervus.Proofs.CypherBase
namespace Nervus.Cy
open Nervus.Cy

/-! ### agreement of a model step with the reference result (graphs as sets of records) -/

def propsEqB (a b : Props) : Bool := a.all (b.contains ·) && b.all (a.contains ·)

def nodeEqB (a b : NodeRec) : Bool :=
  a.id == b.id && a.labels.all b.labels.contains && b.labels.all a.labels.contains && propsEqB a.props b.props

def relEqB (a b : RelRec) : Bool := a.id == b.id && a.mult == b.mult && propsEqB a.props b.props

def graphEqB (g h : Graph) : Bool :=
  g.nodes.length == h.nodes.length && g.nodes.all (fun n => h.nodes.any (nodeEqB n)) &&
  g.rels.length == h.rels.length && g.rels.all (fun e => h.rels.any (relEqB e))

def uAgreesB (m : Except Err (Graph × Nat × Nat × List String)) (s : Except Err (Graph × Nat × Counts)) : Bool :=
  match m, s with
  | .ok (g, _, c, _), .ok (g', _, c') => graphEqB (Update.live g) (Update.live g') && c == c'.total
  | .error e, .error e' => e == e'
  | _, _ => false

def UAgrees (m : Except Err (Graph × Nat × Nat × List String)) (s : Except Err (Graph × Nat × Counts)) : Prop :=
  uAgreesB m s = true

instance (m : Except Err (Graph × Nat × Nat × List String)) (s : Except Err (Graph × Nat × Counts)) :
    Decidable (UAgrees m s) := by unfold UAgrees; infer_instance

def NoKnownUTrigger (A : Algebra) (params : List (String × Val)) (g : Graph) (names : List String) (s : Stmt) : Bool :=
  (UFindings.triggers A params g names s).isEmpty

variable (A : Algebra) (params : List (String × Val))

/-! ### MERGE idempotence, reference semantics -/

theorem applySetItems_nil (g0 : Graph) (r : Row) (s : Spec.St) :
    Spec.applySetItems A params g0 r s [] = .ok s := rfl

theorem applySetItems_one (g0 : Graph) (r : Row) (s : Spec.St) (it : SetItem) :
    Spec.applySetItems A params g0 r s [it] = Spec.setItem A params g0 r s it := by
  simp [Spec.applySetItems]

theorem mergeRow_matched (pat : PathPat) (onC : List SetItem) (s : Spec.St) (r : Row)
    (h : Spec.matches_ A { g := s.g, params } r [pat] ≠ []) :
    Spec.mergeRow A params pat onC [] s r = .ok (s, Spec.matches_ A { g := s.g, params } r [pat]) := by
  unfold Spec.mergeRow
  dsimp only
  rw [if_neg (by rwa [List.isEmpty_iff]),
    foldlM_ignored (fun (s' : Spec.St) r' => Spec.applySetItems A params s'.g r' s' []) _
      (fun r' _ s' => applySetItems_nil A params s'.g r' s') s]
  rfl

/-! ### MERGE idempotence, model (single-node pattern) -/

theorem foldlM_keep {α β σ ε} (f : σ × List β → α → Except ε (σ × List β)) (l : List α) (s : σ)
    (acc : List β)
    (hf : ∀ acc n, ∃ x, f acc n = .ok (acc.1, acc.2 ++ [x])) :
    ∃ rows, l.foldlM f (s, acc) = .ok (s, rows) ∧ rows.length = acc.length + l.length := by
  induction l generalizing acc with
  | nil => exact ⟨acc, rfl, rfl⟩
  | cons n ns ih =>
    obtain ⟨x, hx⟩ := hf (s, acc) n
    obtain ⟨rows, h1, h2⟩ := ih (acc ++ [x])
    rw [List.foldlM_cons, hx]
    exact ⟨rows, h1, by simp at h2 ⊢; omega⟩

theorem mergeApplySet_nil (g : Graph) (s : Update.St) (u : Update.URow) :
    Update.mergeApplySet A params g [] s u = .ok (s, u) := rfl

/-! ### expressions on a row that holds no materialised value -/

theorem ev_noOverlay (g : Graph) (r : Row) (e : Expr) :
    Update.ev A params g ⟨r, []⟩ e = eval A { g, params } r e := by
  induction e with
  | cmp op a b iha ihb => simp only [Update.ev, eval, iha, ihb]
  | bool op a b iha ihb => simp only [Update.ev, eval, iha, ihb]
  | not a ih => simp only [Update.ev, eval, ih]
  | isNull a ih => simp only [Update.ev, eval, ih]
  | isNotNull a ih => simp only [Update.ev, eval, ih]
  | hasLabel a l ih => simp only [Update.ev, eval, ih]
  | _ => rfl

/-! ### lists of records with an identity (`NodeRec.id`, `RelRec.id`): replacing the record of one identity -/

section Keyed
variable {α κ : Type} [BEq κ] [LawfulBEq κ] (key : α → κ)

theorem find?_map_upd (l : List α) (n n' : κ) (f : α → α) (hf : ∀ a, key (f a) = key a) :
    (l.map fun a => if key a == n then f a else a).find? (key · == n') =
      (l.find? (key · == n')).map fun a => if n == n' then f a else a := by
  induction l with
  | nil => rfl
  | cons a l ih =>
    have hk : key (if key a == n then f a else a) = key a := by split <;> simp [hf]
    simp only [List.map_cons, List.find?_cons, hk, ih]
    cases h : key a == n'
    · rfl
    · rw [eq_of_beq h, BEq.comm]; rfl

omit [BEq κ] [LawfulBEq κ] in
theorem pairwise_map_upd (l : List α) (u : α → α) (hu : ∀ a, key (u a) = key a)
    (h : l.Pairwise fun a b => key a ≠ key b) : (l.map u).Pairwise fun a b => key a ≠ key b := by
  simpa only [List.pairwise_map, hu] using h

theorem map_upd_congr (l : List α) (n : κ) (f1 f2 : α → α) (h : ∀ a ∈ l, key a = n → f1 a = f2 a) :
    (l.map fun a => if key a == n then f1 a else a) = l.map fun a => if key a == n then f2 a else a := by
  apply List.map_congr_left
  intro a ha
  split
  · exact h a ha (eq_of_beq ‹_›)
  · rfl

end Keyed

theorem node?_updNode (g : Graph) (n n' : Nat) (f : NodeRec → NodeRec) (hf : ∀ nd, (f nd).id = nd.id) :
    (Spec.updNode g n f).node? n' = (g.node? n').map fun nd => if n == n' then f nd else nd :=
  find?_map_upd NodeRec.id g.nodes n n' f hf

theorem node?_updNode_ne (g : Graph) (n n' : Nat) (f : NodeRec → NodeRec) (hne : n' ≠ n)
    (hf : ∀ nd, (f nd).id = nd.id) : (Spec.updNode g n f).node? n' = g.node? n' := by
  rw [node?_updNode g n n' f hf, beq_eq_false_iff_ne.mpr hne.symm]
  simp

theorem propsOf_updNode_ne (g : Graph) (n n' : Nat) (f : NodeRec → NodeRec) (hne : n' ≠ n)
    (hf : ∀ nd, (f nd).id = nd.id) :
    Spec.propsOf (Spec.updNode g n f) (.node n') = Spec.propsOf g (.node n') := by
  rw [Spec.propsOf, node?_updNode_ne g n n' f hne hf]
  rfl

theorem nodeLabels_updNode_ne (g : Graph) (n n' : Nat) (f : NodeRec → NodeRec) (hne : n' ≠ n)
    (hf : ∀ nd, (f nd).id = nd.id) :
    Update.nodeLabels (Spec.updNode g n f) n' = Update.nodeLabels g n' := by
  rw [Update.nodeLabels, node?_updNode_ne g n n' f hne hf]
  rfl

theorem rel?_updRel (g : Graph) (r r' : RelId) (f : RelRec → RelRec) (hf : ∀ e, (f e).id = e.id) :
    (Spec.updRel g r f).rel? r' = (g.rel? r').map fun e => if r == r' then f e else e :=
  find?_map_upd RelRec.id g.rels r r' f hf

theorem updNode_distinct (g : Graph) (n : Nat) (f : NodeRec → NodeRec) (hf : ∀ nd, (f nd).id = nd.id)
    (hg : g.nodes.Pairwise fun a b => a.id ≠ b.id) : (Spec.updNode g n f).nodes.Pairwise fun a b => a.id ≠ b.id :=
  pairwise_map_upd NodeRec.id g.nodes _ (fun a => by split <;> simp [hf]) hg

theorem updRel_distinct (g : Graph) (r : RelId) (f : RelRec → RelRec) (hf : ∀ e, (f e).id = e.id)
    (hg : g.rels.Pairwise fun a b => a.id ≠ b.id) : (Spec.updRel g r f).rels.Pairwise fun a b => a.id ≠ b.id :=
  pairwise_map_upd RelRec.id g.rels _ (fun a => by split <;> simp [hf]) hg

theorem updNode_congr (g : Graph) (n : Nat) (f1 f2 : NodeRec → NodeRec)
    (h : ∀ nd ∈ g.nodes, nd.id = n → f1 nd = f2 nd) : Spec.updNode g n f1 = Spec.updNode g n f2 :=
  congrArg (Graph.mk · g.rels) (map_upd_congr NodeRec.id g.nodes n f1 f2 h)

theorem updRel_congr (g : Graph) (r : RelId) (f1 f2 : RelRec → RelRec)
    (h : ∀ e ∈ g.rels, e.id = r → f1 e = f2 e) : Spec.updRel g r f1 = Spec.updRel g r f2 :=
  congrArg (Graph.mk g.nodes ·) (map_upd_congr RelRec.id g.rels r f1 f2 h)

/-! ### what one `set_*_property` / `remove_*_property` call does at commit, in the reference's terms: the reference
    reads the record of the target (`propsOf`, a `find?`) and writes it back, the commit maps over the list — the same
    when ids are distinct -/

theorem setProps_propsOf_node (g : Graph) (hg : g.nodes.Pairwise fun a b => a.id ≠ b.id) (n : Nat)
    (F : Props → Props) :
    Spec.setProps g (.node n) (F (Spec.propsOf g (.node n))) =
      Spec.updNode g n fun nd => { nd with props := F nd.props } := by
  apply updNode_congr
  intro nd hnd hid
  subst hid
  simp only [Spec.propsOf, Graph.node?_of_mem hg hnd]

theorem setProps_propsOf_rel (g : Graph) (hg : g.rels.Pairwise fun a b => a.id ≠ b.id) (r : RelId)
    (F : Props → Props) :
    Spec.setProps g (.rel r) (F (Spec.propsOf g (.rel r))) =
      Spec.updRel g r fun e => { e with props := F e.props } := by
  apply updRel_congr
  intro e he hid
  subst hid
  simp only [Spec.propsOf, Graph.rel?, find?_key_of_mem_pairwise RelRec.id hg he]

/-! ### one row of `SET x.k = e`: the reference item, and the calls the model issues -/

theorem writeProp_storable (ps : Props) (k : String) (v : Val) (pv : Scalar) (hv : Update.toProp v = .ok pv)
    (hnn : pv ≠ .null) : Spec.writeProp ps k v = .ok (Spec.setKey ps k pv, 1) := by
  cases v <;> simp only [Update.toProp, Except.ok.injEq, reduceCtorEq] at hv <;> subst hv
  · exact absurd rfl hnn
  all_goals rfl

theorem setItem_prop (g0 : Graph) (r : Row) (s : Spec.St) (x k : String) (e : Expr) (t : Spec.Target) (ps : Props)
    (c : Nat) (ht : Spec.target? (r.get x) = some (some t))
    (hw : Spec.writeProp (Spec.propsOf s.g t) k (eval A { g := g0, params } r e) = .ok (ps, c)) :
    Spec.setItem A params g0 r s (.prop x k e) =
      .ok { s with g := Spec.setProps s.g t ps, c := { s.c with propsSet := s.c.propsSet + c } } := by
  simp only [Spec.setItem, ht, Spec.evalIn, hw, bind, Except.bind, pure, Except.pure]

theorem setPropertyRow_node (g : Graph) (m : Update.St) (r : Row) (x k : String) (e : Expr) (n : Nat) (pv : Scalar)
    (hx : r.get x = some (.node n)) (hv : Update.toProp (eval A { g, params } r e) = .ok pv) :
    ∃ u', Update.setPropertyRow A params g [(x, k, e)] m ⟨r, []⟩ = .ok
      (if pv == .null then
        { m with ops := m.ops ++ [.removeNodeProp n k],
                 count := m.count + if (Update.nodeProps g n).any (·.1 == k) then 1 else 0 }
       else { m with ops := m.ops ++ [.setNodeProp n k pv], count := m.count + 1 }, u') := by
  have hrn : Update.rowNode r x = some n := by rw [Update.rowNode, hx]
  have hent : Update.URow.ent g ⟨r, []⟩ x = some ⟨Update.nodeLabels g n, Update.nodeProps g n⟩ := by
    simp only [Update.URow.ent, List.lookup, hx]
  have hprops : Update.URow.props g ⟨r, []⟩ x = Update.nodeProps g n := by
    simp only [Update.URow.props, List.lookup, hx]
  -- unfold only as far as the tests on the row, rewrite them, and let `rfl` run the rest for each kind of value
  unfold Update.setPropertyRow
  dsimp only
  rw [List.forIn_cons]
  dsimp only
  rw [ev_noOverlay, hv, hrn, hent, hprops]
  cases pv <;> exact ⟨_, rfl⟩

theorem update_refines_set_prop (g : Graph) (hg : g.nodes.Pairwise fun a b => a.id ≠ b.id) (next : Nat)
    (r : Row) (x k : String) (e : Expr) (n : Nat) (pv : Scalar)
    (hx : r.get x = some (.node n)) (hv : Update.toProp (eval A { g, params } r e) = .ok pv)
    (hnn : pv ≠ .null) :
    (∃ u', Update.setPropertyRow A params g [(x, k, e)] {} ⟨r, []⟩ =
        .ok ({ ops := [.setNodeProp n k pv], count := 1 }, u')) ∧
    Spec.setItem A params g r { g, next } (.prop x k e) =
      .ok { g := Update.applyOp g (.setNodeProp n k pv), next, c := { propsSet := 1 } } := by
  obtain ⟨u', hu'⟩ := setPropertyRow_node A params g {} r x k e n pv hx hv
  rw [beq_eq_false_iff_ne.mpr hnn] at hu'
  refine ⟨⟨u', hu'⟩, ?_⟩
  rw [setItem_prop A params g r { g, next } x k e (.node n) _ 1 (by rw [hx]; rfl)
    (writeProp_storable _ k _ pv hv hnn), setProps_propsOf_node g hg n (Spec.setKey · k pv)]
  rfl

end Nervus.Cy
