/-
  `value_to_json` (`Model.CApiJson`) loses nothing on `Faithful` values: `decode` is a left inverse of `toJson` there.
  An object is read as a tagged value exactly when it has the key `"type"`, which is why `Faithful` excludes user maps
  with that key.
-/
import Nervus.Model.CApiJson
namespace Nervus.CApiJson

def hasType : JKVs → Bool
  | .nil => false
  | .cons k _ rest => k == "type" || hasType rest

def unstrs : Jsons → Option (List String)
  | .nil => some []
  | .cons (.str s) rest => (unstrs rest).map (s :: ·)
  | .cons _ _ => none

theorem unstrs_strs (ls : List String) : unstrs (strs ls) = some ls := by
  induction ls with
  | nil => rfl
  | cons s ss ih => simp [strs, unstrs, ih]

mutual
/-- a reader of the JSON: tagged objects are recognised by the key `"type"` -/
def decode : Json → Option Value
  | .null => some .null
  | .bool b => some (.bool b)
  | .int i => some (.int i)
  | .float f => some (.float f)
  | .str s => some (.str s)
  | .arr xs => (decodes xs).map .list
  | .obj kvs => if hasType kvs then decodeTagged kvs else (decodeKVs kvs).map .map
def decodeTagged : JKVs → Option Value
  | .cons "type" (.str "datetime") (.cons "value" (.int ts) .nil) => some (.datetime ts)
  | .cons "type" (.str "node_id") (.cons "value" (.int id) .nil) => some (.nodeId id.toNat)
  | .cons "type" (.str "external_id") (.cons "value" (.int id) .nil) => some (.externalId id.toNat)
  | .cons "id" (.int id) (.cons "labels" (.arr ls) (.cons "properties" (.obj props) (.cons "type" (.str "node") .nil))) =>
    match unstrs ls, decodeKVs props with
    | some labels, some ps => some (.node id.toNat labels ps)
    | _, _ => none
  | .cons "dst" (.int dst) (.cons "properties" (.obj props) (.cons "rel_type" (.str ty) (.cons "src" (.int src)
      (.cons "type" (.str "relationship") .nil)))) =>
    match decodeKVs props with
    | some ps => some (.rel src.toNat dst.toNat ty ps)
    | none => none
  | _ => none
def decodes : Jsons → Option Values
  | .nil => some .nil
  | .cons x xs =>
    match decode x, decodes xs with
    | some v, some vs => some (.cons v vs)
    | _, _ => none
def decodeKVs : JKVs → Option VKVs
  | .nil => some .nil
  | .cons k x rest =>
    match decode x, decodeKVs rest with
    | some v, some vs => some (.cons k v vs)
    | _, _ => none
end

theorem hasType_toJsonKVs : ∀ kvs : VKVs, hasType (toJsonKVs kvs) = !noTypeKey kvs
  | .nil => rfl
  | .cons k v rest => by
    have ih := hasType_toJsonKVs rest
    simp [toJsonKVs, hasType, noTypeKey, ih, Bool.not_and, bne]

mutual
theorem decode_toJson (v : Value) : Faithful v = true → decode (toJson v) = some v := by
  cases v with
  | null => intro _; rfl
  | bool b => intro _; rfl
  | int i => intro _; rfl
  | float f =>
    intro h
    simp only [Faithful] at h
    simp [toJson, decode, h]
  | str s => intro _; rfl
  | datetime ts => intro _; rfl
  | blob bs => intro h; simp [Faithful] at h
  | list vs =>
    intro h
    simp only [Faithful] at h
    have h2 := decodes_toJsons vs h
    simp only [toJson, decode, h2, Option.map_some]
  | map kvs =>
    intro h
    simp only [Faithful, Bool.and_eq_true] at h
    have h1 : hasType (toJsonKVs kvs) = false := by rw [hasType_toJsonKVs, h.1]; rfl
    have h2 := decodeKVs_toJsonKVs kvs h.2
    simp only [toJson, decode, h1, h2, Bool.false_eq_true, if_false, Option.map_some]
  | node id labels props =>
    intro h
    simp only [Faithful] at h
    have h2 := decodeKVs_toJsonKVs props h
    simp [toJson, decode, decodeTagged, hasType, unstrs_strs, h2]
  | rel src dst ty props =>
    intro h
    simp only [Faithful] at h
    have h2 := decodeKVs_toJsonKVs props h
    simp [toJson, decode, decodeTagged, hasType, h2]
  | nodeId id => intro _; rfl
  | externalId id => intro _; rfl
termination_by structural v
theorem decodes_toJsons (vs : Values) : FaithfulList vs = true → decodes (toJsons vs) = some vs := by
  cases vs with
  | nil => intro _; simp [toJsons, decodes]
  | cons v vs =>
    intro h
    simp only [FaithfulList, Bool.and_eq_true] at h
    have h1 := decode_toJson v h.1
    have h2 := decodes_toJsons vs h.2
    simp only [toJsons, decodes, h1, h2]
termination_by structural vs
theorem decodeKVs_toJsonKVs (kvs : VKVs) : FaithfulKVs kvs = true → decodeKVs (toJsonKVs kvs) = some kvs := by
  cases kvs with
  | nil => intro _; simp [toJsonKVs, decodeKVs]
  | cons k v rest =>
    intro h
    simp only [FaithfulKVs, Bool.and_eq_true] at h
    have h1 := decode_toJson v h.1
    have h2 := decodeKVs_toJsonKVs rest h.2
    simp only [toJsonKVs, decodeKVs, h1, h2]
termination_by structural kvs
end

end Nervus.CApiJson
