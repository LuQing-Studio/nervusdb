/-
  C26: one split step, generically.
  A ghost page `x` (level `lvl`, range [a,b)) has been split at `s` into `x` [a,s) and the fresh page
  `next` [s,b) (`SplitStep`).  Then the tree in which the parent ALSO holds the new cell `(s, next)`
  right after `x` is well formed, respectively the tree with a new root above `x`/`next` when `x` was
  the root; both are instances of `split_below`, the split step below a page that is an old parent or a
  new root (`pend_of_split` in BTreeInsert reads them off it).  insert_into_parent either writes exactly
  that tree, or splits the parent — which is the same situation one level up.
-/
import Nervus.Proofs.BTreeWrite
set_option linter.unusedSectionVars false
namespace Nervus.BTree
open Nervus KO

variable {κ : Type} [KeyOrd κ] [LawfulKeyOrd κ]

/-- ghost ranges after splitting `x` at `s` into `x` and the fresh page `y` -/
def splitG (G : GMap κ) (x y lvl : Nat) (a b : Option κ) (s : κ) : GMap κ :=
  fun p => if p = y then some (lvl, some s, b) else if p = x then some (lvl, a, some s) else G p

structure SplitStep (pgV : Pg κ) (next : Nat) (g : Ghost κ) (x lvl : Nat) (a b : Option κ) (s : κ)
    (pgS : Pg κ) (L' : List Nat) : Prop where
  hx : g.G x = some (lvl, a, b)
  lo_le_sep : bLe a (some s)
  sep_le_hi : bLe (some s) b
  same : ∀ p, p ≠ x → p ≠ next → pgS p = pgV p
  leafc : lvl = 0 →
    (∃ es bb r, pgS x = some (.leaf es bb r) ∧ SSorted es ∧ ∀ e ∈ es, bLo a e.1 ∧ bHi e.1 (some s)) ∧
    (∃ es bb r, pgS next = some (.leaf es bb r) ∧ SSorted es ∧ ∀ e ∈ es, bLo (some s) e.1 ∧ bHi e.1 b)
  intc : ∀ l, lvl = l + 1 →
    (∃ lm cells bb, pgS x = some (.internal lm cells bb) ∧
      (∀ z ∈ kidsR a (some s) lm cells, g.G z.1 = some (l, z.2.1, z.2.2)) ∧ (kidsOf lm cells).Nodup) ∧
    (∃ lm cells bb, pgS next = some (.internal lm cells bb) ∧
      (∀ z ∈ kidsR (some s) b lm cells, g.G z.1 = some (l, z.2.1, z.2.2)) ∧ (kidsOf lm cells).Nodup)
  kidsub : ∀ c, (c ∈ kidsOfPage pgS x ∨ c ∈ kidsOfPage pgS next) → c ∈ kidsOfPage pgV x
  kidsdisj : ∀ c, c ∈ kidsOfPage pgS x → c ∈ kidsOfPage pgS next → False
  lnodup : L'.Nodup
  lmem : ∀ p, p ∈ L' ↔ p ∈ g.L ∨ (lvl = 0 ∧ p = next)
  seg : ∃ p0 rest, L' = p0 :: rest ∧ Seg pgS (splitG g.G x next lvl a b s) p0 none L' 0 none
  len : L'.length ≤ g.L.length + 1

theorem splitG_other (G : GMap κ) (x y lvl : Nat) (a b : Option κ) (s : κ) (p : Nat)
    (h1 : p ≠ x) (h2 : p ≠ y) : splitG G x y lvl a b s p = G p := by
  simp [splitG, h1, h2]

theorem splitG_x (G : GMap κ) (x y lvl : Nat) (a b : Option κ) (s : κ) (h : x ≠ y) :
    splitG G x y lvl a b s x = some (lvl, a, some s) := by
  simp [splitG, h]

theorem splitG_y (G : GMap κ) (x y lvl : Nat) (a b : Option κ) (s : κ) :
    splitG G x y lvl a b s y = some (lvl, some s, b) := by
  simp [splitG]

theorem ghost_ne_of_none {G : GMap κ} {p y : Nat} {v : Nat × Option κ × Option κ}
    (hp : G p = some v) (hy : G y = none) : p ≠ y := by
  rintro rfl; rw [hy] at hp; cases hp

theorem ghost_ne_of_level {G : GMap κ} {p q l l' : Nat} {lo hi lo' hi' : Option κ}
    (hp : G p = some (l, lo, hi)) (hq : G q = some (l', lo', hi')) (h : l ≠ l') : p ≠ q := by
  rintro rfl; rw [hp] at hq; cases hq; exact h rfl

section
variable {pgV : Pg κ} {root next : Nat} {g : Ghost κ} (wf : WF pgV root next g)
include wf

theorem WF.next_unknown : g.G next = none := by
  cases h : g.G next with
  | none => rfl
  | some v =>
    obtain ⟨l, lo, hi⟩ := v
    have := (wf.rng next l lo hi h).2.1
    omega

theorem WF.kid_ghost (p l : Nat) (lo hi : Option κ) (hp : g.G p = some (l + 1, lo, hi)) (c : Nat)
    (hc : c ∈ kidsOfPage pgV p) : ∃ lo' hi', g.G c = some (l, lo', hi') := by
  obtain ⟨lm, cells, b, hpg, hk, _⟩ := wf.int p l lo hi hp
  simp only [kidsOfPage, hpg] at hc
  rw [← kidsR_map_fst lo hi lm cells] at hc
  obtain ⟨z, hz, rfl⟩ := List.mem_map.mp hc
  exact ⟨_, _, hk z hz⟩

end

/-! ### the split below a page, once for a parent that exists and for a new root -/

def setG (G : GMap κ) (p : Nat) (v : Nat × Option κ × Option κ) : GMap κ := fun q => if q = p then some v else G q

/-- `x` has been split into `x` and the fresh page `n` (`st`); `P` — an internal page of the tree that keeps its ghost
    entry, or a page the ghost state does not know — now has the kids `F ++ x :: n :: Tl`, where `F ++ x :: Tl` are
    ghost pages of the level of `x` that are kids of no page other than `P`.  Then the tree is well formed: a local
    update at the three pages `P`, `x`, `n`. -/
theorem split_below {pgV : Pg κ} {root root' n n' H' : Nat} {g : Ghost κ} (wf : WF pgV root n g)
    {x lvl : Nat} {a b : Option κ} {s : κ} {pgS : Pg κ} {L' : List Nat}
    (hyn : n < n') (hH : g.H ≤ H') (hfuel : L'.length + H' ≤ n')
    (st : SplitStep pgV n g x lvl a b s pgS L')
    {P : Nat} {plo phi : Option κ} {lm : Nat} {cells : List (κ × Nat)} (bb : Nat)
    {F Tl : List (Nat × Option κ × Option κ)}
    (hPx : P ≠ x) (hPy : P ≠ n) (hPr : (0 < P ∧ P < n' ∧ bLe plo phi) ∧ lvl + 1 ≤ H')
    (hP : g.G P = none ∨ g.G P = some (lvl + 1, plo, phi))
    (hroot : setG (splitG g.G x n lvl a b s) P (lvl + 1, plo, phi) root' = some (H', none, none))
    (hkR : kidsR plo phi lm cells = F ++ (x, a, some s) :: (n, some s, b) :: Tl)
    (hFT : ∀ z, z ∈ F ∨ z ∈ Tl → g.G z.1 = some (lvl, z.2.1, z.2.2))
    (hnd : (F.map (·.1) ++ x :: Tl.map (·.1)).Nodup)
    (hexcl : ∀ q l lo hi, q ≠ P → g.G q = some (l + 1, lo, hi) → ∀ c ∈ kidsOfPage pgV q,
      c ∉ F.map (·.1) ++ x :: Tl.map (·.1)) :
    WF (upd pgS P (.internal lm cells bb)) root' n' ⟨setG (splitG g.G x n lvl a b s) P (lvl + 1, plo, phi), L', H'⟩ := by
  have hy : g.G n = none := wf.next_unknown
  have hxy : x ≠ n := ghost_ne_of_none st.hx hy
  have hx := wf.rng x lvl a b st.hx
  have hy0 : 0 < n := Nat.zero_lt_of_lt hx.2.1
  have hnn : n ≤ n' := Nat.le_of_lt hyn
  generalize hG' : setG (splitG g.G x n lvl a b s) P (lvl + 1, plo, phi) = G' at hroot ⊢
  generalize hpgN : upd pgS P (.internal lm cells bb) = pgN
  have hN_P : pgN P = some (.internal lm cells bb) := by rw [← hpgN]; exact upd_same ..
  have hN_other : ∀ q, q ≠ P → pgN q = pgS q := fun q h => by rw [← hpgN]; exact upd_other _ _ _ _ h
  have hkN : ∀ q, q ≠ P → kidsOfPage pgN q = kidsOfPage pgS q := fun q h => by
    rw [kidsOfPage, kidsOfPage, hN_other q h]
  have hkP : kidsOfPage pgN P = F.map (·.1) ++ x :: n :: Tl.map (·.1) := by
    rw [kidsOfPage, hN_P]; simp only; rw [← kidsR_map_fst plo phi lm, hkR]; simp
  have hperm := perm_insert_after (F.map (·.1)) (Tl.map (·.1)) x n
  have GP : G' P = some (lvl + 1, plo, phi) := by rw [← hG']; exact if_pos rfl
  have Gsplit : ∀ q, q ≠ P → G' q = splitG g.G x n lvl a b s q := fun q h => by rw [← hG']; exact if_neg h
  have Gx : G' x = some (lvl, a, some s) := (Gsplit _ hPx.symm).trans (splitG_x _ _ _ _ _ _ _ hxy)
  have Gy : G' n = some (lvl, some s, b) := (Gsplit _ hPy.symm).trans (splitG_y ..)
  have Gold : ∀ p l lo hi, g.G p = some (l, lo, hi) → p ≠ x → G' p = g.G p := fun p l lo hi h hne => by
    by_cases e : p = P
    · subst e; exact hP.elim (fun h0 => nomatch h0.symm.trans h) fun h1 => GP.trans h1.symm
    · exact (Gsplit p e).trans (splitG_other _ _ _ _ _ _ _ _ hne (ghost_ne_of_none h hy))
  -- a kid of an old internal page other than `P` is an old ghost page other than `x`
  have hkid : ∀ p l lo hi, p ≠ P → g.G p = some (l + 1, lo, hi) → ∀ c ∈ kidsOfPage pgV p,
      G' c = g.G c ∧ c ≠ n := by
    intro p l lo hi hpP hp c hc
    obtain ⟨lo', hi', h⟩ := wf.kid_ghost p l lo hi hp c hc
    exact ⟨Gold c l lo' hi' h fun e => hexcl p l lo hi hpP hp c hc (e ▸ List.mem_append_right _ (List.mem_cons_self ..)),
      ghost_ne_of_none h hy⟩
  have hsub : ∀ q, q = x ∨ q = n → ∀ c ∈ kidsOfPage pgN q, c ∈ kidsOfPage pgV x := by
    rintro q (rfl | rfl) c hc
    · exact st.kidsub c (Or.inl (hkN _ hPx.symm ▸ hc))
    · exact st.kidsub c (Or.inr (hkN _ hPy.symm ▸ hc))
  have hhalf : ∀ l, lvl = l + 1 → ∀ z : Nat × Option κ × Option κ, g.G z.1 = some (l, z.2.1, z.2.2) →
      G' z.1 = some (l, z.2.1, z.2.2) := fun l hl z hz =>
    (Gold z.1 l _ _ hz (ghost_ne_of_level hz st.hx (by omega))).trans hz
  have hFTx : ∀ z, z ∈ F ∨ z ∈ Tl → G' z.1 = some (lvl, z.2.1, z.2.2) := by
    obtain ⟨_, n2, n3⟩ := List.nodup_append.mp hnd
    intro z hz
    refine (Gold z.1 lvl _ _ (hFT z hz) ?_).trans (hFT z hz)
    rcases hz with hz | hz
    · exact fun e => n3 _ (List.mem_map_of_mem hz) x (List.mem_cons_self ..) e
    · exact fun e => (List.nodup_cons.mp n2).1 (e ▸ List.mem_map_of_mem hz)
  have hy_notin : n ∉ F.map (·.1) ++ x :: Tl.map (·.1) := by
    intro h
    rcases List.mem_append.mp h with h | h
    · obtain ⟨z, hz, e⟩ := List.mem_map.mp h
      exact ghost_ne_of_none (hFT z (Or.inl hz)) hy e
    · rcases List.mem_cons.mp h with e | h
      · exact hxy e.symm
      · obtain ⟨z, hz, e⟩ := List.mem_map.mp h
        exact ghost_ne_of_none (hFT z (Or.inr hz)) hy e
  -- a ghost lookup in the new state: one of the three pages, or a page that is as it was
  have hcases : ∀ p v, G' p = some v → (p = P ∧ (lvl + 1, plo, phi) = v) ∨ (p = x ∧ (lvl, a, some s) = v) ∨
      (p = n ∧ (lvl, some s, b) = v) ∨ (p ≠ P ∧ g.G p = some v ∧ pgN p = pgV p) := by
    intro p v hp
    by_cases e1 : p = P
    · exact Or.inl ⟨e1, Option.some.inj ((e1 ▸ GP).symm.trans hp)⟩
    · by_cases e2 : p = x
      · exact Or.inr (Or.inl ⟨e2, Option.some.inj ((e2 ▸ Gx).symm.trans hp)⟩)
      · by_cases e3 : p = n
        · exact Or.inr (Or.inr (Or.inl ⟨e3, Option.some.inj ((e3 ▸ Gy).symm.trans hp)⟩))
        · refine Or.inr (Or.inr (Or.inr ⟨e1, ?_, (hN_other p e1).trans (st.same p e2 e3)⟩))
          rw [← hp, Gsplit p e1, splitG_other _ _ _ _ _ _ _ _ e2 e3]
  have hlm : ∀ p, p ∈ L' ↔ ∃ lo hi, G' p = some (0, lo, hi) := by
    intro p
    rw [st.lmem p, wf.lmem p]
    constructor
    · rintro (⟨lo, hi, h⟩ | ⟨h0, rfl⟩)
      · by_cases e : p = x
        · subst e; cases st.hx.symm.trans h
          exact ⟨_, _, Gx⟩
        · exact ⟨lo, hi, (Gold p 0 lo hi h e).trans h⟩
      · exact ⟨_, _, h0 ▸ Gy⟩
    · rintro ⟨lo, hi, h⟩
      rcases hcases p _ h with ⟨_, e⟩ | ⟨rfl, e⟩ | ⟨rfl, e⟩ | ⟨_, hG, _⟩
      · cases e
      · cases e; exact Or.inl ⟨_, _, st.hx⟩
      · cases e; exact Or.inr ⟨rfl, rfl⟩
      · exact Or.inl ⟨lo, hi, hG⟩
  have hnew_leaf : ∀ q, q ∈ L' → q ≠ P := fun q hq e => by
    obtain ⟨lo, hi, h⟩ := (hlm q).mp hq
    rw [e, GP] at h; cases h
  have hrl : ∀ p l lo hi, G' p = some (l, lo, hi) → (0 < p ∧ p < n' ∧ bLe lo hi) ∧ l ≤ H' := by
    intro p l lo hi hp
    have hlx := Nat.le_trans (wf.lvl _ _ _ _ st.hx) hH
    rcases hcases p _ hp with ⟨rfl, e⟩ | ⟨rfl, e⟩ | ⟨rfl, e⟩ | ⟨_, hG, _⟩
    · cases e; exact hPr
    · cases e; exact ⟨⟨hx.1, Nat.lt_of_lt_of_le hx.2.1 hnn, st.lo_le_sep⟩, hlx⟩
    · cases e; exact ⟨⟨hy0, hyn, st.sep_le_hi⟩, hlx⟩
    · have := wf.rng p l lo hi hG
      exact ⟨⟨this.1, Nat.lt_of_lt_of_le this.2.1 hnn, this.2.2⟩, Nat.le_trans (wf.lvl p l lo hi hG) hH⟩
  refine { root := hroot, rng := fun p l lo hi hp => (hrl p l lo hi hp).1, lvl := fun p l lo hi hp => (hrl p l lo hi hp).2,
           int := ?_, leaf := ?_, share := ?_, lnodup := st.lnodup, lmem := hlm, seg := ?_, fuel := hfuel }
  · intro p l lo hi hp
    show ∃ lm' cells' b', pgN p = some (.internal lm' cells' b') ∧
      (∀ z ∈ kidsR lo hi lm' cells', G' z.1 = some (l, z.2.1, z.2.2)) ∧ _
    rcases hcases p _ hp with ⟨rfl, e⟩ | ⟨rfl, e⟩ | ⟨rfl, e⟩ | ⟨hne, hG, hpg⟩
    · cases e
      refine ⟨lm, cells, bb, hN_P, fun z hz => ?_, ?_⟩
      · rw [hkR] at hz
        simp only [List.mem_append, List.mem_cons] at hz
        rcases hz with hz | rfl | rfl | hz
        · exact hFTx z (Or.inl hz)
        · exact Gx
        · exact Gy
        · exact hFTx z (Or.inr hz)
      · have : kidsOf lm cells = F.map (·.1) ++ x :: n :: Tl.map (·.1) := by
          rw [← kidsR_map_fst plo phi lm, hkR]; simp
        rw [this]
        exact hperm.nodup_iff.mpr (List.nodup_cons.mpr ⟨hy_notin, hnd⟩)
    · cases e
      obtain ⟨⟨lm', cells', b', hp', hk, hn⟩, _⟩ := st.intc l rfl
      exact ⟨lm', cells', b', (hN_other _ hPx.symm).trans hp', fun z hz => hhalf l rfl z (hk z hz), hn⟩
    · cases e
      obtain ⟨_, ⟨lm', cells', b', hp', hk, hn⟩⟩ := st.intc l rfl
      exact ⟨lm', cells', b', (hN_other _ hPy.symm).trans hp', fun z hz => hhalf l rfl z (hk z hz), hn⟩
    · obtain ⟨lm', cells', b', hp', hk, hn⟩ := wf.int p l lo hi hG
      refine ⟨lm', cells', b', hpg.trans hp', fun z hz => ?_, hn⟩
      rw [(hkid p l lo hi hne hG z.1 (by
        simp only [kidsOfPage, hp']; rw [← kidsR_map_fst lo hi lm' cells']; exact List.mem_map_of_mem hz)).1]
      exact hk z hz
  · intro p lo hi hp
    show ∃ es b' r, pgN p = some (.leaf es b' r) ∧ _
    rcases hcases p _ hp with ⟨rfl, e⟩ | ⟨rfl, e⟩ | ⟨rfl, e⟩ | ⟨_, hG, hpg⟩
    · cases e
    · cases e; rw [hN_other _ hPx.symm]; exact (st.leafc rfl).1
    · cases e; rw [hN_other _ hPy.symm]; exact (st.leafc rfl).2
    · rw [hpg]; exact wf.leaf p lo hi hG
  · intro p1 p2 c l1 lo1 hi1 l2 lo2 hi2 h1 h2 hc1 hc2
    change G' p1 = _ at h1
    change G' p2 = _ at h2
    change c ∈ kidsOfPage pgN p1 at hc1
    change c ∈ kidsOfPage pgN p2 at hc2
    -- a kid of a page `q` other than `P` was a kid of an old internal page other than `P`: of `q`, or of `x` when `q` is `n`
    have hold : ∀ q l lo hi, q ≠ P → G' q = some (l + 1, lo, hi) → c ∈ kidsOfPage pgN q →
        ∃ q0 l0 lo0 hi0, q0 ≠ P ∧ g.G q0 = some (l0 + 1, lo0, hi0) ∧ c ∈ kidsOfPage pgV q0 ∧
          (q0 = if q = n then x else q) := by
      intro q l lo hi hq hG hc
      by_cases ex : q = x
      · subst ex
        cases Gx.symm.trans hG
        exact ⟨q, l, a, b, hPx.symm, st.hx, hsub q (Or.inl rfl) c hc, by rw [if_neg hxy]⟩
      · by_cases ey : q = n
        · subst ey
          cases Gy.symm.trans hG
          exact ⟨x, l, a, b, hPx.symm, st.hx, hsub q (Or.inr rfl) c hc, by rw [if_pos rfl]⟩
        · rw [Gsplit q hq, splitG_other _ _ _ _ _ _ _ _ ex ey] at hG
          rw [hkN q hq, kidsOfPage, st.same q ex ey, ← kidsOfPage] at hc
          exact ⟨q, l, lo, hi, hq, hG, hc, by rw [if_neg ey]⟩
    -- the kids of `P` are kids of no other page
    have hP : ∀ q l lo hi, q ≠ P → G' q = some (l + 1, lo, hi) → c ∈ kidsOfPage pgN q → c ∉ kidsOfPage pgN P := by
      intro q l lo hi hq hG hc hcP
      obtain ⟨q0, l0, lo0, hi0, n0, g0, k0, _⟩ := hold q l lo hi hq hG hc
      rw [hkP, hperm.mem_iff, List.mem_cons] at hcP
      exact hcP.elim (hkid q0 l0 lo0 hi0 n0 g0 c k0).2 (hexcl q0 l0 lo0 hi0 n0 g0 c k0)
    by_cases e1 : p1 = P
    · by_cases e2 : p2 = P
      · rw [e1, e2]
      · exact absurd (e1 ▸ hc1) (hP p2 l2 lo2 hi2 e2 h2 hc2)
    · by_cases e2 : p2 = P
      · exact absurd (e2 ▸ hc2) (hP p1 l1 lo1 hi1 e1 h1 hc1)
      · obtain ⟨q1, m1, a1, b1, _, g1, k1, r1⟩ := hold p1 l1 lo1 hi1 e1 h1 hc1
        obtain ⟨q2, m2, a2, b2, _, g2, k2, r2⟩ := hold p2 l2 lo2 hi2 e2 h2 hc2
        have hq : q1 = q2 := wf.share q1 q2 c m1 a1 b1 m2 a2 b2 g1 g2 k1 k2
        rw [r1, r2] at hq
        by_cases n1 : p1 = n <;> by_cases n2 : p2 = n
        · rw [n1, n2]
        · rw [if_pos n1, if_neg n2] at hq
          rw [n1, hkN _ hPy.symm] at hc1; rw [← hq, hkN _ hPx.symm] at hc2
          exact (st.kidsdisj c hc2 hc1).elim
        · rw [if_neg n1, if_pos n2] at hq
          rw [hq, hkN _ hPx.symm] at hc1; rw [n2, hkN _ hPy.symm] at hc2
          exact (st.kidsdisj c hc1 hc2).elim
        · rwa [if_neg n1, if_neg n2] at hq
  · obtain ⟨p0, rest, hL, hseg⟩ := st.seg
    refine ⟨p0, rest, hL, Seg_frame pgS _ _ _ L' (fun q hq => ?_) p0 none 0 none hseg⟩
    exact ⟨by rw [rightOf, rightOf, hN_other q (hnew_leaf q hq)], Gsplit q (hnew_leaf q hq)⟩

end Nervus.BTree
