/-
  Laws of the key order used by the B-tree proofs (C26): a strict total order with a least key.
  Instances: byte strings (the real keys) and ℕ (small examples).
-/
import Nervus.Spec.Multimap
import Nervus.Proofs.BytesOrder
namespace Nervus

class LawfulKeyOrd (κ : Type) [KeyOrd κ] : Prop where
  irrefl : ∀ a : κ, KeyOrd.lt a a = false
  trans : ∀ a b c : κ, KeyOrd.lt a b = true → KeyOrd.lt b c = true → KeyOrd.lt a c = true
  tri : ∀ a b : κ, KeyOrd.lt a b = false → KeyOrd.lt b a = false → a = b
  min_le : ∀ a : κ, KeyOrd.lt a (KeyOrd.min : κ) = false

instance : LawfulKeyOrd Bytes where
  irrefl := bytesLt_irrefl
  trans := bytesLt_trans
  tri a b h1 h2 := by
    rcases bytesLt_total a b with h | h | h
    · simp [KeyOrd.lt, h] at h1
    · exact h
    · simp [KeyOrd.lt, h] at h2
  min_le a := by cases a <;> rfl

instance : LawfulKeyOrd Nat where
  irrefl a := by simp [KeyOrd.lt]
  trans a b c h1 h2 := by simp [KeyOrd.lt] at *; omega
  tri a b h1 h2 := by simp [KeyOrd.lt] at *; omega
  min_le a := by simp [KeyOrd.lt, KeyOrd.min]

namespace KO
variable {κ : Type} [KeyOrd κ]

abbrev Lt (a b : κ) : Prop := KeyOrd.lt a b = true
abbrev Le (a b : κ) : Prop := KeyOrd.lt b a = false

theorem not_lt_of_le {a b : κ} (h : Le a b) : ¬ Lt b a := by simp [Lt, Le] at *; simp [h]
theorem le_of_not_lt {a b : κ} (h : ¬ Lt b a) : Le a b := by simpa [Lt, Le] using h

theorem lt_or_le (a b : κ) : Lt a b ∨ Le b a := by
  cases h : KeyOrd.lt a b with
  | true => exact Or.inl h
  | false => exact Or.inr h

variable [LawfulKeyOrd κ]

theorem lt_irrefl (a : κ) : ¬ Lt a a := by simp [Lt, LawfulKeyOrd.irrefl]
theorem le_refl (a : κ) : Le a a := LawfulKeyOrd.irrefl a
theorem lt_trans {a b c : κ} (h1 : Lt a b) (h2 : Lt b c) : Lt a c := LawfulKeyOrd.trans a b c h1 h2
theorem le_of_lt {a b : κ} (h : Lt a b) : Le a b := by
  cases hba : KeyOrd.lt b a with
  | false => exact hba
  | true => exact absurd (lt_trans h hba) (lt_irrefl a)
theorem eq_of_le_of_le {a b : κ} (h1 : Le a b) (h2 : Le b a) : a = b := LawfulKeyOrd.tri a b h2 h1
theorem lt_of_le_of_ne {a b : κ} (h : Le a b) (hne : a ≠ b) : Lt a b := by
  rcases lt_or_le a b with h' | h'
  · exact h'
  · exact absurd (eq_of_le_of_le h h') hne
theorem lt_of_lt_of_le {a b c : κ} (h1 : Lt a b) (h2 : Le b c) : Lt a c := by
  rcases lt_or_le a c with h | h
  · exact h
  · -- c ≼ a ≺ b ≼ c
    rcases lt_or_le c a with h' | h'
    · exact absurd (lt_trans h' h1) (not_lt_of_le h2)
    · have := eq_of_le_of_le h h'; subst this; exact absurd h1 (not_lt_of_le h2)
theorem lt_of_le_of_lt {a b c : κ} (h1 : Le a b) (h2 : Lt b c) : Lt a c := by
  rcases lt_or_le a c with h | h
  · exact h
  · rcases lt_or_le c a with h' | h'
    · exact absurd (lt_trans h2 h') (not_lt_of_le h1)
    · have := eq_of_le_of_le h h'; subst this; exact absurd h2 (not_lt_of_le h1)
theorem le_trans {a b c : κ} (h1 : Le a b) (h2 : Le b c) : Le a c := by
  apply le_of_not_lt; intro h
  exact absurd (lt_of_lt_of_le h h1) (not_lt_of_le h2)
theorem min_le (a : κ) : Le (KeyOrd.min : κ) a := LawfulKeyOrd.min_le a
theorem ne_of_lt {a b : κ} (h : Lt a b) : a ≠ b := by
  intro e; subst e; exact lt_irrefl a h

theorem keq_iff (a b : κ) : Multimap.keq a b = true ↔ a = b := by
  unfold Multimap.keq
  constructor
  · intro h
    simp only [Bool.and_eq_true, Bool.not_eq_true'] at h
    exact LawfulKeyOrd.tri a b h.1 h.2
  · intro e; subst e; simp [LawfulKeyOrd.irrefl]

end KO
end Nervus
