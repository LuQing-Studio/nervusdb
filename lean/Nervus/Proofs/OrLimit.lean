/-
  `OrLimit x y`: the limited computation `x` answers what the unlimited `y` answers, or fails with a
  limit error.  It is kept by `bind`, so a computation made of checked steps is related to its
  unlimited version step by step; `elim` serves code written with `match`.
-/
namespace Nervus.PlanOps

section
variable {ε : Type} {β γ : Type}

def OrLimit (isLimit : ε → Bool) (x y : Except ε β) : Prop :=
  x = y ∨ ∃ e, x = .error e ∧ isLimit e = true

theorem OrLimit.refl (isLimit : ε → Bool) (x : Except ε β) : OrLimit isLimit x x := Or.inl rfl

theorem OrLimit.limit (isLimit : ε → Bool) {e : ε} (h : isLimit e = true) (y : Except ε β) :
    OrLimit isLimit (.error e) y := Or.inr ⟨e, rfl, h⟩

theorem OrLimit.ok_left {isLimit : ε → Bool} {x y : Except ε β} (h : OrLimit isLimit x y) {v : β}
    (hx : x = .ok v) : y = .ok v := by
  rcases h with rfl | ⟨e, rfl, _⟩
  · exact hx
  · cases hx

/-- case analysis for a goal that mentions `x` and `y`: both fail alike, both answer `v`, or `x` is a
    limit error.  It abstracts the two TERMS `x`, `y` from the goal, so it serves any `match` of the
    model on them; they must stand in the goal as they are (reduce an enclosing `match (.ok r) with`
    first) and `h` must be elaborated in full (no `?_` inside it: state it as a `have`).  On a fact
    spelled out as a disjunction (`Sem.LimitLawful`, `LimRel.collect`) call it by name, `OrLimit.elim h …`. -/
@[elab_as_elim]
theorem OrLimit.elim {isLimit : ε → Bool} {x y : Except ε β} {P : Except ε β → Except ε β → Prop}
    (h : OrLimit isLimit x y) (herr : ∀ e, P (.error e) (.error e)) (hok : ∀ v, P (.ok v) (.ok v))
    (hlim : ∀ e, isLimit e = true → P (.error e) y) : P x y := by
  rcases h with rfl | ⟨e, rfl, hl⟩
  · cases x with
    | error e => exact herr e
    | ok v => exact hok v
  · exact hlim e hl

/-- also for `do` blocks and `>>=`, which unfold to `Except.bind` -/
theorem OrLimit.bind {isLimit : ε → Bool} {x y : Except ε β} {f g : β → Except ε γ}
    (h : OrLimit isLimit x y) (hk : ∀ v, y = .ok v → OrLimit isLimit (f v) (g v)) :
    OrLimit isLimit (x.bind f) (y.bind g) := by
  rcases h with rfl | ⟨e, rfl, hl⟩
  · cases x with
    | error e => exact .refl _ _
    | ok v => exact hk v rfl
  · exact .limit _ hl _

theorem OrLimit.map {isLimit : ε → Bool} {x y : Except ε β} (h : OrLimit isLimit x y) (f : β → γ) :
    OrLimit isLimit (x.map f) (y.map f) := by
  rcases h with rfl | ⟨e, rfl, hl⟩
  · exact .refl _ _
  · exact .limit _ hl _

theorem OrLimit.mapM {isLimit : ε → Bool} {fL fU : β → Except ε γ} (xs : List β)
    (h : ∀ x ∈ xs, OrLimit isLimit (fL x) (fU x)) : OrLimit isLimit (xs.mapM fL) (xs.mapM fU) := by
  induction xs with
  | nil => exact .refl _ _
  | cons x xs ih =>
    rw [List.mapM_cons, List.mapM_cons]
    exact (h x List.mem_cons_self).bind fun _ _ =>
      (ih fun y hy => h y (List.mem_cons_of_mem _ hy)).bind fun _ _ => .refl _ _

theorem OrLimit.forM {isLimit : ε → Bool} {fL fU : β → Except ε Unit} (xs : List β)
    (h : ∀ x ∈ xs, OrLimit isLimit (fL x) (fU x)) : OrLimit isLimit (xs.forM fL) (xs.forM fU) := by
  induction xs with
  | nil => exact .refl _ _
  | cons x xs ih =>
    exact (h x List.mem_cons_self).bind fun _ _ => ih fun y hy => h y (List.mem_cons_of_mem _ hy)

theorem OrLimit.foldlM {isLimit : ε → Bool} {fL fU : γ → β → Except ε γ} (xs : List β)
    (h : ∀ a, ∀ x ∈ xs, OrLimit isLimit (fL a x) (fU a x)) (a : γ) :
    OrLimit isLimit (xs.foldlM fL a) (xs.foldlM fU a) := by
  induction xs generalizing a with
  | nil => exact .refl _ _
  | cons x xs ih =>
    rw [List.foldlM_cons, List.foldlM_cons]
    exact (h a x List.mem_cons_self).bind fun b _ => ih (fun a y hy => h a y (List.mem_cons_of_mem _ hy)) b

end

end Nervus.PlanOps
