/-
  Proofs.CrashMain — induction over incarnations (open, commits and compactions, death at any I/O
  step of any operation or between two, in any crash mode): the files always represent the initial
  content plus every acknowledged commit plus, entirely or not at all, the commit in flight; the
  next open succeeds and shows exactly that.
-/
import Nervus.Proofs.CrashCommit
import Nervus.Proofs.CrashCompact
import Nervus.Proofs.CrashClose
import Nervus.Proofs.CrashCreate
namespace Nervus.Crash

/-- no handle: the files represent `T` -/
structure Closed (T : List Tx) (fs : FS) : Prop where
  flat : Flat fs
  rep : Rep T fs.pd fs.wf

theorem of_exists_singleton {α : Type} {a : α} {P : α → Prop} (h : ∃ x ∈ [a], P x) : P a := by
  simpa using h

theorem rep_of_singleton {T : List Tx} {p : PImg} {w : List Frag} (h : ∃ T' ∈ [T], Rep T' p w) : Rep T p w :=
  of_exists_singleton (P := (Rep · p w)) h

theorem closed_of_safe {Ts : List (List Tx)} {fs : FS} (h : SafeFS Ts fs) (mode : CrashMode) :
    ∃ T ∈ Ts, Closed T (fs.crash mode) := by
  obtain ⟨T, hT, hr⟩ := h mode
  exact ⟨T, hT, crash_flat fs mode, hr⟩

/-- what an incarnation starts from: files that represent `T`, or (for the empty list) a nascent database -/
def Start (T : List Tx) (fs : FS) : Prop := Closed T fs ∨ (T = [] ∧ Nascent fs)

theorem nascent_empty : Nascent ({} : FS) :=
  ⟨⟨rfl, ⟨rfl, rfl⟩⟩, rfl, ⟨⟨rfl, rfl, rfl, rfl, rfl, Nat.le_refl _, Nat.le_refl _⟩, Or.inl rfl⟩⟩

/-- files and handle of an incarnation on the files `fs` after its `open` and the operations `ops` -/
def Round.start (cfg : Cfg) (fs : FS) (ops : List HOp) : FS × Mem :=
  runOps cfg (run (openA cfg fs.pv fs.wf) .none fs {}).fs (run (openA cfg fs.pv fs.wf) .none fs {}).mem ops

theorem Round.after_inCompact (cfg : Cfg) (fs : FS) (ops : List HOp) (k : Nat) (mode : CrashMode) :
    Round.after cfg fs ⟨ops, .inCompact k, mode⟩ =
      ((Round.start cfg fs ops).1.steps ((ioSteps (compactA cfg (Round.start cfg fs ops).2 (Round.start cfg fs ops).1.pv
        (Round.start cfg fs ops).1.wf)).take k)).crash mode :=
  congrArg (FS.crash · mode) (run_crash_fs _ k _ _)

theorem Round.after_inOpen (cfg : Cfg) (fs : FS) (ops : List HOp) (k : Nat) (mode : CrashMode) :
    Round.after cfg fs ⟨ops, .inOpen k, mode⟩ = (fs.steps ((ioSteps (openA cfg fs.pv fs.wf)).take k)).crash mode :=
  congrArg (FS.crash · mode) (run_crash_fs _ k _ _)

theorem Round.after_idle (cfg : Cfg) (fs : FS) (ops : List HOp) (mode : CrashMode) :
    Round.after cfg fs ⟨ops, .idle, mode⟩ = (Round.start cfg fs ops).1.crash mode := rfl

theorem Round.after_inCommit (cfg : Cfg) (fs : FS) (ops : List HOp) (tx : Tx) (k : Nat) (mode : CrashMode) :
    Round.after cfg fs ⟨ops, .inCommit tx k, mode⟩ =
      ((Round.start cfg fs ops).1.steps ((ioSteps (commitA cfg (Round.start cfg fs ops).2 (Round.start cfg fs ops).1.pv
        (Round.start cfg fs ops).1.wf tx)).take k)).crash mode :=
  congrArg (FS.crash · mode) (run_crash_fs _ k _ _)

theorem Round.after_inClose (cfg : Cfg) (fs : FS) (ops : List HOp) (k : Nat) (mode : CrashMode) :
    Round.after cfg fs ⟨ops, .inClose k, mode⟩ =
      ((Round.start cfg fs ops).1.steps ((ioSteps (closeA cfg (Round.start cfg fs ops).2 (Round.start cfg fs ops).1.pv
        (Round.start cfg fs ops).1.wf)).take k)).crash mode :=
  congrArg (FS.crash · mode) (run_crash_fs _ k _ _)

/-- `p` holds of the files after every prefix of the steps `S`: `SafeAlong` as a test that walks
    the steps once -/
def alongB (p : FS → Bool) : FS → List Step → Bool
  | fs, [] => p fs
  | fs, s :: S => p fs && alongB p (fs.step s) S

theorem safeAlong_of_alongB {p : FS → Bool} : ∀ {fs : FS} {S : List Step}, alongB p fs S = true → SafeAlong (p · = true) fs S
  | _, [], h => safeAlong_nil h
  | _, _ :: _, h => safeAlong_cons (Bool.and_eq_true_iff.mp h).1 (safeAlong_of_alongB (Bool.and_eq_true_iff.mp h).2)

/-- open from any start, as a block: every crash image at every step is again a start for the
    same list; it succeeds and the handle satisfies the invariant -/
theorem open_start {cfg : Cfg} (hsync : cfg.syncSlot = true) (hfz : cfg.freshZero = true) (hsc : cfg.syncCreate = true)
    {T : List Tx} {fs : FS} (hs : Start T fs) :
    Blk (fun g => ∀ mode, Start T (g.crash mode)) (fun _ _ => True) (openA cfg fs.pv fs.wf) fs {}
      (fun g mm => g.wf = fs.wf ∧ ∃ cs c, InvOpen T g mm cs c ∧ mm.tailChecked = false) := by
  rcases hs with hc | ⟨rfl, hn⟩
  · exact (blk_open hsync hc.flat.pj hc.flat.quiet hc.rep).mono
      (fun _ hs mode => Or.inl (of_exists_singleton (P := (Closed · _)) (closed_of_safe hs mode))) (fun _ _ hf => hf) (fun _ _ hq => hq)
  · exact (create_safe hfz hsc hn).mono (fun _ hs mode => Or.inr ⟨rfl, hs mode⟩) (fun _ _ hf => hf) (fun _ _ hq => hq)

/-! ### freshness of external ids along a history -/

def FreshAll : List Nat → List Tx → Prop
  | _, [] => True
  | seen, tx :: rest =>
    tx.nodes.Nodup ∧ (∀ x ∈ tx.nodes, x ∉ seen) ∧ 0 ∉ tx.nodes ∧ FreshAll (seen ++ tx.nodes) rest

instance decFreshAll : ∀ (seen : List Nat) (txs : List Tx), Decidable (FreshAll seen txs)
  | _, [] => inferInstanceAs (Decidable True)
  | seen, tx :: rest =>
    have := decFreshAll (seen ++ tx.nodes) rest
    inferInstanceAs (Decidable (tx.nodes.Nodup ∧ (∀ x ∈ tx.nodes, x ∉ seen) ∧ 0 ∉ tx.nodes ∧ FreshAll (seen ++ tx.nodes) rest))

theorem freshTx_of {T : List Tx} {seen : List Nat} {tx : Tx} (hnd : (allNodes T).Nodup)
    (hsub : ∀ x ∈ allNodes T, x ∈ seen) (h1 : tx.nodes.Nodup) (h2 : ∀ x ∈ tx.nodes, x ∉ seen) (h3 : 0 ∉ tx.nodes) :
    FreshTx T tx where
  nodup := by
    rw [List.nodup_append]
    refine ⟨hnd, h1, ?_⟩
    intro a ha b hb hab
    subst hab
    exact h2 a hb (hsub a ha)
  nozero := h3

theorem allNodes_sub {T : List Tx} {seen : List Nat} (hsub : ∀ x ∈ allNodes T, x ∈ seen) (X : List Tx) :
    ∀ x ∈ allNodes (T ++ X), x ∈ seen ++ X.flatMap (·.nodes) := by
  intro x hx
  simp only [allNodes, List.flatMap_append, List.mem_append] at hx ⊢
  exact hx.imp_left (hsub x)

/-! ### operations through one handle -/

/-- no compaction of the list has to split a leaf of the LIVE property tree in place (leaf splits
    in a new tree are covered) -/
def OpsCond (cfg : Cfg) : FS → Mem → List HOp → Prop
  | _, _, [] => True
  | fs, m, .commit tx :: rest =>
    OpsCond cfg (run (commitA cfg m fs.pv fs.wf tx) .none fs m).fs (run (commitA cfg m fs.pv fs.wf tx) .none fs m).mem rest
  | fs, m, .compact :: rest =>
    NoLiveSplit cfg m fs.pv ∧
    OpsCond cfg (run (compactA cfg m fs.pv fs.wf) .none fs m).fs (run (compactA cfg m fs.pv fs.wf) .none fs m).mem rest

instance decOpsCond (cfg : Cfg) : ∀ (fs : FS) (m : Mem) (ops : List HOp), Decidable (OpsCond cfg fs m ops)
  | _, _, [] => inferInstanceAs (Decidable True)
  | fs, m, .commit tx :: rest =>
    decOpsCond cfg (run (commitA cfg m fs.pv fs.wf tx) .none fs m).fs (run (commitA cfg m fs.pv fs.wf tx) .none fs m).mem rest
  | fs, m, .compact :: rest =>
    have := decOpsCond cfg (run (compactA cfg m fs.pv fs.wf) .none fs m).fs (run (compactA cfg m fs.pv fs.wf) .none fs m).mem rest
    inferInstanceAs (Decidable (NoLiveSplit cfg m fs.pv ∧ _))

theorem commitsOf_compact (rest : List HOp) : commitsOf (.compact :: rest) = commitsOf rest := rfl
theorem commitsOf_commit (tx : Tx) (rest : List HOp) : commitsOf (.commit tx :: rest) = tx :: commitsOf rest := rfl

theorem runOps_inv {cfg : Cfg} (hsync : cfg.syncSlot = true) (hcap1 : 1 ≤ cfg.leafCap) :
    ∀ (ops : List HOp) (T : List Tx) (fs : FS) (m : Mem) (cs : List CTx) (c : Nat) (seen : List Nat),
      InvOpen T fs m cs c → TailPre cfg fs m → (∀ x ∈ allNodes T, x ∈ seen) → FreshAll seen (commitsOf ops) →
      OpsCond cfg fs m ops →
      ∃ cs' c', InvOpen (T ++ commitsOf ops) (runOps cfg fs m ops).1 (runOps cfg fs m ops).2 cs' c' ∧
        TailPre cfg (runOps cfg fs m ops).1 (runOps cfg fs m ops).2 := by
  intro ops
  induction ops with
  | nil =>
    intro T fs m cs c seen h ht _ _ _
    exact ⟨cs, c, by simpa [runOps, commitsOf] using h, by simpa [runOps] using ht⟩
  | cons op rest ih =>
    intro T fs m cs c seen h ht hsub hfr hcond
    cases op with
    | commit tx =>
      rw [commitsOf_commit] at hfr ⊢
      obtain ⟨f1, f2, f3, f4⟩ := hfr
      obtain ⟨cs1, c1, h1, hclean1⟩ := commit_post hsync h ht tx (freshTx_of h.log.nodup hsub f1 f2 f3)
      obtain ⟨cs', c', h', ht'⟩ := ih (T ++ [tx]) _ _ cs1 c1 (seen ++ tx.nodes) h1 (Or.inl hclean1)
        (by simpa using allNodes_sub hsub [tx]) f4 hcond
      exact ⟨cs', c', by simpa [runOps] using h', ht'⟩
    | compact =>
      rw [commitsOf_compact] at hfr ⊢
      obtain ⟨cs1, c1, h1, ht1⟩ := compact_post hcap1 h ht hcond.1
      exact ih T _ _ cs1 c1 seen h1 ht1 hsub hfr hcond.2

/-! ### one incarnation -/

/-- the transactions whose commit is started in the incarnation -/
def Round.txs (r : Round) : List Tx :=
  match r.death with
  | .inOpen _ => []
  | .inCommit tx _ => commitsOf r.ops ++ [tx]
  | _ => commitsOf r.ops

/-- the log has no torn tail when the incarnation starts, or appends cut it off (C17's repair) -/
def TailCond (cfg : Cfg) (fs : FS) : Prop :=
  cfg.tailTolerant = true ∨ validLen fs.wf = fs.wf.length

instance (cfg : Cfg) (fs : FS) : Decidable (TailCond cfg fs) :=
  inferInstanceAs (Decidable (cfg.tailTolerant = true ∨ validLen fs.wf = fs.wf.length))

/-- the condition on a death inside a compaction: no in-place leaf split of the live tree, and the
    crash image tears no leaf write of the live property tree (that is the known finding
    `C01-live-tree-in-place`) -/
def deathCond (cfg : Cfg) (s : FS × Mem) (mode : CrashMode) : Death → Prop
  | .inCompact k =>
    NoLiveSplit cfg s.2 s.1.pv ∧
    mode.tearsLive s.2.proot (run (compactA cfg s.2 s.1.pv s.1.wf) (.crashAt k) s.1 s.2).fs.pj = false
  | _ => True

instance (cfg : Cfg) (s : FS × Mem) (mode : CrashMode) : ∀ d : Death, Decidable (deathCond cfg s mode d)
  | .inCompact _ => inferInstanceAs (Decidable (_ ∧ _))
  | .inOpen _ => inferInstanceAs (Decidable True)
  | .inCommit _ _ => inferInstanceAs (Decidable True)
  | .inClose _ => inferInstanceAs (Decidable True)
  | .idle => inferInstanceAs (Decidable True)

/-- the compaction conditions of one incarnation that starts on the files `fs` -/
def Round.cond (cfg : Cfg) (fs : FS) (r : Round) : Prop :=
  match r.death with
  | .inOpen _ => True
  | d =>
    OpsCond cfg (run (openA cfg fs.pv fs.wf) .none fs {}).fs (run (openA cfg fs.pv fs.wf) .none fs {}).mem r.ops ∧
    deathCond cfg (runOps cfg (run (openA cfg fs.pv fs.wf) .none fs {}).fs (run (openA cfg fs.pv fs.wf) .none fs {}).mem r.ops) r.mode d

instance (cfg : Cfg) (fs : FS) (r : Round) : Decidable (r.cond cfg fs) := by
  unfold Round.cond
  cases r.death <;> simp only <;> infer_instance

theorem admissible_trans {T0 T1 T2 : List Tx} {os os' : List Spec.RoundObs} (h : Spec.Admissible T0 os T1)
    (h' : Spec.Admissible T1 os' T2) : Spec.Admissible T0 (os ++ os') T2 := by
  induction h with
  | done T => exact h'
  | lost _ ih => exact .lost (ih h')
  | survived _ ih => exact .survived (ih h')

theorem freshAll_append : ∀ (a b : List Tx) (seen : List Nat), FreshAll seen (a ++ b) →
    FreshAll seen a ∧ FreshAll (seen ++ a.flatMap (·.nodes)) b
  | [], b, seen, h => by simpa [FreshAll] using h
  | x :: a, b, seen, h => by
    obtain ⟨h1, h2, h3, h4⟩ := h
    obtain ⟨i1, i2⟩ := freshAll_append a b _ h4
    exact ⟨⟨h1, h2, h3, i1⟩, by simpa [List.append_assoc] using i2⟩

theorem tailPre_after_open {cfg : Cfg} {fs fsO : FS} {mO : Mem} (hw : fsO.wf = fs.wf) (htc : mO.tailChecked = false)
    (h : TailCond cfg fs) : TailPre cfg fsO mO := by
  rcases h with h | h
  · right; simp [h, htc]
  · left; rw [hw]; exact h

theorem start_inv {cfg : Cfg} (hsync : cfg.syncSlot = true) (hfz : cfg.freshZero = true) (hsc : cfg.syncCreate = true) (hcap1 : 1 ≤ cfg.leafCap)
    {T : List Tx} {fs : FS} {seen : List Nat} (ops : List HOp)
    (hc : Start T fs) (hsub : ∀ x ∈ allNodes T, x ∈ seen) (htail : TailCond cfg fs) (hfr : FreshAll seen (commitsOf ops))
    (hcond : OpsCond cfg (run (openA cfg fs.pv fs.wf) .none fs {}).fs (run (openA cfg fs.pv fs.wf) .none fs {}).mem ops) :
    ∃ cs' c', InvOpen (T ++ commitsOf ops) (Round.start cfg fs ops).1 (Round.start cfg fs ops).2 cs' c' ∧
      TailPre cfg (Round.start cfg fs ops).1 (Round.start cfg fs ops).2 := by
  obtain ⟨_, hwO, csO, cO, hInvO, htcO⟩ := (open_start (cfg := cfg) hsync hfz hsc hc).run_none
  exact runOps_inv hsync hcap1 ops T _ _ csO cO seen hInvO (tailPre_after_open hwO htcO htail) hsub hfr hcond

theorem round_safe {cfg : Cfg} (hsync : cfg.syncSlot = true) (hfz : cfg.freshZero = true) (hsc : cfg.syncCreate = true) (hcap1 : 1 ≤ cfg.leafCap)
    (T : List Tx) (fs : FS) (seen : List Nat) (r : Round)
    (hc : Start T fs) (hsub : ∀ x ∈ allNodes T, x ∈ seen) (htail : TailCond cfg fs) (hfr : FreshAll seen r.txs)
    (hcond : r.cond cfg fs) :
    ∃ T', Spec.Admissible T [r.obs] T' ∧ Start T' (r.after cfg fs) ∧
      (∀ x ∈ allNodes T', x ∈ seen ++ r.txs.flatMap (·.nodes)) := by
  obtain ⟨ops, death, mode⟩ := r
  cases death with
  | inOpen k =>
    exact ⟨T ++ [], .lost (.done _), by rw [Round.after_inOpen, List.append_nil]; exact (open_start hsync hfz hsc hc).safe k mode,
      allNodes_sub hsub _⟩
  | idle =>
    obtain ⟨cs', c', hInv', _⟩ := start_inv hsync hfz hsc hcap1 ops hc hsub htail hfr hcond.1
    exact ⟨_, .lost (.done _), Or.inl (of_exists_singleton (P := (Closed · _))
      (closed_of_safe (hInv'.safeFS) mode)), allNodes_sub hsub _⟩
  | inCommit tx k =>
    obtain ⟨hfr1, g1, g2, g3, _⟩ := freshAll_append (commitsOf ops) [tx] seen hfr
    obtain ⟨cs', c', hInv', htp2⟩ := start_inv hsync hfz hsc hcap1 ops hc hsub htail hfr1 hcond.1
    obtain ⟨sa, _⟩ := commit_safe hsync hInv' htp2 tx (freshTx_of hInv'.log.nodup (allNodes_sub hsub _) g1 g2 g3)
    obtain ⟨T', hT', hcl⟩ := closed_of_safe (sa k) mode
    rw [← Round.after_inCommit] at hcl
    simp only [List.mem_cons, List.mem_nil_iff, or_false] at hT'
    rcases hT' with rfl | rfl
    · refine ⟨_, .lost (.done _), Or.inl hcl, fun x hx => ?_⟩
      have := allNodes_sub hsub _ x hx
      simp only [Round.txs, List.flatMap_append, List.mem_append] at this ⊢
      exact this.imp_right Or.inl
    · exact ⟨_, .survived (.done _), Or.inl hcl, by rw [List.append_assoc]; exact allNodes_sub hsub _⟩
  | inCompact k =>
    obtain ⟨cs', c', hInv', htp2⟩ := start_inv hsync hfz hsc hcap1 ops hc hsub htail hfr hcond.1
    obtain ⟨hns, htear⟩ := hcond.2
    rw [run_crash_fs] at htear
    have hr := rep_of_singleton (compact_safe hcap1 hInv' htp2 hns k mode htear)
    exact ⟨_, .lost (.done _), by rw [Round.after_inCompact]; exact Or.inl ⟨crash_flat _ _, hr⟩, allNodes_sub hsub _⟩
  | inClose k =>
    obtain ⟨cs', c', hInv', _⟩ := start_inv hsync hfz hsc hcap1 ops hc hsub htail hfr hcond.1
    have hcl := of_exists_singleton (P := (Closed · _)) (closed_of_safe (close_safe (cfg := cfg) hInv' k) mode)
    exact ⟨_, .lost (.done _), by rw [Round.after_inClose]; exact Or.inl hcl, allNodes_sub hsub _⟩

/-! ### all incarnations -/

/-- the preconditions of a history, decided round by round on the files the model computes:
    fresh non-zero external ids, no append behind a torn log tail, and — for compactions — no
    in-place leaf split of the live tree and no torn write of a live leaf in the crash image -/
def HistOK (cfg : Cfg) : FS → List Nat → List Round → Prop
  | _, _, [] => True
  | fs, seen, r :: rest =>
    TailCond cfg fs ∧ FreshAll seen r.txs ∧ r.cond cfg fs ∧
      HistOK cfg (r.after cfg fs) (seen ++ r.txs.flatMap (·.nodes)) rest

/-- the freshness part of `HistOK` (what every caller of the API guarantees) -/
def FreshHist : List Nat → List Round → Prop
  | _, [] => True
  | seen, r :: rest => FreshAll seen r.txs ∧ FreshHist (seen ++ r.txs.flatMap (·.nodes)) rest

/-- the compaction part of `HistOK` -/
def CondHist (cfg : Cfg) : FS → List Round → Prop
  | _, [] => True
  | fs, r :: rest => r.cond cfg fs ∧ CondHist cfg (r.after cfg fs) rest

instance decHistOK (cfg : Cfg) : ∀ (fs : FS) (seen : List Nat) (rounds : List Round), Decidable (HistOK cfg fs seen rounds)
  | _, _, [] => inferInstanceAs (Decidable True)
  | fs, seen, r :: rest =>
    have := decHistOK cfg (r.after cfg fs) (seen ++ r.txs.flatMap (·.nodes)) rest
    inferInstanceAs (Decidable (TailCond cfg fs ∧ FreshAll seen r.txs ∧ r.cond cfg fs ∧
      HistOK cfg (r.after cfg fs) (seen ++ r.txs.flatMap (·.nodes)) rest))

theorem rounds_safe {cfg : Cfg} (hsync : cfg.syncSlot = true) (hfz : cfg.freshZero = true) (hsc : cfg.syncCreate = true) (hcap1 : 1 ≤ cfg.leafCap) :
    ∀ (rounds : List Round) (T : List Tx) (fs : FS) (seen : List Nat),
      Start T fs → (∀ x ∈ allNodes T, x ∈ seen) → HistOK cfg fs seen rounds →
      ∃ T', Spec.Admissible T (rounds.map Round.obs) T' ∧ Start T' (afterRounds cfg fs rounds) := by
  intro rounds
  induction rounds with
  | nil => intro T fs seen hc _ _; exact ⟨T, Spec.Admissible.done T, hc⟩
  | cons r rest ih =>
    intro T fs seen hc hsub hok
    obtain ⟨h1, h2, h3, h4⟩ := hok
    obtain ⟨T1, hstep, hc1, hsub1⟩ := round_safe hsync hfz hsc hcap1 T fs seen r hc hsub h1 h2 h3
    obtain ⟨T', hadm, hc'⟩ := ih T1 (r.after cfg fs) _ hc1 hsub1 h4
    exact ⟨T', admissible_trans hstep hadm, hc'⟩

/-- once appends cut a torn tail off (C17's repair in the tree), freshness and the compaction
    conditions are all a history needs -/
theorem histOK_of_fresh {cfg : Cfg} (htol : cfg.tailTolerant = true) :
    ∀ (rounds : List Round) (fs : FS) (seen : List Nat), FreshHist seen rounds → CondHist cfg fs rounds →
      HistOK cfg fs seen rounds
  | [], _, _, _, _ => trivial
  | _ :: rest, _, _, h, hc => ⟨Or.inl htol, h.1, hc.1, histOK_of_fresh htol rest _ _ h.2 hc.2⟩

instance decFreshHist : ∀ (seen : List Nat) (rounds : List Round), Decidable (FreshHist seen rounds)
  | _, [] => inferInstanceAs (Decidable True)
  | seen, r :: rest =>
    have := decFreshHist (seen ++ r.txs.flatMap (·.nodes)) rest
    inferInstanceAs (Decidable (FreshAll seen r.txs ∧ FreshHist (seen ++ r.txs.flatMap (·.nodes)) rest))

instance decCondHist (cfg : Cfg) : ∀ (fs : FS) (rounds : List Round), Decidable (CondHist cfg fs rounds)
  | _, [] => inferInstanceAs (Decidable True)
  | fs, r :: rest =>
    have := decCondHist cfg (r.after cfg fs) rest
    inferInstanceAs (Decidable (r.cond cfg fs ∧ CondHist cfg (r.after cfg fs) rest))

/-! ### acknowledged commits are inside every admissible list -/

theorem admissible_prefix {T0 T : List Tx} {os : List Spec.RoundObs} (h : Spec.Admissible T0 os T) : T0 <+: T := by
  induction h with
  | done T => exact List.prefix_refl T
  | lost _ ih => exact List.IsPrefix.trans (List.prefix_append _ _) ih
  | survived _ ih => exact List.IsPrefix.trans (by rw [List.append_assoc]; exact List.prefix_append _ _) ih

theorem admissible_acked {T0 T : List Tx} {os : List Spec.RoundObs} (h : Spec.Admissible T0 os T) :
    ∀ o ∈ os, ∀ tx ∈ o.acked, tx ∈ T := by
  induction h with
  | done T => intro o ho; simp at ho
  | @lost T T' a i rest h' ih =>
    intro o ho tx htx
    rcases List.mem_cons.mp ho with rfl | ho
    · exact (admissible_prefix h').subset (List.mem_append_right _ htx)
    · exact ih o ho tx htx
  | @survived T T' a tx' rest h' ih =>
    intro o ho tx htx
    rcases List.mem_cons.mp ho with rfl | ho
    · exact (admissible_prefix h').subset (List.mem_append_left _ (List.mem_append_right _ htx))
    · exact ih o ho tx htx

theorem mem_allNodes {T : List Tx} {tx : Tx} (h : tx ∈ T) : ∀ x ∈ tx.nodes, x ∈ allNodes T := by
  intro x hx; simp only [allNodes, List.mem_flatMap]; exact ⟨tx, h, hx⟩
theorem mem_allEdges {T : List Tx} {tx : Tx} (h : tx ∈ T) : ∀ x ∈ tx.edges, x ∈ allEdges T := by
  intro x hx; simp only [allEdges, List.mem_flatMap]; exact ⟨tx, h, hx⟩
theorem mem_allProps {T : List Tx} {tx : Tx} (h : tx ∈ T) : ∀ x ∈ tx.props, x ∈ allProps T := by
  intro x hx; simp only [allProps, List.mem_flatMap]; exact ⟨tx, h, hx⟩

/-! ### what the next open shows -/

theorem acked_in_content {T0 T : List Tx} {os : List Spec.RoundObs} {c : Content} (hadm : Spec.Admissible T0 os T)
    (hsame : Spec.Content.same c (Spec.run T)) :
    ∀ o ∈ os, ∀ tx ∈ o.acked, (∀ x ∈ tx.nodes, x ∈ c.nodes) ∧ (∀ e ∈ tx.edges, e ∈ c.edges) ∧ (∀ q ∈ tx.props, q ∈ c.props) := by
  intro o ho tx htx
  have hin : tx ∈ T := admissible_acked hadm o ho tx htx
  rw [spec_run_eq] at hsame
  obtain ⟨hn, he, hp⟩ := hsame
  exact ⟨fun x hx => by rw [hn]; exact mem_allNodes hin x hx, fun e hx => (he e).mpr (mem_allEdges hin e hx),
    fun q hx => (hp q).mpr (mem_allProps hin q hx)⟩

/-- what the theorems need from the configuration: the node-table slot is synced before it is
    counted, creation syncs a page before the page that names it, a zero or short meta page counts
    as a fresh file, appends cut a torn tail off, a leaf holds at least one entry -/
def CfgOK (cfg : Cfg) : Prop :=
  cfg.syncSlot = true ∧ cfg.syncCreate = true ∧ cfg.freshZero = true ∧ cfg.tailTolerant = true ∧ 1 ≤ cfg.leafCap

instance (cfg : Cfg) : Decidable (CfgOK cfg) := inferInstanceAs (Decidable (_ ∧ _ ∧ _ ∧ _ ∧ _))

/-- C01 + C02 over all histories of this shape: whatever the incarnations did and wherever
    they died, the next open succeeds and shows the content of an admissible transaction list:
    the initial one, every acknowledged commit, and — entirely or not at all — each commit that
    was in flight at a death. -/
theorem crash_recover {cfg : Cfg} (hsync : cfg.syncSlot = true) (hfz : cfg.freshZero = true) (hsc : cfg.syncCreate = true) (hcap1 : 1 ≤ cfg.leafCap)
    (rounds : List Round) (T0 : List Tx) (fs0 : FS)
    (seen : List Nat) (hc : Start T0 fs0) (hsub : ∀ x ∈ allNodes T0, x ∈ seen) (hok : HistOK cfg fs0 seen rounds) :
    ∃ T m fs', Spec.Admissible T0 (rounds.map Round.obs) T ∧
      recover cfg (afterRounds cfg fs0 rounds) = .ok (m, fs') ∧
      Spec.Content.same (content m fs'.pv) (Spec.run T) := by
  obtain ⟨T, hadm, hcl⟩ := rounds_safe hsync hfz hsc hcap1 rounds T0 fs0 seen hc hsub hok
  obtain ⟨m, fs', hrec, _, cs, c, hinv, _⟩ := (open_start (cfg := cfg) hsync hfz hsc hcl).recover_ok
  exact ⟨T, m, fs', hadm, hrec, content_of_inv hinv⟩

end Nervus.Crash
