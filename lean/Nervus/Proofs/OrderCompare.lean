/-
  Proofs.OrderCompare — `order_compare_non_null` (the ORDER BY comparator) is a lawful partial three-way
  comparison: antisymmetric for ALL values (`ocnn_swap`), transitive on its `some` results for all
  well-formed values whose strings are compared transitively (`ocnn_trans`; `StrHyp`).  It is `TagFirst` for the
  rank (`ocnn_tagFirst`); within one rank it is the derived order (`ocnn_eq_dcmp`) except on numbers, which reduce
  to the comparison of exact dyadic values (`numCmpNanLast_exact`), strings (the hypothesis), node ids, and lists,
  which are `lexP` of the comparison of elements with `null` last (`ocElem`, `clo_eq_lexP`).
-/
import Nervus.Proofs.Num
namespace Nervus
open F64 Value Eval

theorem TKey.cmp_laws : CmpLaws TKey.cmp := by
  have h := CmpLaws.lex (α := TKey) cmpInt_laws
    (CmpLaws.lex (α := TKey) cmpInt_laws cmpInt_laws TKey.b TKey.c) TKey.a id
  exact h

section
variable (E : Env)

theorem strCmp_swap (x y : Str) : strCmp E x y = (strCmp E y x).swap := by
  unfold strCmp
  cases hx : E.temporalKey x with
  | none => cases hy : E.temporalKey y <;> simp [cmpBytes_laws.swap x y]
  | some p =>
    cases hy : E.temporalKey y with
    | none => simp [cmpBytes_laws.swap x y]
    | some q =>
      obtain ⟨k, a⟩ := p
      obtain ⟨k', b⟩ := q
      by_cases hk : k = k'
      · subst hk; simp [TKey.cmp_laws.swap a b]
      · have : ¬ k' = k := fun h => hk h.symm
        simp [hk, this, cmpBytes_laws.swap x y]

/-- every explicit arm compares two values of one rank; the last arm looks at the ranks first -/
theorem ocnn_tagFirst : TagFirst (orderCompareNonNull E) rank := fun a b h => by
  have hc : (cmpNat (rank a) (rank b) != .eq) = true := bne_iff_ne.2 (mt cmpNat_eq.1 h)
  unfold orderCompareNonNull
  split <;> first | exact absurd rfl h | exact if_pos hc

/-- node-like values compare by their id -/
def nodeKeyN : Value → Nat
  | .nodeId n => n
  | .externalId n => n
  | _ => 0

def isNodeish : Value → Bool
  | .nodeId _ | .externalId _ => true
  | _ => false

theorem isNodeish_cases {a : Value} (h : isNodeish a = true) : (∃ n, a = .nodeId n) ∨ ∃ n, a = .externalId n := by
  cases a <;> first | exact .inl ⟨_, rfl⟩ | exact .inr ⟨_, rfl⟩ | cases h

/-- refute / simplify `rank x = rank y` for concrete constructors -/
macro "rank_absurd" h:ident : tactic => `(tactic|
  (simp [rank, Generated.rankNull, Generated.rankBool, Generated.rankInt,
    Generated.rankFloat, Generated.rankString, Generated.rankList, Generated.rankMap, Generated.rankNodeId,
    Generated.rankExternalId, Generated.rankEdgeKey, Generated.rankDateTime, Generated.rankBlob,
    Generated.rankPath] at $h:ident))

/-- the rank table separates the kinds of value: values of the same rank are of the same kind -/
theorem kind_of_rank_eq {a b : Value} (h : rank a = rank b) :
    match a with
    | .null => b = .null
    | .bool _ => ∃ y, b = .bool y
    | .int _ | .float _ => isNum b = true
    | .str _ => ∃ y, b = .str y
    | .list _ => ∃ ys, b = .list ys
    | .map _ => ∃ ys, b = .map ys
    | .nodeId _ | .externalId _ => isNodeish b = true
    | .edgeKey _ => ∃ y, b = .edgeKey y
    | .dateTime _ => ∃ y, b = .dateTime y
    | .blob _ => ∃ y, b = .blob y
    | .path _ _ => ∃ n e, b = .path n e := by
  cases a <;> cases b <;> first | (cases h; done) | rfl | exact ⟨_, rfl⟩ | exact ⟨_, _, rfl⟩

theorem ocnn_num (a b : Value) (ha : isNum a) (hb : isNum b) :
    orderCompareNonNull E a b = some (numCmpNanLast a b) := by
  obtain ⟨x, rfl⟩ | ⟨x, rfl⟩ := isNum_cases ha <;> obtain ⟨y, rfl⟩ | ⟨y, rfl⟩ := isNum_cases hb <;> rfl

theorem ocnn_node (a b : Value) (ha : isNodeish a) (hb : isNodeish b) :
    orderCompareNonNull E a b = some (cmpNat (nodeKeyN a) (nodeKeyN b)) := by
  obtain ⟨x, rfl⟩ | ⟨x, rfl⟩ := isNodeish_cases ha <;> obtain ⟨y, rfl⟩ | ⟨y, rfl⟩ := isNodeish_cases hb <;> rfl

theorem ocnn_path (n : List Nat) (e : List EKey) (n' : List Nat) (e' : List EKey) :
    orderCompareNonNull E (.path n e) (.path n' e') = some ((cmpNatList n n').then (cmpEKeyList e e')) := by
  simp only [orderCompareNonNull]
  cases cmpNatList n n' <;> rfl

/-- the ranks of null, booleans, maps, edge keys, date-times, blobs and paths: everything but numbers, strings,
    lists and node ids -/
def derivedRank (r : Nat) : Bool :=
  r != Generated.rankInt && r != Generated.rankString && r != Generated.rankList && r != Generated.rankNodeId

theorem ocnn_eq_dcmp {a b : Value} (h : rank a = rank b) (hr : derivedRank (rank a) = true) :
    orderCompareNonNull E a b = dcmp a b := by
  have hb := kind_of_rank_eq h
  cases a with
  | null => cases hb; rfl
  | bool x | map x | edgeKey x | dateTime x | blob x => obtain ⟨y, rfl⟩ := hb; rfl
  | path n e => obtain ⟨n', e', rfl⟩ := hb; exact ocnn_path E n e n' e'
  | _ => cases hr

/-! ### list elements: `null` after everything else -/

theorem listElemOrdering_nonnull {x y : Value} (hx : x ≠ .null) (hy : y ≠ .null) (nn : Option Ordering) :
    listElemOrdering x y nn = nn := by
  unfold listElemOrdering; split <;> first | rfl | contradiction

/-- comparison of two list elements inside `compare_lists_ordering` -/
def ocElem (x y : Value) : Option Ordering := listElemOrdering x y (orderCompareNonNull E x y)

theorem ocElem_nonnull {x y : Value} (hx : x ≠ .null) (hy : y ≠ .null) :
    ocElem E x y = orderCompareNonNull E x y := listElemOrdering_nonnull hx hy _

def nullTag (v : Value) : Nat := if v = .null then 1 else 0

theorem ocElem_tagFirst : TagFirst (ocElem E) nullTag := fun x y h => by
  unfold ocElem listElemOrdering
  split
  · exact absurd rfl h
  · rename_i hy; rw [nullTag, nullTag, if_pos rfl, if_neg hy]; rfl
  · rename_i hx; rw [nullTag, nullTag, if_pos rfl, if_neg hx]; rfl
  · rename_i hx hy _; rw [nullTag, nullTag, if_neg hx, if_neg hy] at h; exact absurd rfl h

theorem nullTag_eq {x y : Value} (h : nullTag x = nullTag y) : x = .null ∧ y = .null ∨ x ≠ .null ∧ y ≠ .null := by
  unfold nullTag at h
  by_cases hx : x = .null <;> by_cases hy : y = .null <;> simp only [hx, hy, if_true, if_false] at h <;>
    first | exact .inl ⟨hx, hy⟩ | exact .inr ⟨hx, hy⟩ | cases h

theorem ocElem_swap {x y : Value}
    (h : orderCompareNonNull E x y = (orderCompareNonNull E y x).map Ordering.swap) :
    ocElem E x y = (ocElem E y x).map Ordering.swap := by
  refine (ocElem_tagFirst E).swap fun ht => ?_
  obtain ⟨rfl, rfl⟩ | ⟨hx, hy⟩ := nullTag_eq ht
  · rfl
  · rw [ocElem_nonnull E hx hy, ocElem_nonnull E hy hx, h]

theorem ocElem_trans {x y z : Value}
    (ih : PTrans (orderCompareNonNull E x y) (orderCompareNonNull E y z) (orderCompareNonNull E x z)) :
    PTrans (ocElem E x y) (ocElem E y z) (ocElem E x z) := by
  refine (ocElem_tagFirst E).trans fun t1 t2 => ?_
  obtain ⟨rfl, rfl⟩ | ⟨hx, hy⟩ := nullTag_eq t1 <;> obtain ⟨hy', rfl⟩ | ⟨_, hz⟩ := nullTag_eq t2
  · exact (PLaws.ofTotal cmpBool_laws).trans true true true
  · contradiction
  · contradiction
  · rw [ocElem_nonnull E hx hy, ocElem_nonnull E hy hz, ocElem_nonnull E hx hz]; exact ih

theorem clo_eq_lexP : ∀ a b, compareListsOrdering E a b = lexP (ocElem E) a b
  | [], [] | [], _ :: _ | _ :: _, [] => rfl
  | _ :: xs, _ :: ys => by rw [compareListsOrdering, lexP, ← clo_eq_lexP xs ys]; rfl

theorem clo_cons (x y : Value) (xs ys : List Value) :
    compareListsOrdering E (x :: xs) (y :: ys) = thenP (ocElem E x y) (compareListsOrdering E xs ys) := by
  rw [clo_eq_lexP, clo_eq_lexP]; rfl

theorem ocnn_swap : ∀ (a b : Value), orderCompareNonNull E a b = (orderCompareNonNull E b a).map Ordering.swap := by
  intro a
  induction a using Value.ind with | step a ih => ?_
  intro b
  refine (ocnn_tagFirst E).swap fun h => ?_
  by_cases hr : derivedRank (rank a) = true
  · rw [ocnn_eq_dcmp E h hr, ocnn_eq_dcmp E h.symm (h ▸ hr)]; exact dcmp_swap a b
  have hb := kind_of_rank_eq h
  cases a with
  | int x | float x => rw [ocnn_num E _ b rfl hb, ocnn_num E b _ hb rfl, numCmpNanLast_swap _ b rfl hb]; rfl
  | str x => obtain ⟨y, rfl⟩ := hb; exact congrArg some (strCmp_swap E x y)
  | list xs =>
    obtain ⟨ys, rfl⟩ := hb
    simp only [orderCompareNonNull, clo_eq_lexP]
    exact lexP_swap fun x hx y _ => ocElem_swap E (ih x hx y)
  | nodeId x | externalId x => rw [ocnn_node E _ b rfl hb, ocnn_node E b _ hb rfl, cmpNat_laws.swap]; rfl
  | _ => exact absurd rfl hr

theorem clo_swap : ∀ (a b : List Value),
    compareListsOrdering E a b = (compareListsOrdering E b a).map Ordering.swap := by
  intro a b
  rw [clo_eq_lexP, clo_eq_lexP]
  exact lexP_swap fun x _ y _ => ocElem_swap E (ocnn_swap E x y)

theorem num_trans (a b d : Value) (ha : isNum a) (hb : isNum b) (hd : isNum d) (wa : a.wf) (wb : b.wf) (wd : d.wf) :
    PTrans (orderCompareNonNull E a b) (orderCompareNonNull E b d) (orderCompareNonNull E a d) := by
  rw [ocnn_num E _ _ ha hb, numCmpNanLast_exact _ _ ha hb wa wb, ocnn_num E _ _ hb hd,
    numCmpNanLast_exact _ _ hb hd wb wd, ocnn_num E _ _ ha hd, numCmpNanLast_exact _ _ ha hd wa wd]
  exact (PLaws.ofTotal cmpTK_laws).trans (numF a) (numF b) (numF d)

theorem node_trans (a b d : Value) (ha : isNodeish a) (hb : isNodeish b) (hd : isNodeish d) :
    PTrans (orderCompareNonNull E a b) (orderCompareNonNull E b d) (orderCompareNonNull E a d) := by
  rw [ocnn_node E _ _ ha hb, ocnn_node E _ _ hb hd, ocnn_node E _ _ ha hd]
  exact (PLaws.ofTotal cmpNat_laws).trans (nodeKeyN a) (nodeKeyN b) (nodeKeyN d)

/-- what `Spec.strTransOn` (the negated trigger of C20-temporal-string-order) gives at a triple of values: the
    engine's string comparison is transitive on their strings -/
def StrHyp (a b d : List Str) : Prop :=
  ∀ x ∈ a, ∀ y ∈ b, ∀ z ∈ d, Spec.transAt (strCmp E) x y z = true

theorem StrHyp.mono {a b d a' b' d' : List Str} (h : StrHyp E a b d) (ha : ∀ x ∈ a', x ∈ a) (hb : ∀ x ∈ b', x ∈ b)
    (hd : ∀ x ∈ d', x ∈ d) : StrHyp E a' b' d' :=
  fun x hx y hy z hz => h x (ha x hx) y (hb y hy) z (hd z hz)

theorem ptrans_of_transAt {c : Str → Str → Ordering} {x y z : Str} (h : Spec.transAt c x y z = true) :
    PTrans (some (c x y)) (some (c y z)) (some (c x z)) := by
  intro o1 o2 h1 h2 n1 n2
  cases h1; cases h2
  simp only [Spec.transAt, Bool.or_eq_true, beq_iff_eq] at h
  rcases h with (h | h) | h
  · exact absurd h n1
  · exact absurd h n2
  · exact congrArg some h

theorem StrHyp.kids {a b d x y z : Value} (h : StrHyp E (Spec.stringsOf a) (Spec.stringsOf b) (Spec.stringsOf d))
    (hx : x ∈ a.kids) (hy : y ∈ b.kids) (hz : z ∈ d.kids) :
    StrHyp E (Spec.stringsOf x) (Spec.stringsOf y) (Spec.stringsOf z) :=
  h.mono E (stringsOf_kids hx) (stringsOf_kids hy) (stringsOf_kids hz)

open Spec in
theorem ocnn_trans : ∀ (a b d : Value), a.wf = true → b.wf = true → d.wf = true →
    StrHyp E (stringsOf a) (stringsOf b) (stringsOf d) →
    PTrans (orderCompareNonNull E a b) (orderCompareNonNull E b d) (orderCompareNonNull E a d) := by
  intro a
  induction a using Value.ind with | step a ih => ?_
  intro b d wa wb wd hS
  refine (ocnn_tagFirst E).trans fun h1 h2 => ?_
  by_cases hr : derivedRank (rank a) = true
  · rw [ocnn_eq_dcmp E h1 hr, ocnn_eq_dcmp E h2 (h1 ▸ hr), ocnn_eq_dcmp E (h1.trans h2) hr]; exact dcmp_trans a b d
  have hb := kind_of_rank_eq h1
  have hd := kind_of_rank_eq (h1.trans h2)
  cases a with
  | int x | float x => exact num_trans E _ b d rfl hb hd wa wb wd
  | str x =>
    obtain ⟨y, rfl⟩ := hb; obtain ⟨z, rfl⟩ := hd
    exact ptrans_of_transAt (hS x (.head _) y (.head _) z (.head _))
  | list xs =>
    obtain ⟨ys, rfl⟩ := hb; obtain ⟨zs, rfl⟩ := hd
    simp only [orderCompareNonNull, clo_eq_lexP]
    exact lexP_trans fun x hx y hy z hz => ocElem_trans E
      (ih x hx y z (wf_kids wa x hx) (wf_kids wb y hy) (wf_kids wd z hz) (hS.kids E hx hy hz))
  | nodeId x | externalId x => exact node_trans E _ b d rfl hb hd
  | _ => exact absurd rfl hr

open Spec in
theorem clo_trans : ∀ (a b d : List Value), (Value.list a).wf = true → (Value.list b).wf = true →
    (Value.list d).wf = true →
    StrHyp E (stringsOf (.list a)) (stringsOf (.list b)) (stringsOf (.list d)) →
    ∀ (o1 o2 : Ordering), compareListsOrdering E a b = some o1 → compareListsOrdering E b d = some o2 →
      o1 ≠ .gt → o2 ≠ .gt → compareListsOrdering E a d = some (o1.then o2) :=
  fun a b d => ocnn_trans E (.list a) (.list b) (.list d)
end
end Nervus
