/-
  Two invariants of the handle system `Model.Handles` with the locking `open` (`guard = true`).  `Inv` (needs `OsSound`):
  every open handle owns the lock-table entry of its path, so a path has at most one handle.  `NoStale` (any OS): every
  lock-table entry belongs to an open handle of that path.  `close` and `crash` are one case of each (`inv_drop`,
  `noStale_drop`).
-/
import Nervus.Model.Handles
import Nervus.Proofs.ListBasics
namespace Nervus.Handles

structure Inv (s : State) : Prop where
  owns : ∀ h, h ∈ s.handles → s.lockTable h.path = some h.id
  fresh : ∀ h, h ∈ s.handles → h.id < s.nextId
  uniq : ∀ h h', h ∈ s.handles → h' ∈ s.handles → h.id = h'.id → h = h'
  one : ∀ p, (writers s p).length ≤ 1

theorem inv_init : Inv init :=
  ⟨by intro h hh; simp [init] at hh, by intro h hh; simp [init] at hh,
   by intro h h' hh; simp [init] at hh, by intro p; simp [writers, init]⟩

theorem filter_length_le_one {α} (l : List α) (p q : α → Bool) (h : (l.filter p).length ≤ 1) :
    ((l.filter q).filter p).length ≤ 1 := by
  rw [filter_filter_comm]
  exact Nat.le_trans (List.length_filter_le _ _) h

/-- `close` and `crash` both drop the handles that fail `keep` and release the ids `ids`: the invariant survives
    when no kept handle's id is released -/
theorem inv_drop {s : State} (hi : Inv s) (keep : Handle → Bool) (ids : List Nat)
    (hids : ∀ h, h ∈ s.handles → keep h = true → ids.contains h.id = false) :
    Inv { s with handles := s.handles.filter keep, lockTable := release s.lockTable ids } := by
  refine ⟨fun h hh => ?_, fun h hh => hi.fresh h (List.mem_filter.1 hh).1,
    fun h h' hh hh' => hi.uniq h h' (List.mem_filter.1 hh).1 (List.mem_filter.1 hh').1,
    fun p => filter_length_le_one _ _ _ (hi.one p)⟩
  obtain ⟨hh, hk⟩ := List.mem_filter.1 hh
  simp only [release, hi.owns h hh, hids h hh hk]
  rfl

theorem inv_step {os : OsTryLock} (hos : OsSound os) {s : State} (hi : Inv s) (l : Label) :
    Inv (step true os s l).1 := by
  obtain ⟨hown, hfresh, huniq, hone⟩ := hi
  cases l with
  | «open» proc path =>
    simp only [step, if_true]
    split
    · rename_i hok
      have hfree := hos _ _ hok
      have nobody : ∀ h, h ∈ s.handles → h.path ≠ path := by
        intro h hh hp; have := hown h hh; rw [hp, hfree] at this; cases this
      refine ⟨?_, ?_, ?_, ?_⟩
      · intro h hh
        rcases List.mem_cons.mp hh with rfl | hh
        · simp
        · simp [nobody h hh, hown h hh]
      · intro h hh
        rcases List.mem_cons.mp hh with rfl | hh
        · simp
        · have := hfresh h hh; simp; omega
      · intro h h' hh hh' hid
        rcases List.mem_cons.mp hh with rfl | hh <;> rcases List.mem_cons.mp hh' with rfl | hh'
        · rfl
        · have := hfresh h' hh'; simp at hid; omega
        · have := hfresh h hh; simp at hid; omega
        · exact huniq h h' hh hh' hid
      · intro p
        simp only [writers, List.filter_cons]
        by_cases hp : p = path
        · subst hp
          have : s.handles.filter (fun h => h.path == p) = [] := by
            rw [List.filter_eq_nil_iff]; intro h hh; simp [nobody h hh]
          simp [this]
        · have : ((⟨s.nextId, proc, path⟩ : Handle).path == p) = false := by simp; exact fun e => hp e.symm
          simp only [this]; exact hone p
    · exact ⟨hown, hfresh, huniq, hone⟩
  | close id =>
    exact inv_drop ⟨hown, hfresh, huniq, hone⟩ _ _ (fun h _ hk => by simpa using hk)
  | crash proc =>
    refine inv_drop ⟨hown, hfresh, huniq, hone⟩ _ _ (fun h hh hk => ?_)
    rw [Bool.eq_false_iff]; intro hc
    simp only [List.contains_iff_mem, List.mem_map, List.mem_filter, beq_iff_eq] at hc
    obtain ⟨h', ⟨hh', hp'⟩, hid⟩ := hc
    cases huniq h' h hh' hh hid
    simp [hp'] at hk

theorem reach_inv {os : OsTryLock} (hos : OsSound os) {s : State} (h : Reach true os s) : Inv s := by
  induction h with
  | init => exact inv_init
  | step l _ ih => exact inv_step hos ih l

/-- converse invariant: no stale lock — every lock-table entry belongs to an OPEN handle of that path
    (`close` and process death release the lock with the file description) -/
def NoStale (s : State) : Prop :=
  ∀ p i, s.lockTable p = some i → ∃ h, h ∈ s.handles ∧ h.id = i ∧ h.path = p

theorem noStale_init : NoStale init := by intro p i h; simp [init] at h

theorem noStale_drop {s : State} (hi : NoStale s) (keep : Handle → Bool) (ids : List Nat)
    (hids : ∀ h, h ∈ s.handles → keep h = false → ids.contains h.id = true) :
    NoStale { s with handles := s.handles.filter keep, lockTable := release s.lockTable ids } := by
  intro p i h
  simp only [release] at h
  cases ht : s.lockTable p with
  | none => simp [ht] at h
  | some j =>
    simp only [ht] at h
    split at h
    · cases h
    · rename_i hc
      have h := Option.some.inj h; subst h
      obtain ⟨hd, hm, h1, h2⟩ := hi p j ht
      refine ⟨hd, List.mem_filter.2 ⟨hm, ?_⟩, h1, h2⟩
      cases hk : keep hd
      · exact absurd (h1 ▸ hids hd hm hk) hc
      · rfl

theorem noStale_step (os : OsTryLock) {s : State} (hi : NoStale s) (l : Label) :
    NoStale (step true os s l).1 := by
  cases l with
  | «open» proc path =>
    simp only [step, if_true]
    split
    · intro p i h
      simp only at h
      by_cases hp : p = path
      · subst hp
        simp only [if_true, Option.some.injEq] at h
        exact ⟨⟨s.nextId, proc, p⟩, List.mem_cons_self, h, rfl⟩
      · simp only [hp, if_false] at h
        obtain ⟨hd, hm, h1, h2⟩ := hi p i h
        exact ⟨hd, List.mem_cons_of_mem _ hm, h1, h2⟩
    · exact hi
  | close id =>
    exact noStale_drop hi _ _ (fun h _ hk => by simpa using hk)
  | crash proc =>
    refine noStale_drop hi _ _ (fun h hh hk => ?_)
    simp only [List.contains_iff_mem, List.mem_map, List.mem_filter, beq_iff_eq]
    exact ⟨h, ⟨hh, by simpa using hk⟩, rfl⟩

theorem reach_noStale {os : OsTryLock} {s : State} (h : Reach true os s) : NoStale s := by
  induction h with
  | init => exact noStale_init
  | step l _ ih => exact noStale_step os ih l

theorem osFlock_sound : OsSound osFlock := by
  intro tbl p h; simp [osFlock] at h; exact h

end Nervus.Handles
