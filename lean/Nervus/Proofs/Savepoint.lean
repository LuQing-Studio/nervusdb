/-
  The journal of a list of writes (`Model.Savepoint`), replayed newest entry first, gives back the state before the
  writes: induction on the writes — the entry of the first write is replayed last, when all later writes are undone, and
  puts back what that write overwrote.
-/
import Nervus.Model.Savepoint
namespace Nervus.Savepoint

theorem replay_append (σ : Store) (a b : List (Nat × Option Nat)) : replay σ (a ++ b) = replay (replay σ a) b := by
  simp [replay, List.foldl_append]

theorem undo_newest_first_restores (ws : Writes) : ∀ σ : Store,
    undoNewestFirst (applyWrites σ ws) (journal σ ws) = σ := by
  induction ws with
  | nil => intro σ; rfl
  | cons w ws ih =>
    intro σ
    obtain ⟨s, v⟩ := w
    simp only [applyWrites, journal, undoNewestFirst, List.reverse_cons, replay_append]
    have := ih (write σ s v)
    simp only [undoNewestFirst] at this
    rw [this]
    funext k
    simp only [replay, List.foldl_cons, List.foldl_nil, write]
    by_cases h : k = s
    · simp [h]
    · simp [h]

end Nervus.Savepoint
