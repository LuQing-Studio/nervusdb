/-
  `leBytes` / `leVal` and the `i64`/`u64` casts `toU64` / `ofU64` invert each other within the width; `slice` (a Rust
  slice expression, `none` = it would panic) is `some` under the length check and reads a field back out of a
  concatenation.  The decoders' round-trip and no-panic proofs (C25, C17, HNSW blobs) are assembled from these.
-/
import Nervus.Model.PropVal
namespace Nervus
open Nervus.PropVal

theorem leBytes_length (n v : Nat) : (leBytes n v).length = n := by
  induction n generalizing v with
  | zero => rfl
  | succ n ih => simp [leBytes, ih]

theorem leVal_lt (bs : Bytes) : leVal bs < 256 ^ bs.length := by
  induction bs with
  | nil => simp [leVal]
  | cons b bs ih =>
    have hb : b.toNat < 256 := UInt8.toNat_lt b
    simp only [leVal, List.length_cons, Nat.pow_succ]
    omega

theorem leVal_leBytes (n v : Nat) (h : v < 256 ^ n) : leVal (leBytes n v) = v := by
  induction n generalizing v with
  | zero => simp at h; subst h; rfl
  | succ n ih =>
    have h2 : v / 256 < 256 ^ n := by
      rw [Nat.pow_succ] at h
      exact Nat.div_lt_of_lt_mul (by omega)
    simp only [leBytes, leVal, ih _ h2]
    have : (UInt8.ofNat (v % 256)).toNat = v % 256 := by
      simp [UInt8.toNat_ofNat']
    rw [this]; omega

theorem leBytes_leVal (bs : Bytes) : leBytes bs.length (leVal bs) = bs := by
  induction bs with
  | nil => rfl
  | cons b bs ih =>
    have hb : b.toNat < 256 := UInt8.toNat_lt b
    simp only [List.length_cons, leBytes, leVal]
    have h1 : (b.toNat + 256 * leVal bs) % 256 = b.toNat := by omega
    have h2 : (b.toNat + 256 * leVal bs) / 256 = leVal bs := by omega
    rw [h1, h2, ih]
    simp

theorem le_split (w : Nat) {bs : Bytes} (h : w ≤ bs.length) :
    ∃ n tl, n < 256 ^ w ∧ bs = leBytes w n ++ tl := by
  have hl : (bs.take w).length = w := by rw [List.length_take]; omega
  have h1 := leVal_lt (bs.take w)
  have h2 := leBytes_leVal (bs.take w)
  rw [hl] at h1 h2
  exact ⟨leVal (bs.take w), bs.drop w, h1, by rw [h2, List.take_append_drop]⟩

theorem toU64_lt (i : Int) : toU64 i < 256 ^ 8 := by
  unfold toU64; omega

theorem ofU64_toU64 (i : Int) (h : I64.inRange i) : ofU64 (toU64 i) = i := by
  unfold I64.inRange at h
  unfold ofU64 toU64
  split <;> omega

theorem toU64_ofU64 (u : Nat) (h : u < 18446744073709551616) : toU64 (ofU64 u) = u := by
  unfold ofU64 toU64
  split <;> omega

theorem ofU64_inRange (u : Nat) (h : u < 18446744073709551616) : I64.inRange (ofU64 u) := by
  unfold I64.inRange ofU64
  split <;> omega

theorem slice_eq_some {bs : Bytes} {a b : Nat} (h1 : a ≤ b) (h2 : b ≤ bs.length) :
    slice bs a b = some ((bs.drop a).take (b - a)) := by
  simp [slice, h1, h2]

theorem slice_length {bs x : Bytes} {a b : Nat} (h : slice bs a b = some x) : x.length = b - a := by
  unfold slice at h
  split at h
  · injection h with h; subst h
    simp [List.length_take, List.length_drop]; omega
  · cases h

theorem slice_isSome {bs : Bytes} {a b : Nat} (h1 : a ≤ b) (h2 : b ≤ bs.length) : slice bs a b ≠ none := by
  simp [slice, h1, h2]

theorem slice_append (p x r : Bytes) : slice (p ++ (x ++ r)) p.length (p.length + x.length) = some x := by
  rw [slice_eq_some (by omega) (by simp)]
  simp

theorem slice_skip (x post : Bytes) (a b : Nat) :
    slice (x ++ post) (a + x.length) (b + x.length) = slice post a b := by
  simp only [slice, List.length_append, Nat.add_comm _ x.length, List.drop_length_add_append,
    Nat.add_le_add_iff_left, Nat.add_sub_add_left]

theorem slice_take (x post : Bytes) : slice (x ++ post) 0 x.length = some x := by
  simpa using slice_append [] x post

theorem slice_whole (x : Bytes) : slice x 0 x.length = some x := by
  simpa using slice_take x []

theorem slice_append' (p x r : Bytes) (a b : Nat) (ha : a = p.length) (hb : b = p.length + x.length) :
    slice (p ++ (x ++ r)) a b = some x := by
  subst ha hb; exact slice_append p x r

theorem readU32_append (p r : Bytes) (n : Nat) (h : n < two32) :
    readU32 (p ++ (leBytes 4 n ++ r)) p.length = some n := by
  unfold readU32
  rw [slice_append' p (leBytes 4 n) r _ _ rfl (by simp [leBytes_length])]
  simp only [Option.map_some]
  rw [leVal_leBytes 4 n (by unfold two32 at h; omega)]

theorem readU32_isSome {bs : Bytes} {a : Nat} (h : a + 4 ≤ bs.length) : ∃ n, readU32 bs a = some n ∧ n < two32 := by
  unfold readU32
  rw [slice_eq_some (by omega) h]
  refine ⟨_, rfl, ?_⟩
  have := leVal_lt ((bs.drop a).take (a + 4 - a))
  have hl : ((bs.drop a).take (a + 4 - a)).length = 4 := by
    simp [List.length_take, List.length_drop]; omega
  rw [hl] at this
  unfold two32; omega

end Nervus
