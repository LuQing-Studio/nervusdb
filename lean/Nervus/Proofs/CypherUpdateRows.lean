/-
  C12: the multi-row induction (`stage_simulation`: a per-row simulation between a write stage of the model and an
  update clause of the reference lifts to the whole driving table, threading the accumulated WriteableGraph calls
  on one side and the current graph on the other), the simulation relation `USim`, and one row of each clause
  shape for which the refinement is proved.
-/
import Nervus.Proofs.CypherUpdate
namespace Nervus.Cy
open Nervus.Cy

variable (A : Algebra) (params : List (String × Val))

/-- two folds over the same list, related step by step; the relation sees the part of the list already consumed -/
theorem foldlM_simulation {γ σ τ ε : Type} (f : σ → γ → Except ε σ) (h : τ → γ → Except ε τ)
    (R : List γ → σ → τ → Prop) (T : List γ)
    (hstep : ∀ pre u post, T = pre ++ u :: post → ∀ a b, R pre a b →
      ∃ a' b', f a u = .ok a' ∧ h b u = .ok b' ∧ R (pre ++ [u]) a' b') :
    ∀ rest pre, T = pre ++ rest → ∀ a b, R pre a b →
      ∃ a' b', rest.foldlM f a = .ok a' ∧ rest.foldlM h b = .ok b' ∧ R T a' b' := by
  intro rest
  induction rest with
  | nil =>
    intro pre hT a b hR
    rw [List.append_nil] at hT
    exact ⟨a, b, rfl, rfl, hT ▸ hR⟩
  | cons u us ih =>
    intro pre hT a b hR
    obtain ⟨a1, b1, h1, h2, hR1⟩ := hstep pre u us hT a b hR
    obtain ⟨a', b', h3, h4, hR'⟩ := ih (pre ++ [u]) (by simp [hT]) a1 b1 hR1
    refine ⟨a', b', ?_, ?_, hR'⟩
    · rw [List.foldlM_cons, h1]; exact h3
    · rw [List.foldlM_cons, h2]; exact h4

theorem forIn_stage_eq_foldlM (fm : Update.St → Update.URow → Except Err (Update.St × Update.URow))
    (T : List Update.URow) (acc : Update.St × List Update.URow) :
    (forIn T acc fun u (a : Update.St × List Update.URow) => do
        let x ← fm a.1 u
        pure (ForInStep.yield (x.1, a.2 ++ [x.2]))) =
      T.foldlM (fun (a : Update.St × List Update.URow) u => do
        let x ← fm a.1 u
        pure (x.1, a.2 ++ [x.2])) acc := by
  induction T generalizing acc with
  | nil => rfl
  | cons u us ih =>
    simp only [List.forIn_cons, List.foldlM_cons, bind, Except.bind]
    cases fm acc.1 u with
    | error e => rfl
    | ok x => exact ih _

/-- what `Update.runStage` does for a stage that handles the rows one by one with `fm` (definitionally) -/
def stageLoop (fm : Update.St → Update.URow → Except Err (Update.St × Update.URow)) (m : Update.St)
    (T : List Update.URow) : Except Err (Update.St × List Update.URow) := do
  let mut s := m
  let mut out : List Update.URow := []
  for u in T do
    let (s', u') ← fm s u
    s := s'; out := out ++ [u']
  return (s, out)

theorem mem_of_split {α : Type} {T pre post : List α} {r : α} (h : T = pre ++ r :: post) : r ∈ T :=
  h ▸ List.mem_append_right _ (List.mem_cons_self ..)

/-- a write stage (`fm` per row) against an update clause (`fs` per row).  The model rows are `{ row := r }`: no
    materialised values, as the first stage of a statement finds them.  `R` may mention the rows already processed,
    and sees the reference's output table. -/
theorem stage_simulation (fm : Update.St → Update.URow → Except Err (Update.St × Update.URow))
    (fs : Spec.St → Row → Except Err (Spec.St × Table)) (R : Table → Update.St → Spec.St × Table → Prop)
    (T : Table)
    (hstep : ∀ pre r post, T = pre ++ r :: post → ∀ m b, R pre m b →
      ∃ m' u' sp' rs, fm m { row := r } = .ok (m', u') ∧ fs b.1 r = .ok (sp', rs) ∧
        R (pre ++ [r]) m' (sp', b.2 ++ rs))
    (m : Update.St) (sp : Spec.St) (h0 : R [] m (sp, [])) :
    ∃ m' T' b,
      stageLoop fm m (T.map fun r => { row := r }) = .ok (m', T') ∧
      Spec.forRows T sp fs = .ok b ∧ R T m' b := by
  obtain ⟨a, b, h1, h2, hR⟩ := foldlM_simulation
    (fun (a : Update.St × List Update.URow) r => do
      let x ← fm a.1 { row := r }
      pure (x.1, a.2 ++ [x.2]))
    (fun (acc : Spec.St × Table) r => do let (s, rs) ← fs acc.1 r; pure (s, acc.2 ++ rs))
    (fun pre a b => R pre a.1 b) T
    (fun pre r post hT a b hR => by
      obtain ⟨m', u', sp', rs, a1, a2, a3⟩ := hstep pre r post hT a.1 b hR
      exact ⟨(m', a.2 ++ [u']), (sp', b.2 ++ rs), by rw [a1]; rfl, by rw [a2]; rfl, a3⟩)
    T [] rfl (m, []) (sp, []) h0
  refine ⟨a.1, a.2, b, ?_, h2, hR⟩
  show (do
    let a ← forIn (T.map fun r => ({ row := r } : Update.URow)) (m, []) fun u a => do
      let x ← fm a.1 u
      pure (ForInStep.yield (x.1, a.2 ++ [x.2]))
    pure (a.1, a.2)) = _
  rw [forIn_stage_eq_foldlM, List.foldlM_map, h1]
  rfl

/-- the same for a clause that keeps the rows -/
theorem stage_simulation_rows (fm : Update.St → Update.URow → Except Err (Update.St × Update.URow))
    (fs : Spec.St → Row → Except Err Spec.St) (R : Table → Update.St → Spec.St → Prop) (T : Table)
    (hstep : ∀ pre r post, T = pre ++ r :: post → ∀ m sp, R pre m sp →
      ∃ m' u' sp', fm m { row := r } = .ok (m', u') ∧ fs sp r = .ok sp' ∧ R (pre ++ [r]) m' sp')
    (m : Update.St) (sp : Spec.St) (h0 : R [] m sp) :
    ∃ m' T' sp',
      stageLoop fm m (T.map fun r => { row := r }) = .ok (m', T') ∧
      Spec.forRows T sp (fun s r => do pure (← fs s r, [r])) = .ok (sp', T) ∧ R T m' sp' := by
  obtain ⟨m', T', ⟨sp', outS⟩, h1, h2, hR, hout⟩ := stage_simulation fm (fun s r => do pure (← fs s r, [r]))
    (fun pre m b => R pre m b.1 ∧ b.2 = pre) T
    (fun pre r post hT m b hR => by
      obtain ⟨m', u', sp', a1, a2, a3⟩ := hstep pre r post hT m b.1 hR.1
      exact ⟨m', u', sp', [r], a1, by rw [a2]; rfl, a3, by rw [hR.2]⟩)
    m sp ⟨h0, rfl⟩
  exact ⟨m', T', sp', h1, hout ▸ h2, hR⟩

/-! ### the simulation relation -/

/-- model state (calls issued, nodes created, reported count) against reference state (current graph, next id,
    counters): committing the calls to the snapshot gives the reference's current graph -/
structure USim (g : Graph) (next : Nat) (m : Update.St) (sp : Spec.St) : Prop where
  graph : sp.g = Update.applyOps g m.ops
  next : sp.next = next + m.created
  count : sp.c.total = m.count
  distinct : sp.g.nodes.Pairwise fun a b => a.id ≠ b.id

theorem USim.init (g : Graph) (hg : g.nodes.Pairwise fun a b => a.id ≠ b.id) (next : Nat) :
    USim g next {} { g, next } := ⟨rfl, rfl, rfl, hg⟩

theorem applyOps_append (g : Graph) (a b : List Update.TxOp) :
    Update.applyOps g (a ++ b) = Update.applyOps (Update.applyOps g a) b :=
  List.foldl_append

theorem Counts.total_propsSet (c : Counts) (k : Nat) :
    ({ c with propsSet := c.propsSet + k } : Counts).total = c.total + k := by
  simp only [Counts.total]; omega

/-- one more row: the model issues `ops`, creating `j` nodes and counting `k`; the reference commits the same calls
    to its current graph and counts the same -/
theorem USim.step {g : Graph} {next : Nat} {m : Update.St} {sp : Spec.St} (hR : USim g next m sp)
    (ops : List Update.TxOp) (j k : Nat) (c : Counts) (hc : c.total = sp.c.total + k)
    (hd : (Update.applyOps sp.g ops).nodes.Pairwise fun a b => a.id ≠ b.id) :
    USim g next { m with ops := m.ops ++ ops, created := m.created + j, count := m.count + k }
      { g := Update.applyOps sp.g ops, next := sp.next + j, c } :=
  ⟨by rw [applyOps_append, ← hR.graph], by rw [hR.next, Nat.add_assoc], by rw [hc, hR.count], hd⟩

/-! ### stages that decide against the snapshot: tables in which no node is targeted by two rows -/

def targetsOf (x : String) (T : List Update.URow) : List Nat := T.filterMap fun u => Update.rowNode u.row x

/-- A stage whose model decides its count by a `view` of the target node in the SNAPSHOT (its labels, its
    properties), the reference by the same view of the CURRENT graph.  If a row leaves the view of every other node
    alone, the two agree on every table in which no node is targeted twice: by the time a row is processed its
    target still looks as in the snapshot. -/
theorem stage_simulation_distinct {β : Type} (view : Graph → Nat → β) (g : Graph)
    (hg : g.nodes.Pairwise fun a b => a.id ≠ b.id) (next : Nat) (x : String)
    (fm : Update.St → Update.URow → Except Err (Update.St × Update.URow))
    (fs : Spec.St → Row → Except Err Spec.St) (T : Table)
    (hrow : ∀ r ∈ T, ∃ n, r.get x = some (.node n) ∧ ∀ m sp, USim g next m sp → view sp.g n = view g n →
      ∃ m' u' sp', fm m { row := r } = .ok (m', u') ∧ fs sp r = .ok sp' ∧ USim g next m' sp' ∧
        ∀ n', n' ≠ n → view sp'.g n' = view sp.g n')
    (hdist : (targetsOf x (T.map fun r => { row := r })).Nodup) :
    ∃ m T' sp,
      stageLoop fm {} (T.map fun r => { row := r }) = .ok (m, T') ∧
      Spec.forRows T { g, next } (fun s r => do pure (← fs s r, [r])) = .ok (sp, T) ∧ USim g next m sp := by
  have htargets : ∀ T : Table, targetsOf x (T.map fun r => { row := r }) = T.filterMap (Update.rowNode · x) :=
    fun T => List.filterMap_map ..
  rw [htargets] at hdist
  obtain ⟨m, T', sp, h1, h2, hR, _⟩ := stage_simulation_rows fm fs
    (fun pre m sp => USim g next m sp ∧ ∀ n, n ∉ pre.filterMap (Update.rowNode · x) → view sp.g n = view g n) T
    (fun pre r post hsplit m sp ⟨hR, hview⟩ => by
      obtain ⟨n, hx, hstep⟩ := hrow r (mem_of_split hsplit)
      have hn : Update.rowNode r x = some n := by rw [Update.rowNode, hx]
      rw [hsplit, List.filterMap_append, List.filterMap_cons, hn] at hdist
      obtain ⟨m', u', sp', a1, a2, a3, a4⟩ := hstep m sp hR
        (hview n fun hmem => (List.nodup_append.mp hdist).2.2 n hmem n (List.mem_cons_self ..) rfl)
      refine ⟨m', u', sp', a1, a2, a3, fun n' hn' => ?_⟩
      rw [List.filterMap_append, List.filterMap_cons, hn, List.filterMap_nil, List.mem_append, List.mem_singleton,
        not_or] at hn'
      rw [a4 n' hn'.2, hview n' hn'.1])
    {} { g, next } ⟨USim.init g hg next, fun _ _ => rfl⟩
  exact ⟨m, T', sp, h1, h2, hR⟩

theorem updNode_updNode (g : Graph) (n : Nat) (f f' : NodeRec → NodeRec) (hf : ∀ nd, (f nd).id = nd.id) :
    Spec.updNode (Spec.updNode g n f) n f' = Spec.updNode g n (f' ∘ f) := by
  simp only [Spec.updNode, List.map_map]
  congr 1
  apply List.map_congr_left
  intro nd _
  simp only [Function.comp]
  by_cases h : (nd.id == n) = true
  · simp [h, hf]
  · simp [h]

theorem updNode_id (g : Graph) (n : Nat) : Spec.updNode g n (fun nd => nd) = g := by
  simp [Spec.updNode]

/-! ### one row of each clause shape, from any simulated state -/

section Rows
variable {g : Graph} {next : Nat} {m : Update.St} {sp : Spec.St}

theorem set_prop_row (hR : USim g next m sp) (r : Row) (x k : String) (e : Expr) (n : Nat) (pv : Scalar)
    (hx : r.get x = some (.node n)) (hv : Update.toProp (eval A { g, params } r e) = .ok pv) (hnn : pv ≠ .null) :
    ∃ m' u' sp', Update.setPropertyRow A params g [(x, k, e)] m ⟨r, []⟩ = .ok (m', u') ∧
      Spec.applySetItems A params g r sp [.prop x k e] = .ok sp' ∧ USim g next m' sp' ∧
      m'.ops = m.ops ++ [.setNodeProp n k pv] ∧ sp'.g.rels = sp.g.rels := by
  obtain ⟨u', hu'⟩ := setPropertyRow_node A params g m r x k e n pv hx hv
  rw [beq_eq_false_iff_ne.mpr hnn] at hu'
  refine ⟨_, u', _, hu', ?_, hR.step [.setNodeProp n k pv] 0 1 _ (sp.c.total_propsSet 1) ?_, rfl, rfl⟩
  · rw [applySetItems_one, setItem_prop A params g r sp x k e (.node n) _ 1 (by rw [hx]; rfl)
      (writeProp_storable _ k _ pv hv hnn), setProps_propsOf_node sp.g hR.distinct n (Spec.setKey · k pv)]
    rfl
  · exact updNode_distinct sp.g n _ (fun _ => rfl) hR.distinct

/-- what both REMOVE x.k and SET x.k = null come to on a simulated state, given the call the model issues and the
    state the reference reaches -/
theorem USim.removeNodeProp (hR : USim g next m sp) (n : Nat) (k : String)
    (hsame : Spec.propsOf sp.g (.node n) = Update.nodeProps g n) :
    USim g next
      { m with ops := m.ops ++ [.removeNodeProp n k],
               count := m.count + if (Update.nodeProps g n).any (·.1 == k) then 1 else 0 }
      { sp with g := Spec.setProps sp.g (.node n) (Spec.delKey (Spec.propsOf sp.g (.node n)) k),
                c := { sp.c with propsSet := sp.c.propsSet +
                  if (Spec.propsOf sp.g (.node n)).any (·.1 == k) then 1 else 0 } } ∧
    ∀ n', n' ≠ n →
      Spec.propsOf (Spec.setProps sp.g (.node n) (Spec.delKey (Spec.propsOf sp.g (.node n)) k)) (.node n') =
        Spec.propsOf sp.g (.node n') := by
  rw [setProps_propsOf_node sp.g hR.distinct n (Spec.delKey · k), hsame]
  exact ⟨hR.step [.removeNodeProp n k] 0 _ _ (sp.c.total_propsSet _)
    (updNode_distinct sp.g n _ (fun _ => rfl) hR.distinct),
    fun n' hne => propsOf_updNode_ne sp.g n n' _ hne fun _ => rfl⟩

theorem removePropertyRow_node (g : Graph) (m : Update.St) (r : Row) (x k : String) (n : Nat)
    (hx : r.get x = some (.node n)) :
    ∃ u', Update.removePropertyRow g [(x, k)] m ⟨r, []⟩ = .ok
      ({ m with ops := m.ops ++ [.removeNodeProp n k],
                count := m.count + if (Update.nodeProps g n).any (·.1 == k) then 1 else 0 }, u') := by
  simp only [Update.removePropertyRow, List.forIn_cons, List.forIn_nil, hx, Update.URow.props, List.lookup, bind,
    Except.bind, pure, Except.pure, Update.URow.ent]
  exact ⟨_, rfl⟩

theorem remove_prop_row (hR : USim g next m sp) (r : Row) (x k : String) (n : Nat) (hx : r.get x = some (.node n))
    (hsame : Spec.propsOf sp.g (.node n) = Update.nodeProps g n) :
    ∃ m' u' sp', Update.removePropertyRow g [(x, k)] m ⟨r, []⟩ = .ok (m', u') ∧
      [RemItem.prop x k].foldlM (Spec.remItem r) sp = .ok sp' ∧ USim g next m' sp' ∧
      ∀ n', n' ≠ n → Spec.propsOf sp'.g (.node n') = Spec.propsOf sp.g (.node n') := by
  obtain ⟨h1, h2⟩ := hR.removeNodeProp n k hsame
  obtain ⟨u', hu'⟩ := removePropertyRow_node g m r x k n hx
  refine ⟨_, u', _, hu', ?_, h1, h2⟩
  · simp only [List.foldlM_cons, List.foldlM_nil, Spec.remItem, hx, Spec.target?, bind, Except.bind, pure, Except.pure]

theorem set_null_row (hR : USim g next m sp) (r : Row) (x k : String) (e : Expr) (n : Nat)
    (hx : r.get x = some (.node n))
    (hv : eval A { g, params } r e = .null)
    (hsame : Spec.propsOf sp.g (.node n) = Update.nodeProps g n) :
    ∃ m' u' sp', Update.setPropertyRow A params g [(x, k, e)] m ⟨r, []⟩ = .ok (m', u') ∧
      Spec.applySetItems A params g r sp [.prop x k e] = .ok sp' ∧ USim g next m' sp' ∧
      ∀ n', n' ≠ n → Spec.propsOf sp'.g (.node n') = Spec.propsOf sp.g (.node n') := by
  obtain ⟨h1, h2⟩ := hR.removeNodeProp n k hsame
  obtain ⟨u', hu'⟩ := setPropertyRow_node A params g m r x k e n .null hx (by rw [hv]; rfl)
  refine ⟨_, u', _, hu', ?_, h1, h2⟩
  rw [applySetItems_one, setItem_prop A params g r sp x k e (.node n) _ _ (by rw [hx]; rfl) (by rw [hv]; rfl)]

def addLabels (old ls : List String) : List String :=
  ls.foldl (fun acc l => if acc.contains l then acc else acc ++ [l]) old

theorem addLabels_length (old ls : List String) (hnd : ls.Nodup) :
    (addLabels old ls).length = old.length + (ls.map fun l => if old.contains l then 0 else 1).sum := by
  induction ls generalizing old with
  | nil => rfl
  | cons l rest ih =>
    rw [List.nodup_cons] at hnd
    simp only [addLabels, List.foldl_cons, List.map_cons, List.sum_cons]
    by_cases hc : old.contains l = true
    · rw [if_pos hc, if_pos hc, Nat.zero_add]
      exact ih old hnd.2
    · have hrest : (rest.map fun y => if (old ++ [l]).contains y then 0 else 1) =
          rest.map fun y => if old.contains y then 0 else 1 :=
        List.map_congr_left fun y hy => by
          have : y ≠ l := fun h => hnd.1 (h ▸ hy)
          simp [this]
      have h := ih (old ++ [l]) hnd.2
      rw [addLabels, hrest] at h
      rw [if_neg hc, if_neg hc, h, List.length_append]
      simp only [List.length_cons, List.length_nil]
      omega

theorem applyOps_addLabels (G : Graph) (n : Nat) (ls : List String) :
    Update.applyOps G (ls.map (Update.TxOp.addLabel n)) =
      Spec.updNode G n (fun nd => { nd with labels := addLabels nd.labels ls }) := by
  induction ls generalizing G with
  | nil => exact (updNode_id G n).symm
  | cons l rest ih =>
    rw [List.map_cons, Update.applyOps, List.foldl_cons, ← Update.applyOps, ih, Update.applyOp,
      updNode_updNode _ _ _ _ (fun nd => by split <;> rfl)]
    congr 1
    funext nd
    simp only [Function.comp, addLabels, List.foldl_cons]
    split <;> rfl

theorem forIn_addLabels (n : Nat) (c : String → Nat) (ls : List String) (m : Update.St) :
    (forIn ls m fun l (s : Update.St) => (Except.ok (ForInStep.yield
        { s with ops := s.ops ++ [Update.TxOp.addLabel n l], count := s.count + c l }) : Except Err _)) =
      .ok { m with ops := m.ops ++ ls.map (Update.TxOp.addLabel n), count := m.count + (ls.map c).sum } := by
  induction ls generalizing m with
  | nil => simp [pure, Except.pure]
  | cons l rest ih =>
    simp only [List.forIn_cons, bind, Except.bind]
    rw [ih]
    simp [Nat.add_assoc]

theorem setLabelsRow_node (g : Graph) (m : Update.St) (r : Row) (x : String) (ls : List String) (n : Nat)
    (hx : r.get x = some (.node n)) :
    ∃ u', Update.setLabelsRow g [(x, ls)] m ⟨r, []⟩ = .ok
      ({ m with ops := m.ops ++ ls.map (Update.TxOp.addLabel n),
                count := m.count + (ls.map fun l => if (Update.nodeLabels g n).contains l then 0 else 1).sum },
       u') := by
  simp only [Update.setLabelsRow, List.forIn_cons, List.forIn_nil, Update.rowNode, hx, List.lookup,
    bind, Except.bind, pure, Except.pure]
  rw [forIn_addLabels]
  exact ⟨_, rfl⟩

/-- `hsame`: the model counts against the labels in the snapshot, the reference against the current ones -/
theorem set_labels_row (hR : USim g next m sp) (r : Row) (x : String) (ls : List String) (n : Nat)
    (hx : r.get x = some (.node n)) (hnd : ls.Nodup)
    (hsame : Update.nodeLabels sp.g n = Update.nodeLabels g n) :
    ∃ m' u' sp', Update.setLabelsRow g [(x, ls)] m ⟨r, []⟩ = .ok (m', u') ∧
      Spec.applySetItems A params g r sp [.labels x ls] = .ok sp' ∧ USim g next m' sp' ∧
      ∀ n', n' ≠ n → Update.nodeLabels sp'.g n' = Update.nodeLabels sp.g n' := by
  obtain ⟨u', hu'⟩ := setLabelsRow_node g m r x ls n hx
  have hgraph : Update.applyOps sp.g (ls.map (Update.TxOp.addLabel n)) =
      Spec.updNode sp.g n fun nd => { nd with labels := addLabels (Update.nodeLabels sp.g n) ls } := by
    rw [applyOps_addLabels]
    apply updNode_congr
    intro nd hnd' hid
    subst hid
    simp only [Update.nodeLabels, Graph.node?_of_mem hR.distinct hnd']
  have hsim := hR.step (ls.map (Update.TxOp.addLabel n)) 0
    (ls.map fun l => if (Update.nodeLabels g n).contains l then 0 else 1).sum
    { sp.c with labelsAdded := sp.c.labelsAdded +
        ((addLabels (Update.nodeLabels sp.g n) ls).length - (Update.nodeLabels sp.g n).length) }
    (by rw [addLabels_length _ ls hnd, Nat.add_sub_cancel_left, hsame]; simp only [Counts.total]; omega)
    (by rw [hgraph]; exact updNode_distinct sp.g n _ (fun _ => rfl) hR.distinct)
  rw [hgraph] at hsim
  refine ⟨_, u', _, hu', ?_, hsim, fun n' hne => ?_⟩
  · rw [applySetItems_one]
    simp only [Spec.setItem, hx]
    rfl
  · exact nodeLabels_updNode_ne sp.g n n' _ hne fun _ => rfl

/-! #### CREATE (x:Ls) — a single fresh node per row -/

theorem freshId_eq (G : Graph) (nxt : Nat) (h : ∀ nd ∈ G.nodes, nd.id < nxt) : Spec.freshId G nxt = nxt := by
  unfold Spec.freshId
  generalize G.nodes = l at h
  induction l with
  | nil => rfl
  | cons nd rest ih =>
    rw [List.foldl_cons, Nat.max_eq_left (h nd (List.mem_cons_self ..))]
    exact ih fun x hx => h x (List.mem_cons_of_mem _ hx)

/-- `hfresh` makes the reference's `freshId` the id the model takes, `next + m.created` -/
theorem create_node_row (hR : USim g next m sp) (hfresh : ∀ nd ∈ sp.g.nodes, nd.id < sp.next)
    (r : Row) (var : Option String) (ls : List String) (hx : ∀ x, var = some x → r.get x = none) :
    ∃ m' u' sp' r', Update.createRow A params g next ⟨⟨var, ls, []⟩, []⟩ m ⟨r, []⟩ = .ok (m', u') ∧
      Spec.createPath A params g sp r ⟨⟨var, ls, []⟩, []⟩ = .ok (sp', r') ∧ USim g next m' sp' ∧
      ∀ nd ∈ sp'.g.nodes, nd.id < sp'.next := by
  have hget : var.bind r.get = none := by
    cases var with
    | none => rfl
    | some x => exact hx x rfl
  have hmodel : ∃ u', Update.createRow A params g next ⟨⟨var, ls, []⟩, []⟩ m ⟨r, []⟩ = .ok
      ({ m with ops := m.ops ++ [.createNode (next + m.created) ls], created := m.created + 1,
                count := m.count + 1 }, u') := by
    cases var with
    | none => exact ⟨_, rfl⟩
    | some x =>
      have hnode : Update.rowNode r x = none := by rw [Update.rowNode, hx x rfl]
      -- unfold only as far as the test `rowNode r x`, rewrite it, and let `rfl` run the rest
      unfold Update.createRow
      dsimp only [List.map_nil]
      rw [List.forIn_cons]
      dsimp only [Option.bind]
      rw [hnode]
      exact ⟨_, rfl⟩
  obtain ⟨u', hu'⟩ := hmodel
  have hspec : ∃ r', Spec.createPath A params g sp r ⟨⟨var, ls, []⟩, []⟩ = .ok
      ({ g := Update.applyOps sp.g [.createNode sp.next ls], next := sp.next + 1,
         c := { sp.c with nodesCreated := sp.c.nodesCreated + 1 } }, r') := by
    simp only [Spec.createPath, Spec.nodeFor, hget, Spec.createNode, Spec.createMap, List.foldlM_nil,
      freshId_eq sp.g sp.next hfresh, Spec.createSteps, bind, Except.bind, pure, Except.pure]
    exact ⟨_, rfl⟩
  obtain ⟨r', hr'⟩ := hspec
  have hfresh' : ∀ nd ∈ sp.g.nodes ++ [(⟨sp.next, ls.eraseDups, []⟩ : NodeRec)], nd.id < sp.next + 1 := by
    intro nd hnd
    rcases List.mem_append.mp hnd with h | h
    · exact Nat.lt_succ_of_lt (hfresh nd h)
    · rw [List.mem_singleton.mp h]; exact Nat.lt_succ_self _
  refine ⟨_, u', _, r', hu', hr', ?_, hfresh'⟩
  rw [← hR.next] at hu' ⊢
  refine hR.step [.createNode sp.next ls] 1 1 _ (by simp only [Counts.total]; omega) ?_
  refine List.pairwise_append.mpr ⟨hR.distinct, List.pairwise_singleton .., fun a ha b hb => ?_⟩
  rw [List.mem_singleton.mp hb]
  exact Nat.ne_of_lt (hfresh a ha)

end Rows

/-! ### SET x.k = e on nodes, storable non-null values: every table -/

theorem update_refines_set_prop_rows (g : Graph) (hg : g.nodes.Pairwise fun a b => a.id ≠ b.id) (next : Nat)
    (names : List String) (w : Update.WPlan) (x k : String) (e : Expr) (T : Table)
    (hT : ∀ r ∈ T, ∃ n pv, r.get x = some (.node n) ∧ Update.toProp (eval A { g, params } r e) = .ok pv ∧
      pv ≠ .null) :
    ∃ m T' sp, Update.runStage A params g next names w {} (T.map fun r => { row := r }) (.setProperty [(x, k, e)]) =
        .ok (m, T') ∧
      Spec.applyClause A params { g, next } T (.set [.prop x k e]) = .ok (sp, T) ∧
      USim g next m sp :=
  stage_simulation_rows (Update.setPropertyRow A params g [(x, k, e)])
    (fun sp r => Spec.applySetItems A params g r sp [.prop x k e]) (fun _ m sp => USim g next m sp) T
    (fun pre r post hsplit m sp hR => by
      obtain ⟨n, pv, hx, hv, hnn⟩ := hT r (mem_of_split hsplit)
      obtain ⟨m', u', sp', a1, a2, a3, _⟩ := set_prop_row A params hR r x k e n pv hx hv hnn
      exact ⟨m', u', sp', a1, a2, a3⟩)
    {} { g, next } (USim.init g hg next)

end Nervus.Cy
