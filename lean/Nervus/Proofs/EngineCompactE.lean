/-
  Proofs/EngineCompactE.lean — compaction of runs that hold EDGE tombstones (C05): as long as no run
  tombstones a node and no tombstoned relationship sits in an older segment, the segment built from the
  runs holds exactly what the run phase of the read path yields, and the dropped tombstones hid nothing.
-/
import Nervus.Proofs.PublishRun
import Nervus.Proofs.CsrIncoming
namespace Nervus.Storage

def NoNodeTombs (runs : List Run) : Prop := ∀ r ∈ runs, r.tombNodes = []

def allTombEdges (runs : List Run) : List Edge := runs.flatMap (·.tombEdges)

/-- the run phase of `neighbors` when no node is tombstoned: every run filtered by the edge tombstones
    of the NEWER runs -/
def walkOut (src : Nat) (rel : Option Nat) : List Run → List Edge → List Edge
  | [], _ => []
  | r :: rs, be =>
    (r.edgesForSrc src).filter (fun e => relOk rel e && !be.contains e) ++ walkOut src rel rs (be ++ r.tombEdges)

def walkAll : List Run → List Edge → List Edge
  | [], _ => []
  | r :: rs, be => r.edges.filter (fun e => !be.contains e) ++ walkAll rs (be ++ r.tombEdges)

def Dir.walk (d : Dir) (n : Nat) (rel : Option Nat) : List Run → List Edge → List Edge
  | [], _ => []
  | r :: rs, be =>
    (r.edges.filter (d.near · == n)).filter (fun e => relOk rel e && !be.contains e) ++
      Dir.walk d n rel rs (be ++ r.tombEdges)

theorem walkOut_eq_dir (src : Nat) (rel : Option Nat) (runs : List Run) :
    ∀ be, walkOut src rel runs be = Dir.out.walk src rel runs be := by
  induction runs with
  | nil => intro be; rfl
  | cons r rs ih => intro be; simp only [walkOut, Dir.walk, ih]; rfl

theorem Dir.runs_noNodeTombs (d : Dir) (n : Nat) (rel : Option Nat) (runs : List Run) (h : NoNodeTombs runs) :
    ∀ be, d.runs n rel runs [] be = (d.walk n rel runs be, some ([], be ++ allTombEdges runs)) := by
  induction runs with
  | nil => intro be; simp [Dir.runs, Dir.walk, allTombEdges]
  | cons r rs ih =>
    intro be
    have h1 := h r List.mem_cons_self
    have ih' := ih (fun r' hr' => h r' (List.mem_cons_of_mem _ hr')) (be ++ r.tombEdges)
    simp only [Dir.runs, List.contains_nil, Bool.false_eq_true, if_false, h1, List.append_nil, ih', Dir.walk,
      allTombEdges, List.flatMap_cons, List.append_assoc, Dir.blocked, Bool.false_or]

theorem outRuns_noNodeTombs (src : Nat) (rel : Option Nat) (runs : List Run) (h : NoNodeTombs runs) :
    ∀ be, outRuns src rel runs [] be = (walkOut src rel runs be, some ([], be ++ allTombEdges runs)) := by
  intro be
  rw [outRuns_eq_dir, walkOut_eq_dir]
  exact Dir.out.runs_noNodeTombs src rel runs h be

/-- build_segment_from_runs collects the same walk, when a run's own tombstones are applied after its own
    edges or there is no edge tombstone at all -/
theorem collect_walk (b : Bool) (runs : List Run) (h : NoNodeTombs runs)
    (hb : b = false ∨ ∀ r ∈ runs, r.tombEdges = []) : ∀ be, collectRunEdges b runs [] be = walkAll runs be := by
  induction runs with
  | nil => intro be; rfl
  | cons r rs ih =>
    intro be
    have h1 := h r List.mem_cons_self
    have ih' := ih (fun r' hr' => h r' (List.mem_cons_of_mem _ hr'))
      (hb.imp_right (fun hb r' hr' => hb r' (List.mem_cons_of_mem _ hr'))) (be ++ r.tombEdges)
    have hcur : (if b = true then be ++ r.tombEdges else be) = be := by
      rcases hb with rfl | hb
      · rfl
      · rw [hb r List.mem_cons_self, List.append_nil, ite_self]
    simp only [collectRunEdges, h1, List.append_nil, ih', walkAll, hcur, List.contains_nil, Bool.or_self,
      Bool.not_false, Bool.true_and]

theorem collect_noNodeTombs (runs : List Run) (h : NoNodeTombs runs) :
    ∀ be, collectRunEdges false runs [] be = walkAll runs be :=
  collect_walk false runs h (Or.inl rfl)

theorem Dir.walkAll_filter (d : Dir) (n : Nat) (rel : Option Nat) (runs : List Run) :
    ∀ be, (walkAll runs be).filter (fun e => d.near e == n && relOk rel e) = d.walk n rel runs be := by
  induction runs with
  | nil => intro be; rfl
  | cons r rs ih =>
    intro be
    simp only [walkAll, Dir.walk, List.filter_append, ih, List.filter_filter]
    congr 1
    apply List.filter_congr
    intro e _
    cases (d.near e == n) <;> cases relOk rel e <;> cases be.contains e <;> rfl

/-! ### `segsClear` looks at the unfiltered answers of the older segments: a type-filtered answer is part of it -/

theorem csr_filter_sub (o : Option (List (Nat × Nat))) (back : Nat × Nat → Edge) (rel : Option Nat) (l : List Edge)
    (h : o.map (fun es => (es.filter (recOk rel)).map back) = some l) :
    ∃ l0, o.map (fun es => (es.filter (recOk none)).map back) = some l0 ∧ ∀ e ∈ l, e ∈ l0 ∧ ∃ r, e = back r := by
  cases o with
  | none => cases h
  | some es =>
    cases h
    refine ⟨_, rfl, fun e he => ?_⟩
    obtain ⟨r, hr, rfl⟩ := List.mem_map.mp he
    exact ⟨List.mem_map.mpr ⟨r, List.mem_filter.mpr ⟨(List.mem_filter.mp hr).1, rfl⟩, rfl⟩, r, rfl⟩

theorem seg_neighbors_sub (g : Seg) (n : Nat) (rel : Option Nat) (l : List Edge)
    (h : g.neighbors n rel = some l) :
    ∃ l0, g.neighbors n none = some l0 ∧ ∀ e ∈ l, e ∈ l0 ∧ e.src = n := by
  rw [neighbors_eq_csrRead] at h ⊢
  obtain ⟨l0, h0, hl⟩ := csr_filter_sub _ _ rel l h
  exact ⟨l0, h0, fun e he => ⟨(hl e he).1, by obtain ⟨r, rfl⟩ := (hl e he).2; rfl⟩⟩

theorem seg_incoming_sub (guard : Bool) (g : Seg) (n : Nat) (rel : Option Nat) (l : List Edge)
    (h : g.incomingG guard n rel = some l) :
    ∃ l0, g.incomingG guard n none = some l0 ∧ ∀ e ∈ l, e ∈ l0 ∧ e.dst = n := by
  rw [incomingG_eq_csrRead] at h ⊢
  split at h
  · next hc => cases h; exact ⟨[], if_pos hc, fun e he => nomatch he⟩
  · next hc =>
    obtain ⟨l0, h0, hl⟩ := csr_filter_sub _ _ rel l h
    exact ⟨l0, (if_neg hc).trans h0, fun e he => ⟨(hl e he).1, by obtain ⟨r, rfl⟩ := (hl e he).2; rfl⟩⟩

/-- no tombstoned relationship of the runs is held by an older segment (decidable) -/
def segsClear (c : Cfg) (s : Engine) : Bool :=
  (allTombEdges s.runs).all (fun e => s.segs.all (fun g =>
    !((g.neighbors e.src none).getD []).contains e && !((g.incomingG c.csrGuard e.dst none).getD []).contains e))

theorem segsClear_spec {c : Cfg} {s : Engine} (h : segsClear c s = true) :
    (∀ e ∈ allTombEdges s.runs, ∀ g ∈ s.segs, ∀ l, g.neighbors e.src none = some l → e ∉ l) ∧
    (∀ e ∈ allTombEdges s.runs, ∀ g ∈ s.segs, ∀ l, g.incomingG c.csrGuard e.dst none = some l → e ∉ l) := by
  simp only [segsClear, List.all_eq_true, Bool.and_eq_true, Bool.not_eq_true'] at h
  have key : ∀ (o : Option (List Edge)) (e : Edge) (l : List Edge), (o.getD []).contains e = false → o = some l → e ∉ l := by
    intro o e l hc hl hm
    rw [hl, Option.getD_some, List.contains_eq_mem, decide_eq_false_iff_not] at hc
    exact hc hm
  exact ⟨fun e he g hg l => key _ e l (h e he g hg).1, fun e he g hg l => key _ e l (h e he g hg).2⟩

def Dir.SegSub (d : Dir) : Prop :=
  ∀ (g : Seg) (n : Nat) (rel : Option Nat) (l : List Edge), d.seg g n rel = some l →
    ∃ l0, d.seg g n none = some l0 ∧ ∀ e ∈ l, e ∈ l0 ∧ d.near e = n

theorem Dir.seg_filter_noop (d : Dir) (hsub : d.SegSub) (g : Seg) (be : List Edge)
    (hclear : ∀ e ∈ be, ∀ l, d.seg g (d.near e) none = some l → e ∉ l) (n : Nat) (rel : Option Nat) :
    (d.seg g n rel).map (·.filter (fun e => !d.blocked [] be e)) = d.seg g n rel := by
  cases h : d.seg g n rel with
  | none => rfl
  | some l =>
    simp only [Option.map_some, Option.some.injEq]
    apply List.filter_eq_self.mpr
    intro e he
    obtain ⟨l0, hl0, hs⟩ := hsub g n rel l h
    obtain ⟨hm, hnear⟩ := hs e he
    have : be.contains e = false := by
      rw [Bool.eq_false_iff]; intro hc
      have heb : e ∈ be := by simpa using hc
      exact hclear e heb l0 (by rw [hnear]; exact hl0) hm
    simp only [Dir.blocked, List.contains_nil, Bool.false_or, this, Bool.not_false]

theorem mapM_congr_mem {σ β} (f g : σ → Option β) (l : List σ) (h : ∀ x ∈ l, f x = g x) :
    l.mapM f = l.mapM g := by
  induction l with
  | nil => rfl
  | cons a as ih =>
    rw [mapM_cons_some, mapM_cons_some, h a List.mem_cons_self, ih (fun x hx => h x (List.mem_cons_of_mem _ hx))]

/-- `hbuilt`: the CSR construction lemma of this direction (`buildForward_neighbors`, `built_incoming`).  `hown`:
    build_segment_from_runs filters a run's own edges before it adds the run's edge tombstones, as the read path
    does (fix ed68347).  `hclear`: the tombstones that `compact` drops with the runs hid nothing in `s.segs`. -/
theorem Dir.compact_read (d : Dir) (hsub : d.SegSub) (c : Cfg) (s : Engine) (hn : NoNodeTombs s.runs)
    (hown : c.compactOwnLast = true ∨ ∀ r ∈ s.runs, r.tombEdges = [])
    (hbuilt : ∀ n rel, ∃ l0, d.seg (buildForward s.nextSegId (walkAll s.runs [])).persist n rel = some l0 ∧
      l0.Perm ((walkAll s.runs []).filter (fun e => d.near e == n && relOk rel e)))
    (hclear : ∀ e ∈ allTombEdges s.runs, ∀ g ∈ s.segs, ∀ l, d.seg g (d.near e) none = some l → e ∉ l)
    (n : Nat) (rel : Option Nat) : PermOpt (d.read (s.compact c) n rel) (d.read s n rel) := by
  cases he : s.runs.isEmpty with
  | true => rw [compact_noop c s he]; exact PermOpt.refl _
  | false =>
    obtain ⟨h1, _, _, h4⟩ := compact_fields c s he
    unfold Dir.read
    rw [h1, h4, d.runs_noNodeTombs n rel s.runs hn []]
    simp only [Dir.runs, List.contains_nil, Bool.false_eq_true, if_false, List.nil_append]
    have hold : s.segs.mapM (fun (g : Seg) => (d.seg g n rel).map (·.filter (fun e => !d.blocked [] (allTombEdges s.runs) e))) =
        s.segs.mapM (fun (g : Seg) => d.seg g n rel) :=
      mapM_congr_mem _ _ _ (fun g hg => d.seg_filter_noop hsub g _ (fun e he l hl => hclear e he g hg l hl) n rel)
    have hnew : ∀ segs : List Seg, segs.mapM (fun (g : Seg) => (d.seg g n rel).map (·.filter (fun e => !d.blocked [] [] e))) =
        segs.mapM (fun (g : Seg) => d.seg g n rel) := fun segs =>
      mapM_congr_mem _ _ _ (fun g _ => d.seg_filter_noop hsub g [] (fun e he => by cases he) n rel)
    rw [hold, hnew, mapM_cons_some, collect_walk _ s.runs hn (hown.imp_left (fun h => by rw [h]; rfl)) []]
    obtain ⟨l0, hl0, hperm⟩ := hbuilt n rel
    rw [hl0]
    simp only [Option.bind_some]
    cases hm : s.segs.mapM (fun (g : Seg) => d.seg g n rel) with
    | none => exact Or.inl ⟨rfl, rfl⟩
    | some ls =>
      refine Or.inr ⟨_, _, rfl, rfl, ?_⟩
      simp only [List.flatten_cons]
      apply List.Perm.append_right
      rw [← d.walkAll_filter n rel s.runs []]
      exact hperm

theorem compact_neighbors_E (c : Cfg) (s : Engine) (hn : NoNodeTombs s.runs)
    (hown : c.compactOwnLast = true ∨ ∀ r ∈ s.runs, r.tombEdges = [])
    (hclear : ∀ e ∈ allTombEdges s.runs, ∀ g ∈ s.segs, ∀ l, g.neighbors e.src none = some l → e ∉ l)
    (n : Nat) (rel : Option Nat) :
    PermOpt ((s.compact c).neighbors n rel) (s.neighbors n rel) := by
  rw [neighbors_eq_dir, neighbors_eq_dir]
  exact Dir.out.compact_read seg_neighbors_sub c s hn hown
    (fun n rel => buildForward_neighbors s.nextSegId (walkAll s.runs []) n rel) hclear n rel

/-- `hg`: a segment without edges has no reverse offsets, and `incoming_neighbors` indexes them unguarded
    before fix 2666d9b -/
theorem compact_incoming_E (c : Cfg) (s : Engine) (hn : NoNodeTombs s.runs)
    (hown : c.compactOwnLast = true ∨ ∀ r ∈ s.runs, r.tombEdges = [])
    (hg : c.csrGuard = true ∨ walkAll s.runs [] ≠ [])
    (hclear : ∀ e ∈ allTombEdges s.runs, ∀ g ∈ s.segs, ∀ l, g.incomingG c.csrGuard e.dst none = some l → e ∉ l)
    (n : Nat) (rel : Option Nat) :
    PermOpt ((s.compact c).incoming c n rel) (s.incoming c n rel) := by
  rw [incoming_eq_dir, incoming_eq_dir]
  exact (Dir.inc c.csrGuard).compact_read (seg_incoming_sub c.csrGuard) c s hn hown
    (fun n rel => built_incoming c.csrGuard s.nextSegId (walkAll s.runs []) n rel hg) hclear n rel

theorem isTombNode_noNodeTombs (runs : List Run) (h : NoNodeTombs runs) (n : Nat) : isTombNode runs n = false := by
  unfold isTombNode
  rw [List.any_eq_false]
  intro r hr; rw [h r hr]; simp

/-- the engine state a compaction may start from without losing anything: the runs hold no node
    tombstone and no property removal, and their edge tombstones hit no older segment (`segsClear`) -/
def compactSafe (c : Cfg) (s : Engine) : Bool :=
  s.runs.all (fun r => r.tombNodes.isEmpty && r.nDel.isEmpty && r.eDel.isEmpty) && segsClear c s

theorem compactSafe_unpack (c : Cfg) (s : Engine) (hs : compactSafe c s = true) :
    NoNodeTombs s.runs ∧ (∀ r ∈ s.runs, r.nDel = []) ∧ (∀ r ∈ s.runs, r.eDel = []) ∧ segsClear c s = true := by
  simp only [compactSafe, Bool.and_eq_true, List.all_eq_true, List.isEmpty_iff] at hs
  obtain ⟨hruns, hclear⟩ := hs
  exact ⟨fun r hr => (hruns r hr).1.1, fun r hr => (hruns r hr).1.2, fun r hr => (hruns r hr).2, hclear⟩

theorem compact_nodes_E (c : Cfg) (s : Engine) (h : NoNodeTombs s.runs) :
    (s.compact c).nodes = s.nodes ∧ (s.compact c).nodesSnap = s.nodesSnap := by
  cases he : s.runs.isEmpty with
  | true => unfold Engine.compact; rw [he]; exact ⟨rfl, rfl⟩
  | false =>
    obtain ⟨h1, h2, _, _⟩ := compact_fields c s he
    unfold Engine.nodes Engine.nodesSnap liveNodeIds
    rw [h1, h2]
    constructor <;>
    · apply List.filter_congr
      intro n _
      rw [isTombNode_noNodeTombs s.runs h n]; rfl

/-! ### runs without any tombstone: the case above with nothing to check -/

theorem walkAll_noTombEdges (runs : List Run) (h : ∀ r ∈ runs, r.tombEdges = []) :
    walkAll runs [] = runs.flatMap (·.edges) := by
  induction runs with
  | nil => rfl
  | cons r rs ih =>
    rw [walkAll, h r List.mem_cons_self, List.append_nil, ih (fun r' hr' => h r' (List.mem_cons_of_mem _ hr')),
      List.flatMap_cons]
    congr 1
    exact List.filter_eq_self.mpr (fun _ _ => rfl)

theorem allTombEdges_noTombEdges (runs : List Run) (h : ∀ r ∈ runs, r.tombEdges = []) : allTombEdges runs = [] := by
  induction runs with
  | nil => rfl
  | cons r rs ih =>
    rw [allTombEdges, List.flatMap_cons, h r List.mem_cons_self]
    exact ih (fun r' hr' => h r' (List.mem_cons_of_mem _ hr'))

theorem compact_nodes (c : Cfg) (s : Engine) (h : NoTombs s.runs) :
    (s.compact c).nodes = s.nodes ∧ (s.compact c).nodesSnap = s.nodesSnap :=
  compact_nodes_E c s (fun r hr => (h r hr).1)

theorem compact_neighbors (c : Cfg) (s : Engine) (h : NoTombs s.runs) (n : Nat) (rel : Option Nat) :
    PermOpt ((s.compact c).neighbors n rel) (s.neighbors n rel) :=
  compact_neighbors_E c s (fun r hr => (h r hr).1) (Or.inr (fun r hr => (h r hr).2))
    (by rw [allTombEdges_noTombEdges s.runs (fun r hr => (h r hr).2)]; intro e he; cases he) n rel

theorem compact_incoming (c : Cfg) (s : Engine) (h : NoTombs s.runs)
    (hg : c.csrGuard = true ∨ s.runs.flatMap (·.edges) ≠ []) (n : Nat) (rel : Option Nat) :
    PermOpt ((s.compact c).incoming c n rel) (s.incoming c n rel) :=
  compact_incoming_E c s (fun r hr => (h r hr).1) (Or.inr (fun r hr => (h r hr).2))
    (by rw [walkAll_noTombEdges s.runs (fun r hr => (h r hr).2)]; exact hg)
    (by rw [allTombEdges_noTombEdges s.runs (fun r hr => (h r hr).2)]; intro e he; cases he) n rel

end Nervus.Storage
