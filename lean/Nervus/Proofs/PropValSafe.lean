/-
  Safety of the PropertyValue decoder (C25): no panic, fuel never exhausted, the unconsumed suffix never grows,
  every allocation request is bounded by the remaining input (when the cap is present), recursion depth is
  bounded by the nesting limit (when present).  One invariant `Good`, proved for every arm, by induction on fuel.
-/
import Nervus.Proofs.LeBytes
namespace Nervus.PropVal
open Nervus

/-! ### `Res` projections -/
section
variable {α β : Type}
@[simp] theorem Res.ret_val (a : α) : (Res.ret a).val = .ok a := rfl
@[simp] theorem Res.ret_allocs (a : α) : (Res.ret a).allocs = [] := rfl
@[simp] theorem Res.ret_depth (a : α) : (Res.ret a).depth = 0 := rfl
@[simp] theorem Res.fail_val (e : DErr) : (Res.fail e : Res α).val = .error e := rfl
@[simp] theorem Res.fail_allocs (e : DErr) : (Res.fail e : Res α).allocs = [] := rfl
@[simp] theorem Res.fail_depth (e : DErr) : (Res.fail e : Res α).depth = 0 := rfl
@[simp] theorem Res.alloc_val (n m : Nat) (r : Res α) : (Res.alloc n m r).val = r.val := rfl
@[simp] theorem Res.alloc_allocs (n m : Nat) (r : Res α) : (Res.alloc n m r).allocs = (n, m) :: r.allocs := rfl
@[simp] theorem Res.alloc_depth (n m : Nat) (r : Res α) : (Res.alloc n m r).depth = r.depth := rfl
@[simp] theorem Res.enter_val (d : Nat) (r : Res α) : (Res.enter d r).val = r.val := rfl
@[simp] theorem Res.enter_allocs (d : Nat) (r : Res α) : (Res.enter d r).allocs = r.allocs := rfl
@[simp] theorem Res.enter_depth (d : Nat) (r : Res α) : (Res.enter d r).depth = max d r.depth := rfl

theorem Res.bind_ok {r : Res α} {a : α} (h : r.val = .ok a) (k : α → Res β) :
    (r.bind k).val = (k a).val ∧ (r.bind k).allocs = r.allocs ++ (k a).allocs ∧
    (r.bind k).depth = max r.depth (k a).depth := by
  unfold Res.bind; rw [h]; exact ⟨rfl, rfl, rfl⟩

theorem Res.bind_error {r : Res α} {e : DErr} (h : r.val = .error e) (k : α → Res β) :
    (r.bind k).val = .error e ∧ (r.bind k).allocs = r.allocs ∧ (r.bind k).depth = r.depth := by
  unfold Res.bind; rw [h]; exact ⟨rfl, rfl, rfl⟩

theorem Res.bind_val (r : Res α) (k : α → Res β) :
    (r.bind k).val = match r.val with
      | .ok a => (k a).val
      | .error e => .error e := by
  unfold Res.bind; cases r.val <;> rfl
end

/-- what a decoding step on an input of `n` bytes guarantees -/
structure Good {α : Type} (cfg : Cfg) (n : Nat) (r : Res (α × Bytes)) : Prop where
  noPanic : r.val ≠ .error .panic
  noFuel : r.val ≠ .error .fuel
  rest_le : ∀ a rest, r.val = .ok (a, rest) → rest.length ≤ n
  rem_le : ∀ p ∈ r.allocs, p.2 ≤ n
  capped : cfg.capAlloc = true → ∀ p ∈ r.allocs, p.1 ≤ p.2
  depth_le : ∀ m, cfg.maxDepth = some m → r.depth ≤ m

variable {α β : Type} {cfg : Cfg}

theorem Good.mono {n n' : Nat} {r : Res (α × Bytes)} (g : Good cfg n r) (h : n ≤ n') : Good cfg n' r :=
  ⟨g.noPanic, g.noFuel, fun a rest hv => Nat.le_trans (g.rest_le a rest hv) h,
   fun p hp => Nat.le_trans (g.rem_le p hp) h, g.capped, g.depth_le⟩

theorem good_ret {n : Nat} (a : α) (rest : Bytes) (h : rest.length ≤ n) : Good cfg n (Res.ret (a, rest)) :=
  ⟨by simp, by simp, by intro a' r' hv; simp at hv; obtain ⟨-, rfl⟩ := hv; exact h,
   by simp, by simp, by simp⟩

theorem good_fail {n : Nat} (e : DErr) (h : e ≠ .panic ∧ e ≠ .fuel := by decide) :
    Good cfg n (Res.fail e : Res (α × Bytes)) :=
  ⟨by simpa using h.1, by simpa using h.2, by simp, by simp, by simp, by simp⟩

theorem good_ite {n : Nat} {c : Prop} [Decidable c] {a b : Res (α × Bytes)} (ha : Good cfg n a)
    (hb : Good cfg n b) : Good cfg n (if c then a else b) := by
  split <;> assumption

theorem good_alloc {n req rem : Nat} {r : Res (α × Bytes)} (g : Good cfg n r) (h1 : rem ≤ n)
    (h2 : cfg.capAlloc = true → req ≤ rem) : Good cfg n (Res.alloc req rem r) :=
  ⟨g.noPanic, g.noFuel, g.rest_le,
   by intro p hp; simp at hp; rcases hp with rfl | hp; exact h1; exact g.rem_le p hp,
   by intro hc p hp; simp at hp; rcases hp with rfl | hp; exact h2 hc; exact g.capped hc p hp,
   g.depth_le⟩

theorem good_enter {n d : Nat} {r : Res (α × Bytes)} (g : Good cfg n r)
    (hd : ∀ m, cfg.maxDepth = some m → d ≤ m) : Good cfg n (Res.enter d r) :=
  ⟨g.noPanic, g.noFuel, g.rest_le, g.rem_le, g.capped,
   by intro m hm; simp only [Res.enter_depth]; exact Nat.max_le.mpr ⟨hd m hm, g.depth_le m hm⟩⟩

theorem good_bind {n : Nat} {r : Res (α × Bytes)} {k : α × Bytes → Res (β × Bytes)} (g : Good cfg n r)
    (hk : ∀ a rest, r.val = .ok (a, rest) → Good cfg rest.length (k (a, rest))) : Good cfg n (r.bind k) := by
  cases hv : r.val with
  | error e =>
    obtain ⟨h1, h2, h3⟩ := Res.bind_error hv k
    refine ⟨?_, ?_, ?_, ?_, ?_, ?_⟩
    · rw [h1]; intro hc; apply g.noPanic; rw [hv]; cases hc; rfl
    · rw [h1]; intro hc; apply g.noFuel; rw [hv]; cases hc; rfl
    · intro a rest h; rw [h1] at h; cases h
    · rw [h2]; exact g.rem_le
    · rw [h2]; exact g.capped
    · rw [h3]; exact g.depth_le
  | ok p =>
    obtain ⟨a, rest⟩ := p
    obtain ⟨h1, h2, h3⟩ := Res.bind_ok hv k
    have gk := (hk a rest hv).mono (g.rest_le a rest hv)
    refine ⟨?_, ?_, ?_, ?_, ?_, ?_⟩
    · rw [h1]; exact gk.noPanic
    · rw [h1]; exact gk.noFuel
    · rw [h1]; exact gk.rest_le
    · rw [h2]; intro p hp; rcases List.mem_append.mp hp with hp | hp
      · exact g.rem_le p hp
      · exact gk.rem_le p hp
    · rw [h2]; intro hc p hp; rcases List.mem_append.mp hp with hp | hp
      · exact g.capped hc p hp
      · exact gk.capped hc p hp
    · rw [h3]; intro m hm; exact Nat.max_le.mpr ⟨g.depth_le m hm, gk.depth_le m hm⟩

theorem good_wrap {n : Nat} {r : Res (α × Bytes)} (g : Good cfg n r) (mk : α → β) :
    Good cfg n (r.bind fun q => .ret (mk q.1, q.2)) :=
  good_bind g fun _ _ _ => good_ret _ _ (Nat.le_refl _)

/-! ### the arms of `decodeRec` -/

/-- the code shared by the string and blob arms (`off = 1`, behind the tag) and the map keys (`off = 0`) -/
def lenField (off : Nat) (bs : Bytes) (check : Bytes → Bool) (mk : Bytes → α) : Res (α × Bytes) :=
  if bs.length < off + 4 then .fail .invalidLength
  else match readU32 bs off with
    | none => .fail .panic
    | some len =>
      if bs.length < off + 4 + len then .fail .invalidLength
      else match slice bs (off + 4) (off + 4 + len) with
        | none => .fail .panic
        | some s => .alloc len (bs.length - (off + 4))
            (if check s then .ret (mk s, bs.drop (off + 4 + len)) else .fail .invalidUtf8)

theorem decLenPrefixed_eq (bs : Bytes) (check : Bytes → Bool) (mk : Bytes → PV) :
    decLenPrefixed bs check mk = lenField 1 bs check mk := rfl

theorem readKey_eq (bs : Bytes) : readKey bs = lenField 0 bs validUtf8 id := rfl

/-- a slice covered by the length check in front of it does not panic -/
theorem good_slice {bs : Bytes} {a b n : Nat} (h1 : a ≤ b) (h2 : b ≤ bs.length) {k : Bytes → Res (α × Bytes)}
    (hk : ∀ s, Good cfg n (k s)) :
    Good cfg n (match slice bs a b with
      | none => .fail .panic
      | some s => k s) := by
  rw [slice_eq_some h1 h2]; exact hk _

theorem good_readU32 {bs : Bytes} {a n : Nat} (h : a + 4 ≤ bs.length) {k : Nat → Res (α × Bytes)}
    (hk : ∀ len, Good cfg n (k len)) :
    Good cfg n (match readU32 bs a with
      | none => .fail .panic
      | some len => k len) := by
  obtain ⟨len, hl, -⟩ := readU32_isSome h
  rw [hl]; exact hk len

theorem lenField_good (off : Nat) (bs : Bytes) (check : Bytes → Bool) (mk : Bytes → α) :
    Good cfg bs.length (lenField off bs check mk) := by
  unfold lenField
  split
  · exact good_fail .invalidLength
  · refine good_readU32 (by omega) fun len => ?_
    split
    · exact good_fail .invalidLength
    · exact good_slice (by omega) (by omega) fun s =>
        good_alloc (good_ite (good_ret _ _ (by simp)) (good_fail .invalidUtf8)) (by omega) (by intro _; omega)

theorem decFixed8_good (bs : Bytes) (mk : Nat → PV) : Good cfg bs.length (decFixed8 bs mk) := by
  unfold decFixed8
  split
  · exact good_fail .invalidLength
  · exact good_slice (by omega) (by omega) fun x => good_ret _ _ (by simp)

/-- the `Bool` arm, which `decodeRec` spells out in place -/
theorem decBool_good : ∀ bs : Bytes, Good cfg bs.length
    (if bs.length < 2 then .fail .invalidLength
     else match slice bs 1 2 with
       | some [b] => .ret (.bool (b != 0), bs.drop 2)
       | _ => .fail .panic : Res (PV × Bytes))
  | [] | [_] => good_fail .invalidLength
  | _ :: _ :: tl => good_ret _ _ (Nat.le_add_right tl.length 2)

theorem loopList_good {f : Bytes → Res (PV × Bytes)} {k : Nat}
    (hf : ∀ b, b.length ≤ k → Good cfg b.length (f b)) :
    ∀ (cnt : Nat) (bs : Bytes), bs.length ≤ k → Good cfg bs.length (loopList f cnt bs)
  | 0, _, _ => good_ret _ _ (Nat.le_refl _)
  | cnt + 1, bs, hb =>
    good_bind (hf bs hb) fun v rest hv =>
      good_wrap (loopList_good hf cnt rest (Nat.le_trans ((hf bs hb).rest_le v rest hv) hb)) _

theorem loopMap_good {f : Bytes → Res (PV × Bytes)} {k : Nat}
    (hf : ∀ b, b.length ≤ k → Good cfg b.length (f b)) :
    ∀ (cnt : Nat) (bs : Bytes) (acc : PVMap), bs.length ≤ k → Good cfg bs.length (loopMap f cnt bs acc)
  | 0, _, _, _ => good_ret _ _ (Nat.le_refl _)
  | cnt + 1, bs, _, hb =>
    have gk : Good cfg bs.length (readKey bs) := lenField_good 0 bs _ _
    good_bind gk fun key r1 hv1 =>
      have h1 : r1.length ≤ k := Nat.le_trans (gk.rest_le key r1 hv1) hb
      good_bind (hf r1 h1) fun v r2 hv2 =>
        loopMap_good hf cnt r2 _ (Nat.le_trans ((hf r1 h1).rest_le v r2 hv2) h1)

theorem tooDeep_false {d : Nat} (h : tooDeep cfg d = false) : ∀ m, cfg.maxDepth = some m → d + 1 ≤ m := by
  intro m hm
  unfold tooDeep at h; rw [hm] at h; simp at h; omega

/-- the items are decoded only behind the nesting guard, from inputs at least five bytes shorter -/
theorem decList_good {f : Bytes → Res (PV × Bytes)} (d : Nat) (bs : Bytes)
    (hf : tooDeep cfg d = false → ∀ b, b.length + 5 ≤ bs.length → Good cfg b.length (f b)) :
    Good cfg bs.length (decList cfg f d bs) := by
  unfold decList
  split
  · exact good_fail .tooDeep
  · rename_i htd
    split
    · exact good_fail .invalidLength
    · refine good_readU32 (by omega) fun count => good_alloc ?_ (by omega) ?_
      · have := loopList_good (k := bs.length - 5) (fun b hb => hf (by simpa using htd) b (by omega)) count
          (bs.drop 5) (by simp)
        exact Good.mono (n' := bs.length) (good_wrap this _) (by simp)
      · intro hcap; rw [if_pos hcap]; exact Nat.min_le_right _ _

theorem decMap_good {f : Bytes → Res (PV × Bytes)} (d : Nat) (bs : Bytes)
    (hf : tooDeep cfg d = false → ∀ b, b.length + 5 ≤ bs.length → Good cfg b.length (f b)) :
    Good cfg bs.length (decMap cfg f d bs) := by
  unfold decMap
  split
  · exact good_fail .tooDeep
  · rename_i htd
    split
    · exact good_fail .invalidLength
    · refine good_readU32 (by omega) fun count => ?_
      have := loopMap_good (k := bs.length - 5) (fun b hb => hf (by simpa using htd) b (by omega)) count
        (bs.drop 5) .nil (by simp)
      exact Good.mono (n' := bs.length) (good_wrap this _) (by simp)

theorem decodeRec_good (cfg : Cfg) : ∀ (fuel d : Nat) (bs : Bytes), bs.length < fuel →
    (∀ m, cfg.maxDepth = some m → d ≤ m) → Good cfg bs.length (decodeRec cfg fuel d bs)
  | 0, _, _, h, _ => absurd h (Nat.not_lt_zero _)
  | fuel + 1, d, bs, h, hd => by
    have hrec : tooDeep cfg d = false → ∀ b : Bytes, b.length + 5 ≤ bs.length →
        Good cfg b.length (decodeRec cfg fuel (d + 1) b) := fun htd b hb =>
      decodeRec_good cfg fuel (d + 1) b (by omega) (tooDeep_false htd)
    unfold decodeRec
    refine good_enter ?_ hd
    cases bs with
    | nil => exact good_fail .empty
    | cons ty tl =>
      -- one `good_ite` per tag test, in the order of `decodeRec`; `decLenPrefixed` unfolds to `lenField 1`
      exact good_ite (good_ret _ _ (by simp)) <| good_ite (decBool_good _) <| good_ite (decFixed8_good _ _) <|
        good_ite (decFixed8_good _ _) <| good_ite (lenField_good 1 _ _ _) <| good_ite (decFixed8_good _ _) <|
        good_ite (lenField_good 1 _ _ _) <| good_ite (decList_good d _ hrec) <|
        good_ite (decMap_good d _ hrec) <| good_fail _ ⟨nofun, nofun⟩

theorem decodeRes_good (cfg : Cfg) (bs : Bytes) : Good cfg bs.length (decodeRes cfg bs) :=
  decodeRec_good cfg (bs.length + 1) 0 bs (Nat.lt_succ_self _) (fun _ _ => Nat.zero_le _)

end Nervus.PropVal
