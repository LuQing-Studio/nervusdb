/-
  Result streams as a consumer that stops at the first `Err` sees them: `cut s` is the prefix of `s`
  through its first `Err`, and the driver's `collect` sees no more (`collect_cut`); `Calls s d` says
  that `d` calls are those of such a consumer.  `LimRel isLimit a b` relates a limited stream `a` to
  the unlimited `b`: the same `cut`, or an error-free prefix of `b` followed by a limit error.
-/
import Nervus.Spec.Streams
namespace Nervus.PlanOps

section
variable {ε ρ : Type}

@[simp] theorem allOk_nil : allOk ([] : Stream ε ρ) = true := rfl

@[simp] theorem allOk_cons (x : Except ε ρ) (s : Stream ε ρ) :
    allOk (x :: s) = (Item.isOk x && allOk s) := rfl

@[simp] theorem allOk_append (a b : Stream ε ρ) : allOk (a ++ b) = (allOk a && allOk b) :=
  List.all_append

@[simp] theorem isOk_ok (r : ρ) : Item.isOk (Except.ok r : Except ε ρ) = true := rfl
@[simp] theorem isOk_error (e : ε) : Item.isOk (Except.error e : Except ε ρ) = false := rfl

theorem allOk_iff (s : Stream ε ρ) : allOk s = true ↔ ∀ x ∈ s, Item.isOk x = true :=
  List.all_eq_true

theorem allOk_take (s : Stream ε ρ) (n : Nat) (h : allOk s = true) : allOk (s.take n) = true :=
  (allOk_iff _).2 fun x hx => (allOk_iff s).1 h x (List.mem_of_mem_take hx)

theorem allOk_take_append (a b : Stream ε ρ) (n : Nat) :
    allOk ((a ++ b).take n) = (allOk (a.take n) && allOk (b.take (n - a.length))) := by
  rw [List.take_append, allOk_append]

theorem not_allOk_iff (s : Stream ε ρ) : allOk s = false ↔ ∃ e, Except.error e ∈ s := by
  induction s with
  | nil => simp
  | cons x xs ih =>
    cases x with
    | ok r => simp [ih]
    | error e => simp

theorem allOk_of_no_error (s : Stream ε ρ) (h : ¬ ∃ e, Except.error e ∈ s) : allOk s = true := by
  cases hs : allOk s with
  | true => rfl
  | false => exact absurd ((not_allOk_iff s).1 hs) h

theorem allOk_map_iff {β : Type} (f : Except ε ρ → Except ε β) (hf : ∀ x, Item.isOk (f x) = Item.isOk x)
    (s : Stream ε ρ) : allOk (s.map f) = allOk s := by
  induction s with
  | nil => rfl
  | cons x xs ih => simp [hf, ih]

/-! ### collect -/

theorem collect_ok_iff (s : Stream ε ρ) : (∃ rows, collect s = .ok rows) ↔ allOk s = true := by
  induction s with
  | nil => simp [collect]
  | cons x xs ih =>
    cases x with
    | error e => simp [collect]
    | ok r =>
      simp only [collect, allOk_cons, isOk_ok, Bool.true_and, ← ih]
      cases collect xs <;> simp

theorem collect_error_of_not_allOk (s : Stream ε ρ) (h : allOk s = false) : ∃ e, collect s = .error e := by
  cases hc : collect s with
  | error e => exact ⟨e, rfl⟩
  | ok rows =>
    have := (collect_ok_iff s).1 ⟨rows, hc⟩
    rw [this] at h; cases h

theorem collect_append_error (pre : Stream ε ρ) (e : ε) (hp : allOk pre = true) :
    collect (pre ++ [.error e]) = .error e := by
  induction pre with
  | nil => rfl
  | cons x xs ih =>
    cases x with
    | error e0 => simp at hp
    | ok r => simp at hp; simp [collect, ih hp]

theorem collect_append (a b : Stream ε ρ) :
    collect (a ++ b) = (match collect a with
      | .error e => .error e
      | .ok xs => (match collect b with
        | .error e => .error e
        | .ok ys => .ok (xs ++ ys))) := by
  induction a with
  | nil => simp [collect]; cases collect b <;> rfl
  | cons x xs ih =>
    cases x with
    | error e => simp [collect]
    | ok r =>
      simp only [List.cons_append, collect, ih]
      cases collect xs with
      | error e => rfl
      | ok xs' => cases collect b <;> rfl

theorem collect_map_ok (rows : List ρ) : collect (rows.map (Except.ok (ε := ε))) = .ok rows := by
  induction rows with
  | nil => rfl
  | cons r rs ih => simp only [List.map_cons, collect, ih]

theorem collect_eq_ok_iff (s : Stream ε ρ) (rows : List ρ) : collect s = .ok rows ↔ s = rows.map .ok := by
  refine ⟨fun h => ?_, fun h => h ▸ collect_map_ok rows⟩
  induction s generalizing rows with
  | nil => cases h; rfl
  | cons x xs ih =>
    cases x with
    | error e => cases h
    | ok r =>
      simp only [collect] at h
      cases hc : collect xs with
      | error e => rw [hc] at h; cases h
      | ok ys => rw [hc] at h; cases h; rw [List.map_cons, ← ih ys hc]

/-! ### driver demand -/

theorem driverDemand_of_allOk (s : Stream ε ρ) (h : allOk s = true) : driverDemand s = s.length + 1 := by
  simp [driverDemand, h]

theorem collectDemand_le (s : Stream ε ρ) : collectDemand s ≤ s.length := by
  induction s with
  | nil => simp [collectDemand]
  | cons x xs ih => cases x <;> simp [collectDemand] <;> omega

theorem collectDemand_append_of_allOk (o r : Stream ε ρ) (h : allOk o = true) :
    collectDemand (o ++ r) = o.length + collectDemand r := by
  induction o with
  | nil => simp
  | cons x xs ih =>
    cases x with
    | error e => simp at h
    | ok a =>
      simp at h
      simp [collectDemand, ih h]; omega

theorem collectDemand_of_not_allOk_le (o r : Stream ε ρ) (h : allOk o = false) :
    collectDemand (o ++ r) ≤ o.length := by
  induction o with
  | nil => simp at h
  | cons x xs ih =>
    cases x with
    | error e => simp [collectDemand]
    | ok a =>
      simp at h
      simp [collectDemand]
      exact ih h

theorem driverDemand_append_of_allOk (o r : Stream ε ρ) (h : allOk o = true) :
    driverDemand (o ++ r) = o.length + driverDemand r := by
  unfold driverDemand
  simp only [allOk_append, h, Bool.true_and]
  cases hr : allOk r with
  | true => simp; omega
  | false => simp [collectDemand_append_of_allOk o r h]

theorem driverDemand_of_not_allOk_le (o r : Stream ε ρ) (h : allOk o = false) :
    driverDemand (o ++ r) ≤ o.length := by
  unfold driverDemand
  simp only [allOk_append, h, Bool.false_and]
  exact collectDemand_of_not_allOk_le o r h

theorem take_driverDemand_allOk_iff (s : Stream ε ρ) :
    allOk (s.take (driverDemand s)) = allOk s := by
  cases h : allOk s with
  | true => rw [driverDemand_of_allOk s h, List.take_of_length_le (by omega)]; exact h
  | false =>
    simp only [driverDemand, h]
    induction s with
    | nil => simp at h
    | cons x xs ih =>
      cases x with
      | error e => simp [collectDemand]
      | ok a =>
        simp at h
        simp [collectDemand, List.take_succ_cons]
        simpa [h] using ih h

/-! ### consumers that stop at the first `Err` -/

theorem Calls.zero (s : Stream ε ρ) : Calls s 0 := rfl

theorem Calls.one (s : Stream ε ρ) : Calls s 1 := rfl

theorem Calls.of_allOk (s : Stream ε ρ) (d : Nat) (h : allOk (s.take d) = true) : Calls s d := by
  unfold Calls
  rw [allOk_iff] at h ⊢
  intro x hx
  exact h x (List.take_subset_take_left s (Nat.sub_le d 1) hx)

theorem Calls.driver (s : Stream ε ρ) : Calls s (driverDemand s) := by
  unfold Calls driverDemand
  split
  · rename_i h; exact allOk_take _ _ h
  · induction s with
    | nil => rfl
    | cons x xs ih =>
      cases x with
      | error e => rfl
      | ok r =>
        rename_i hno
        have := ih (by simpa using hno)
        simp only [collectDemand, Nat.add_sub_cancel]
        cases hc : collectDemand xs with
        | zero => rfl
        | succ n => rw [hc] at this; simpa using this

theorem Calls.append_left (a b : Stream ε ρ) (d : Nat) (h : Calls (a ++ b) d) : Calls a d := by
  rw [Calls, allOk_take_append, Bool.and_eq_true] at h
  exact h.1

theorem Calls.append_right (a b : Stream ε ρ) (d : Nat) (h : Calls (a ++ b) d) : Calls b (d - a.length) := by
  rw [Calls, allOk_take_append, Bool.and_eq_true, Nat.sub_right_comm] at h
  exact h.2

theorem Calls.allOk_of_lt (a b : Stream ε ρ) (d : Nat) (h : Calls (a ++ b) d) (hd : a.length < d) :
    allOk a = true := by
  rw [Calls, allOk_take_append, List.take_of_length_le (by omega), Bool.and_eq_true] at h
  exact h.1

theorem Calls.of_map {β : Type} (f : Except ε ρ → Except ε β) (hf : ∀ x, Item.isOk (f x) = Item.isOk x)
    (s : Stream ε ρ) (d : Nat) (h : Calls (s.map f) d) : Calls s d := by
  unfold Calls at h ⊢
  rw [← List.map_take, allOk_map_iff _ hf] at h
  exact h

/-! ### cut: the prefix through the first `Err` -/

/-- what a consumer that stops at the first `Err` sees -/
def cut : Stream ε ρ → Stream ε ρ
  | [] => []
  | .error e :: _ => [.error e]
  | .ok r :: s => .ok r :: cut s

theorem cut_of_allOk (s : Stream ε ρ) (h : allOk s = true) : cut s = s := by
  induction s with
  | nil => rfl
  | cons x xs ih =>
    cases x with
    | error e => simp at h
    | ok a => simp at h; simp [cut, ih h]

theorem cut_append_of_allOk (a b : Stream ε ρ) (h : allOk a = true) : cut (a ++ b) = a ++ cut b := by
  induction a with
  | nil => rfl
  | cons x xs ih =>
    cases x with
    | error e => simp at h
    | ok r => simp at h; simp [cut, ih h]

theorem cut_append_of_not_allOk (a b : Stream ε ρ) (h : allOk a = false) : cut (a ++ b) = cut a := by
  induction a with
  | nil => simp at h
  | cons x xs ih =>
    cases x with
    | error e => simp [cut]
    | ok r => simp at h; simp [cut, ih h]

theorem cut_append_congr (o : Stream ε ρ) {a b : Stream ε ρ} (h : cut a = cut b) : cut (o ++ a) = cut (o ++ b) := by
  cases ho : allOk o with
  | true => rw [cut_append_of_allOk _ _ ho, cut_append_of_allOk _ _ ho, h]
  | false => rw [cut_append_of_not_allOk _ _ ho, cut_append_of_not_allOk _ _ ho]

theorem cut_prefix (s : Stream ε ρ) : cut s <+: s := by
  induction s with
  | nil => exact ⟨[], rfl⟩
  | cons x xs ih =>
    cases x with
    | error e => exact ⟨xs, rfl⟩
    | ok r => obtain ⟨z, hz⟩ := ih; exact ⟨z, by simp only [cut, List.cons_append, hz]⟩

theorem allOk_cut (s : Stream ε ρ) : allOk (cut s) = allOk s := by
  induction s with
  | nil => rfl
  | cons x xs ih => cases x <;> simp [cut, ih]

theorem collect_cut (s : Stream ε ρ) : collect (cut s) = collect s := by
  induction s with
  | nil => rfl
  | cons x xs ih => cases x <;> simp [cut, collect, ih]

theorem split_first_error (s : Stream ε ρ) (h : allOk s = false) :
    ∃ pre e rest, s = pre ++ .error e :: rest ∧ allOk pre = true := by
  induction s with
  | nil => simp at h
  | cons x xs ih =>
    cases x with
    | error e => exact ⟨[], e, xs, rfl, rfl⟩
    | ok r =>
      simp at h
      obtain ⟨pre, e, rest, hs, hp⟩ := ih h
      exact ⟨.ok r :: pre, e, rest, by simp [hs], by simp [hp]⟩

theorem cut_split (pre : Stream ε ρ) (e : ε) (rest : Stream ε ρ) (h : allOk pre = true) :
    cut (pre ++ .error e :: rest) = pre ++ [.error e] := by
  rw [cut_append_of_allOk _ _ h]; rfl

theorem of_cut_eq_append_error (a pre : Stream ε ρ) (e : ε) (h : cut a = pre ++ [.error e]) :
    allOk pre = true ∧ ∃ ta, a = pre ++ .error e :: ta := by
  cases ha : allOk a with
  | true => rw [cut_of_allOk a ha] at h; simp [h] at ha
  | false =>
    obtain ⟨p, e', ta, rfl, hp⟩ := split_first_error a ha
    rw [cut_split _ _ _ hp] at h
    obtain ⟨rfl, he⟩ := List.append_inj' h rfl
    cases he
    exact ⟨hp, ta, rfl⟩

theorem of_cut_eq (a b : Stream ε ρ) (h : cut a = cut b) :
    (a = b ∧ allOk a = true) ∨
      ∃ pre e ta tb, allOk pre = true ∧ a = pre ++ .error e :: ta ∧ b = pre ++ .error e :: tb := by
  cases ha : allOk a with
  | true =>
    have hb : allOk b = true := by rw [← allOk_cut, ← h, allOk_cut]; exact ha
    left
    rw [cut_of_allOk a ha, cut_of_allOk b hb] at h
    exact ⟨h, rfl⟩
  | false =>
    right
    obtain ⟨pre, e, ta, hs, hp⟩ := split_first_error a ha
    have hc : cut b = pre ++ [.error e] := by rw [← h, hs, cut_split _ _ _ hp]
    obtain ⟨_, tb, hb⟩ := of_cut_eq_append_error b pre e hc
    exact ⟨pre, e, ta, tb, hp, hs, hb⟩

/-! ### LimRel -/

/-- `a` (a limited run) relates to `b` (the unlimited run): a consumer that stops at the first
    `Err` sees the same, or sees an error-free prefix of `b` followed by a limit error -/
def LimRel (isLimit : ε → Bool) (a b : Stream ε ρ) : Prop :=
  cut a = cut b ∨ ∃ pre e, cut a = pre ++ [.error e] ∧ isLimit e = true ∧ pre <+: b

theorem LimRel.refl (isLimit : ε → Bool) (a : Stream ε ρ) : LimRel isLimit a a := Or.inl rfl

theorem LimRel.of_eq (isLimit : ε → Bool) {a b : Stream ε ρ} (h : a = b) : LimRel isLimit a b := h ▸ .refl _ _

theorem LimRel.of_stop (isLimit : ε → Bool) (pre : Stream ε ρ) (e : ε) (rest b : Stream ε ρ)
    (hl : isLimit e = true) (hp : pre <+: b) : LimRel isLimit (pre ++ .error e :: rest) b := by
  cases h : allOk pre with
  | true => exact Or.inr ⟨pre, e, cut_split _ _ _ h, hl, hp⟩
  | false =>
    left
    obtain ⟨z, rfl⟩ := hp
    rw [cut_append_of_not_allOk _ _ h, cut_append_of_not_allOk _ _ h]

theorem LimRel.append_left (isLimit : ε → Bool) (o a b : Stream ε ρ) (h : LimRel isLimit a b) :
    LimRel isLimit (o ++ a) (o ++ b) := by
  cases ho : allOk o with
  | false => left; rw [cut_append_of_not_allOk _ _ ho, cut_append_of_not_allOk _ _ ho]
  | true =>
    rcases h with h | ⟨pre, e, hc, hl, hp⟩
    · left; rw [cut_append_of_allOk _ _ ho, cut_append_of_allOk _ _ ho, h]
    · right
      refine ⟨o ++ pre, e, ?_, hl, ?_⟩
      · rw [cut_append_of_allOk _ _ ho, hc, List.append_assoc]
      · obtain ⟨z, rfl⟩ := hp
        exact ⟨z, by simp⟩

theorem LimRel.append_of_err (isLimit : ε → Bool) (a b x y : Stream ε ρ) (h : LimRel isLimit a b)
    (ha : allOk a = false) : LimRel isLimit (a ++ x) (b ++ y) := by
  rcases h with h | ⟨pre, e, hc, hl, hp⟩
  · left
    have hb : allOk b = false := by rw [← allOk_cut, ← h, allOk_cut]; exact ha
    rw [cut_append_of_not_allOk _ _ ha, cut_append_of_not_allOk _ _ hb, h]
  · right
    refine ⟨pre, e, ?_, hl, ?_⟩
    · rw [cut_append_of_not_allOk _ _ ha, hc]
    · obtain ⟨z, rfl⟩ := hp
      exact ⟨z ++ y, by simp⟩

theorem LimRel.eq_of_allOk (isLimit : ε → Bool) (a b : Stream ε ρ) (h : LimRel isLimit a b)
    (ha : allOk a = true) : a = b := by
  rcases h with h | ⟨pre, e, hc, _, _⟩
  · rw [cut_of_allOk a ha] at h
    have hb : allOk b = true := by rw [← allOk_cut, ← h]; exact ha
    rw [cut_of_allOk b hb] at h; exact h
  · rw [cut_of_allOk a ha] at hc
    rw [hc] at ha; simp at ha

theorem LimRel.append (isLimit : ε → Bool) (a b c d : Stream ε ρ) (h1 : LimRel isLimit a b)
    (h2 : LimRel isLimit c d) : LimRel isLimit (a ++ c) (b ++ d) := by
  cases ha : allOk a with
  | true => rw [← h1.eq_of_allOk isLimit a b ha]; exact LimRel.append_left _ _ _ _ h2
  | false => exact LimRel.append_of_err _ _ _ _ _ h1 ha

theorem LimRel.limit_error (isLimit : ε → Bool) (e : ε) (rest b : Stream ε ρ) (h : isLimit e = true) :
    LimRel isLimit (.error e :: rest) b :=
  LimRel.of_stop isLimit [] e rest b h ⟨b, rfl⟩

theorem LimRel.collect (isLimit : ε → Bool) (a b : Stream ε ρ) (h : LimRel isLimit a b) :
    collect a = collect b ∨ ∃ e, collect a = .error e ∧ isLimit e = true := by
  rcases h with h | ⟨pre, e, hc, hl, _⟩
  · left; rw [← collect_cut a, h, collect_cut]
  · right
    refine ⟨e, ?_, hl⟩
    rw [← collect_cut a, hc]
    obtain ⟨hp, _⟩ := of_cut_eq_append_error a pre e hc
    exact collect_append_error pre e hp

theorem LimRel.congr_cut (isLimit : ε → Bool) {a a' b b' : Stream ε ρ} (ha : cut a = cut a') (hb : cut b = cut b')
    (h : LimRel isLimit a b) : LimRel isLimit a' b' := by
  rcases h with h | ⟨pre, e, hc, hl, z, rfl⟩
  · exact Or.inl (by rw [← ha, h, hb])
  · have hpre := (of_cut_eq_append_error a pre e hc).1
    rw [cut_append_of_allOk _ _ hpre] at hb
    exact Or.inr ⟨pre, e, ha ▸ hc, hl, List.IsPrefix.trans ⟨cut z, hb⟩ (cut_prefix b')⟩

theorem head?_cut (s : Stream ε ρ) : (cut s).head? = s.head? := by
  cases s with
  | nil => rfl
  | cons x xs => cases x <;> rfl

theorem LimRel.head? (isLimit : ε → Bool) {a b : Stream ε ρ} (h : LimRel isLimit a b) :
    a.head? = b.head? ∨ ∃ e, a.head? = some (.error e) ∧ isLimit e = true := by
  rw [← head?_cut a, ← head?_cut b]
  rcases h with h | ⟨pre, e, hc, hl, z, rfl⟩
  · exact .inl (congrArg _ h)
  · rw [hc]
    cases pre with
    | nil => exact .inr ⟨e, rfl, hl⟩
    | cons x ps => exact .inl (head?_cut (x :: (ps ++ z))).symm

theorem LimRel.map (isLimit : ε → Bool) {β : Type} (f : Except ε ρ → Except ε β)
    (hok : ∀ r, ∃ r', f (.ok r) = .ok r') (herr : ∀ e, f (.error e) = .error e)
    (a b : Stream ε ρ) (h : LimRel isLimit a b) : LimRel isLimit (a.map f) (b.map f) := by
  have hcut : ∀ s : Stream ε ρ, cut (s.map f) = (cut s).map f := by
    intro s
    induction s with
    | nil => rfl
    | cons x xs ih =>
      cases x with
      | error e => simp [cut, herr]
      | ok r => obtain ⟨r', hr⟩ := hok r; simp [cut, hr, ih]
  rcases h with h | ⟨pre, e, hc, hl, hp⟩
  · left; rw [hcut, hcut, h]
  · right
    refine ⟨pre.map f, e, ?_, hl, ?_⟩
    · rw [hcut, hc]; simp [herr]
    · obtain ⟨z, rfl⟩ := hp
      exact ⟨z.map f, by simp⟩

end

end Nervus.PlanOps
