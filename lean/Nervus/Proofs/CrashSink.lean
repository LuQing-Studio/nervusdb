/-
  Proofs.CrashSink — compaction's property sinking into the last leaf of the LIVE tree without a
  split: the actions of one insertion in closed form, the leaf the insertions build, and the block
  judgement for the crash images.  A tree that is one leaf takes keys in any order (a key it already
  has is replaced); under an internal root the keys must lie above the keys of the tree.
-/
import Nervus.Proofs.CrashPBlk
namespace Nervus.Crash

/-! ### sorted insertion -/

def insNat (q : Nat) : List Nat → List Nat
  | [] => [q]
  | e :: es => if e < q then e :: insNat q es else q :: e :: es

theorem insertSorted_map (q : Nat) : ∀ xs : List Nat, insertSorted q (xs.map some) = (insNat q xs).map some
  | [] => rfl
  | e :: es => by
    simp only [List.map_cons, insertSorted, insNat, optLt]
    by_cases h : e < q <;> simp [h, insertSorted_map q es]

theorem insNat_eq (q : Nat) (xs : List Nat) : insNat q xs = xs.takeWhile (· < q) ++ q :: xs.dropWhile (· < q) := by
  induction xs with
  | nil => rfl
  | cons e es ih =>
    unfold insNat
    rw [ih, List.takeWhile_cons, List.dropWhile_cons]
    by_cases h : e < q <;> simp [h]

theorem insNat_perm (q : Nat) (xs : List Nat) : (insNat q xs).Perm (q :: xs) :=
  insNat_eq q xs ▸ perm_insert_span _ q xs

theorem mem_insNat (q y : Nat) (xs : List Nat) : y ∈ insNat q xs ↔ y = q ∨ y ∈ xs := by
  rw [(insNat_perm q xs).mem_iff, List.mem_cons]

theorem length_insNat (q : Nat) (xs : List Nat) : (insNat q xs).length = xs.length + 1 :=
  (insNat_perm q xs).length_eq

theorem pairwise_insNat (q : Nat) (xs : List Nat) (h : xs.Pairwise (· ≤ ·)) : (insNat q xs).Pairwise (· ≤ ·) := by
  rw [insNat_eq]
  exact pairwise_insert_span _ q h (fun b _ hb => Nat.le_of_lt (of_decide_eq_true hb))
    (fun b _ hb => Nat.le_of_not_lt (of_decide_eq_false hb)) fun _ _ _ _ => Nat.le_trans

theorem sortedNat_insNat (q : Nat) (xs : List Nat) (h : SortedNat xs) : SortedNat (insNat q xs) :=
  (sortedNat_iff _).mpr (pairwise_insNat q xs ((sortedNat_iff _).mp h))

/-- `replace_property_entry`: the entry the key already has is deleted, then the key is inserted -/
def rmNat (q : Nat) (xs : List Nat) : List Nat := xs.filter (fun x => x != q)

def insR (q : Nat) (xs : List Nat) : List Nat := insNat q (rmNat q xs)

theorem filter_map_some (q : Nat) (xs : List Nat) :
    (xs.map some).filter (fun e => e != some q) = (rmNat q xs).map some := by
  induction xs with
  | nil => rfl
  | cons x xs ih =>
    by_cases h : x = q
    · subst h; simpa [rmNat] using ih
    · have h1 : (some x != some q) = true := by simpa using h
      have h2 : (x != q) = true := by simpa using h
      simp only [List.map_cons, List.filter_cons, h1, if_true, rmNat, h2, List.cons.injEq, true_and]
      exact ih

theorem mem_rmNat (q y : Nat) (xs : List Nat) : y ∈ rmNat q xs ↔ y ∈ xs ∧ y ≠ q := by
  simp [rmNat]

theorem mem_insR (q y : Nat) (xs : List Nat) : y ∈ insR q xs ↔ y = q ∨ y ∈ xs := by
  rw [insR, mem_insNat, mem_rmNat]
  constructor
  · rintro (h | ⟨h, _⟩)
    · exact Or.inl h
    · exact Or.inr h
  · rintro (h | h)
    · exact Or.inl h
    · by_cases hq : y = q
      · exact Or.inl hq
      · exact Or.inr ⟨h, hq⟩

theorem length_rmNat_le (q : Nat) (xs : List Nat) : (rmNat q xs).length ≤ xs.length := List.length_filter_le _ _

theorem length_insR_le (q : Nat) (xs : List Nat) : (insR q xs).length ≤ xs.length + 1 := by
  rw [insR, length_insNat]; have := length_rmNat_le q xs; omega

theorem sortedNat_rmNat (q : Nat) (xs : List Nat) (h : SortedNat xs) : SortedNat (rmNat q xs) :=
  (sortedNat_iff _).mpr (((sortedNat_iff _).mp h).sublist List.filter_sublist)

theorem sortedNat_insR (q : Nat) (xs : List Nat) (h : SortedNat xs) : SortedNat (insR q xs) :=
  sortedNat_insNat q _ (sortedNat_rmNat q xs h)

/-! ### one insertion without split -/

structure Leaf1 (t : TreeImg) (xs : List Nat) (pid : Nat) : Prop where
  leaves : t.leaves = [⟨xs.map some, false, pid⟩]
  noinode : t.inode = none

theorem setLeaf_setLeaf : ∀ (ls : List LeafImg) (i : Nat) (a b : LeafImg), i ≤ ls.length - 1 →
    setLeaf (setLeaf ls i a) i b = setLeaf ls i b
  | [], 0, _, _, _ => rfl
  | [], _ + 1, _, _, h => by simp at h
  | _ :: _, 0, _, _, _ => rfl
  | x :: ls, i + 1, a, b, h => by
    simp only [setLeaf, setLeaf_setLeaf ls i a b (by simp at h; omega)]

/-- The last leaf in the form `sinkOneA` reads it (`li`, `leaf0`). -/
theorem lastLeaf_chain {t : TreeImg} {Xi : List (List Nat)} {last pids : List Nat} (hl : t.leaves = mkLeaves (Xi ++ [last]) pids)
    (d : LeafImg) : ∃ p, t.leaves.length - 1 = Xi.length ∧ t.leaves[Xi.length]?.getD d = ⟨last.map some, false, p⟩ := by
  obtain ⟨p, hp⟩ := mkLeaves_snoc_get Xi last pids d
  exact ⟨p, by rw [hl, mkLeaves_snoc_len]; omega, by rw [← List.getD_eq_getElem?_getD, hl]; exact hp⟩

theorem sinkOneA_last (cfg : Cfg) (ps : PS) (t : TreeImg) (q : Nat) (Xi : List (List Nat)) (last : List Nat) (pids : List Nat)
    (hl : t.leaves = mkLeaves (Xi ++ [last]) pids) (hcap : (rmNat q last).length < cfg.leafCap) :
    ∃ p : Nat, sinkOneA cfg ps t q =
      ((allocA ps).1 ++ [ioA (.pg (.blob t.key q) (allocA ps).2.2)] ++
          (if (rmNat q last).length < last.length then [ioA (.pg (.leaf t.key Xi.length ((rmNat q last).map some) false p) p)] else []) ++
          [ioA (.pg (.leaf t.key Xi.length ((insR q last).map some) false p) p)],
        (allocA ps).2.1,
        { t with blobs := q :: t.blobs, leaves := setLeaf t.leaves Xi.length ⟨(insR q last).map some, false, p⟩ }) := by
  obtain ⟨p, hlen, hleaf⟩ := lastLeaf_chain hl ⟨[], false, t.key⟩
  refine ⟨p, ?_⟩
  simp only [sinkOneA, hlen, List.getD_eq_getElem?_getD, hleaf, List.all_map, Function.comp_def, Option.isSome_some, List.all_eq_true,
    implies_true, if_true, filter_map_some, List.length_map, hcap, insertSorted_map, insR]

/-! ### what the insertions do to the last leaf of the live tree -/

theorem rmNat_eq_self {q : Nat} {xs : List Nat} (h : q ∉ xs) : rmNat q xs = xs :=
  List.filter_eq_self.mpr fun x hx => by simpa using fun hxq : x = q => h (hxq ▸ hx)

theorem insNat_head (q : Nat) : ∀ (xs : List Nat), xs ≠ [] → (∀ x ∈ xs, x < q) →
    insNat q xs ≠ [] ∧ (insNat q xs).headD 0 = xs.headD 0
  | [], h, _ => absurd rfl h
  | x :: xs, _, hq => by simp [insNat, hq x List.mem_cons_self]

variable {allowed covered : List Nat} {lv : LiveP}

/-- The two conjuncts are the two leaf writes of `replace_property_entry` (delete, then insert): the
    first keeps what every image of the class must read (`covered`), the second has everything the leaf
    had (`cov`) and the new key.  `hm`: under an internal root the key goes to the end; a tree that is
    this one leaf takes it anywhere. -/
theorem LastOK.sink {last cov : List Nat} {q : Nat} (h : LastOK allowed cov lv last) (hq : q ∈ allowed)
    (hsub : ∀ c ∈ covered, c ∈ cov) (hc : q ∉ covered) (hm : lv.Xi ≠ [] → ∀ x ∈ (lv.Xi ++ [last]).flatten, x < q) :
    LastOK allowed covered lv (rmNat q last) ∧ LastOK allowed (cov ++ [q]) lv (insR q last) := by
  have hflat : ∀ ys, (lv.Xi ++ [ys]).flatten = lv.Xi.flatten ++ ys := fun ys => by simp
  have hp := List.pairwise_append.mp (by simpa only [hflat] using (sortedNat_iff _).mp h.sorted)
  have hsl : SortedNat last := (sortedNat_iff _).mpr hp.2.1
  have hnq : lv.Xi ≠ [] → q ∉ last := fun hX hin => Nat.lt_irrefl q (hm hX q (by rw [hflat]; exact List.mem_append_right _ hin))
  have hsorted : ∀ ys, SortedNat ys → (∀ y ∈ ys, y = q ∨ y ∈ last) → SortedNat (lv.Xi ++ [ys]).flatten := by
    intro ys hys hmem
    rw [hflat, sortedNat_iff, List.pairwise_append]
    refine ⟨hp.1, (sortedNat_iff _).mp hys, fun a ha b hb => ?_⟩
    rcases hmem b hb with rfl | hb
    · have hX : lv.Xi ≠ [] := fun h0 => by rw [h0] at ha; simp at ha
      exact Nat.le_of_lt (hm hX a (by rw [hflat]; exact List.mem_append_left _ ha))
    · exact hp.2.2 a ha b hb
  have hcov : ∀ ys c, c ∈ cov → (c ∈ last → c ∈ ys) → c ∈ (lv.Xi ++ [ys]).flatten := by
    intro ys c hcc hys
    have := h.covered c hcc
    rw [hflat] at this ⊢
    rcases List.mem_append.mp this with hl | hr
    · exact List.mem_append_left _ hl
    · exact List.mem_append_right _ (hys hr)
  constructor
  · exact ⟨hsorted _ (sortedNat_rmNat q last hsl) fun y hy => Or.inr ((mem_rmNat q y last).mp hy).1,
      fun hX => by rw [rmNat_eq_self (hnq hX)]; exact h.hd hX,
      fun y hy => h.allowed y ((mem_rmNat q y last).mp hy).1,
      fun c hcc => hcov _ c (hsub c hcc) fun hr => (mem_rmNat q c last).mpr ⟨hr, fun hcq => hc (hcq ▸ hcc)⟩⟩
  · refine ⟨hsorted _ (sortedNat_insR q last hsl) fun y hy => (mem_insR q y last).mp hy, fun hX => ?_, fun y hy => ?_, fun c hcc => ?_⟩
    · rw [insR, rmNat_eq_self (hnq hX)]
      have hi := insNat_head q last (h.hd hX).1 fun x hx => hm hX x (by rw [hflat]; exact List.mem_append_right _ hx)
      exact ⟨hi.1, hi.2.trans (h.hd hX).2⟩
    · rcases (mem_insR q y last).mp hy with rfl | hy
      · exact hq
      · exact h.allowed y hy
    · rcases List.mem_append.mp hcc with hcc | hcc
      · exact hcov _ c hcc fun hr => (mem_insR q c last).mpr (Or.inr hr)
      · rw [List.mem_singleton.mp hcc, hflat]; exact List.mem_append_right _ ((mem_insR q q last).mpr (Or.inl rfl))

theorem LiveOK.lastOK {t : TreeImg} {last : List Nat} (h : LiveOK allowed covered lv t last) : LastOK allowed covered lv last :=
  ⟨h.shape.sorted, fun hX => ⟨h.shape.tail last (by
      cases hXi : lv.Xi with
      | nil => exact absurd hXi hX
      | cons x Xs => simp), h.hd hX⟩,
    fun q hq => h.allowed q (by rw [List.flatten_append, List.flatten_singleton]; exact List.mem_append_right _ hq),
    fun q hq => (h.covered q hq).1⟩

theorem TreeShape.top_of_ne {t : TreeImg} {Xi : List (List Nat)} {last : List Nat} {top : Bool} (h : TreeShape t (Xi ++ [last]) top)
    (hX : Xi ≠ []) : top = true := by
  cases top with
  | true => rfl
  | false =>
    have := h.inode
    simp only [Bool.false_eq_true, if_false] at this
    cases Xi with
    | nil => exact absurd rfl hX
    | cons x Xs => simp at this

theorem sinkA_cons (cfg : Cfg) (ps : PS) (t : TreeImg) (q : Nat) (qs : List Nat) :
    sinkA cfg ps t (q :: qs) =
      ((sinkOneA cfg ps t q).1 ++ (sinkA cfg (sinkOneA cfg ps t q).2.1 (sinkOneA cfg ps t q).2.2 qs).1,
       (sinkA cfg (sinkOneA cfg ps t q).2.1 (sinkOneA cfg ps t q).2.2 qs).2.1,
       (sinkA cfg (sinkOneA cfg ps t q).2.1 (sinkOneA cfg ps t q).2.2 qs).2.2) := rfl

variable {p0 : PImg} {live lo : Nat}

/-- No split: `last.length + qs.length ≤ cfg.leafCap` (from `NoLiveSplit`).  Every leaf write is a `LastOK`
    rewrite (`LastOK.sink`), so every image of the class still reads the `covered` properties, while the
    scratch tree covers more and more (`cov`); `effs` are writes into the tree that produce the scratch
    tree of `sinkA` (what `treeFind_effsT` asks for). -/
theorem pblk_sinkLive (cfg : Cfg) :
    ∀ (qs : List Nat) (nd : Nat) (ps : PS) (t : TreeImg) (last cov : List Nat),
      SameKey p0.hdr ps.pm → min ps.bm ps.pm.nextPage = nd → LiveOK allowed cov lv t last → (∀ c ∈ covered, c ∈ cov) →
      (∀ q ∈ qs, q ∈ allowed) → (∀ q ∈ qs, q ∉ covered) → last.length + qs.length ≤ cfg.leafCap →
      (lv.Xi ≠ [] → qs.Pairwise (· < ·) ∧ ∀ x ∈ (lv.Xi ++ [last]).flatten, ∀ q ∈ qs, x < q) →
      ∃ effs last', PBlk p0 live allowed covered lv lo nd ps (sinkA cfg ps t qs).1 effs (nd + qs.length) (sinkA cfg ps t qs).2.1 ∧
        (∀ e ∈ effs, OnTree t.key e) ∧ effs.foldl (fun t e => effT e t) t = (sinkA cfg ps t qs).2.2 ∧
        LiveOK allowed (cov ++ qs) lv (sinkA cfg ps t qs).2.2 last'
  | [], nd, ps, t, last, cov, hsk, hnp, hlo, _, _, _, _, _ =>
    ⟨[], last, PBlk.nil hsk hnp, fun _ h => absurd h List.not_mem_nil, rfl, by rw [List.append_nil]; exact hlo⟩
  | q :: qs, nd, ps, t, last, cov, hsk, hnp, hlo, hsub, hqa, hqc, hcap, hm => by
    obtain ⟨pids, hl⟩ := hlo.shape.leaves
    have hrm := length_rmNat_le q last
    have hcap' : last.length + (qs.length + 1) ≤ cfg.leafCap := hcap
    obtain ⟨p, hone⟩ := sinkOneA_last cfg ps t q lv.Xi last pids hl (by omega)
    obtain ⟨okd, oki⟩ := hlo.lastOK.sink (hqa q List.mem_cons_self) hsub (hqc q List.mem_cons_self)
      fun hX x hx => (hm hX).2 x hx q List.mem_cons_self
    have hli : lv.Xi.length ≤ t.leaves.length - 1 := by rw [hl, mkLeaves_snoc_len]; omega
    have b1 := (((PBlk.nil (live := live) (lo := lo) (allowed := allowed) (covered := covered) (lv := lv) hsk hnp).alloc.write
      (.blob t.key q) (allocA ps).2.2 trivial).writeIf ((rmNat q last).length < last.length)
        (.leaf t.key lv.Xi.length ((rmNat q last).map some) false p) p fun _ => Or.inr ⟨rfl, rfl, _, rfl, okd⟩).write
      (.leaf t.key lv.Xi.length ((insR q last).map some) false p) p
      (Or.inr ⟨rfl, rfl, _, rfl, oki.sorted, oki.hd, oki.allowed, fun c hc => oki.covered c (List.mem_append_left _ (hsub c hc))⟩)
    have hlo1 : LiveOK allowed (cov ++ [q]) lv
        ({ t with blobs := q :: t.blobs, leaves := setLeaf t.leaves lv.Xi.length ⟨(insR q last).map some, false, p⟩ } : TreeImg) (insR q last) :=
      hlo.setLast p rfl rfl oki fun c hc => by
        rcases List.mem_append.mp hc with hc | hc
        · exact List.mem_cons_of_mem _ (hlo.covered c hc).2
        · rw [List.mem_singleton.mp hc]; exact List.mem_cons_self
    obtain ⟨e2, last', b2, o2, f2, hlo2⟩ := pblk_sinkLive cfg qs (nd + 1) (allocA ps).2.1 _ (insR q last) (cov ++ [q]) b1.sk b1.np hlo1
      (fun c hc => List.mem_append_left _ (hsub c hc)) (fun y hy => hqa y (List.mem_cons_of_mem _ hy))
      (fun y hy => hqc y (List.mem_cons_of_mem _ hy)) (by have := length_insR_le q last; omega)
      (fun hX => ⟨(List.pairwise_cons.mp (hm hX).1).2, fun x hx y hy => by
        rw [List.flatten_append, List.flatten_singleton] at hx
        rcases List.mem_append.mp hx with hx | hx
        · exact (hm hX).2 x (by rw [List.flatten_append]; exact List.mem_append_left _ hx) y (List.mem_cons_of_mem _ hy)
        · rcases (mem_insR q x last).mp hx with rfl | hx
          · exact (List.pairwise_cons.mp (hm hX).1).1 y hy
          · exact (hm hX).2 x (by rw [List.flatten_append, List.flatten_singleton]; exact List.mem_append_right _ hx) y (List.mem_cons_of_mem _ hy)⟩)
    rw [sinkA_cons, hone, List.length_cons, ← Nat.add_assoc, Nat.add_right_comm]
    refine ⟨_, last', b1.append b2, fun e he => ?_, ?_, by rw [List.append_cons]; exact hlo2⟩
    · rcases List.mem_append.mp he with he | he
      · rw [List.nil_append] at he
        rcases List.mem_append.mp he with he | he
        · rcases List.mem_append.mp he with he | he
          · rw [List.mem_singleton.mp he]; rfl
          · split at he
            · rw [List.mem_singleton.mp he]; rfl
            · exact absurd he List.not_mem_nil
        · rw [List.mem_singleton.mp he]; rfl
      · exact o2 e he
    · rw [List.foldl_append, ← f2]
      congr 1
      split
      · exact congrArg (fun l => ({ t with blobs := q :: t.blobs, leaves := l } : TreeImg)) (setLeaf_setLeaf _ _ _ _ hli)
      · rfl

end Nervus.Crash
