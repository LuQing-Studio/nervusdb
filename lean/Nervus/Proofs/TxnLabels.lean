/-
  C24's name-level fragment (`Model.TxnLabels`): labels added / removed by name inside one transaction, with a fresh
  snapshot per statement.  For ONE committed node, what a statement adds and removes is a function of the node's labels
  (`Stmt.addOn`, `Stmt.remOn`), both under read-your-writes (`mem_nodeStep`) and in what the code stages
  (`exec_effect`); the invariant `Agree` then says that commit would turn the staged writes into the labels
  read-your-writes has reached so far — as long as no removed label is added again, because commit applies all
  additions before all removals.
-/
import Nervus.Model.TxnLabels
namespace Nervus.TxnLabels

theorem snapshot_per_statement : Generated.capiTxnSnapshotPerStatement = true := by decide

theorem codeStep_def : codeStep = step true := by unfold codeStep; rw [snapshot_per_statement]

theorem mem_createdNodes (c : Node) (ps : List Prim) : c ∈ createdNodes ps ↔ .create c ∈ ps := by
  induction ps with
  | nil => simp [createdNodes]
  | cons p ps ih => cases p <;> simp [createdNodes, ih]

theorem mem_addsFor (id y : Nat) (ps : List Prim) : y ∈ addsFor id ps ↔ .addL id y ∈ ps := by
  induction ps with
  | nil => simp [addsFor]
  | cons p ps ih =>
    cases p <;> simp only [addsFor, List.mem_cons, ih, reduceCtorEq, false_or]
    split
    · simp [*]
    · simp [*, Ne.symm ‹_›]

theorem mem_remsFor (id y : Nat) (ps : List Prim) : y ∈ remsFor id ps ↔ .remL id y ∈ ps := by
  induction ps with
  | nil => simp [remsFor]
  | cons p ps ih =>
    cases p <;> simp only [remsFor, List.mem_cons, ih, reduceCtorEq, false_or]
    split
    · simp [*]
    · simp [*, Ne.symm ‹_›]

/-- which rows of a label scan carry the id of a committed node `n`: exactly `n`'s own label decides -/
theorem scan_has_id (g : Graph) (created : List Node) (n : Node) (next l : Nat) (hn : n ∈ g)
    (huniq : ∀ m ∈ g, m.id = n.id → m.labels = n.labels) (hlt : ∀ m ∈ g, m.id < next)
    (hc : ∀ c ∈ created, next ≤ c.id) :
    (∃ m ∈ scanLabel g created l, m.id = n.id) ↔ l ∈ n.labels := by
  simp only [scanLabel, List.mem_filter, List.mem_append, List.contains_iff_mem]
  constructor
  · rintro ⟨m, ⟨hm | hm, hl⟩, e⟩
    · rw [← huniq m hm e]; exact hl
    · have := hc m hm; have := hlt n hn; omega
  · intro hl; exact ⟨n, ⟨Or.inl hn, hl⟩, rfl⟩


/-! What a statement does to the labels of ONE node depends on the node's labels only: it adds at most one label
    (`addOn`) and removes at most one (`remOn`).  Both sides are described in these terms — read-your-writes by
    `mem_nodeStep`, the writes the code stages for a committed node by `exec_effect`. -/

def Stmt.addOn (ls : List Nat) : Stmt → Option Nat
  | .addl l x => if l ∈ ls then some x else none
  | _ => none

def Stmt.remOn (ls : List Nat) : Stmt → Option Nat
  | .reml l x => if l ∈ ls then some x else none
  | .remall x => some x
  | _ => none

theorem mem_nodeStep (s : Stmt) (ls : List Nat) (y : Nat) :
    y ∈ nodeStep s ls ↔ (y ∈ ls ∨ s.addOn ls = some y) ∧ s.remOn ls ≠ some y := by
  cases s with
  | addl l x | reml l x =>
    simp only [nodeStep, Stmt.addOn, Stmt.remOn, List.contains_iff_mem]
    split <;> simp [@eq_comm _ x y]
  | remall x => simp [nodeStep, Stmt.addOn, Stmt.remOn, @eq_comm _ x y]
  | _ => simp [nodeStep, Stmt.addOn, Stmt.remOn]

theorem Stmt.addOn_some {s : Stmt} {ls : List Nat} {y : Nat} (hwf : s.wellFormed = true) (h : s.addOn ls = some y) :
    2 ≤ y ∧ s.addsLabel = some y ∧ ∀ ls', s.remOn ls' = none := by
  cases s <;> simp only [Stmt.addOn] at h <;> try cases h
  split at h <;> cases h
  simp only [Stmt.wellFormed, Bool.and_eq_true, decide_eq_true_eq] at hwf
  exact ⟨hwf.2, rfl, fun _ => rfl⟩

theorem Stmt.remOn_some {s : Stmt} {ls : List Nat} {y : Nat} (hwf : s.wellFormed = true) (h : s.remOn ls = some y) :
    2 ≤ y ∧ s.removesLabel = some y := by
  cases s <;> simp only [Stmt.remOn] at h <;> try cases h
  · split at h <;> cases h
    simp only [Stmt.wellFormed, Bool.and_eq_true, decide_eq_true_eq] at hwf
    exact ⟨hwf.2, rfl⟩
  · exact ⟨by simpa [Stmt.wellFormed] using hwf, rfl⟩

/-- statements of the fragment match on base labels only -/
theorem Stmt.on_congr {s : Stmt} {ls ls' : List Nat} (hwf : s.wellFormed = true) (h : ∀ b, b < 2 → (b ∈ ls ↔ b ∈ ls')) :
    s.addOn ls = s.addOn ls' ∧ s.remOn ls = s.remOn ls' := by
  cases s with
  | addl l x | reml l x =>
    simp only [Stmt.wellFormed, Bool.and_eq_true, decide_eq_true_eq] at hwf
    simp only [Stmt.addOn, Stmt.remOn, h _ hwf.1, and_self]
  | _ => exact ⟨rfl, rfl⟩

/-- what the staged writes `r.1` and the interned names `r.2` of one statement contribute for the committed node `n` -/
structure StmtEffect (n : Node) (kn : List Nat) (newId : Nat) (s : Stmt) (r : List Prim × List Nat) : Prop where
  fresh : ∀ c, .create c ∈ r.1 → c.id = newId
  adds : ∀ y, .addL n.id y ∈ r.1 ↔ s.addOn n.labels = some y
  rems : ∀ y, .remL n.id y ∈ r.1 ↔ s.remOn n.labels = some y ∧ y ∈ kn
  interns : ∀ y, s.addOn n.labels = some y → y ∈ r.2

theorem exec_effect (g : Graph) (created : List Node) (n : Node) (next newId : Nat) (kn : List Nat) (s : Stmt)
    (hn : n ∈ g) (huniq : ∀ m ∈ g, m.id = n.id → m.labels = n.labels) (hlt : ∀ m ∈ g, m.id < next)
    (hc : ∀ c ∈ created, next ≤ c.id) : StmtEffect n kn newId s (exec g created kn newId s) := by
  have hscan := fun l => scan_has_id g created n next l hn huniq hlt hc
  -- rows mapped to primitives of another kind contribute nothing
  have other : ∀ (rows : List Node) (f : Node → Prim) (p : Prim), (∀ m, f m ≠ p) → p ∉ rows.map f :=
    fun rows f p hf h => by obtain ⟨m, _, e⟩ := List.mem_map.1 h; exact hf m e
  have noadd : ∀ ps : List Prim, (∀ y, .addL n.id y ∉ ps) → s.addOn n.labels = none →
      ∀ y, .addL n.id y ∈ ps ↔ s.addOn n.labels = some y := fun ps hp hs y => by
    rw [hs]; exact ⟨fun h => absurd h (hp y), nofun⟩
  have norem : ∀ ps : List Prim, (∀ y, .remL n.id y ∉ ps) → s.remOn n.labels = none →
      ∀ y, .remL n.id y ∈ ps ↔ s.remOn n.labels = some y ∧ y ∈ kn := fun ps hp hs y => by
    rw [hs]; exact ⟨fun h => absurd h (hp y), nofun⟩
  cases s with
  | crn | crx | seen =>
    exact ⟨by simp [exec], noadd _ (by simp [exec]) rfl, norem _ (by simp [exec]) rfl, nofun⟩
  | addl l x =>
    refine ⟨fun c h => absurd h (other _ _ _ nofun), fun y => ?_, norem _ (fun _ => other _ _ _ nofun) rfl, fun y hy => ?_⟩
    · simp only [exec, List.mem_map, Prim.addL.injEq, ← and_assoc, exists_and_right, hscan, Stmt.addOn,
        Option.ite_none_right_eq_some, Option.some.injEq]
    · simp only [Stmt.addOn, Option.ite_none_right_eq_some, Option.some.injEq] at hy
      obtain ⟨m, hm, _⟩ := (hscan l).2 hy.1
      simp only [exec]
      rw [if_neg (by rw [List.isEmpty_iff]; exact List.ne_nil_of_mem hm), ← hy.2]
      exact List.mem_singleton_self _
  | reml l x =>
    simp only [exec, List.contains_iff_mem]
    split
    · refine ⟨fun c h => absurd h (other _ _ _ nofun), noadd _ (fun _ => other _ _ _ nofun) rfl, fun y => ?_, nofun⟩
      simp only [List.mem_map, Prim.remL.injEq, ← and_assoc, exists_and_right, hscan, Stmt.remOn,
        Option.ite_none_right_eq_some, Option.some.injEq]
      exact ⟨fun h => ⟨h, h.2 ▸ ‹x ∈ kn›⟩, And.left⟩
    · refine ⟨nofun, noadd _ (fun _ => List.not_mem_nil) rfl, fun y => ⟨nofun, fun h => ?_⟩, nofun⟩
      simp only [Stmt.remOn, Option.ite_none_right_eq_some, Option.some.injEq] at h
      exact absurd (h.1.2 ▸ h.2) ‹_›
  | remall x =>
    simp only [exec, List.contains_iff_mem]
    split
    · refine ⟨fun c h => absurd h (other _ _ _ nofun), noadd _ (fun _ => other _ _ _ nofun) rfl, fun y => ?_, nofun⟩
      simp only [List.mem_map, Prim.remL.injEq, Stmt.remOn, Option.some.injEq]
      exact ⟨fun ⟨_, _, _, ex⟩ => ⟨ex, ex ▸ ‹x ∈ kn›⟩, fun h => ⟨n, List.mem_append.2 (Or.inl hn), rfl, h.1⟩⟩
    · refine ⟨nofun, noadd _ (fun _ => List.not_mem_nil) rfl, fun y => ⟨nofun, fun h => ?_⟩, nofun⟩
      exact absurd (Option.some.inj h.1 ▸ h.2) ‹_›
  | setx | cre =>
    exact ⟨fun c h => absurd h (other _ _ _ nofun), noadd _ (fun _ => other _ _ _ nofun) rfl,
      norem _ (fun _ => other _ _ _ nofun) rfl, nofun⟩

theorem mem_finalLabels (n : Node) (ps : List Prim) (l : Nat) :
    l ∈ finalLabels n ps ↔ (l ∈ n.labels ∨ .addL n.id l ∈ ps) ∧ .remL n.id l ∉ ps := by
  simp only [finalLabels, List.mem_filter, List.mem_append, Bool.not_eq_true', List.contains_eq_mem, decide_eq_false_iff_not,
    mem_addsFor, mem_remsFor]

theorem reAdds_cons (rm : List Nat) (s : Stmt) (ss : List Stmt) (h : reAdds rm (s :: ss) = false) :
    (∀ x, s.addsLabel = some x → x ∉ rm) ∧
      reAdds (match s.removesLabel with | some x => x :: rm | none => rm) ss = false := by
  simp only [reAdds, Bool.or_eq_false_iff] at h
  refine ⟨?_, h.2⟩
  intro x hx
  have := h.1
  rw [hx] at this
  simpa using this

/-- The invariant of a transaction, for one committed node `n`: the labels `cur` that read-your-writes has given it
    so far are what commit would make of the staged writes `ps` and agree with the committed `n` on the base labels
    (those statements match on); every removal is recorded in `rm`, and every current label is in the published
    table `kn`. -/
structure Agree (n : Node) (next : Nat) (ps : List Prim) (kn rm cur : List Nat) : Prop where
  fresh : ∀ c, .create c ∈ ps → next ≤ c.id
  base : ∀ b, b < 2 → (b ∈ cur ↔ b ∈ n.labels)
  removed : ∀ y, .remL n.id y ∈ ps → y ∈ rm
  known : ∀ y ∈ cur, y ∈ kn
  cur : ∀ l, l ∈ cur ↔ (l ∈ n.labels ∨ .addL n.id l ∈ ps) ∧ .remL n.id l ∉ ps

theorem Agree.init (n : Node) (next : Nat) (kn : List Nat) (hk : ∀ y ∈ n.labels, y ∈ kn) : Agree n next [] kn [] n.labels :=
  ⟨nofun, fun _ _ => Iff.rfl, nofun, hk, by simp⟩

/-- one more statement that does not re-add a removed label -/
theorem Agree.step {g : Graph} {n : Node} {next : Nat} {ps : List Prim} {kn rm cur : List Nat} {s : Stmt}
    (hn : n ∈ g) (huniq : ∀ m ∈ g, m.id = n.id → m.labels = n.labels) (hlt : ∀ m ∈ g, m.id < next)
    (h : Agree n next ps kn rm cur) (hwf : s.wellFormed = true) (hno : ∀ x, s.addsLabel = some x → x ∉ rm) :
    Agree n next (ps ++ (exec g (createdNodes ps) kn (next + (createdNodes ps).length) s).1)
      (kn ++ (exec g (createdNodes ps) kn (next + (createdNodes ps).length) s).2)
      (match s.removesLabel with | some x => x :: rm | none => rm) (nodeStep s cur) := by
  have eff := exec_effect g (createdNodes ps) n next (next + (createdNodes ps).length) kn s hn huniq hlt
    fun c hc => h.fresh c ((mem_createdNodes c ps).1 hc)
  -- the statement matches `n` now iff it matches the committed `n`
  obtain ⟨ea, er⟩ := Stmt.on_congr hwf h.base
  refine ⟨fun c hc => ?_, fun b hb => ?_, fun y => ?_, fun y => ?_, fun l => ?_⟩
  · rcases List.mem_append.1 hc with hc | hc
    · exact h.fresh c hc
    · have := eff.fresh c hc; omega
  · -- label writes concern labels ≥ 2
    rw [mem_nodeStep, ← h.base b hb]
    exact ⟨fun h1 => h1.1.resolve_right fun h2 => by have := (Stmt.addOn_some hwf h2).1; omega,
      fun h1 => ⟨Or.inl h1, fun h2 => by have := (Stmt.remOn_some hwf h2).1; omega⟩⟩
  · rw [List.mem_append, eff.rems]
    rintro (hy | hy)
    · have := h.removed y hy
      cases s.removesLabel <;> simp [this]
    · rw [(Stmt.remOn_some hwf hy.1).2]; exact List.mem_cons_self
  · intro hy
    rw [mem_nodeStep, ea] at hy
    exact List.mem_append.2 (hy.1.imp (h.known y) (eff.interns y))
  · rw [mem_nodeStep, ea, er, List.mem_append, List.mem_append, eff.adds, eff.rems]
    constructor
    · rintro ⟨h1 | ha, hr⟩
      · obtain ⟨h1, h2⟩ := (h.cur l).1 h1
        exact ⟨h1.imp_right Or.inl, fun h3 => h3.elim h2 fun h4 => hr h4.1⟩
      · exact ⟨Or.inr (Or.inr ha), fun h3 => h3.elim
          (fun h4 => hno l (Stmt.addOn_some hwf ha).2.1 (h.removed l h4)) fun h4 => hr h4.1⟩
    · rintro ⟨h1, h2⟩
      rcases or_assoc.2 h1 with h1 | h1
      · -- a label `n` has now is published, so its removal is staged
        have hc := (h.cur l).2 ⟨h1, fun h3 => h2 (Or.inl h3)⟩
        exact ⟨Or.inl hc, fun hr => h2 (Or.inr ⟨hr, h.known l hc⟩)⟩
      · exact ⟨Or.inr h1, fun hr => by rw [(Stmt.addOn_some hwf h1).2.2] at hr; cases hr⟩

/-- per committed node: the labels the code's commit produces are the labels read-your-writes demands -/
theorem node_labels_agree (g : Graph) (n : Node) (next : Nat) (hn : n ∈ g)
    (huniq : ∀ m ∈ g, m.id = n.id → m.labels = n.labels) (hlt : ∀ m ∈ g, m.id < next) :
    ∀ (stmts : List Stmt) (ps : List Prim) (kn rm cur : List Nat),
      (∀ s ∈ stmts, s.wellFormed = true) → Agree n next ps kn rm cur → reAdds rm stmts = false →
      ∀ l, l ∈ finalLabels n (codeTxnPrims g kn next ps stmts) ↔ l ∈ specNodeLabels cur stmts := by
  intro stmts
  induction stmts with
  | nil =>
    intro ps kn rm cur _ h _ l
    rw [codeTxnPrims, specNodeLabels, List.foldl_nil, mem_finalLabels, h.cur]
  | cons s ss ih =>
    intro ps kn rm cur hwf h hre l
    obtain ⟨hno, hre'⟩ := reAdds_cons rm s ss hre
    exact ih _ _ _ _ (fun t ht => hwf t (List.mem_cons_of_mem _ ht))
      (h.step hn huniq hlt (hwf s List.mem_cons_self) hno) hre' l


/-- the statements of an open transaction, run by `step true`, stage exactly `codeTxnPrims` -/
theorem run_tqs (stmts : List Stmt) : ∀ (σ : State) (ps : List Prim), σ.staged = some ps →
    (run true σ (stmts.map .tq)).staged = some (codeTxnPrims σ.committed σ.known σ.allocated ps stmts) ∧
      (run true σ (stmts.map .tq)).committed = σ.committed := by
  induction stmts with
  | nil => intro σ ps h; exact ⟨by simpa [run, codeTxnPrims] using h, rfl⟩
  | cons s ss ih =>
    intro σ ps h
    simp only [List.map_cons, run, List.foldl_cons]
    have hstep : (step true σ (.tq s)).1 =
        { σ with staged := some (ps ++ (exec σ.committed (createdNodes ps) σ.known (σ.allocated + (createdNodes ps).length) s).1),
                 known := σ.known ++ (exec σ.committed (createdNodes ps) σ.known (σ.allocated + (createdNodes ps).length) s).2,
                 view := some σ.known } := by
      simp [step, h]
    have := ih (step true σ (.tq s)).1 _ (by rw [hstep])
    simp only [run] at this
    rw [hstep] at this ⊢
    simpa [codeTxnPrims] using this

theorem run_txn_committed (σ : State) (h : σ.staged = none) (stmts : List Stmt) :
    (run true σ (txnOps stmts)).committed =
      applyCommit σ.committed (codeTxnPrims σ.committed σ.known σ.allocated [] stmts) := by
  have hb : (step true σ .begin).1 = { σ with staged := some [], view := none } := by simp [step, h]
  simp only [txnOps, run, List.foldl_cons, List.foldl_append, List.foldl_nil]
  rw [hb]
  obtain ⟨h1, h2⟩ := run_tqs stmts { σ with staged := some [], view := none } [] rfl
  simp only [run] at h1 h2
  generalize List.foldl (fun σ op => (step true σ op).1)
    ({ σ with staged := some [], view := none } : State) (stmts.map Op.tq) = τ at h1 h2 ⊢
  simp only [step, h1, h2]

end Nervus.TxnLabels
