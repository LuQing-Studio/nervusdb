/-
  Operator lemma 2 for C11: a single-hop expand (MatchOut / MatchIn / MatchUndirected on one input row) against
  one step of the reference pattern matching `Spec.matchSteps`.
  The engine tracks the relationships used by the current chain in a hidden row column (the path alias); the
  reference threads the set `used`.  `PathRel` relates the two; `eraseCol` removes the hidden column.
-/
import Nervus.Proofs.CypherBase
namespace Nervus.Cy
open Nervus.Cy

variable (A : Algebra) (env : Env)

/-- no relationship identity has parallel copies (then `path_alias_contains_edge` is plain membership) -/
def NoParallel (g : Graph) : Prop := ∀ e, Exec.edgeMultiplicity g e = 1

theorem filter_eq_length_le_one {l : List RelId} (h : l.Nodup) (e : RelId) :
    (l.filter fun c => c.src == e.src && c.typ == e.typ && c.dst == e.dst).length ≤ 1 := by
  have hfe : (l.filter fun c => c.src == e.src && c.typ == e.typ && c.dst == e.dst) = l.filter (· == e) := by
    apply List.filter_congr
    intro c _
    rw [Bool.eq_iff_iff]
    simp only [Bool.and_eq_true, beq_iff_eq]
    constructor
    · rintro ⟨⟨h1, h2⟩, h3⟩; cases c; cases e; simp_all
    · rintro rfl; simp
  rw [hfe, ← List.count_eq_length_filter]
  exact List.nodup_iff_count.mp h e

theorem noParallel_of_nodup {g : Graph} (h : g.copies.Nodup) : NoParallel g := by
  intro e
  unfold Exec.edgeMultiplicity
  have := filter_eq_length_le_one h e
  omega

def eraseCol (pa : String) (r : Row) : Row := r.filter (·.1 != pa)

/-- the hidden path column of a model row holds exactly the relationships the reference has in `used`; before the
    first hop there is no such column (`Row::join_path` creates it) -/
def PathRel (r : Row) (pa : String) (used : List RelId) : Prop :=
  match r.get pa with
  | some (.path _ es) => ∀ e, e ∈ es ↔ e ∈ used
  | none => used = []
  | some _ => False

theorem get_eraseCol_ne (pa x : String) (r : Row) (h : x ≠ pa) : (eraseCol pa r).get x = r.get x := by
  induction r with
  | nil => rfl
  | cons p rest ih =>
    obtain ⟨y, w⟩ := p
    simp only [eraseCol, List.filter_cons] at ih ⊢
    split
    · simp [Row.get_cons, ih]
    · have : x ≠ y := fun hh => h (hh ▸ by simp_all)
      simp [Row.get_cons, ih, this]

theorem eraseCol_set_self (pa : String) (r : Row) (v : Val) : eraseCol pa (r.set pa v) = eraseCol pa r := by
  fun_induction Row.set r pa v with
  | case1 => simp [eraseCol]
  | case2 y w rest x v hy => simp [eraseCol, eq_of_beq hy]
  | case3 y w rest x v hy ih => simp_all [eraseCol]

theorem eraseCol_set_ne (pa x : String) (r : Row) (v : Val) (h : x ≠ pa) :
    eraseCol pa (r.set x v) = (eraseCol pa r).set x v := by
  fun_induction Row.set r x v with
  | case1 => simp [eraseCol, Row.set, h]
  | case2 y w rest x v hy => simp [eraseCol, eq_of_beq hy, h, Row.set]
  | case3 y w rest x v hy ih =>
    simp only [eraseCol, List.filter_cons] at ih ⊢
    split <;> simp_all [Row.set]

theorem Row.set_same (r : Row) (x : String) (v : Val) (h : r.get x = some v) : r.set x v = r := by
  fun_induction Row.set r x v with
  | case1 => simp [Row.get] at h
  | case2 y w rest x v hy => simp_all [Row.get_cons, eq_of_beq hy]
  | case3 y w rest x v hy ih =>
    have : x ≠ y := fun hh => hy (by simp [hh])
    simp_all [Row.get_cons]

/-! ### the candidate relationships of the engine and of the reference are the same bag -/

theorem filter_types_perm (cs : List RelId) (c : RelId → Bool) (ts : List String) (hnd : ts.Nodup) :
    (cs.filter fun e => ts.contains e.typ && c e).Perm (ts.flatMap fun t => cs.filter fun e => c e && e.typ == t) := by
  induction ts with
  | nil => simp
  | cons t ts ih =>
    rw [List.nodup_cons] at hnd
    have h1 : (cs.filter fun e => (t :: ts).contains e.typ && c e) =
        cs.filter fun e => (c e && e.typ == t) || (ts.contains e.typ && c e) := by
      apply List.filter_congr
      intro e _
      simp only [List.contains_cons]
      cases c e <;> cases (e.typ == t) <;> simp
    rw [h1, List.flatMap_cons]
    refine (filter_or_perm ?_).trans (List.Perm.append_left _ (ih hnd.2))
    intro e _ he
    simp only [Bool.and_eq_true, beq_iff_eq] at he
    have hn : e.typ ∉ ts := by rw [he.2]; exact hnd.1
    simp [hn]

/-- the engine enumerates per listed type (or all copies when none is listed), the reference filters the copies -/
theorem typed_filter_perm (cs : List RelId) (c : RelId → Bool) (rels : List String) (hnd : rels.Nodup) :
    (cs.filter fun e => (rels.isEmpty || rels.contains e.typ) && c e).Perm
      (if rels.isEmpty then cs.filter c else rels.flatMap fun t => cs.filter fun e => c e && e.typ == t) := by
  cases hrel : rels.isEmpty
  · simp only [Bool.false_or, Bool.false_eq_true, ↓reduceIte]
    exact filter_types_perm cs c rels hnd
  · simp

theorem flatMap_typed {β} (cs : List RelId) (t s : RelId → Bool) (f : RelId → β) :
    (cs.flatMap fun e => if !(t e) then [] else if s e then [f e] else []) = (cs.filter fun e => t e && s e).map f := by
  induction cs with
  | nil => rfl
  | cons e es ih =>
    simp only [List.flatMap_cons, List.filter_cons, ih]
    cases t e <;> cases s e <;> rfl

theorem traversals_out_perm (g : Graph) (a : Nat) (ev : Option String) (rels : List String) (ps : List (String × Expr))
    (hnd : rels.Nodup) :
    (Spec.traversals g a ⟨ev, rels, .out, ps⟩).Perm ((Exec.outEdges g a rels).map fun e => (e, e.dst)) := by
  unfold Spec.traversals
  rw [flatMap_typed]
  exact (typed_filter_perm g.copies (·.src == a) rels hnd).map _

/-! ### one candidate relationship: engine row (hidden column erased) = reference row -/

theorem pathContains_eq (g : Graph) (hnp : NoParallel g) (r : Row) (pa : String) (used : List RelId) (e : RelId)
    (hpa : PathRel r pa used) : Exec.pathContains g r (some pa) e = used.contains e := by
  unfold PathRel at hpa
  simp only [Exec.pathContains]
  generalize r.get pa = v at hpa ⊢
  match v, hpa with
  | none, hpa => subst hpa; simp
  | some (.path ns es), hpa =>
    simp only [hnp e]
    by_cases hin : e ∈ es
    · have hc : List.count e es ≠ 0 := by
        intro h0; exact (List.count_eq_zero.mp h0) hin
      have hu : e ∈ used := (hpa e).mp hin
      have h1 : (List.count e es == 0) = false := by simpa using hc
      have h2 : List.count e es ≥ 1 := Nat.pos_of_ne_zero hc
      simp [h1, h2, hu]
    · have hc : List.count e es = 0 := List.count_eq_zero.mpr hin
      have hu : e ∉ used := fun h => hin ((hpa e).mpr h)
      simp [hc, hu]

theorem eraseCol_joinPath (pa : String) (r : Row) (a : Nat) (e : RelId) (b : Nat) :
    eraseCol pa (Exec.joinPath r pa a e b) = eraseCol pa r := by
  unfold Exec.joinPath
  split <;> exact eraseCol_set_self pa r _

theorem eraseCol_withOpt (pa : String) (r : Row) (ev : Option String) (v : Val) (h : ∀ x, ev = some x → x ≠ pa) :
    eraseCol pa (Exec.withOpt r ev v) = Exec.withOpt (eraseCol pa r) ev v := by
  cases ev with
  | none => rfl
  | some x => exact eraseCol_set_ne pa x r v (h x rfl)

theorem bind_dst (r1 : Row) (d : String) (nxt : Nat) :
    Spec.bind r1 (some d) (.node nxt) =
      if Exec.nodeBindingOk r1 d nxt then some (r1.set d (.node nxt)) else none := by
  cases hv : r1.get d with
  | none =>
    have h1 : Exec.nodeBindingOk r1 d nxt = true := by simp [Exec.nodeBindingOk, hv]
    have h2 : Spec.bind r1 (some d) (.node nxt) = some (r1.set d (.node nxt)) := by simp [Spec.bind, hv]
    rw [h1, h2]; rfl
  | some w =>
    by_cases hw : w = .node nxt
    · subst hw
      have h1 : Exec.nodeBindingOk r1 d nxt = true := by simp [Exec.nodeBindingOk, hv]
      have h2 : Spec.bind r1 (some d) (.node nxt) = some r1 := by simp [Spec.bind, hv]
      rw [h1, h2, Row.set_same _ _ _ hv]; rfl
    · have h1 : Exec.nodeBindingOk r1 d nxt = false := by
        cases w with
        | node n =>
          have : n ≠ nxt := fun h => hw (by rw [h])
          simp [Exec.nodeBindingOk, hv, this]
        | _ => simp [Exec.nodeBindingOk, hv]
      have h2 : Spec.bind r1 (some d) (.node nxt) = none := by simp [Spec.bind, hv, hw]
      rw [h1, h2]; rfl

theorem bind_chain (rs : Row) (ev : Option String) (d : String) (e : RelId) (nxt : Nat)
    (hev : ∀ x, ev = some x → x ≠ d ∧ rs.get x = none) :
    (Spec.bind rs ev (.rel e)).bind (Spec.bind · (some d) (.node nxt)) =
      if Exec.nodeBindingOk rs d nxt then some ((Exec.withOpt rs ev (.rel e)).set d (.node nxt)) else none := by
  have h1 : Spec.bind rs ev (.rel e) = some (Exec.withOpt rs ev (.rel e)) := by
    cases ev with
    | none => rfl
    | some x => simp [Spec.bind, (hev x rfl).2, Exec.withOpt]
  have hget : (Exec.withOpt rs ev (.rel e)).get d = rs.get d := by
    cases ev with
    | none => rfl
    | some x => exact Row.get_set_ne rs x d _ (fun h => (hev x rfl).1 h.symm)
  have hok : Exec.nodeBindingOk (Exec.withOpt rs ev (.rel e)) d nxt = Exec.nodeBindingOk rs d nxt := by
    simp only [Exec.nodeBindingOk, hget]
  rw [h1, Option.bind, bind_dst, hok]

/-- the body of `matchSteps`' `flatMap` at a last step: what the reference does with one candidate (relationship
    identity, node reached) -/
def specCand (used : List RelId) (rs : Row) (rp : RelPat) (np : NodePat) (c : RelId × Nat) :
    List (Row × List RelId) :=
  if used.contains c.1 || !(Spec.relOk A env rs rp c.1 && Spec.nodeOk A env rs np c.2) then []
  else match (Spec.bind rs rp.var (.rel c.1)).bind (Spec.bind · np.var (.node c.2)) with
    | none => []
    | some r' => [(r', c.1 :: used)]

theorem matchSteps_single (used : List RelId) (cur : Nat) (rs : Row) (rp : RelPat) (np : NodePat) :
    Spec.matchSteps A env used cur rs [(rp, np)] =
      (Spec.traversals env.g cur rp).flatMap (specCand A env used rs rp np) := by
  simp only [Spec.matchSteps]
  rfl

theorem specCand_eq (hnp : NoParallel env.g) (r : Row) (rels : List String) (dir : Dir)
    (ev : Option String) (d pa : String) (dl : List String) (used : List RelId) (e : RelId) (n : Nat)
    (hpa : PathRel r pa used) (hd : d ≠ pa)
    (hev : ∀ x, ev = some x → x ≠ pa ∧ x ≠ d ∧ r.get x = none) :
    specCand A env used (eraseCol pa r) ⟨ev, rels, dir, []⟩ ⟨some d, dl, []⟩ (e, n) =
      if Exec.pathContains env.g r (some pa) e || !Exec.nodeBindingOk r d n || !Exec.labelsOk env.g n dl then []
      else [((Exec.withOpt (eraseCol pa r) ev (.rel e)).set d (.node n), e :: used)] := by
  have hb : Exec.nodeBindingOk (eraseCol pa r) d n = Exec.nodeBindingOk r d n := by
    simp only [Exec.nodeBindingOk, get_eraseCol_ne pa d r hd]
  have hchain := bind_chain (eraseCol pa r) ev d e n (fun x hx =>
    ⟨(hev x hx).2.1, by rw [get_eraseCol_ne pa x r (hev x hx).1]; exact (hev x hx).2.2⟩)
  unfold specCand
  simp only [hchain, hb, pathContains_eq env.g hnp r pa used e hpa, Spec.relOk, Spec.propsOk, List.all_nil, Spec.nodeOk,
    Bool.and_true, Bool.true_and, Exec.labelsOk]
  cases used.contains e <;> cases dl.all (env.g.hasLabel n) <;> cases Exec.nodeBindingOk r d n <;> rfl

theorem filterMap_map_eq_flatMap {α β γ} (l : List α) (f : α → Option β) (h : β → γ) :
    (l.filterMap f).map h = l.flatMap fun x => ((f x).map h).toList := by
  induction l with
  | nil => rfl
  | cons x xs ih =>
    simp only [List.filterMap_cons, List.flatMap_cons]
    cases hf : f x <;> simp [ih]

theorem expand_out_row (hnp : NoParallel env.g) (r : Row) (a : Nat) (rels : List String)
    (hrels : rels.Nodup) (ev : Option String) (d pa : String) (dl : List String) (used : List RelId)
    (hpa : PathRel r pa used) (hd : d ≠ pa)
    (hev : ∀ x, ev = some x → x ≠ pa ∧ x ≠ d ∧ r.get x = none) :
    ((Exec.stepOut env.g r a rels ev d dl (some pa)).map (eraseCol pa)).Perm
      ((Spec.matchSteps A env used a (eraseCol pa r) [(⟨ev, rels, .out, []⟩, ⟨some d, dl, []⟩)]).map (·.1)) := by
  unfold Exec.stepOut
  rw [filterMap_map_eq_flatMap, matchSteps_single, List.map_flatMap]
  refine List.Perm.trans (List.Perm.of_eq ?_)
    (List.Perm.flatMap_right _ (traversals_out_perm env.g a ev rels [] hrels)).symm
  rw [List.flatMap_map]
  apply flatMap_congr_mem
  intro e _
  rw [specCand_eq A env hnp r rels .out ev d pa dl used e e.dst hpa hd hev]
  split
  · rfl
  · simp only [Option.map_some, Option.toList_some, List.map_cons, List.map_nil, Exec.joinPathOpt]
    rw [eraseCol_joinPath, eraseCol_set_ne pa d _ _ hd, eraseCol_withOpt pa r ev _ (fun x hx => (hev x hx).1)]

/-! ### incoming and undirected hops: the engine binds the destination before the relationship variable, the
    reference the other way round — rows agree up to column order (`Row.Equiv`) -/

def Row.Equiv (r r' : Row) : Prop := ∀ x, r.get x = r'.get x

theorem Row.Equiv.refl (r : Row) : Row.Equiv r r := fun _ => rfl

def RowsEquiv : Table → Table → Prop
  | [], [] => True
  | a :: as, b :: bs => Row.Equiv a b ∧ RowsEquiv as bs
  | _, _ => False

theorem RowsEquiv.refl : ∀ T : Table, RowsEquiv T T
  | [] => trivial
  | r :: rs => ⟨Row.Equiv.refl r, RowsEquiv.refl rs⟩

theorem RowsEquiv.append {a b c d : Table} (h1 : RowsEquiv a b) (h2 : RowsEquiv c d) : RowsEquiv (a ++ c) (b ++ d) := by
  fun_induction RowsEquiv a b with
  | case1 => simpa using h2
  | case2 x xs y ys ih => exact ⟨h1.1, ih h1.2⟩
  | case3 => exact h1.elim

theorem RowsEquiv.flatMap {α} (l : List α) (f g : α → Table) (h : ∀ x ∈ l, RowsEquiv (f x) (g x)) :
    RowsEquiv (l.flatMap f) (l.flatMap g) := by
  induction l with
  | nil => trivial
  | cons x xs ih =>
    simp only [List.flatMap_cons]
    exact RowsEquiv.append (h x (by simp)) (ih fun y hy => h y (List.mem_cons_of_mem _ hy))

/-- the same bag of rows up to column order -/
def TableEquiv (T T' : Table) : Prop := ∃ T'', T.Perm T'' ∧ RowsEquiv T'' T'

theorem set_comm_equiv (r : Row) (x y : String) (v w : Val) (h : x ≠ y) :
    Row.Equiv ((r.set x v).set y w) ((r.set y w).set x v) := by
  intro z
  by_cases hzx : z = x
  · subst hzx
    rw [Row.get_set_ne _ y z w h, Row.get_set_self, Row.get_set_self]
  · by_cases hzy : z = y
    · subst hzy
      rw [Row.get_set_self, Row.get_set_ne _ x z v hzx, Row.get_set_self]
    · rw [Row.get_set_ne _ y z w hzy, Row.get_set_ne _ x z v hzx, Row.get_set_ne _ x z v hzx,
        Row.get_set_ne _ y z w hzy]

theorem withOpt_set_equiv (rs : Row) (ev : Option String) (d : String) (v w : Val)
    (h : ∀ x, ev = some x → x ≠ d) :
    Row.Equiv (Exec.withOpt (rs.set d v) ev w) ((Exec.withOpt rs ev w).set d v) := by
  cases ev with
  | none => exact Row.Equiv.refl _
  | some x => exact set_comm_equiv rs d x v w (fun hh => h x rfl hh.symm)

/-- the common shape of `stepIn`, `stepInNoLoop`, `stepOutU`: candidates `cands`, `tgt e` the node reached,
    `frm e` the node left -/
def stepGen (g : Graph) (cands : List RelId) (tgt frm : RelId → Nat) (r : Row) (ev : Option String) (d : String)
    (dl : List String) (pa : String) : List Row :=
  cands.filterMap fun e =>
    if Exec.pathContains g r (some pa) e || !Exec.nodeBindingOk r d (tgt e) || !Exec.labelsOk g (tgt e) dl then none
    else some (Exec.joinPathOpt (Exec.withOpt (r.set d (.node (tgt e))) ev (.rel e)) (some pa) (frm e) e (tgt e))

theorem stepGen_equiv (hnp : NoParallel env.g) (cands : List RelId) (tgt frm : RelId → Nat) (r : Row)
    (rels : List String) (dir : Dir) (ev : Option String) (d pa : String) (dl : List String) (used : List RelId)
    (hpa : PathRel r pa used) (hd : d ≠ pa)
    (hev : ∀ x, ev = some x → x ≠ pa ∧ x ≠ d ∧ r.get x = none) :
    RowsEquiv ((stepGen env.g cands tgt frm r ev d dl pa).map (eraseCol pa))
      (((cands.map fun e => (e, tgt e)).flatMap
        (specCand A env used (eraseCol pa r) ⟨ev, rels, dir, []⟩ ⟨some d, dl, []⟩)).map (·.1)) := by
  unfold stepGen
  rw [filterMap_map_eq_flatMap, List.map_flatMap, List.flatMap_map]
  apply RowsEquiv.flatMap
  intro e _
  rw [specCand_eq A env hnp r rels dir ev d pa dl used e (tgt e) hpa hd hev]
  split
  · trivial
  · simp only [Option.map_some, Option.toList_some, List.map_cons, List.map_nil, Exec.joinPathOpt, RowsEquiv, and_true]
    rw [eraseCol_joinPath, eraseCol_withOpt pa _ ev _ (fun x hx => (hev x hx).1), eraseCol_set_ne pa d _ _ hd]
    exact withOpt_set_equiv _ ev d _ _ (fun x hx => (hev x hx).2.1)

theorem RowsEquiv.perm_right {X Y Y' : Table} (h : RowsEquiv X Y) (hp : Y.Perm Y') :
    ∃ X', X.Perm X' ∧ RowsEquiv X' Y' := by
  induction hp generalizing X with
  | nil => exact ⟨X, List.Perm.refl _, h⟩
  | cons y _ ih =>
    cases X with
    | nil => exact absurd h (by simp [RowsEquiv])
    | cons x xs =>
      obtain ⟨xs', hp', he'⟩ := ih h.2
      exact ⟨x :: xs', List.Perm.cons x hp', h.1, he'⟩
  | swap a b l =>
    match X, h with
    | x1 :: x2 :: xs, h => exact ⟨x2 :: x1 :: xs, List.Perm.swap x2 x1 xs, h.2.1, h.1, h.2.2⟩
  | trans _ _ ih1 ih2 =>
    obtain ⟨X1, hp1, he1⟩ := ih1 h
    obtain ⟨X2, hp2, he2⟩ := ih2 he1
    exact ⟨X2, hp1.trans hp2, he2⟩

theorem TableEquiv.of {T T1 S1 S : Table} (h1 : T.Perm T1) (h2 : RowsEquiv T1 S1) (h3 : S1.Perm S) :
    TableEquiv T S := by
  obtain ⟨X, hp, he⟩ := h2.perm_right h3
  exact ⟨X, h1.trans hp, he⟩

theorem tableEquiv_flatMap (l : Table) (f g : Row → Table) (h : ∀ r ∈ l, TableEquiv (f r) (g r)) :
    TableEquiv (l.flatMap f) (l.flatMap g) := by
  induction l with
  | nil => exact ⟨[], List.Perm.refl _, trivial⟩
  | cons r rest ih =>
    obtain ⟨X1, hp1, he1⟩ := h r (by simp)
    obtain ⟨X2, hp2, he2⟩ := ih (fun x hx => h x (List.mem_cons_of_mem _ hx))
    simp only [List.flatMap_cons]
    exact ⟨X1 ++ X2, List.Perm.append hp1 hp2, RowsEquiv.append he1 he2⟩

theorem RowsEquiv.map_fst_nil : RowsEquiv [] [] := trivial

theorem flatMap_append_perm {α β} (l : List α) (f g : α → List β) :
    (l.flatMap fun x => f x ++ g x).Perm (l.flatMap f ++ l.flatMap g) := by
  induction l with
  | nil => simp
  | cons x xs ih =>
    simp only [List.flatMap_cons]
    have h1 : (f x ++ g x ++ List.flatMap (fun x => f x ++ g x) xs).Perm
        (f x ++ g x ++ (List.flatMap f xs ++ List.flatMap g xs)) := List.Perm.append_left _ ih
    refine h1.trans ?_
    rw [List.append_assoc, List.append_assoc]
    apply List.Perm.append_left
    rw [← List.append_assoc, ← List.append_assoc]
    exact List.Perm.append_right _ List.perm_append_comm

theorem traversals_in_perm (g : Graph) (a : Nat) (ev : Option String) (rels : List String) (ps : List (String × Expr))
    (hnd : rels.Nodup) :
    (Spec.traversals g a ⟨ev, rels, .inn, ps⟩).Perm ((Exec.inEdges g a rels).map fun e => (e, e.src)) := by
  unfold Spec.traversals
  rw [flatMap_typed]
  exact (typed_filter_perm g.copies (·.dst == a) rels hnd).map _

theorem stepIn_eq_stepGen (g : Graph) (r : Row) (a : Nat) (rels : List String) (ev : Option String) (d : String)
    (dl : List String) (pa : String) :
    Exec.stepIn g r a rels ev d dl (some pa) = stepGen g (Exec.inEdges g a rels) (·.src) (·.dst) r ev d dl pa := rfl

theorem expand_in_row (hnp : NoParallel env.g) (r : Row) (a : Nat) (rels : List String)
    (hrels : rels.Nodup) (ev : Option String) (d pa : String) (dl : List String) (used : List RelId)
    (hpa : PathRel r pa used) (hd : d ≠ pa)
    (hev : ∀ x, ev = some x → x ≠ pa ∧ x ≠ d ∧ r.get x = none) :
    TableEquiv ((Exec.stepIn env.g r a rels ev d dl (some pa)).map (eraseCol pa))
      ((Spec.matchSteps A env used a (eraseCol pa r) [(⟨ev, rels, .inn, []⟩, ⟨some d, dl, []⟩)]).map (·.1)) := by
  rw [stepIn_eq_stepGen, matchSteps_single]
  refine TableEquiv.of (List.Perm.refl _)
    (stepGen_equiv A env hnp _ (·.src) (·.dst) r rels .inn ev d pa dl used hpa hd hev) ?_
  exact (List.Perm.map _ (List.Perm.flatMap_right _ (traversals_in_perm env.g a ev rels [] hrels))).symm

/-! ### undirected hop (outgoing half, then incoming half without self-loops) -/

def insNoLoop (g : Graph) (a : Nat) (rels : List String) : List RelId :=
  (Exec.inEdges g a rels).filter fun e => e.src != e.dst

theorem stepOutU_eq_stepGen (g : Graph) (r : Row) (a : Nat) (rels : List String) (ev : Option String) (d : String)
    (dl : List String) (pa : String) :
    Exec.stepOutU g r a rels ev d dl (some pa) = stepGen g (Exec.outEdges g a rels) (·.dst) (·.src) r ev d dl pa := rfl

theorem stepInNoLoop_eq_stepGen (g : Graph) (r : Row) (a : Nat) (rels : List String) (ev : Option String)
    (d : String) (dl : List String) (pa : String) :
    Exec.stepInNoLoop g r a rels ev d dl (some pa) = stepGen g (insNoLoop g a rels) (·.src) (·.dst) r ev d dl pa := by
  unfold Exec.stepInNoLoop stepGen insNoLoop
  rw [List.filterMap_filter]
  congr 1
  funext e
  cases h : (e.src == e.dst) <;> simp [h, bne]

theorem outEdges_single_flatMap (g : Graph) (a : Nat) (rels : List String) (h : rels.isEmpty = false) :
    (rels.flatMap fun t => Exec.outEdges g a [t]) = Exec.outEdges g a rels := by
  simp [Exec.outEdges, h]

theorem inEdges_single_flatMap (g : Graph) (a : Nat) (rels : List String) (h : rels.isEmpty = false) :
    (rels.flatMap fun t => Exec.inEdges g a [t]) = Exec.inEdges g a rels := by
  simp [Exec.inEdges, h]

theorem stepGen_flatMap {α} (g : Graph) (l : List α) (c : α → List RelId) (tgt frm : RelId → Nat) (r : Row)
    (ev : Option String) (d : String) (dl : List String) (pa : String) :
    (l.flatMap fun t => stepGen g (c t) tgt frm r ev d dl pa) = stepGen g (l.flatMap c) tgt frm r ev d dl pa := by
  unfold stepGen
  rw [List.filterMap_flatMap]

theorem stepGen_append (g : Graph) (c1 c2 : List RelId) (tgt frm : RelId → Nat) (r : Row)
    (ev : Option String) (d : String) (dl : List String) (pa : String) :
    stepGen g (c1 ++ c2) tgt frm r ev d dl pa = stepGen g c1 tgt frm r ev d dl pa ++ stepGen g c2 tgt frm r ev d dl pa := by
  unfold stepGen
  rw [List.filterMap_append]

/-- `execute_match_undirected` alternates per relationship type (outgoing, then incoming); regrouped as all
    outgoing, then all incoming candidates — hence only a permutation -/
theorem stepBoth_perm (g : Graph) (r : Row) (a : Nat) (rels : List String) (ev : Option String) (d : String)
    (dl : List String) (pa : String) :
    (Exec.stepBoth g r a rels ev d dl (some pa)).Perm
      (stepGen g (Exec.outEdges g a rels) (·.dst) (·.src) r ev d dl pa ++
        stepGen g (insNoLoop g a rels) (·.src) (·.dst) r ev d dl pa) := by
  unfold Exec.stepBoth
  cases h : rels.isEmpty
  · simp only [Bool.false_eq_true, ↓reduceIte]
    refine (flatMap_append_perm rels _ _).trans ?_
    have h1 : (rels.flatMap fun t => Exec.stepOutU g r a [t] ev d dl (some pa)) =
        stepGen g (Exec.outEdges g a rels) (·.dst) (·.src) r ev d dl pa := by
      simp only [stepOutU_eq_stepGen]
      rw [stepGen_flatMap, outEdges_single_flatMap g a rels h]
    have h2 : (rels.flatMap fun t => Exec.stepInNoLoop g r a [t] ev d dl (some pa)) =
        stepGen g (insNoLoop g a rels) (·.src) (·.dst) r ev d dl pa := by
      simp only [stepInNoLoop_eq_stepGen]
      rw [stepGen_flatMap]
      congr 1
      unfold insNoLoop
      rw [← inEdges_single_flatMap g a rels h, List.filter_flatMap]
    rw [h1, h2]
  · have hr : rels = [] := by simpa using h
    subst hr
    simp only [↓reduceIte, stepOutU_eq_stepGen, stepInNoLoop_eq_stepGen]
    exact List.Perm.refl _

theorem traversals_both_perm (g : Graph) (a : Nat) (ev : Option String) (rels : List String)
    (ps : List (String × Expr)) (hnd : rels.Nodup) :
    (Spec.traversals g a ⟨ev, rels, .both, ps⟩).Perm
      (((Exec.outEdges g a rels).map fun e => (e, e.dst)) ++ ((insNoLoop g a rels).map fun e => (e, e.src))) := by
  have hsplit : Spec.traversals g a ⟨ev, rels, .both, ps⟩ =
      g.copies.flatMap fun e =>
        (if !(rels.isEmpty || rels.contains e.typ) then [] else if e.src == a then [(e, e.dst)] else []) ++
        (if !(rels.isEmpty || rels.contains e.typ) then [] else
          if e.dst == a && e.src != e.dst then [(e, e.src)] else []) := by
    unfold Spec.traversals
    congr 1
    funext e
    cases (rels.isEmpty || rels.contains e.typ) <;> rfl
  rw [hsplit]
  refine (flatMap_append_perm _ _ _).trans ?_
  rw [flatMap_typed, flatMap_typed]
  refine List.Perm.append ((typed_filter_perm g.copies (·.src == a) rels hnd).map _) (List.Perm.map _ ?_)
  refine (typed_filter_perm g.copies (fun e => e.dst == a && e.src != e.dst) rels hnd).trans (List.Perm.of_eq ?_)
  unfold insNoLoop Exec.inEdges
  split
  · rw [List.filter_filter]
    exact List.filter_congr fun e _ => Bool.and_comm _ _
  · rw [List.filter_flatMap]
    congr 1
    funext t
    rw [List.filter_filter]
    exact List.filter_congr fun e _ => by cases (e.dst == a) <;> cases (e.typ == t) <;> cases (e.src != e.dst) <;> rfl

theorem expand_both_row (hnp : NoParallel env.g) (r : Row) (a : Nat) (rels : List String)
    (hrels : rels.Nodup) (ev : Option String) (d pa : String) (dl : List String) (used : List RelId)
    (hpa : PathRel r pa used) (hd : d ≠ pa)
    (hev : ∀ x, ev = some x → x ≠ pa ∧ x ≠ d ∧ r.get x = none) :
    TableEquiv ((Exec.stepBoth env.g r a rels ev d dl (some pa)).map (eraseCol pa))
      ((Spec.matchSteps A env used a (eraseCol pa r) [(⟨ev, rels, .both, []⟩, ⟨some d, dl, []⟩)]).map (·.1)) := by
  rw [matchSteps_single]
  refine TableEquiv.of (S1 := ((((Exec.outEdges env.g a rels).map fun e => (e, e.dst)) ++
      ((insNoLoop env.g a rels).map fun e => (e, e.src))).flatMap
      (specCand A env used (eraseCol pa r) ⟨ev, rels, .both, []⟩ ⟨some d, dl, []⟩)).map (·.1))
    (List.Perm.map _ (stepBoth_perm env.g r a rels ev d dl pa)) ?_ ?_
  · rw [List.map_append, List.flatMap_append, List.map_append]
    exact RowsEquiv.append
      (stepGen_equiv A env hnp _ (·.dst) (·.src) r rels .both ev d pa dl used hpa hd hev)
      (stepGen_equiv A env hnp _ (·.src) (·.dst) r rels .both ev d pa dl used hpa hd hev)
  · exact (List.Perm.map _ (List.Perm.flatMap_right _ (traversals_both_perm env.g a ev rels [] hrels))).symm

end Nervus.Cy
