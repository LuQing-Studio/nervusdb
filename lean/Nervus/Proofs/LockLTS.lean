/-
  The generic deadlock argument on `Model.LockLTS`.  Invariant `Inv`: a lock has one holder, and a blocked thread sits
  at a site of the relation whose held-set is its own.  Hence a wait-for cycle of distinct threads yields, one site per
  thread, a cycle of the relation with pairwise disjoint held-sets (`deadlock_gives_feasible`).  Such a cycle has at most
  `nLocks` edges — disjoint non-empty sets of lock numbers (`length_le_of_disjoint`) — so the search with fuel `nLocks`
  finds it (`dfs_complete`).  The same counting bounds a duplicate-free wait-for path, which gives progress
  (`progress`).
-/
import Nervus.Model.LockLTS
namespace Nervus.LockLTS

@[simp] theorem upd_same (s : State) (t : Nat) (x : TState) : upd s t x t = x := by simp [upd]
theorem upd_other (s : State) (t u : Nat) (x : TState) (h : u ≠ t) : upd s t x u = s u := by simp [upd, h]

/-- `wanted` is carried for `held_lt` alone: a held lock was asked for at a site, so its number is below `nLocks` in a
    `wellFormed` relation -/
structure Inv (A : List Acq) (s : State) : Prop where
  mutex : ∀ t u x, x ∈ (s t).held → x ∈ (s u).held → t = u
  site : ∀ t l, (s t).wait = some l → ∃ a, a ∈ A ∧ a.want = l ∧ SameSet a.held (s t).held
  wanted : ∀ t x, x ∈ (s t).held → ∃ a, a ∈ A ∧ a.want = x

theorem inv_init (A : List Acq) : Inv A init :=
  ⟨fun t u x h => by simp [init] at h, fun t l h => by simp [init] at h, fun t x h => by simp [init] at h⟩

/-- Thread `t` moves to `x`: the invariant survives when every lock `x` holds was held by `t` before or is the free lock
    `t` was waiting for, and `x` waits only at a site of the relation. -/
theorem Inv.update {A : List Acq} {s : State} (hi : Inv A s) (t : Nat) (x : TState)
    (hheld : ∀ l ∈ x.held, l ∈ (s t).held ∨ ((s t).wait = some l ∧ ∀ u, l ∉ (s u).held))
    (hwait : ∀ l, x.wait = some l → ∃ a, a ∈ A ∧ a.want = l ∧ SameSet a.held x.held) : Inv A (upd s t x) := by
  have key : ∀ u l, l ∈ x.held → l ∈ (upd s t x u).held → t = u := fun u l h1 h2 => by
    by_cases hu : u = t
    · exact hu.symm
    · rw [upd_other _ _ _ _ hu] at h2
      rcases hheld l h1 with h | h
      · exact hi.mutex t u l h h2
      · exact absurd h2 (h.2 u)
  refine ⟨fun t' u l h1 h2 => ?_, fun t' l h => ?_, fun t' l h => ?_⟩ <;> by_cases ht : t' = t
  · subst ht; rw [upd_same] at h1; exact key u l h1 h2
  · by_cases hu : u = t
    · subst hu; rw [upd_same] at h2; exact (key t' l h2 h1).symm
    · rw [upd_other _ _ _ _ ht] at h1; rw [upd_other _ _ _ _ hu] at h2; exact hi.mutex _ _ l h1 h2
  · subst ht; rw [upd_same] at h ⊢; exact hwait l h
  · rw [upd_other _ _ _ _ ht] at h ⊢; exact hi.site t' l h
  · subst ht; rw [upd_same] at h
    rcases hheld l h with h | h
    · exact hi.wanted _ l h
    · obtain ⟨a, ha, hw, _⟩ := hi.site _ l h.1; exact ⟨a, ha, hw⟩
  · rw [upd_other _ _ _ _ ht] at h; exact hi.wanted t' l h

theorem inv_step {A : List Acq} {s s' : State} (hi : Inv A s) (hs : Step A s s') : Inv A s' := by
  cases hs with
  | request t a hw ha hsame => exact hi.update t _ (fun _ h => Or.inl h) fun _ h => ⟨a, ha, Option.some.inj h, hsame⟩
  | grant t l hw hfree =>
    exact hi.update t _ (fun _ h => (List.mem_cons.1 h).elim (fun e => Or.inr (e ▸ ⟨hw, hfree⟩)) Or.inl) nofun
  | release t l hw => exact hi.update t _ (fun _ h => Or.inl (List.mem_filter.1 h).1) nofun

theorem reach_inv {A : List Acq} {s : State} (h : Reach A s) : Inv A s := by
  induction h with
  | init => exact inv_init A
  | step _ hs ih => exact inv_step ih hs

theorem held_lt {A : List Acq} {n : Nat} (hwf : wellFormed A n = true) {s : State} (hi : Inv A s) :
    ∀ t x, x ∈ (s t).held → x < n := fun t x hx => by
  obtain ⟨a, ha, rfl⟩ := hi.wanted t x hx
  simp only [wellFormed, List.all_eq_true, Bool.and_eq_true, decide_eq_true_eq] at hwf
  exact (hwf a ha).1

/-- pairwise disjoint non-empty sets of numbers below `n`: there are at most `n` of them (choose a member of each) -/
theorem length_le_of_disjoint {α : Type} (held : α → List Nat) {n : Nat} (c : List α) (hne : ∀ b ∈ c, held b ≠ [])
    (hlt : ∀ b ∈ c, ∀ x ∈ held b, x < n) (hp : c.Pairwise fun a b => ∀ x, x ∈ held a → x ∉ held b) : c.length ≤ n := by
  let rep : α → Nat := fun a => (held a).headD 0
  have hrep : ∀ b ∈ c, rep b ∈ held b := by
    intro b hb
    have := hne b hb
    cases hh : held b with
    | nil => exact absurd hh this
    | cons x xs => simp [rep, hh]
  have hnd : (c.map rep).Nodup := by
    rw [List.Nodup, List.pairwise_map]
    refine hp.imp_of_mem ?_
    intro a b ha hb hab heq
    exact hab (rep a) (hrep a ha) (heq ▸ hrep b hb)
  have hsub : c.map rep ⊆ List.range n := by
    intro x hx
    obtain ⟨b, hb, rfl⟩ := List.mem_map.mp hx
    exact List.mem_range.mpr (hlt b hb _ (hrep b hb))
  have := hnd.length_le_of_subset hsub
  simpa using this

/-! ### completeness of the search -/

theorem disjointL_true {a b : List Nat} (h : ∀ x, x ∈ a → x ∉ b) : disjointL a b = true := by
  simp only [disjointL, List.all_eq_true]
  intro x hx
  simp [h x hx]

theorem dfs_complete (A : List Acq) :
    ∀ (rest : List Acq) (cur : Acq) (used : List Nat) (fuel : Nat) (first : Acq),
      chainTo cur rest first → (∀ b ∈ rest, b ∈ A) → (∀ b ∈ rest, ∀ x, x ∈ b.held → x ∉ used) →
      rest.Pairwise Disj → rest.length < fuel → dfs A fuel used cur first = true := by
  intro rest
  induction rest with
  | nil =>
    intro cur used fuel first hc _ _ _ hf
    cases fuel with
    | zero => simp at hf
    | succ f => simp [dfs, chainTo] at hc ⊢; exact Or.inl hc
  | cons b rest ih =>
    intro cur used fuel first hc hA hu hp hf
    cases fuel with
    | zero => simp at hf
    | succ f =>
      obtain ⟨hcb, hrest⟩ := hc
      rw [List.pairwise_cons] at hp
      have hrec : dfs A f (b.held ++ used) b first = true := by
        apply ih b (b.held ++ used) f first hrest
        · intro b' hb'; exact hA b' (List.mem_cons_of_mem _ hb')
        · intro b' hb' x hx hmem
          rcases List.mem_append.mp hmem with h1 | h1
          · exact hp.1 b' hb' x h1 hx
          · exact hu b' (List.mem_cons_of_mem _ hb') x hx h1
        · exact hp.2
        · simp at hf; omega
      have hd : disjointL b.held used = true := disjointL_true (hu b (List.mem_cons_self ..))
      simp only [dfs, Bool.or_eq_true, List.any_eq_true]
      right
      exact ⟨b, hA b (List.mem_cons_self ..), by simp [hcb, hd, hrec]⟩

theorem chainTo_nonempty : ∀ (rest : List Acq) (cur first : Acq), chainTo cur rest first →
    first.held ≠ [] ∧ ∀ b ∈ rest, b.held ≠ [] := by
  intro rest
  induction rest with
  | nil => intro cur first h; exact ⟨by intro e; simp [chainTo, e] at h, by simp⟩
  | cons b rest ih =>
    intro cur first h
    obtain ⟨h1, h2⟩ := h
    obtain ⟨hf, hr⟩ := ih b first h2
    refine ⟨hf, ?_⟩
    intro b' hb'
    rcases List.mem_cons.mp hb' with rfl | hb'
    · intro e; simp [e] at h1
    · exact hr b' hb'

/-- a feasible cycle is no longer than the number of locks (its held-sets are non-empty and
    pairwise disjoint) -/
theorem feasible_length_le {A : List Acq} {n : Nat} (hwf : wellFormed A n = true) (c : List Acq)
    (hA : ∀ b ∈ c, b ∈ A) (hne : ∀ b ∈ c, b.held ≠ []) (hp : c.Pairwise Disj) : c.length ≤ n := by
  simp only [wellFormed, List.all_eq_true, Bool.and_eq_true, decide_eq_true_eq] at hwf
  exact length_le_of_disjoint Acq.held c hne (fun b hb => (hwf b (hA b hb)).2) hp

theorem hasFeasibleCycle_complete {A : List Acq} {n : Nat} (hwf : wellFormed A n = true)
    (c : List Acq) (hc : FeasibleCycle A c) : hasFeasibleCycle A n = true := by
  cases c with
  | nil => exact hc.elim
  | cons a rest =>
    obtain ⟨hA, hp, hch⟩ := hc
    obtain ⟨hfne, hrne⟩ := chainTo_nonempty rest a a hch
    have hlen : (a :: rest).length ≤ n := feasible_length_le hwf (a :: rest) hA
      (by intro b hb; rcases List.mem_cons.mp hb with rfl | hb; exact hfne; exact hrne b hb) hp
    simp only [hasFeasibleCycle, List.any_eq_true]
    refine ⟨a, hA a (List.mem_cons_self ..), ?_⟩
    rw [List.pairwise_cons] at hp
    apply dfs_complete A rest a a.held n a hch
    · intro b hb; exact hA b (List.mem_cons_of_mem _ hb)
    · intro b hb x hx hxa; exact hp.1 b hb x hxa hx
    · exact hp.2
    · simp at hlen; omega

/-! ### from a wait-for cycle to a feasible cycle of the relation -/

theorem waitChain_waiting (s : State) : ∀ (rest : List Nat) (cur first : Nat), waitChain s cur rest first →
    ∀ u ∈ cur :: rest, ∃ l, (s u).wait = some l := by
  intro rest
  induction rest with
  | nil =>
    intro cur first h u hu
    simp at hu; subst hu
    obtain ⟨l, hl, _⟩ := h; exact ⟨l, hl⟩
  | cons v rest ih =>
    intro cur first h u hu
    obtain ⟨h1, h2⟩ := h
    rcases List.mem_cons.mp hu with rfl | hu
    · obtain ⟨l, hl, _⟩ := h1; exact ⟨l, hl⟩
    · exact ih v first h2 u hu

theorem deadlock_gives_feasible {A : List Acq} {s : State} (hi : Inv A s) (ts : List Nat)
    (hc : WaitCycle s ts) : ∃ c, FeasibleCycle A c := by
  cases ts with
  | nil => exact hc.elim
  | cons t rest =>
    obtain ⟨hnd, hch⟩ := hc
    -- choose the acquisition site of every waiting thread
    have hex : ∀ u, ∃ a : Acq, ∀ l, (s u).wait = some l → a ∈ A ∧ a.want = l ∧ SameSet a.held (s u).held := by
      intro u
      cases hw : (s u).wait with
      | none => exact ⟨⟨[], 0⟩, by intro l h; cases h⟩
      | some l =>
        obtain ⟨a, h1, h2, h3⟩ := hi.site u l hw
        exact ⟨a, by intro l' h; cases h; exact ⟨h1, h2, h3⟩⟩
    obtain ⟨f, hf⟩ := Classical.axiomOfChoice hex
    have hwait := waitChain_waiting s rest t t hch
    have link : ∀ u v, WaitsFor s u v → (∃ l, (s v).wait = some l) → (f u).want ∈ (f v).held := by
      intro u v ⟨l, hl, hlv⟩ ⟨l', hl'⟩
      rw [(hf u l hl).2.1]
      exact ((hf v l' hl').2.2 l).mpr hlv
    have chain : ∀ (rest : List Nat) (cur first : Nat), waitChain s cur rest first →
        (∀ u ∈ rest, ∃ l, (s u).wait = some l) → (∃ l, (s first).wait = some l) →
        chainTo (f cur) (rest.map f) (f first) := by
      intro rest
      induction rest with
      | nil => intro cur first h _ hfw; exact link cur first h hfw
      | cons v rest ih =>
        intro cur first h hr hfw
        obtain ⟨h1, h2⟩ := h
        exact ⟨link cur v h1 (hr v (List.mem_cons_self ..)),
          ih v first h2 (fun u hu => hr u (List.mem_cons_of_mem _ hu)) hfw⟩
    refine ⟨(t :: rest).map f, ?_⟩
    simp only [List.map_cons]
    refine ⟨?_, ?_, ?_⟩
    · intro b hb
      rw [← List.map_cons] at hb
      obtain ⟨u, hu, rfl⟩ := List.mem_map.mp hb
      obtain ⟨l, hl⟩ := hwait u hu
      exact (hf u l hl).1
    · rw [← List.map_cons, List.pairwise_map]
      refine (List.Pairwise.imp_of_mem ?_ hnd)
      intro u v hu hv huv x hxu hxv
      obtain ⟨lu, hlu⟩ := hwait u hu
      obtain ⟨lv, hlv⟩ := hwait v hv
      have h1 := ((hf u lu hlu).2.2 x).mp hxu
      have h2 := ((hf v lv hlv).2.2 x).mp hxv
      exact huv (hi.mutex u v x h1 h2)
    · exact chain rest t t hch (fun u hu => hwait u (List.mem_cons_of_mem _ hu)) (hwait t (List.mem_cons_self ..))

/-! ### progress: every blocked thread transitively waits for a thread that can take a step -/

/-- a forward path in the wait-for graph -/
def fwd (s : State) : List Nat → Prop
  | [] => True
  | [_] => True
  | a :: b :: r => WaitsFor s a b ∧ fwd s (b :: r)

theorem fwd_snoc (s : State) : ∀ (q : List Nat) (a b : Nat), fwd s (q ++ [a]) → WaitsFor s a b →
    fwd s (q ++ [a] ++ [b]) := by
  intro q
  induction q with
  | nil => intro a b _ hab; exact ⟨hab, trivial⟩
  | cons x q ih =>
    intro a b h hab
    cases q with
    | nil => exact ⟨h.1, hab, trivial⟩
    | cons y q' =>
      obtain ⟨hxy, hrest⟩ := h
      exact ⟨hxy, ih a b hrest hab⟩

theorem fwd_suffix (s : State) : ∀ (pre q : List Nat), fwd s (pre ++ q) → fwd s q := by
  intro pre
  induction pre with
  | nil => intro q h; exact h
  | cons x pre ih =>
    intro q h
    apply ih
    cases hpq : pre ++ q with
    | nil => trivial
    | cons y r => rw [List.cons_append, hpq] at h; exact h.2

/-- a forward path `a :: r` whose last element waits for `first` is a chain back to `first` -/
theorem waitChain_of_fwd (s : State) : ∀ (r : List Nat) (a last first : Nat), fwd s (a :: r) →
    (a :: r).getLast? = some last → WaitsFor s last first → waitChain s a r first := by
  intro r
  induction r with
  | nil => intro a last first _ hl hw; simp at hl; subst hl; exact hw
  | cons b r ih =>
    intro a last first h hl hw
    obtain ⟨hab, hrest⟩ := h
    refine ⟨hab, ih b last first hrest ?_ hw⟩
    simpa [List.getLast?_cons_cons] using hl

theorem fwd_tail_holds (s : State) : ∀ (p : List Nat) (a : Nat), fwd s (a :: p) → ∀ b ∈ p, (s b).held ≠ [] := by
  intro p
  induction p with
  | nil => intro a _ b hb; cases hb
  | cons c p ih =>
    intro a h b hb
    obtain ⟨⟨l, _, hl⟩, hrest⟩ := h
    rcases List.mem_cons.mp hb with rfl | hb
    · intro e; rw [e] at hl; cases hl
    · exact ih c hrest b hb

theorem path_length_le {A : List Acq} {n : Nat} {s : State} (hi : Inv A s) (hwf : wellFormed A n = true)
    (p : List Nat) (hnd : p.Nodup) (hne : ∀ b ∈ p, (s b).held ≠ []) : p.length ≤ n :=
  length_le_of_disjoint (fun t => (s t).held) p hne (fun b _ => held_lt hwf hi b)
    (hnd.imp fun hab x h1 h2 => hab (hi.mutex _ _ x h1 h2))

theorem progress {A : List Acq} {n : Nat} {s : State} (hi : Inv A s) (hwf : wellFormed A n = true)
    (hnd : ¬ Deadlock s) (t : Nat) : ∃ u, WaitsStar s t u ∧ Runnable s u := by
  -- follow the wait-for edges from `t` along a duplicate-free path `pre ++ [cur]`: a thread met twice closes a cycle,
  -- and all threads of the path but the first hold a lock, so the path has at most `n + 1` of them
  suffices ∀ (fuel : Nat) (pre : List Nat) (cur : Nat), (pre ++ [cur]).Nodup → fwd s (pre ++ [cur]) →
      n + 2 ≤ (pre ++ [cur]).length + fuel → ∃ u, WaitsStar s cur u ∧ Runnable s u from
    this (n + 1) [] t (by simp) trivial (by simp; omega)
  intro fuel
  induction fuel with
  | zero =>
    intro pre cur hn hf hlen
    exfalso
    -- all elements but the first hold a lock: at most n of them
    cases hp : pre ++ [cur] with
    | nil => simp at hp
    | cons a p =>
      rw [hp] at hn hf hlen
      have := path_length_le hi hwf p (List.nodup_cons.mp hn).2 (fwd_tail_holds s p a hf)
      simp at hlen; omega
  | succ fuel ih =>
    intro pre cur hn hf hlen
    by_cases hr : Runnable s cur
    · exact ⟨cur, .refl cur, hr⟩
    · simp only [Runnable, not_or] at hr
      obtain ⟨hw, hfree⟩ := hr
      cases hwc : (s cur).wait with
      | none => exact absurd hwc hw
      | some l =>
        have : ¬ ∀ v, l ∉ (s v).held := fun h => hfree ⟨l, hwc, h⟩
        obtain ⟨v, hv⟩ := Classical.not_forall.mp this
        have hv : l ∈ (s v).held := Classical.not_not.mp hv
        have hcv : WaitsFor s cur v := ⟨l, hwc, hv⟩
        by_cases hmem : v ∈ pre ++ [cur]
        · -- a cycle: contradiction with deadlock freedom
          exfalso
          obtain ⟨p1, p2, hsplit⟩ := List.append_of_mem hmem
          apply hnd
          refine ⟨v :: p2, ?_, ?_⟩
          · rw [hsplit] at hn
            exact (List.nodup_append.mp hn).2.1
          · have hf2 : fwd s (v :: p2) := fwd_suffix s p1 (v :: p2) (hsplit ▸ hf)
            have hlast : (v :: p2).getLast? = some cur := by
              have : (pre ++ [cur]).getLast? = some cur := by simp
              rw [hsplit, List.getLast?_append] at this
              cases hgl : (v :: p2).getLast? with
              | none => simp at hgl
              | some z => rw [hgl] at this; simpa using this
            exact waitChain_of_fwd s p2 v cur v hf2 hlast hcv
        · have hn' : (pre ++ [cur] ++ [v]).Nodup := by
            rw [List.nodup_append]
            refine ⟨hn, by simp, ?_⟩
            intro a ha b hb
            simp at hb; subst hb
            intro e; subst e; exact hmem ha
          obtain ⟨u, hvu, hru⟩ := ih (pre ++ [cur]) v hn' (fwd_snoc s pre cur v hf hcv) (by simp at hlen ⊢; omega)
          exact ⟨u, .step hcv hvu, hru⟩

end Nervus.LockLTS
