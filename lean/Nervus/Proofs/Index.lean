/-
  C15 on the repaired configuration `Cfg.fixed`.  The invariant `Inv` says of every index that it
  holds exactly one entry per node whose creation label is the index label and that has the indexed
  property (`GoodEs`, stated against an abstract view so that it can be carried through the `IndexOp`
  loop one final state at a time).  Every operation of a history outside the two known triggers
  keeps it; the two `Mode`s are the two ways of being outside C15-removed-prop-resurrects.  Under it
  the IndexSeek plan produces the rows of the scan plan (`queryRows_eq_scan`), and the history
  without its `create_index` calls runs to the same state minus the indexes (`run_strip`).
-/
import Nervus.Proofs.ListBasics
import Nervus.Spec.IndexFree
namespace Nervus.Index
open Nervus Nervus.OKey

/-! ### memtable -/

def KeysNodup (m : PropMap) : Prop := (m.map (·.1)).Nodup

theorem upsert_keysNodup (m : PropMap) (nk : Nat × Key) (o : Option OV) (h : KeysNodup m) :
    KeysNodup (upsert m nk o) := by
  refine List.nodup_cons.mpr ⟨fun hin => ?_, h.sublist (List.filter_sublist.map _)⟩
  obtain ⟨e, he, rfl⟩ := List.mem_map.mp hin
  simpa using (List.mem_filter.mp he).2

theorem memApply_keysNodup (r : Run) (op : TxOp) (h : KeysNodup r.props) :
    KeysNodup (memApply r op).props := by
  cases op <;> first | exact h | exact upsert_keysNodup _ _ _ h

theorem memOf_keysNodup (tx : List TxOp) : KeysNodup (memOf tx).props :=
  List.foldlRecOn tx memApply (b := ⟨[], []⟩) (motive := fun r : Run => KeysNodup r.props) List.nodup_nil
    fun r h op _ => memApply_keysNodup r op h

theorem mem_upsert {m : PropMap} {nk : Nat × Key} {o : Option OV} {e : (Nat × Key) × Option OV}
    (h : e ∈ upsert m nk o) : e = (nk, o) ∨ e ∈ m :=
  (List.mem_cons.mp h).imp_right fun h => (List.mem_filter.mp h).1

theorem mem_memOf {tx : List TxOp} {n : Nat} {k : Key} {o : Option OV} :
    ((n, k), o) ∈ (memOf tx).props → (match o with | some v => TxOp.set n k v | none => TxOp.rem n k) ∈ tx := by
  refine List.foldlRecOn tx memApply (b := ⟨[], []⟩) (motive := fun r : Run => ((n, k), o) ∈ r.props → _)
    (fun h => nomatch h) ?_
  intro r ih op hop h
  cases op <;> first
    | exact ih h
    | (rcases mem_upsert h with heq | h
       · cases heq; exact hop
       · exact ih h)

theorem lookup_none_of_not_key {m : PropMap} {nk : Nat × Key}
    (h : ∀ o, (nk, o) ∉ m) : m.lookup nk = none :=
  List.lookup_eq_none_iff.mpr fun p hp => bne_iff_ne.mpr fun heq => h p.2 (heq ▸ hp)

/-! ### the two ways out of the C15-removed-prop-resurrects trigger -/

inductive Mode
  | noRem      -- the history never removes a property
  | noCompact  -- the history never compacts

def ModeInv : Mode → State → Prop
  | .noRem, s => ∀ r, r ∈ s.runs → ∀ e, e ∈ r.props → e.2.isSome = true
  | .noCompact, s => s.store = []

def ModeOp : Mode → Op → Prop
  | .noRem, op => isRemTx op = false
  | .noCompact, op => isCompact op = false

theorem memOf_noRem {tx : List TxOp} (h : isRemTx (.commit tx) = false) {e : (Nat × Key) × Option OV}
    (he : e ∈ (memOf tx).props) : e.2.isSome = true := by
  obtain ⟨⟨n, k⟩, _ | v⟩ := e
  · have : isRemTx (.commit tx) = true := List.any_eq_true.mpr ⟨_, mem_memOf he, rfl⟩
    rw [h] at this; cases this
  · rfl

/-! ### the read view across `commit` -/

theorem commit_prop_raw (cfg : Cfg) (s : State) (tx : List TxOp) (n : Nat) (k : Key) :
    (commit cfg s tx).prop n k =
      match (memOf tx).props.lookup (n, k) with
      | some (some v) => some v
      | some none => s.store.lookup (n, k)
      | none => s.prop n k := by
  show (match runsHit (if (memOf tx).isEmpty then s.runs else memOf tx :: s.runs) n k with
    | some (some v) => some v | _ => s.store.lookup (n, k)) = _
  cases he : (memOf tx).isEmpty with
  | true =>
    have hp : (memOf tx).props = [] := List.isEmpty_iff.mp (Bool.and_eq_true_iff.mp he).2
    rw [hp]; rfl
  | false =>
    simp only [Bool.false_eq_true, if_false, runsHit]
    rcases (memOf tx).props.lookup (n, k) with _ | _ | _ <;> rfl

/-- the case `some none` of `commit_prop_raw` (a removal marker falls through to the store) is
    what the modes are there to exclude: `noRem` has no marker, `noCompact` an empty store -/
theorem commit_prop (cfg : Cfg) (m : Mode) (s : State) (tx : List TxOp) (n : Nat) (k : Key)
    (hm : ModeInv m s) (ho : ModeOp m (.commit tx)) :
    (commit cfg s tx).prop n k =
      match (memOf tx).props.lookup (n, k) with
      | some o => o
      | none => s.prop n k := by
  rw [commit_prop_raw]
  cases hl : (memOf tx).props.lookup (n, k) with
  | none => rfl
  | some o =>
    cases o with
    | some v => rfl
    | none =>
      cases m with
      | noRem => cases memOf_noRem ho (mem_of_lookup_eq_some hl)
      | noCompact => show s.store.lookup (n, k) = none; rw [show s.store = [] from hm]; rfl

/-! ### nodes: creation label and labels across `applyLabels` -/

def firstOf (ns : List Node) (n : Nat) : Option Label :=
  match ns[n]? with
  | some nd => nd.first
  | none => none

def hasLabelOf (ns : List Node) (n : Nat) (l : Label) : Bool :=
  match ns[n]? with
  | some nd => nd.labels.contains l
  | none => false

theorem State.first_eq (s : State) (n : Nat) : s.first n = firstOf s.nodes n := rfl
theorem State.hasLabel_eq (s : State) (n : Nat) (l : Label) : s.hasLabel n l = hasLabelOf s.nodes n l := rfl

theorem firstOf_eq_getElem?_map (ns : List Node) (n : Nat) :
    (ns.map (·.first))[n]? = (ns[n]?).map (·.first) := List.getElem?_map

theorem firstOf_eq_join (ns : List Node) (n : Nat) : firstOf ns n = ((ns.map (·.first))[n]?).join := by
  unfold firstOf
  rw [List.getElem?_map]
  cases ns[n]? <;> rfl

theorem firstOf_congr {ns ms : List Node} (h : ns.map (·.first) = ms.map (·.first)) (n : Nat) :
    firstOf ns n = firstOf ms n := by
  rw [firstOf_eq_join, firstOf_eq_join, h]

theorem length_of_firsts_eq {ns ms : List Node} (h : ns.map (·.first) = ms.map (·.first)) :
    ns.length = ms.length := by
  simpa using congrArg List.length h

theorem firstOf_of_firsts {ns : List Node} {n : Nat} {l : Label}
    (h : ((ns.map (·.first))[n]? == some (some l)) = true) : firstOf ns n = some l := by
  rw [firstOf_eq_join, eq_of_beq h]; rfl

theorem firstOf_append_left (ns ms : List Node) (n : Nat) (h : n < ns.length) :
    firstOf (ns ++ ms) n = firstOf ns n := by
  unfold firstOf; rw [List.getElem?_append_left h]

theorem firstOf_lt {ns : List Node} {n : Nat} {l : Label} (h : firstOf ns n = some l) : n < ns.length := by
  unfold firstOf at h
  rcases Nat.lt_or_ge n ns.length with hl | hl
  · exact hl
  · rw [List.getElem?_eq_none hl] at h; cases h

theorem hasLabelOf_lt {ns : List Node} {n : Nat} {l : Label} (h : hasLabelOf ns n l = true) : n < ns.length := by
  unfold hasLabelOf at h
  rcases Nat.lt_or_ge n ns.length with hl | hl
  · exact hl
  · rw [List.getElem?_eq_none hl] at h; cases h

theorem own_iff (ns : List Node) :
    (∀ n l, hasLabelOf ns n l = true → firstOf ns n = some l) ↔
      ∀ nd, nd ∈ ns → ∀ l, nd.labels.contains l = true → nd.first = some l := by
  unfold hasLabelOf firstOf
  constructor
  · intro h nd hnd l hl
    obtain ⟨n, hn⟩ := List.mem_iff_getElem?.mp hnd
    have := h n l
    rw [hn] at this
    exact this hl
  · intro h n l hl
    cases hn : ns[n]? with
    | none => rw [hn] at hl; cases hl
    | some nd => rw [hn] at hl; exact h nd (List.mem_of_getElem? hn) l hl

theorem newNode_own (o : Option Label) (l : Label) (h : (newNode o).labels.contains l = true) :
    (newNode o).first = some l := by
  cases o with
  | none => cases h
  | some x => simp only [newNode, List.contains_cons, List.contains_nil, Bool.or_false, beq_iff_eq] at h; rw [h]; rfl

theorem map_first_newNode (ls : List (Option Label)) : (ls.map newNode).map (·.first) = ls :=
  (List.map_map ..).trans (List.map_id ls)

theorem map_first_modify (ns : List Node) (i : Nat) (f : Node → Node) (hf : ∀ nd, (f nd).first = nd.first) :
    (ns.modify i f).map (·.first) = ns.map (·.first) := by
  apply List.ext_getElem?
  intro j
  rw [List.getElem?_map, List.getElem?_map, List.getElem?_modify]
  cases ns[j]? with
  | none => rfl
  | some nd => simp only [Option.map_eq_map, Option.map_some]; split <;> simp [hf]

theorem applyLabels_firsts (ns : List Node) (tx : List TxOp) :
    (applyLabels ns tx).map (·.first) = ns.map (·.first) := by
  unfold applyLabels
  refine List.foldlRecOn _ _ (motive := fun ns' : List Node => ns'.map (·.first) = ns.map (·.first))
    (List.foldlRecOn _ _ (motive := fun ns' : List Node => ns'.map (·.first) = ns.map (·.first)) rfl ?_) ?_
  · intro ns' ih p _
    exact (map_first_modify _ _ _ fun nd => by split <;> rfl).trans ih
  · intro ns' ih p _
    exact (map_first_modify _ _ _ fun _ => by rfl).trans ih

/-- a label read after `modify i f` was there before unless `i` is the node read and `f` put it
    there (`P`: what is known of a label that `f` adds) -/
theorem hasLabelOf_modify {ns : List Node} {i : Nat} {f : Node → Node} {n : Nat} {l : Label} (P : Prop)
    (hf : ∀ nd, (f nd).labels.contains l = true → nd.labels.contains l = true ∨ P)
    (h : hasLabelOf (ns.modify i f) n l = true) : hasLabelOf ns n l = true ∨ (i = n ∧ P) := by
  unfold hasLabelOf at *
  rw [List.getElem?_modify] at h
  cases hn : ns[n]? with
  | none => rw [hn] at h; cases h
  | some nd =>
    rw [hn] at h
    simp only [Option.map_eq_map, Option.map_some] at h
    by_cases hi : i = n
    · rw [if_pos hi] at h; exact (hf nd h).imp_right fun p => ⟨hi, p⟩
    · rw [if_neg hi] at h; exact Or.inl h

theorem applyLabels_hasLabel (ns : List Node) (tx : List TxOp) (n : Nat) (l : Label)
    (h : hasLabelOf (applyLabels ns tx) n l = true) :
    hasLabelOf ns n l = true ∨ TxOp.labelAdd n l ∈ tx := by
  revert h
  unfold applyLabels
  refine List.foldlRecOn _ _ (motive := fun ns' : List Node => hasLabelOf ns' n l = true → _)
    (List.foldlRecOn _ _ (motive := fun ns' : List Node => hasLabelOf ns' n l = true → _) Or.inl ?_) ?_
  · intro ns' ih p hp h
    refine (hasLabelOf_modify (p.2 = l) (fun nd hc => ?_) h).elim ih fun ⟨h1, h2⟩ => Or.inr ?_
    · split at hc
      · exact Or.inl hc
      · exact (List.mem_cons.mp (List.contains_iff_mem.mp hc)).symm.imp List.contains_iff_mem.mpr Eq.symm
    · obtain ⟨op, hop, hf⟩ := List.mem_filterMap.mp hp
      cases op <;> cases hf
      rw [← h1, ← h2]; exact hop
  · intro ns' ih p _ h
    refine ih ((hasLabelOf_modify False (fun nd hc => Or.inl ?_) h).resolve_right And.right)
    exact List.contains_iff_mem.mpr (List.mem_filter.mp (List.contains_iff_mem.mp hc)).1

/-! ### index content -/

/-- what the entries of an index on `(lbl, key)` with id `id` must be w.r.t. a view
    (`N` nodes, creation labels `first`, values `pk n` of the indexed key) -/
def GoodEs (N : Nat) (first : Nat → Option Label) (pk : Nat → Option OV) (lbl : Label) (id : Nat)
    (es : List (Bytes × Nat)) : Prop :=
  es.Nodup ∧ ∀ b n, (b, n) ∈ es ↔
    (n < N ∧ first n = some lbl ∧ ∃ v, pk n = some v ∧ b = encIndexKey id v n)

theorem entryKey_fixed (id : Nat) (v : OV) (n : Nat) : entryKey Cfg.fixed id v n = encIndexKey id v n := rfl
theorem idxInsert_fixed (es : List (Bytes × Nat)) (e : Bytes × Nat) : idxInsert Cfg.fixed es e = e :: es := rfl
theorem idxDelete_fixed (es : List (Bytes × Nat)) (e : Bytes × Nat) : idxDelete Cfg.fixed es e = es.erase e := rfl

theorem GoodEs_congr {N N' : Nat} {first first' : Nat → Option Label} {pk pk' : Nat → Option OV}
    {lbl : Label} {id : Nat} {es : List (Bytes × Nat)}
    (h : GoodEs N first pk lbl id es) (hN : N = N') (hf : ∀ n, first n = first' n)
    (hp : ∀ n, n < N → first n = some lbl → pk n = pk' n) :
    GoodEs N' first' pk' lbl id es := by
  subst hN
  cases funext hf
  refine ⟨h.1, fun b n => (h.2 b n).trans ?_⟩
  constructor <;> rintro ⟨h1, h2, h3⟩
  · exact ⟨h1, h2, hp n h1 h2 ▸ h3⟩
  · exact ⟨h1, h2, (hp n h1 h2).symm ▸ h3⟩

theorem GoodEs_grow {N N' : Nat} {first first' : Nat → Option Label} {pk : Nat → Option OV}
    {lbl : Label} {id : Nat} {es : List (Bytes × Nat)}
    (h : GoodEs N first pk lbl id es) (hN : N ≤ N') (hf : ∀ n, n < N → first' n = first n)
    (hp : ∀ n, N ≤ n → pk n = none) :
    GoodEs N' first' pk lbl id es := by
  refine ⟨h.1, fun b n => (h.2 b n).trans ?_⟩
  constructor
  · rintro ⟨h1, h2, h3⟩; exact ⟨Nat.lt_of_lt_of_le h1 hN, (hf n h1).trans h2, h3⟩
  · rintro ⟨_, h2, v, hv, hb⟩
    have hn : n < N := Nat.lt_of_not_le fun hge => by rw [hp n hge] at hv; cases hv
    exact ⟨hn, (hf n hn).symm.trans h2, v, hv, hb⟩

/-- removing the (only possible) entry of node `n` -/
theorem erase_old {N : Nat} {first : Nat → Option Label} {pk : Nat → Option OV} {lbl : Label} {id : Nat}
    {es : List (Bytes × Nat)} (hg : GoodEs N first pk lbl id es) (n : Nat) :
    let es1 := match pk n with
      | some v => es.erase (encIndexKey id v n, n)
      | none => es
    es1.Nodup ∧ ∀ b m, (b, m) ∈ es1 ↔ (m ≠ n ∧ (b, m) ∈ es) := by
  obtain ⟨hnd, hmem⟩ := hg
  have hkey : ∀ b, (b, n) ∈ es → ∃ v, pk n = some v ∧ b = encIndexKey id v n :=
    fun b h => ((hmem b n).mp h).2.2
  cases hp : pk n with
  | none =>
    refine ⟨hnd, fun b m => ⟨fun h => ⟨?_, h⟩, And.right⟩⟩
    rintro rfl
    obtain ⟨v, hv, _⟩ := hkey b h
    rw [hp] at hv; cases hv
  | some v =>
    refine ⟨hnd.erase _, fun b m => ?_⟩
    rw [hnd.mem_erase_iff]
    refine and_congr_left fun hin => ⟨fun hne => ?_, fun hne heq => hne (Prod.mk.inj heq).2⟩
    rintro rfl
    obtain ⟨v', hv', rfl⟩ := hkey b hin
    rw [hp] at hv'; cases hv'
    exact hne rfl

theorem step_good (pre : State) (nodes' : List Node) (d : IndexDef) (pk : Nat → Option OV)
    (es : List (Bytes × Nat)) (n : Nat) (k : Key) (o : Option OV)
    (hg : GoodEs nodes'.length (firstOf nodes') pk d.label d.id es)
    (hn : n < nodes'.length)
    (hpk : k = d.key → pk n = pre.prop n k)
    (hb : pre.nodes.length ≤ n → pre.prop n d.key = none) :
    GoodEs nodes'.length (firstOf nodes') (fun m => if k = d.key ∧ m = n then o else pk m) d.label d.id
      (indexOne Cfg.fixed pre nodes' d es ((n, k), o)) := by
  obtain ⟨nd, hnd⟩ : ∃ nd, nodes'[n]? = some nd := ⟨nodes'[n], List.getElem?_eq_getElem hn⟩
  have hfirst : firstOf nodes' n = nd.first := by unfold firstOf; rw [hnd]
  by_cases hit : k = d.key ∧ nd.first = some d.label
  · obtain ⟨rfl, hl⟩ := hit
    obtain ⟨hnd1, hmem1⟩ := erase_old hg n
    have hres : indexOne Cfg.fixed pre nodes' d es ((n, d.key), o) =
        (match o with
         | some v => (encIndexKey d.id v n, n) ::
             (match pk n with | some old => es.erase (encIndexKey d.id old n, n) | none => es)
         | none => (match pk n with | some old => es.erase (encIndexKey d.id old n, n) | none => es)) := by
      rw [hpk rfl]
      unfold indexOne
      simp only [bne_self_eq_false, Bool.false_eq_true, if_false, hnd, hl, entryKey_fixed,
        idxInsert_fixed, idxDelete_fixed]
      by_cases hnew : pre.nodes.length ≤ n
      · simp only [hnew, if_true, hb hnew]
        cases o <;> rfl
      · simp only [hnew, if_false]
        cases o <;> rfl
    rw [hres]
    cases o with
    | none =>
      refine ⟨hnd1, fun b m => ?_⟩
      rw [hmem1 b m, hg.2 b m]
      by_cases hmn : m = n
      · subst hmn; simp
      · simp [hmn]
    | some v =>
      refine ⟨List.nodup_cons.mpr ⟨fun hin => ((hmem1 _ _).mp hin).1 rfl, hnd1⟩, fun b m => ?_⟩
      rw [List.mem_cons, hmem1 b m, hg.2 b m]
      by_cases hmn : m = n
      · subst hmn
        simp only [ne_eq, not_true_eq_false, false_and, or_false, and_self, if_true]
        constructor
        · intro h; cases h
          exact ⟨hn, hfirst.trans hl, v, rfl, rfl⟩
        · rintro ⟨_, _, v', hv', hb'⟩
          cases hv'; rw [hb']
      · have : (b, m) ≠ (encIndexKey d.id v n, n) := fun heq => hmn (Prod.mk.inj heq).2
        simp [hmn, this]
  · -- the index does not apply: its content stays, and `pk` changes where the content does not look
    have h1 : indexOne Cfg.fixed pre nodes' d es ((n, k), o) = es := by
      unfold indexOne
      by_cases hk : k = d.key
      · simp [hk, hnd, show nd.first ≠ some d.label from fun hl => hit ⟨hk, hl⟩]
      · simp [hk]
    rw [h1]
    refine GoodEs_congr hg rfl (fun _ => rfl) fun m _ hm => (if_neg ?_).symm
    rintro ⟨hk, rfl⟩
    exact hit ⟨hk, hfirst.symm.trans hm⟩

theorem keysNodup_cons {e : (Nat × Key) × Option OV} {L : PropMap} (h : KeysNodup (e :: L)) :
    (∀ o, (e.1, o) ∉ L) ∧ KeysNodup L :=
  have h := List.nodup_cons.mp h
  ⟨fun o hin => h.1 (List.mem_map.mpr ⟨(e.1, o), hin, rfl⟩), h.2⟩

/-- the whole `IndexOp` loop over a list of final states with distinct keys: the content follows the
    view to any `pk'` that reads the listed states where there is one and `pk` elsewhere -/
theorem fold_good (pre : State) (nodes' : List Node) (d : IndexDef)
    (hb : ∀ n, pre.nodes.length ≤ n → pre.prop n d.key = none) (pk' : Nat → Option OV) :
    ∀ (L : PropMap) (es : List (Bytes × Nat)) (pk : Nat → Option OV),
      KeysNodup L →
      (∀ e, e ∈ L → e.1.1 < nodes'.length) →
      GoodEs nodes'.length (firstOf nodes') pk d.label d.id es →
      (∀ n o, ((n, d.key), o) ∈ L → pk n = pre.prop n d.key ∧ pk' n = o) →
      (∀ n, (∀ o, ((n, d.key), o) ∉ L) → pk' n = pk n) →
      GoodEs nodes'.length (firstOf nodes') pk' d.label d.id
        (L.foldl (indexOne Cfg.fixed pre nodes' d) es) := by
  intro L
  induction L with
  | nil =>
    intro es pk _ _ hg _ hout
    exact GoodEs_congr hg rfl (fun _ => rfl) fun n _ _ => (hout n fun _ h => nomatch h).symm
  | cons e L ih =>
    intro es pk hkn hlt hg hin hout
    obtain ⟨⟨n, k⟩, o⟩ := e
    obtain ⟨hnot, hkn'⟩ := keysNodup_cons hkn
    refine ih _ _ hkn' (fun e he => hlt e (List.mem_cons_of_mem _ he))
      (step_good pre nodes' d pk es n k o hg (hlt _ List.mem_cons_self)
        (by rintro rfl; exact (hin n o List.mem_cons_self).1) (hb n)) ?_ ?_
    · intro m o' hm
      have hne : ¬(k = d.key ∧ m = n) := by rintro ⟨rfl, rfl⟩; exact hnot o' hm
      simp only [if_neg hne]
      exact hin m o' (List.mem_cons_of_mem _ hm)
    · intro m hm
      by_cases hc : k = d.key ∧ m = n
      · obtain ⟨rfl, rfl⟩ := hc
        simp only [and_self, if_true]
        exact (hin m o List.mem_cons_self).2
      · simp only [if_neg hc]
        refine hout m fun o' h' => ?_
        rcases List.mem_cons.mp h' with heq | h'
        · cases heq; exact hc ⟨rfl, rfl⟩
        · exact hm o' h'

theorem indexTx_good (pre : State) (nodes' : List Node) (props : PropMap) (d : IndexDef)
    (hkn : KeysNodup props)
    (hlt : ∀ e, e ∈ props → e.1.1 < nodes'.length)
    (hb : ∀ n, pre.nodes.length ≤ n → pre.prop n d.key = none)
    (hg : GoodEs nodes'.length (firstOf nodes') (fun n => pre.prop n d.key) d.label d.id d.entries)
    (pk' : Nat → Option OV) (hin : ∀ n o, ((n, d.key), o) ∈ props → pk' n = o)
    (hout : ∀ n, (∀ o, ((n, d.key), o) ∉ props) → pk' n = pre.prop n d.key) :
    GoodEs nodes'.length (firstOf nodes') pk' d.label d.id (indexTx Cfg.fixed pre nodes' props d).entries := by
  -- sets first, removals second: a rearrangement of the map, and the keys are distinct
  have hperm : (props.filter (fun e => e.2.isSome) ++ props.filter (fun e => e.2.isNone)).Perm props := by
    rw [show (fun e : (Nat × Key) × Option OV => e.2.isNone) = fun e => !e.2.isSome from
      funext fun e => (Option.not_isSome _).symm]
    exact List.filter_append_perm _ _
  exact fold_good pre nodes' d hb pk' _ d.entries _ ((hperm.map _).nodup_iff.mpr hkn)
    (fun e he => hlt e (hperm.mem_iff.mp he)) hg
    (fun n o h => ⟨rfl, hin n o (hperm.mem_iff.mp h)⟩)
    (fun n h => hout n fun o ho => h o (hperm.mem_iff.mpr ho))

/-! ### the state invariant -/

structure Inv (m : Mode) (s : State) : Prop where
  /-- no property is known for an id that is not a node yet -/
  bounded : ∀ n k, s.nodes.length ≤ n → s.prop n k = none
  /-- every index holds exactly one entry per node whose creation label is the index label and
      that has the indexed property (live or not) -/
  good : ∀ d, d ∈ s.indexes →
    GoodEs s.nodes.length (firstOf s.nodes) (fun n => s.prop n d.key) d.label d.id d.entries
  /-- outside the C15-nonfirst-label trigger a node only ever carries its creation label -/
  own : ∀ n l, hasLabelOf s.nodes n l = true → firstOf s.nodes n = some l
  /-- … and so do the label additions that a reopen would replay -/
  pend : ∀ p, p ∈ s.pending → ∀ n l, TxOp.labelAdd n l ∈ p.2 → firstOf s.nodes n = some l
  mode : ModeInv m s

/-- what the history-level checks say about one committed transaction in state `s` -/
def TxOK (s : State) (tx : List TxOp) : Prop :=
  ∀ op, op ∈ tx →
    wfOp (s.nodes.map (·.first) ++ createdLabels tx) op = true ∧
    ownLabelOp (s.nodes.map (·.first) ++ createdLabels tx) op = true

def nodesC (s : State) (tx : List TxOp) : List Node := s.nodes ++ (createdLabels tx).map newNode

theorem nodesC_firsts (s : State) (tx : List TxOp) :
    (nodesC s tx).map (·.first) = s.nodes.map (·.first) ++ createdLabels tx := by
  unfold nodesC
  rw [List.map_append, map_first_newNode]

theorem commit_inv (m : Mode) (s : State) (tx : List TxOp) (h : Inv m s)
    (hop : ModeOp m (.commit tx)) (hok : TxOK s tx) : Inv m (commit Cfg.fixed s tx) := by
  have hfs : (commit Cfg.fixed s tx).nodes.map (·.first) = (nodesC s tx).map (·.first) :=
    applyLabels_firsts _ _
  have hlen := length_of_firsts_eq hfs
  have hfirst := firstOf_congr hfs
  have hle : s.nodes.length ≤ (nodesC s tx).length := by
    unfold nodesC; rw [List.length_append]; exact Nat.le_add_right _ _
  have hfirst_old : ∀ n, n < s.nodes.length → firstOf (nodesC s tx) n = firstOf s.nodes n :=
    fun n hn => firstOf_append_left _ _ n hn
  have hkeys : ∀ e, e ∈ (memOf tx).props → e.1.1 < (nodesC s tx).length := by
    rintro ⟨⟨n, k⟩, o⟩ he
    rw [← List.length_map (f := (·.first)), nodesC_firsts]
    cases o <;> exact of_decide_eq_true (hok _ (mem_memOf he)).1
  have hown : ∀ n l, TxOp.labelAdd n l ∈ tx → firstOf (nodesC s tx) n = some l := fun n l hin =>
    firstOf_of_firsts (by rw [nodesC_firsts]; exact (hok _ hin).2)
  have hprop := fun n k => commit_prop Cfg.fixed m s tx n k h.mode hop
  refine ⟨?_, ?_, ?_, ?_, ?_⟩
  · intro n k hn
    rw [hlen] at hn
    have : (memOf tx).props.lookup (n, k) = none :=
      lookup_none_of_not_key fun o hin => Nat.lt_irrefl _ (Nat.lt_of_lt_of_le (hkeys _ hin) hn)
    rw [hprop, this]
    exact h.bounded n k (Nat.le_trans hle hn)
  · intro d' hd'
    obtain ⟨d, hd, rfl⟩ := List.mem_map.mp (show d' ∈ s.indexes.map _ from hd')
    have hg := indexTx_good s (nodesC s tx) (memOf tx).props d (memOf_keysNodup tx) hkeys
      (fun n hn => h.bounded n d.key hn)
      (GoodEs_grow (h.good d hd) hle hfirst_old fun n hn => h.bounded n d.key hn)
      (fun n => (commit Cfg.fixed s tx).prop n d.key)
      (fun n o hin => by rw [hprop, lookup_eq_some_of_mem_nodup (memOf_keysNodup tx) hin])
      (fun n hno => by rw [hprop, lookup_none_of_not_key hno])
    exact GoodEs_congr hg hlen.symm (fun n => (hfirst n).symm) fun _ _ _ => rfl
  · intro n l hl
    rw [hfirst]
    rcases applyLabels_hasLabel _ _ n l hl with h1 | h1
    · refine (own_iff _).mpr (fun nd hnd l hc => ?_) n l h1
      rcases List.mem_append.mp hnd with hnd | hnd
      · exact (own_iff _).mp h.own nd hnd l hc
      · obtain ⟨o, _, rfl⟩ := List.mem_map.mp hnd
        exact newNode_own o l hc
    · exact hown n l h1
  · intro p hp n l hin
    rw [hfirst]
    rcases List.mem_append.mp (show p ∈ s.pending ++ [(!(memOf tx).isEmpty, tx)] from hp) with hp1 | hp1
    · have := h.pend p hp1 n l hin
      rwa [hfirst_old n (firstOf_lt this)]
    · cases List.mem_singleton.mp hp1
      exact hown n l hin
  · cases m with
    | noCompact => exact h.mode
    | noRem =>
      intro r hr e he
      have hr' : r ∈ (if (memOf tx).isEmpty then s.runs else memOf tx :: s.runs) := hr
      split at hr'
      · exact h.mode r hr' e he
      · rcases List.mem_cons.mp hr' with rfl | hr'
        · exact memOf_noRem hop he
        · exact h.mode r hr' e he

/-! ### create_index (with backfill) -/

theorem foldl_insert_fixed (L : List (Bytes × Nat)) (acc : List (Bytes × Nat)) :
    L.foldl (idxInsert Cfg.fixed) acc = L.reverse ++ acc := by
  induction L generalizing acc with
  | nil => rfl
  | cons e L ih => simp only [List.foldl_cons, idxInsert_fixed, ih, List.reverse_cons, List.append_assoc]; rfl

theorem backfill_some_iff (s : State) (l : Label) (k : Key) (id n : Nat) (e : Bytes × Nat) :
    (if s.first n == some l then (s.prop n k).map (fun v => (entryKey Cfg.fixed id v n, n)) else none) = some e ↔
      firstOf s.nodes n = some l ∧ ∃ v, s.prop n k = some v ∧ e = (encIndexKey id v n, n) := by
  rw [State.first_eq]
  by_cases hf : firstOf s.nodes n = some l
  · simp only [hf, beq_self_eq_true, if_true, true_and, Option.map_eq_some_iff, entryKey_fixed]
    exact exists_congr fun v => and_congr_right fun _ => eq_comm
  · simp [hf]

theorem backfill_good (s : State) (l : Label) (k : Key) (id : Nat) :
    GoodEs s.nodes.length (firstOf s.nodes) (fun n => s.prop n k) l id
      ((backfillEntries Cfg.fixed s l k id).foldl (idxInsert Cfg.fixed) []) := by
  rw [foldl_insert_fixed, List.append_nil]
  unfold backfillEntries
  constructor
  · -- distinct nodes, distinct payloads
    refine List.pairwise_reverse.mpr (List.nodup_range.filterMap _ fun a a' hne b hb b' hb' heq => hne ?_)
    obtain ⟨_, _, _, rfl⟩ := (backfill_some_iff ..).mp hb
    obtain ⟨_, _, _, rfl⟩ := (backfill_some_iff ..).mp hb'
    exact (Prod.mk.inj heq).2.symm
  · intro b n
    simp only [List.mem_reverse, List.mem_filterMap, List.mem_range, backfill_some_iff]
    constructor
    · rintro ⟨n', hn', hf, v, hv, he⟩; cases he; exact ⟨hn', hf, v, hv, rfl⟩
    · rintro ⟨hn, hf, v, hv, rfl⟩; exact ⟨n, hn, hf, v, hv, rfl⟩

theorem createIndex_inv (m : Mode) (s : State) (l : Label) (k : Key) (h : Inv m s) :
    Inv m (createIndex Cfg.fixed s l k) := by
  unfold createIndex
  split
  · exact h
  · refine ⟨h.bounded, fun d hd => ?_, h.own, h.pend, by cases m <;> exact h.mode⟩
    rcases List.mem_append.mp hd with hd | hd
    · exact h.good d hd
    · cases List.mem_singleton.mp hd
      exact backfill_good s l k s.nextIndexId

/-! ### compaction -/

theorem lookup_sunk_run (ps : PropMap) (hs : ∀ e, e ∈ ps → e.2.isSome = true) (nk : Nat × Key) :
    (ps.filterMap (fun e => e.2.map (fun v => (e.1, v)))).lookup nk =
      match ps.lookup nk with
      | some (some v) => some v
      | _ => none := by
  induction ps with
  | nil => rfl
  | cons e ps ih =>
    obtain ⟨key, o⟩ := e
    have ho := hs _ List.mem_cons_self
    cases o with
    | none => cases ho
    | some v =>
      rw [List.filterMap_cons]
      simp only [Option.map_some, List.lookup_cons]
      cases hb : nk == key with
      | true => rfl
      | false => exact ih (fun e he => hs e (List.mem_cons_of_mem _ he))

theorem lookup_sunk (runs : List Run) (store : List ((Nat × Key) × OV))
    (hs : ∀ r, r ∈ runs → ∀ e, e ∈ r.props → e.2.isSome = true) (n : Nat) (k : Key) :
    (sunk runs ++ store).lookup (n, k) =
      match runsHit runs n k with
      | some (some v) => some v
      | _ => store.lookup (n, k) := by
  induction runs with
  | nil => rfl
  | cons r rs ih =>
    have hr := hs r List.mem_cons_self
    have ih' := ih (fun r' hr' => hs r' (List.mem_cons_of_mem _ hr'))
    unfold sunk at *
    rw [List.flatMap_cons, List.append_assoc, List.lookup_append, lookup_sunk_run _ hr, ih']
    simp only [runsHit]
    cases hl : r.props.lookup (n, k) with
    | none => rfl
    | some o =>
      cases o with
      | some v => rfl
      | none => cases hr _ (mem_of_lookup_eq_some hl)

theorem compact_nodes (s : State) : (compact s).nodes = s.nodes := by unfold compact; split <;> rfl
theorem compact_indexes (s : State) : (compact s).indexes = s.indexes := by unfold compact; split <;> rfl

theorem compact_prop (m : Mode) (s : State) (hm : ModeInv m s) (hop : ModeOp m .compact) (n : Nat) (k : Key) :
    (compact s).prop n k = s.prop n k := by
  cases m with
  | noCompact => cases hop
  | noRem =>
    unfold compact
    split
    · rfl
    · exact lookup_sunk s.runs s.store hm n k

theorem mem_afterLastRun {ps : List (Bool × List TxOp)} {p : Bool × List TxOp}
    (h : p ∈ afterLastRun ps) : p ∈ ps := by
  induction ps with
  | nil => cases h
  | cons q qs ih =>
    unfold afterLastRun at h
    split at h
    · exact List.mem_cons_of_mem _ (ih h)
    · split at h
      · exact List.mem_cons_of_mem _ h
      · exact h

theorem compact_inv (m : Mode) (s : State) (h : Inv m s) (hop : ModeOp m .compact) : Inv m (compact s) := by
  have hp := compact_prop m s h.mode hop
  have hn := compact_nodes s
  refine ⟨?_, ?_, ?_, ?_, ?_⟩
  · intro n k hl; rw [hp]; rw [hn] at hl; exact h.bounded n k hl
  · intro d hd
    rw [compact_indexes] at hd; rw [hn]
    exact GoodEs_congr (h.good d hd) rfl (fun _ => rfl) fun n _ _ => (hp n d.key).symm
  · rw [hn]; exact h.own
  · intro p hpm
    rw [hn]
    refine h.pend p ?_
    unfold compact at hpm
    split at hpm
    · exact hpm
    · exact mem_afterLastRun hpm
  · cases m with
    | noCompact => cases hop
    | noRem =>
      unfold compact
      split
      · exact h.mode
      · intro r hr; cases hr

/-! ### reopen -/

theorem reopen_prop (s : State) (c : Bool) (n : Nat) (k : Key) : (reopen s c).prop n k = s.prop n k := rfl

theorem base_firsts (ns : List Node) : (ns.map fun nd => newNode nd.first).map (·.first) = ns.map (·.first) := by
  rw [List.map_map]; rfl

theorem replay_firsts (ps : List (Bool × List TxOp)) (ns : List Node) :
    (ps.foldl (fun ns p => applyLabels ns p.2) ns).map (·.first) = ns.map (·.first) :=
  List.foldlRecOn ps _ (motive := fun ns' : List Node => ns'.map (·.first) = ns.map (·.first)) rfl
    fun ns' ih p _ => (applyLabels_firsts ns' p.2).trans ih

theorem reopen_firsts (s : State) (c : Bool) : (reopen s c).nodes.map (·.first) = s.nodes.map (·.first) :=
  (replay_firsts _ _).trans (base_firsts _)

theorem replay_hasLabel (ps : List (Bool × List TxOp)) (ns : List Node) (n : Nat) (l : Label)
    (h : hasLabelOf (ps.foldl (fun ns p => applyLabels ns p.2) ns) n l = true) :
    hasLabelOf ns n l = true ∨ ∃ p, p ∈ ps ∧ TxOp.labelAdd n l ∈ p.2 := by
  revert h
  refine List.foldlRecOn ps _ (motive := fun ns' : List Node => hasLabelOf ns' n l = true → _) Or.inl ?_
  intro ns' ih p hp h
  exact (applyLabels_hasLabel _ _ n l h).elim ih fun h2 => Or.inr ⟨p, hp, h2⟩

theorem reopen_inv (m : Mode) (s : State) (c : Bool) (h : Inv m s) : Inv m (reopen s c) := by
  have hsub : ∀ p, p ∈ (reopen s c).pending → p ∈ s.pending := by
    intro p hp
    have hp' : p ∈ (if (c && s.runs.isEmpty) = true then [] else s.pending) := hp
    split at hp'
    · cases hp'
    · exact hp'
  have hfirst := firstOf_congr (reopen_firsts s c)
  have hlen := length_of_firsts_eq (reopen_firsts s c)
  refine ⟨fun n k hl => h.bounded n k (hlen ▸ hl),
    fun d hd => GoodEs_congr (h.good d hd) hlen.symm (fun n => (hfirst n).symm) fun _ _ _ => rfl,
    ?_, ?_, by cases m <;> exact h.mode⟩
  · intro n l hl
    rw [hfirst]
    rcases replay_hasLabel _ _ n l hl with h1 | ⟨p, hp, hin⟩
    · -- `IdMap::load` gives every node exactly its creation label
      rw [← firstOf_congr (base_firsts s.nodes)]
      refine (own_iff _).mpr (fun nd hnd l hc => ?_) n l h1
      obtain ⟨x, _, rfl⟩ := List.mem_map.mp hnd
      exact newNode_own _ l hc
    · exact h.pend p (hsub p hp) n l hin
  · intro p hp n l hin
    rw [hfirst]; exact h.pend p (hsub p hp) n l hin

/-! ### `node_ids.sort()` -/

theorem insertSorted_eq (a : Nat) (l : List Nat) :
    insertSorted a l = l.takeWhile (· < a) ++ a :: l.dropWhile (· < a) := by
  induction l with
  | nil => rfl
  | cons b bs ih =>
    unfold insertSorted
    rw [ih, List.takeWhile_cons, List.dropWhile_cons]
    by_cases h : a ≤ b <;> simp [h, Nat.not_lt.mpr, Nat.lt_of_not_le]

theorem sortIds_perm (l : List Nat) : (sortIds l).Perm l :=
  foldr_perm_of_insert (fun a l => insertSorted_eq a l ▸ perm_insert_span _ a l) l

theorem insertSorted_sorted (a : Nat) (l : List Nat) (h : List.Pairwise (· ≤ ·) l) :
    List.Pairwise (· ≤ ·) (insertSorted a l) := by
  rw [insertSorted_eq]
  exact pairwise_insert_span _ a h (fun b _ hb => Nat.le_of_lt (of_decide_eq_true hb))
    (fun b _ hb => Nat.le_of_not_lt (of_decide_eq_false hb)) fun _ _ _ _ => Nat.le_trans

theorem sortIds_sorted (l : List Nat) : List.Pairwise (· ≤ ·) (sortIds l) := by
  induction l with
  | nil => exact List.Pairwise.nil
  | cons a l ih => exact insertSorted_sorted a _ ih

theorem sortIds_eq_filter (ids : List Nat) (N : Nat) (hnd : ids.Nodup) (hlt : ∀ n, n ∈ ids → n < N) :
    sortIds ids = (List.range N).filter (fun n => decide (n ∈ ids)) := by
  apply List.Perm.eq_of_pairwise (le := (· ≤ ·))
  · intro a b _ _ h1 h2; exact Nat.le_antisymm h1 h2
  · exact sortIds_sorted ids
  · exact (List.pairwise_lt_range.imp Nat.le_of_lt).filter _
  · refine (sortIds_perm ids).trans ?_
    rw [List.perm_ext_iff_of_nodup hnd (List.nodup_range.sublist List.filter_sublist)]
    intro n
    rw [List.mem_filter, List.mem_range, decide_eq_true_eq]
    exact ⟨fun h => ⟨hlt n h, h⟩, And.right⟩

/-! ### the query side -/

theorem queryRows_noIndex (cfg : Cfg) (t : State) (q : Query) (hi : t.indexes = []) :
    queryRows cfg t q = scanRows t q := by
  unfold queryRows scanRows
  cases hl : q.labels.head? with
  | none => rfl
  | some l =>
    cases hp : q.props.head? with
    | none => rfl
    | some kv =>
      obtain ⟨k, v⟩ := kv
      have hlk : lookupIndex t l k v = none := by unfold lookupIndex; rw [hi]; rfl
      have : seekStart cfg t l k v = nodeScan t (some l) := by
        unfold seekStart
        split
        · rfl
        · cases v <;> simp only [hlk]
      simp only [this]

/-- the lookup values for which `execute_index_seek` (repaired) really seeks -/
def seekable : OV → Bool
  | .null => true
  | .bool _ => true
  | .str _ => true
  | _ => false

theorem seekStart_fixed (s : State) (l : Label) (k : Key) (v : OV) :
    seekStart Cfg.fixed s l k v =
      if seekable v then
        match lookupIndex s l k v with
        | none => nodeScan s (some l)
        | some ids => (sortIds ids).filter (fun n => !s.tomb n)
      else nodeScan s (some l) := by
  cases v <;> rfl

theorem cyEq_seekable {o : Option OV} {v : OV} (hs : seekable v = true) (h : cyEq o v = true) : o = some v := by
  cases o with
  | none => cases h
  | some v' =>
    have h : cyEqV v' v = true := h
    cases v <;> cases hs <;> cases v' <;> first | cases h | (simp only [cyEqV, beq_iff_eq] at h; rw [h])

theorem lookupIndex_spec {m : Mode} {s : State} (h : Inv m s) {l : Label} {k : Key} {v : OV} {ids : List Nat}
    (hl : lookupIndex s l k v = some ids) :
    ∃ id, ids.Nodup ∧ ∀ n, n ∈ ids ↔ (n < s.nodes.length ∧ firstOf s.nodes n = some l ∧
      ∃ v', s.prop n k = some v' ∧ (beBytes 4 id ++ enc v).isPrefixOf (encIndexKey id v' n) = true) := by
  unfold lookupIndex at hl
  cases hf : s.indexes.find? (fun d => d.label == l && d.key == k) with
  | none => rw [hf] at hl; cases hl
  | some d =>
    rw [hf] at hl
    simp only at hl
    split at hl
    · cases hl
    · cases hl
      obtain ⟨rfl, rfl⟩ : d.label = l ∧ d.key = k := by simpa using List.find?_some hf
      obtain ⟨hnd, hmem⟩ := h.good d (List.mem_of_find?_eq_some hf)
      refine ⟨d.id, ?_, fun n => ?_⟩
      · -- a node has one entry at most
        refine List.pairwise_map.mpr ((hnd.filter _).imp_of_mem fun {a b} ha hb hne heq => hne ?_)
        obtain ⟨_, _, va, hva, hba⟩ := (hmem a.1 a.2).mp (List.mem_filter.mp ha).1
        obtain ⟨_, _, vb, hvb, hbb⟩ := (hmem b.1 b.2).mp (List.mem_filter.mp hb).1
        rw [heq, hvb] at hva; cases hva
        exact Prod.ext (hba.trans (heq ▸ hbb.symm)) heq
      · rw [List.mem_map]
        constructor
        · rintro ⟨⟨b, n'⟩, hin, rfl⟩
          obtain ⟨hin1, hin2⟩ := List.mem_filter.mp hin
          obtain ⟨hn, hfl, v', hv', rfl⟩ := (hmem b n').mp hin1
          exact ⟨hn, hfl, v', hv', hin2⟩
        · rintro ⟨hn, hfl, v', hv', hpre⟩
          exact ⟨(encIndexKey d.id v' n, n),
            List.mem_filter.mpr ⟨(hmem _ _).mpr ⟨hn, hfl, v', hv', rfl⟩, hpre⟩, rfl⟩

theorem queryRows_eq_scan (m : Mode) (s : State) (q : Query) (h : Inv m s) :
    queryRows Cfg.fixed s q = scanRows s q := by
  unfold queryRows
  cases hl : q.labels.head? with
  | none => rfl
  | some l =>
    cases hp : q.props.head? with
    | none => rfl
    | some kv =>
      obtain ⟨k, v⟩ := kv
      show (seekStart Cfg.fixed s l k v).filter (residual s q) = scanRows s q
      unfold scanRows
      rw [hl, seekStart_fixed]
      split
      rotate_left
      · rfl
      rename_i hsk
      cases hlk : lookupIndex s l k v with
      | none => rfl
      | some ids =>
        -- the index answered: sorted, its ids are the nodes of the range that are in it
        obtain ⟨id, hnd, hmem⟩ := lookupIndex_spec h hlk
        simp only []
        rw [sortIds_eq_filter ids s.nodes.length hnd fun n hn => ((hmem n).mp hn).1]
        unfold nodeScan
        simp only [List.filter_filter]
        refine List.filter_congr fun n hn => ?_
        cases hres : residual s q n with
        | false => rfl
        | true =>
          -- a row that passes the residual filters has the label and the value: it is in the index
          unfold residual at hres
          simp only [Bool.and_eq_true, List.all_eq_true] at hres
          have hlab : s.hasLabel n l = true := hres.2 l (List.mem_of_mem_head? hl)
          have hval := cyEq_seekable hsk (hres.1 (k, v) (List.mem_of_mem_head? hp))
          have hin : n ∈ ids := (hmem n).mpr ⟨List.mem_range.mp hn, h.own n l hlab, v, hval,
            List.isPrefixOf_iff_prefix.mpr (List.prefix_append _ _)⟩
          simp [hlab, hin]

/-! ### whole histories -/

def firsts (s : State) : List (Option Label) := s.nodes.map (·.first)

/-- the creation labels the history-level checks thread are those of the model state -/
theorem firsts_step (cfg : Cfg) (s : State) (op : Op) :
    firsts (step cfg s op) = firstsAfter (firsts s) op := by
  cases op with
  | commit tx => exact (applyLabels_firsts _ _).trans (nodesC_firsts s tx)
  | index l k => show (createIndex cfg s l k).nodes.map _ = _; unfold createIndex; split <;> rfl
  | compact => exact congrArg (List.map (·.first)) (compact_nodes s)
  | reopen c => exact reopen_firsts s c

theorem step_inv (m : Mode) (s : State) (op : Op) (h : Inv m s) (hop : ModeOp m op)
    (hok : ∀ tx, op = .commit tx → TxOK s tx) : Inv m (step Cfg.fixed s op) := by
  cases op with
  | commit tx => exact commit_inv m s tx h hop (hok tx rfl)
  | index l k => exact createIndex_inv m s l k h
  | compact => exact compact_inv m s h hop
  | reopen c => exact reopen_inv m s c h

theorem run_inv (m : Mode) : ∀ (h : List Op) (s : State), Inv m s →
    checkTx wfOp (firsts s) h = true → checkTx ownLabelOp (firsts s) h = true →
    (∀ op, op ∈ h → ModeOp m op) → Inv m (h.foldl (step Cfg.fixed) s) := by
  intro h
  induction h with
  | nil => intro s hi _ _ _; exact hi
  | cons op rest ih =>
    intro s hi hwf hown hmode
    unfold checkTx at hwf hown
    simp only [Bool.and_eq_true] at hwf hown
    refine ih _ (step_inv m s op hi (hmode op List.mem_cons_self) ?_) (firsts_step .. ▸ hwf.2)
      (firsts_step .. ▸ hown.2) fun o ho => hmode o (List.mem_cons_of_mem _ ho)
    rintro tx rfl o ho
    exact ⟨List.all_eq_true.mp hwf.1 o ho, List.all_eq_true.mp hown.1 o ho⟩

theorem inv_init (m : Mode) : Inv m State.init := by
  refine ⟨fun _ _ _ => rfl, fun d hd => (nomatch hd), fun n l h => ?_, fun p hp => (nomatch hp), ?_⟩
  · cases h
  · cases m
    · intro r hr; cases hr
    · rfl

theorem mode_of_not_trigRemCompact (h : List Op) (ht : trigRemCompact h = false) :
    (∀ op, op ∈ h → ModeOp .noRem op) ∨ (∀ op, op ∈ h → ModeOp .noCompact op) :=
  (Bool.and_eq_false_iff.mp ht).imp
    (fun h1 op hop => Bool.eq_false_iff.mpr fun hr => by rw [List.any_eq_true.mpr ⟨op, hop, hr⟩] at h1; cases h1)
    (fun h1 op hop => Bool.eq_false_iff.mpr fun hr => by rw [List.any_eq_true.mpr ⟨op, hop, hr⟩] at h1; cases h1)

theorem clean_inv (h : List Op) (hwf : WF h = true) (hD : trigNonFirstLabel h = false)
    (hF : trigRemCompact h = false) : ∃ m, Inv m (run Cfg.fixed h) := by
  have hown : checkTx ownLabelOp [] h = true := by simpa [trigNonFirstLabel] using hD
  rcases mode_of_not_trigRemCompact h hF with hm | hm
  · exact ⟨.noRem, run_inv .noRem h State.init (inv_init _) hwf hown hm⟩
  · exact ⟨.noCompact, run_inv .noCompact h State.init (inv_init _) hwf hown hm⟩

/-! ### the database without indexes sees the same graph -/

def strip (s : State) : State := { s with indexes := [], nextIndexId := State.init.nextIndexId }

theorem run_strip (cfg : Cfg) (h : List Op) : ∀ s : State,
    (stripIndex h).foldl (step cfg) (strip s) = strip (h.foldl (step cfg) s) := by
  induction h with
  | nil => intro s; rfl
  | cons op rest ih =>
    intro s
    -- `commit` and `reopen` of a stripped state unfold to the stripped result (`[].map`); `compact` has an `if`
    cases op with
    | commit tx => exact ih (commit cfg s tx)
    | index l k =>
      have : strip (createIndex cfg s l k) = strip s := by unfold createIndex; split <;> rfl
      show (stripIndex rest).foldl (step cfg) (strip s) = _
      rw [← this]; exact ih _
    | compact =>
      have : compact (strip s) = strip (compact s) := by
        unfold compact
        by_cases hr : s.runs.isEmpty = true
        · rw [if_pos hr, if_pos (show (strip s).runs.isEmpty = true from hr)]
        · rw [if_neg hr, if_neg (show ¬(strip s).runs.isEmpty = true from hr)]; rfl
      show (stripIndex rest).foldl (step cfg) (compact (strip s)) = _
      rw [this]; exact ih _
    | reopen c => exact ih (reopen s c)

theorem transparent_of_clean (h : List Op) (hwf : WF h = true) (hD : trigNonFirstLabel h = false)
    (hF : trigRemCompact h = false) : Transparent Cfg.fixed h := by
  intro q
  obtain ⟨m, hinv⟩ := clean_inv h hwf hD hF
  have hs : run Cfg.fixed (stripIndex h) = strip (run Cfg.fixed h) := run_strip Cfg.fixed h State.init
  rw [hs, queryRows_eq_scan m _ q hinv, queryRows_noIndex _ _ q rfl]
  rfl

end Nervus.Index
