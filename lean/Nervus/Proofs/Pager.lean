/-
  C18: the allocator returns a page that was not allocated, ownership claims stay a partial function under
  every engine op except a conflicting node-table growth, and a write by one structure leaves every page owned
  by another structure untouched.  Every successful op is judged once, `StepOK s s' w T` (what the writer `w`
  may have changed; the invariant survives under the side condition `T`), built from the judgements of the
  primitives with `StepOK.trans`; the history theorems are inductions over it.
-/
import Nervus.Model.Pager
import Nervus.Proofs.PageMap
namespace Nervus.Pager
open Nervus

def PgOK (s : Pg) : Prop := ∀ p ∈ s.bits, p < s.next

structure Inv (s : Sys) : Prop where
  once : (s.own.map (·.1)).Nodup
  alloc : ∀ x ∈ s.own, x.1 ∈ s.pg.bits
  pg : PgOK s.pg
  start : s.i2eStart = none → s.i2eLen = 0

theorem isAlloc_iff (s : Pg) (p : Nat) : s.isAlloc p = true ↔ p ∈ s.bits := by
  simp [Pg.isAlloc]

theorem isAlloc_false_iff (s : Pg) (p : Nat) : s.isAlloc p = false ↔ p ∉ s.bits := by
  simp [Pg.isAlloc]

theorem findFree_spec (s : Pg) : ∀ (n p q : Nat), findFree s p n = some q → q ∉ s.bits ∧ p ≤ q ∧ q < p + n
  | 0, p, q, h => by simp [findFree] at h
  | n+1, p, q, h => by
    simp only [findFree] at h
    by_cases hp : s.isAlloc p = true
    · simp only [hp, if_true] at h
      have := findFree_spec s n (p + 1) q h
      exact ⟨this.1, Nat.le_of_succ_le this.2.1, by omega⟩
    · simp only [hp] at h
      cases h
      exact ⟨by simpa [Pg.isAlloc] using hp, Nat.le_refl _, Nat.lt_add_of_pos_right (Nat.succ_pos n)⟩

theorem ensure_spec (c : Cfg) (s s' : Pg) (p : Nat) (ok : PgOK s) (h : ensure c s p = .ok s') :
    p ∈ s'.bits ∧ (∀ q, q ∈ s.bits → q ∈ s'.bits) ∧ PgOK s' := by
  unfold ensure at h
  split at h
  · cases h
  · cases h
    by_cases ha : s.isAlloc p = true
    · have hm := (isAlloc_iff s p).mp ha
      simp only [ha, if_true]
      refine ⟨hm, fun q hq => hq, ?_⟩
      intro q hq
      have := ok q hq
      show q < if s.next ≤ p then p + 1 else s.next
      split <;> omega
    · simp only [ha]
      refine ⟨List.mem_cons_self .., fun q hq => List.mem_cons_of_mem _ hq, ?_⟩
      intro q hq
      show q < if s.next ≤ p then p + 1 else s.next
      rcases List.mem_cons.mp hq with e | e
      · subst e; split <;> omega
      · have := ok q e; split <;> omega

theorem allocate_spec (c : Cfg) (s s' : Pg) (p : Nat) (ok : PgOK s) (h : allocate c s = .ok (p, s')) :
    p ∉ s.bits ∧ p ∈ s'.bits ∧ (∀ q, q ∈ s.bits → q ∈ s'.bits) ∧ PgOK s' := by
  unfold allocate at h
  simp only at h
  split at h
  · cases h
  · generalize hc : (findFree s c.firstPage (s.next - c.firstPage)).getD s.next = cand at h
    have hfree : cand ∉ s.bits := by
      cases hf : findFree s c.firstPage (s.next - c.firstPage) with
      | some q =>
        rw [hf] at hc; simp at hc; subst hc
        exact (findFree_spec s _ _ _ hf).1
      | none =>
        rw [hf] at hc; simp at hc; subst hc
        intro hm; have := ok _ hm; omega
    have ok1 : PgOK { s with next := if cand = s.next then cand + 1 else s.next } := by
      intro q hq
      have := ok q hq
      show q < if cand = s.next then cand + 1 else s.next
      split <;> omega
    cases he : ensure c { s with next := if cand = s.next then cand + 1 else s.next } cand with
    | error e => simp [he] at h
    | ok s1 =>
      simp only [he, Except.ok.injEq, Prod.mk.injEq] at h
      obtain ⟨rfl, rfl⟩ := h
      obtain ⟨h1, h2, h4⟩ := ensure_spec c _ s1 cand ok1 he
      exact ⟨hfree, h1, fun q hq => h2 q hq, h4⟩

theorem mem_claim (s : Sys) (p : Nat) (o : Owner) (x : Nat × Owner) :
    x ∈ (claim s p o).own ↔ x = (p, o) ∨ x ∈ s.own := by
  unfold claim
  by_cases h : s.own.contains (p, o) = true
  · rw [if_pos h]
    constructor
    · exact Or.inr
    · rintro (e | e)
      · subst e; simpa using h
      · exact e
  · rw [if_neg h]
    simp

theorem claim_nodup (s : Sys) (p : Nat) (o : Owner) (h : (s.own.map (·.1)).Nodup)
    (hp : (p, o) ∈ s.own ∨ p ∉ s.own.map (·.1)) : ((claim s p o).own.map (·.1)).Nodup := by
  unfold claim
  by_cases hc : s.own.contains (p, o) = true
  · rw [if_pos hc]; exact h
  · rw [if_neg hc]
    rcases hp with hp | hp
    · exact absurd (by simpa using hp) hc
    · simp only [List.map_cons]
      exact List.nodup_cons.mpr ⟨hp, h⟩

theorem claim_pg (s : Sys) (p : Nat) (o : Owner) : (claim s p o).pg = s.pg := by
  unfold claim; split <;> rfl
theorem claim_data (s : Sys) (p : Nat) (o : Owner) : (claim s p o).data = s.data := by
  unfold claim; split <;> rfl
theorem claim_i2eLen (s : Sys) (p : Nat) (o : Owner) : (claim s p o).i2eLen = s.i2eLen := by
  unfold claim; split <;> rfl
theorem claim_i2eStart (s : Sys) (p : Nat) (o : Owner) : (claim s p o).i2eStart = s.i2eStart := by
  unfold claim; split <;> rfl

/-- what one successful op guarantees: the allocator stays sane and clears no bit, claims are kept, every
    page whose content changed is claimed by the writer `w`, and the ownership invariant survives under `T` -/
structure StepOK (s s' : Sys) (w : Owner) (T : Prop) : Prop where
  pg : PgOK s'.pg
  mono : ∀ p, p ∈ s.pg.bits → p ∈ s'.pg.bits
  keep : ∀ x ∈ s.own, x ∈ s'.own
  wrote : ∀ p, s'.data.get p ≠ s.data.get p → (p, w) ∈ s'.own
  inv : Inv s → T → Inv s'

/-- the pager grows (allocate_page, ensure_allocated); the node table's start and length may be set -/
theorem grow_ok (s : Sys) (pg' : Pg) (w : Owner) (hok : PgOK pg') (hmono : ∀ q, q ∈ s.pg.bits → q ∈ pg'.bits)
    (st' : Option Nat) (len' : Nat) :
    StepOK s { s with pg := pg', i2eStart := st', i2eLen := len' } w (st' = none → len' = 0) :=
  ⟨hok, hmono, fun _ h => h, fun _ h => absurd rfl h,
    fun inv hst => ⟨inv.once, fun x hx => hmono _ (inv.alloc x hx), hok, hst⟩⟩

theorem claim_ok (s : Sys) (p : Nat) (o : Owner) (ok : PgOK s.pg) :
    StepOK s (claim s p o) o (p ∈ s.pg.bits ∧ ((p, o) ∈ s.own ∨ p ∉ s.own.map (·.1))) := by
  refine ⟨by rw [claim_pg]; exact ok, by rw [claim_pg]; exact fun _ h => h,
    fun x hx => (mem_claim _ p _ x).mpr (Or.inr hx), fun q hq => absurd (by rw [claim_data]) hq, fun inv ht => ?_⟩
  refine ⟨claim_nodup _ p _ inv.once ht.2, fun x hx => ?_, by rw [claim_pg]; exact ok,
    by rw [claim_i2eStart, claim_i2eLen]; exact inv.start⟩
  rw [claim_pg]
  rcases (mem_claim _ p _ x).mp hx with e | e
  · subst e; exact ht.1
  · exact inv.alloc x e

theorem writePage_ok (s : Sys) (p : Nat) (o : Owner) (ok : PgOK s.pg) (hown : (p, o) ∈ s.own) :
    StepOK s (writePage s p o) o True := by
  refine ⟨ok, fun _ h => h, fun _ h => h, fun q hq => ?_, fun inv _ => ⟨inv.once, inv.alloc, inv.pg, inv.start⟩⟩
  simp only [writePage] at hq ⊢
  rw [BTree.PageMap.get_set] at hq
  by_cases e : q = p
  · subst e; exact hown
  · simp [e] at hq

theorem StepOK.trans {s1 s2 s3 : Sys} {w : Owner} {T1 T2 : Prop} (a : StepOK s1 s2 w T1) (b : StepOK s2 s3 w T2) :
    StepOK s1 s3 w (T1 ∧ T2) where
  pg := b.pg
  mono p h := b.mono p (a.mono p h)
  keep x h := b.keep x (a.keep x h)
  wrote p h := by
    by_cases e : s3.data.get p = s2.data.get p
    · exact b.keep _ (a.wrote p (e ▸ h))
    · exact b.wrote p e
  inv i t := b.inv (a.inv i t.1) t.2

theorem StepOK.weaken {s s' : Sys} {w : Owner} {T T' : Prop} (r : StepOK s s' w T) (h : Inv s → T' → T) :
    StepOK s s' w T' :=
  { r with inv := fun inv t => r.inv inv (h inv t) }

theorem allocFor_ok (c : Cfg) (s : Sys) (o : Owner) (ok : PgOK s.pg) (p : Nat) (pg' : Pg)
    (ha : allocate c s.pg = .ok (p, pg')) (st' : Option Nat) :
    StepOK s (claim { s with pg := pg', i2eStart := st' } p o) o (st' = none → s.i2eLen = 0) ∧
    (p, o) ∈ (claim { s with pg := pg', i2eStart := st' } p o).own := by
  obtain ⟨hfree, halloc, hmono, hok⟩ := allocate_spec c s.pg pg' p ok ha
  have r := (grow_ok s pg' o hok hmono st' s.i2eLen).trans (claim_ok _ p o hok)
  refine ⟨r.weaken fun inv hst => ⟨hst, halloc, Or.inr fun hm => ?_⟩,
    (mem_claim _ p _ _).mpr (Or.inl rfl)⟩
  obtain ⟨x, hx, hxe⟩ := List.mem_map.mp hm
  exact hfree (hxe ▸ inv.alloc x hx)

theorem putRecord_ok (c : Cfg) (st : Nat) (s s' : Sys) (ok : PgOK s.pg) (h : putRecord c st s = .ok s') :
    StepOK s s' .i2e (s.i2eStart = some st ∧ i2eConflict c s .createNode = false) := by
  unfold putRecord at h
  simp only at h
  cases he : ensure c s.pg (i2ePage c st s.i2eLen) with
  | error e => simp [he] at h
  | ok pg' =>
    simp only [he, Except.ok.injEq] at h
    subst h
    obtain ⟨h1, h2, h4⟩ := ensure_spec c s.pg pg' _ ok he
    have r1 := (grow_ok s pg' .i2e h4 h2 s.i2eStart s.i2eLen).trans (claim_ok _ (i2ePage c st s.i2eLen) .i2e h4)
    have r2 := r1.trans (writePage_ok _ (i2ePage c st s.i2eLen) .i2e r1.pg ((mem_claim _ _ _ _).mpr (Or.inl rfl)))
    have r := r2.trans (grow_ok _ _ .i2e r2.pg (fun _ h => h)
      (claim { s with pg := pg' } (i2ePage c st s.i2eLen) .i2e).i2eStart (s.i2eLen + 1))
    refine r.weaken fun inv ⟨hst, ht⟩ => ⟨⟨⟨inv.start, h1, ?_⟩, trivial⟩, fun e => ?_⟩
    · simp only [i2eConflict, hst, Bool.and_eq_false_iff, Bool.not_eq_false'] at ht
      rcases ht with h | h
      · left; simpa using h
      · right; simpa using h
    · rw [claim_i2eStart] at e
      exact nomatch hst.symm.trans e

theorem step_ok (c : Cfg) (s s' : Sys) (op : Op) (ok : PgOK s.pg) (h : step c s op = .ok s') :
    StepOK s s' (writer op) (i2eConflict c s op = false) := by
  cases op with
  | alloc o =>
    simp only [step] at h
    cases ha : allocate c s.pg with
    | error e => simp [ha] at h
    | ok r =>
      obtain ⟨p, pg'⟩ := r
      simp only [ha, Except.ok.injEq] at h
      subst h
      obtain ⟨a, hown⟩ := allocFor_ok c s (.other o) ok p pg' ha s.i2eStart
      have r := a.trans (writePage_ok _ p (.other o) a.pg hown)
      exact r.weaken fun inv _ => ⟨inv.start, trivial⟩
  | rewrite o p =>
    simp only [step] at h
    by_cases hown : s.own.contains (p, Owner.other o) = true
    · rw [if_pos hown] at h
      cases hacc : access c s.pg p with
      | error e => simp [hacc] at h
      | ok u =>
        simp only [hacc, Except.ok.injEq] at h
        subst h
        have r := writePage_ok s p (.other o) ok (by simpa using hown)
        exact r.weaken fun _ _ => trivial
    · rw [if_neg hown] at h; cases h
  | createNode =>
    simp only [step, createNode] at h
    cases hst : s.i2eStart with
    | some st =>
      simp only [ensureStart, hst] at h
      have r := putRecord_ok c st s s' ok h
      exact r.weaken fun _ ht => ⟨hst, ht⟩
    | none =>
      simp only [ensureStart, hst] at h
      cases ha : allocate c s.pg with
      | error e => simp [ha] at h
      | ok r =>
        obtain ⟨p, pg'⟩ := r
        simp only [ha] at h
        obtain ⟨a, hown⟩ := allocFor_ok c s .i2e ok p pg' ha (some p)
        have r := a.trans (putRecord_ok c p _ s' a.pg h)
        refine r.weaken fun inv _ => ⟨nofun, by rw [claim_i2eStart], ?_⟩
        -- the first record goes to the start page, which the node table has just claimed
        have hc : (claim { s with pg := pg', i2eStart := some p } p .i2e).own.contains (p, Owner.i2e) = true := by
          simpa using hown
        have hlen : (claim { s with pg := pg', i2eStart := some p } p .i2e).i2eLen = 0 := by
          rw [claim_i2eLen]; exact inv.start hst
        simp only [i2eConflict, claim_i2eStart, hlen, i2ePage, Nat.zero_div, Nat.add_zero, hc]
        rfl

theorem init_inv (c : Cfg) : Inv (init c) where
  once := List.nodup_nil
  alloc := by intro x hx; cases hx
  pg := by intro p hp; cases hp
  start := fun _ => rfl

theorem run_inv (c : Cfg) : ∀ (ops : List Op) (s : Sys), Inv s → (run c s ops).2 = false → Inv (run c s ops).1
  | [], s, inv, _ => inv
  | op :: ops, s, inv, h => by
    simp only [run, Bool.or_eq_false_iff] at h ⊢
    cases hs : step c s op with
    | error e =>
      simp only [hs] at h ⊢
      exact run_inv c ops s inv h.2
    | ok s1 =>
      simp only [hs] at h ⊢
      exact run_inv c ops s1 ((step_ok c s s1 op inv.pg hs).inv inv h.1) h.2

theorem step_isolated (c : Cfg) (s s' : Sys) (op : Op) (inv : Inv s) (ht : i2eConflict c s op = false)
    (h : step c s op = .ok s') (p : Nat) (o : Owner) (ho : o ≠ writer op) (hown : (p, o) ∈ s.own) :
    s'.data.get p = s.data.get p := by
  have r := step_ok c s s' op inv.pg h
  apply Classical.byContradiction
  intro hne
  have h1 := r.wrote p hne
  have h2 := r.keep _ hown
  -- two claims on one page contradict the invariant
  exact ho (Prod.mk.inj (eq_of_key_eq (key := (·.1)) (r.inv inv ht).once h2 h1 rfl)).2

theorem run_append (c : Cfg) : ∀ (a b : List Op) (s : Sys),
    run c s (a ++ b) = ((run c (run c s a).1 b).1, (run c s a).2 || (run c (run c s a).1 b).2)
  | [], b, s => by simp [run]
  | op :: a, b, s => by
    simp only [List.cons_append, run]
    rw [run_append c a b]
    simp [Bool.or_assoc]

theorem run_append_fst (c : Cfg) (a b : List Op) (s : Sys) : (run c s (a ++ b)).1 = (run c (run c s a).1 b).1 := by
  rw [run_append]

theorem run_isolated (c : Cfg) : ∀ (ops : List Op) (s : Sys), Inv s → (run c s ops).2 = false →
    ∀ (p : Nat) (o : Owner), (p, o) ∈ s.own → (∀ op ∈ ops, writer op ≠ o) →
    (run c s ops).1.data.get p = s.data.get p ∧ (p, o) ∈ (run c s ops).1.own
  | [], s, _, _, p, o, hown, _ => ⟨rfl, hown⟩
  | op :: ops, s, inv, h, p, o, hown, hw => by
    simp only [run, Bool.or_eq_false_iff] at h ⊢
    have hw' : ∀ op' ∈ ops, writer op' ≠ o := fun op' hm => hw op' (List.mem_cons_of_mem _ hm)
    cases hs : step c s op with
    | error e =>
      simp only [hs] at h ⊢
      exact run_isolated c ops s inv h.2 p o hown hw'
    | ok s1 =>
      simp only [hs] at h ⊢
      have r := step_ok c s s1 op inv.pg hs
      have hiso := step_isolated c s s1 op inv h.1 hs p o (fun e => hw op List.mem_cons_self e.symm) hown
      have ih := run_isolated c ops s1 (r.inv inv h.1) h.2 p o (r.keep _ hown) hw'
      exact ⟨ih.1.trans hiso, ih.2⟩

theorem run_mono (c : Cfg) : ∀ (ops : List Op) (s : Sys), Inv s → (run c s ops).2 = false →
    ∀ p, p ∈ s.pg.bits → p ∈ (run c s ops).1.pg.bits
  | [], _, _, _, _, hp => hp
  | op :: ops, s, inv, h, p, hp => by
    simp only [run, Bool.or_eq_false_iff] at h ⊢
    cases hs : step c s op with
    | error e =>
      simp only [hs] at h ⊢
      exact run_mono c ops s inv h.2 p hp
    | ok s1 =>
      simp only [hs] at h ⊢
      have r := step_ok c s s1 op inv.pg hs
      exact run_mono c ops s1 (r.inv inv h.1) h.2 p (r.mono p hp)

/-! ### the known finding, for any record size -/

theorem run_cons_ok (c : Cfg) (s s' : Sys) (op : Op) (ops : List Op) (h : step c s op = .ok s') :
    (run c s (op :: ops)).1 = (run c s' ops).1 := by
  simp only [run, h]

theorem createNode_eq (c : Cfg) (s : Sys) (st : Nat) (hst : s.i2eStart = some st)
    (hv : valid c (i2ePage c st s.i2eLen) = true) :
    ∃ s', step c s .createNode = .ok s' ∧ s'.i2eStart = some st ∧ s'.i2eLen = s.i2eLen + 1 ∧
      s'.own = (claim s (i2ePage c st s.i2eLen) .i2e).own := by
  simp only [step, createNode, ensureStart, hst, putRecord, ensure, hv]
  refine ⟨_, rfl, ?_, rfl, ?_⟩
  · show (claim _ _ _).i2eStart = _
    rw [claim_i2eStart]
  · show (claim _ _ _).own = _
    simp only [claim]; split <;> rfl

/-- the node table grows into a foreign page: if the next `n` records go to a page `P` the node table
    owns and the one after them to a page `Q` that another structure has claimed, then after `n + 1` node
    creations `Q` has two owners -/
theorem grow_conflict (c : Cfg) (st P Q : Nat) (vP : valid c P = true) (vQ : valid c Q = true) :
    ∀ (n : Nat) (s : Sys), s.i2eStart = some st →
      (∀ k, k < n → i2ePage c st (s.i2eLen + k) = P) → i2ePage c st (s.i2eLen + n) = Q →
      (P, Owner.i2e) ∈ s.own → (Q, Owner.i2e) ∉ s.own → Q ∈ s.own.map (·.1) →
      ¬ ownedOnce (run c s (List.replicate (n + 1) .createNode)).1
  | 0, s, hst, _, hQ, _, oQ, fQ => by
    have hQ : i2ePage c st s.i2eLen = Q := hQ
    obtain ⟨s', hs, _, _, hown⟩ := createNode_eq c s st hst (by rw [hQ]; exact vQ)
    rw [List.replicate_succ, run_cons_ok c s s' _ _ hs]
    have : s.own.contains (Q, Owner.i2e) = false := by simpa using oQ
    rw [hQ, claim, if_neg (Bool.eq_false_iff.mp this)] at hown
    simp only [List.replicate_zero, run, ownedOnce, hown, List.map_cons, List.nodup_cons, not_and]
    exact fun h => absurd fQ h
  | n + 1, s, hst, hP, hQ, oP, oQ, fQ => by
    have h0 : i2ePage c st s.i2eLen = P := hP 0 (Nat.succ_pos n)
    obtain ⟨s', hs, hst', hlen, hown⟩ := createNode_eq c s st hst (by rw [h0]; exact vP)
    have hown' : s'.own = s.own := by
      have : s.own.contains (P, Owner.i2e) = true := by simpa using oP
      rw [hown, h0, claim, if_pos this]
    rw [List.replicate_succ, run_cons_ok c s s' _ _ hs]
    refine grow_conflict c st P Q vP vQ n s' hst' (fun k hk => ?_) ?_ (hown' ▸ oP) (hown' ▸ oQ) (hown' ▸ fQ)
    · rw [hlen, Nat.add_right_comm, Nat.add_assoc]; exact hP (k + 1) (Nat.succ_lt_succ hk)
    · rw [hlen, Nat.add_right_comm, Nat.add_assoc]; exact hQ

end Nervus.Pager
