/-
  Proofs.CrashClose — `GraphEngine::checkpoint_on_close` is crash-safe at every I/O step: while
  there are published runs (not compacted yet) it only syncs; otherwise it rewrites the log as a
  snapshot (manifest + checkpoint in a temporary file, renamed over the log): whichever of the two
  logs a crash leaves, it represents the committed list.  One block (`blk_close`) says this for a
  death and for an injected error at every step.
-/
import Nervus.Proofs.CrashBlk
import Nervus.Proofs.CrashCkpt
import Nervus.Proofs.CrashInv
namespace Nervus.Crash

/-- the committed list of the snapshot log -/
def closeCs (m : Mem) : List CTx :=
  [⟨m.nextTxid, sysOps m.epoch (m.segs.map (·.1)) m.proot m.ptop (m.nextTxid - 1)⟩]

def closeRecs (m : Mem) : List Rec :=
  Rec.begin m.nextTxid :: sysOps m.epoch (m.segs.map (·.1)) m.proot m.ptop (m.nextTxid - 1) ++ [Rec.commit m.nextTxid]

theorem scan_closeCs (m : Mem) :
    scan (closeCs m) = { epoch := m.epoch, segs := m.segs.map (·.1), ckpt := m.nextTxid - 1, maxTxid := max 0 m.nextTxid,
                         proot := m.proot, ptop := m.ptop } := by
  have := scan_snoc_manifest [] m.nextTxid m.epoch (m.segs.map (·.1)) m.proot m.ptop (m.nextTxid - 1) (Nat.zero_le _)
  simpa [closeCs, sysOps, scan] using this

/-- the snapshot log replays nothing — no runs, and `c` = all nodes, which the node table holds
    (`InvOpen.full`) —, so the page file alone holds `T` -/
theorem rep_snapshot {T : List Tx} {fs : FS} {m : Mem} {cs : List CTx} {c : Nat} (h : InvOpen T fs m cs c)
    (hruns : m.runs = []) : Rep T fs.pd (frames (closeRecs m)) := by
  have hsc := scan_closeCs m
  have hsegs : m.segs.map (·.1) = (scan cs).segs := msegs_keys h
  have hlr : logRuns (scan cs).ckpt cs = [] := by rw [← h.mruns]; exact hruns
  refine ⟨closeCs m, (allNodes T).length, ?_, ?_, h.pager.raise (by rw [h.full]; exact Nat.le_refl _), ?_⟩
  · rw [readAll_frames]
    exact committed_full_ops (rs0 := []) (cs := []) rfl m.nextTxid _ (sysOps_isOp _ _ _ _ _)
  · -- the snapshot log is the empty log extended by one system transaction
    have h0 : LogOK T [] (allNodes T).length :=
      ⟨h.log.nodup, h.log.nozero, Nat.le_refl _, by rw [Nat.sub_self]; rfl, Nat.le_refl _, List.Pairwise.nil, by simp⟩
    have hck : (scan (closeCs m)).ckpt ≤ m.nextTxid := by rw [hsc]; exact Nat.sub_le _ _
    refine h0.snoc_tail _ (Nat.lt_of_le_of_lt (Nat.zero_le _) h.mtxid) hck h.log.nodup h.log.nozero (Nat.le_refl _) ?_
    rw [Nat.sub_self]
    exact flatOps_sys_nodes _ _ _ (by simp [sysOps, nodesOfOps])
  · have hruns' : logRuns (scan (closeCs m)).ckpt (closeCs m) = [] := logRuns_sys _ _ _ _ _ _ _
    exact h.store.extend [] [] (by rw [hsc]; exact hsegs) (by rw [hsc]; exact h.mroot) (by rw [hsc]; exact h.mptop)
      (by rw [hruns', hlr]; rfl) (by rw [hruns', hlr]; rfl) (List.append_nil _).symm (List.append_nil _).symm

theorem closeA_eq (cfg : Cfg) (m : Mem) (vol : PImg) (w : List Frag) (ho : m.walOpen = true) :
    closeA cfg m vol w =
      if m.runs.isEmpty then
        [ioA .ps, memA .bumpTxid, memA (.walOpen false), ioA .tc, ioA .tw, ioA .tw, ioA .tw, ioA .tw, ioA .ts,
          ioA (.rn (frames (closeRecs m))), memA (.walOpen true), ioA .ws]
      else [ioA .ps, ioA .ws] := by
  by_cases hr : m.runs.isEmpty = true <;> simp [closeA, hr, ho, closeRecs, sysOps]

/-- close, at every I/O step: a crash leaves files that represent `T` (after the rename either
    log does); an injected error leaves such files too and a handle that shows what it showed -/
theorem blk_close {cfg : Cfg} {T : List Tx} {fs : FS} {m : Mem} {cs : List CTx} {c : Nat} (h : InvOpen T fs m cs c) :
    Blk (SafeFS [T]) (fun g mm => SafeFS [T] g ∧ Spec.Content.same (content mm g.pv) (Spec.run T))
      (closeA cfg m fs.pv fs.wf) fs m (fun _ _ => True) := by
  rw [closeA_eq cfg m fs.pv fs.wf h.mwal]
  have hsafe0 : SafeFS [T] fs := h.safeFS
  -- the memory updates of a close touch neither nodes, segments, runs nor the tree root
  have hC : ∀ p, p = fs.pd → Spec.Content.same (content m p) (Spec.run T) := fun p hp =>
    hp ▸ content_of_store h.store h.mexts h.mruns h.msegs h.mroot h.mptop
  have hst1 : WalStable cs (fs.step .ps) := ⟨h.wal.ren, h.wal.wdur, h.wal.stable⟩
  have hpd1 : (fs.step .ps).pd = fs.pd := h.pv
  have hpj1 : (fs.step .ps).pj = [] := rfl
  have hsafe1 : SafeFS [T] (fs.step .ps) :=
    safeFS_of_stable (by rw [hpj1]; exact inert_nil) hst1 h.log (by rw [hpd1]; exact h.pager) (by rw [hpd1]; exact h.store)
  generalize hfs1 : fs.step .ps = fs1 at hst1 hpd1 hpj1 hsafe1
  have hin1 : Inert fs1.pj := by rw [hpj1]; exact inert_nil
  have hpv1 : fs1.pv = fs.pd := (pv_inert fs1 hin1).trans hpd1
  by_cases hr : m.runs.isEmpty = true
  · rw [if_pos hr]
    have hrep := rep_snapshot h (by simpa using hr)
    -- the rename is not durable yet: old or new log
    have hsafeR : SafeFS [T] (fs1.step (.rn (frames (closeRecs m)))) := by
      intro mode
      refine ⟨T, by simp, ?_⟩
      rw [crashP_inert _ (show Inert (fs1.step (.rn (frames (closeRecs m)))).pj from hin1)]
      show Rep T fs1.pd _
      rw [hpd1]
      cases mode with
      | proc => exact hrep
      | power sel wk lose =>
        cases lose with
        | true =>
          show Rep T fs.pd (fs1.wf.take fs1.wdur)
          exact ⟨cs, c, hst1.stable _ (Nat.le_refl _), h.log, h.pager, h.store⟩
        | false =>
          show Rep T fs.pd ((frames (closeRecs m)).take ((frames (closeRecs m)).length + wk))
          rw [List.take_of_length_le (by omega)]
          exact hrep
    have hsafeW : SafeFS [T] ((fs1.step (.rn (frames (closeRecs m)))).step .ws) :=
      safeFS_of_rep (show Inert fs1.pj from hin1) ⟨rfl, rfl⟩ (by show Rep T fs1.pd (frames (closeRecs m)); rw [hpd1]; exact hrep)
    refine .io _ _ hsafe0 ⟨hsafe0, hC _ h.pv⟩ ?_
    rw [hfs1]
    have F1 : SafeFS [T] fs1 ∧ Spec.Content.same (content m fs1.pv) (Spec.run T) := ⟨hsafe1, hC _ hpv1⟩
    exact .mem _ <| .mem _ <| .io _ _ hsafe1 F1 <| .io _ _ hsafe1 F1 <| .io _ _ hsafe1 F1 <| .io _ _ hsafe1 F1 <|
      .io _ _ hsafe1 F1 <| .io _ _ hsafe1 F1 <| .io _ _ hsafe1 F1 <| .mem _ <| .io _ _ hsafeR ⟨hsafeR, hC _ hpv1⟩ <|
      .nil hsafeW trivial
  · rw [if_neg hr]
    refine .io _ _ hsafe0 ⟨hsafe0, hC _ h.pv⟩ ?_
    rw [hfs1]
    exact .io _ _ hsafe1 ⟨hsafe1, hC _ hpv1⟩ <| .nil
      (safeFS_of_rep (show Inert fs1.pj from hin1) ⟨rfl, rfl⟩
        ⟨cs, c, hst1.com, h.log, by show PagerOK _ _ fs1.pd; rw [hpd1]; exact h.pager,
          by show StoreOK _ _ fs1.pd; rw [hpd1]; exact h.store⟩) trivial

/-- close is crash-safe at every I/O step (`C02.close_every_step`) -/
theorem close_safe {cfg : Cfg} {T : List Tx} {fs : FS} {m : Mem} {cs : List CTx} {c : Nat} (h : InvOpen T fs m cs c) :
    SafeAlong (SafeFS [T]) fs (ioSteps (closeA cfg m fs.pv fs.wf)) :=
  (blk_close h).safe

/-- a checkpoint-on-close that fails at ANY I/O step: the error is reported, what the handle
    showed is unchanged, and every crash image of the files — process death (= what a reopen on the
    same machine finds) or power loss, including a lost rename — represents the committed list. -/
theorem failed_close {cfg : Cfg} {T : List Tx} {fs : FS} {m : Mem} {cs : List CTx} {c : Nat}
    (h : InvOpen T fs m cs c) (k : Nat) (hk : k < (ioSteps (closeA cfg m fs.pv fs.wf)).length) :
    (run (closeA cfg m fs.pv fs.wf) (.faultAt k) fs m).err = some .io ∧
    SafeFS [T] (run (closeA cfg m fs.pv fs.wf) (.faultAt k) fs m).fs ∧
    Spec.Content.same (content (run (closeA cfg m fs.pv fs.wf) (.faultAt k) fs m).mem
      (run (closeA cfg m fs.pv fs.wf) (.faultAt k) fs m).fs.pv) (Spec.run T) :=
  (blk_close (cfg := cfg) h).run_fault k hk

end Nervus.Crash
