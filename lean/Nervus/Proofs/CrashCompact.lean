/-
  Proofs.CrashCompact — `GraphEngine::compact` as a block: page phase (`blk_pages`), log block
  (`blk_compactLog`, the system transaction appended as a commit appends its records), log sync,
  publication (`InvOpen.compacted`).  Every crash image that tears no leaf write of the live
  property tree represents the committed list, before the manifest is durable through the old
  manifest, afterwards through the new one; an injected error leaves such files and a handle that
  shows what it showed; a completed compaction re-establishes the handle invariant.
-/
import Nervus.Proofs.CrashLogBlk
import Nervus.Proofs.CrashPagesBlk
namespace Nervus.Crash

structure CompactMem (m mF : Mem) (pmF : Meta) (bmF : Nat) (root : Nat) (top : Bool) (k0 : Nat) (edges : List Nat) (ep : Nat) : Prop where
  pm : mF.pm = pmF
  bm : mF.bm = bmF
  idStart : mF.idStart = m.idStart
  idLen : mF.idLen = m.idLen
  exts : mF.exts = m.exts
  runs : mF.runs = []
  segs : mF.segs = (k0, edges) :: m.segs
  proot : mF.proot = root
  ptop : mF.ptop = top
  epoch : mF.epoch = ep
  nextTxid : mF.nextTxid = m.nextTxid + 1
  walOpen : mF.walOpen = m.walOpen

/-- the handle after the manifest switch: files with the same page file and a durable log whose
    committed list carries a new manifest (one more segment `k0` holding `edges`, tree `root`, no
    runs left to replay) that represents `T`, and a memory that has published exactly that -/
theorem InvOpen.compacted {T : List Tx} {fsP g : FS} {mP mF : Mem} {cs cs' : List CTx} {c c' : Nat}
    {root k0 ep up mx : Nat} {top : Bool} {edges : List Nat} (hinv : InvOpen T fsP mP cs c)
    (hCM : CompactMem mP mF mP.pm mP.bm root top k0 edges ep) (hgj : Inert g.pj) (hgd : g.pd = fsP.pd) (hq : WalQuiet g)
    (hcom : committed (readAll g.wf) = .ok cs') (hn : NewManifest T cs cs' c' fsP.pd ep k0 up mx root top edges)
    (hmx : mx ≤ mP.nextTxid) : InvOpen T g mF cs' c' where
  pj := hgj
  wal := WalStable.of_quiet hq hcom
  log := hn.log
  pager := by rw [hgd]; exact hn.pager
  store := by rw [hgd]; exact hn.store
  full := by rw [hgd]; exact hinv.full
  mpm := by rw [hCM.pm, hgd]; exact hinv.mpm
  mbm := by rw [hCM.bm, hgd]; exact hinv.mbm
  mlen := by rw [hCM.idLen]; exact hinv.mlen
  mstart := by rw [hCM.idStart, hgd]; exact hinv.mstart
  mexts := by rw [hCM.exts]; exact hinv.mexts
  mruns := by rw [hCM.runs, hn.scan]; exact hn.runs.symm
  msegs := by rw [hCM.segs, hn.scan, hgd, List.map_cons, hn.seg]; exact congrArg (_ :: ·) hinv.msegs
  mroot := by rw [hCM.proot, hn.scan]
  mptop := by rw [hCM.ptop, hn.scan]
  mepoch := by rw [hCM.epoch, hn.scan]
  mtxid := by rw [hCM.nextTxid, hn.scan]; exact Nat.lt_succ_of_le hmx
  mwal := by rw [hCM.walOpen]; exact hinv.mwal

theorem compactA_blocks (cfg : Cfg) (m : Mem) (vol : PImg) (w : List Frag) (hne : m.runs.isEmpty = false) (ho : m.walOpen = true) :
    compactA cfg m vol w = (pagesA cfg m vol).1 ++ (memA .bumpTxid ::
      ((cutActs cfg (m.ws w) ++ wwActs cfg (startOf cfg (m.ws w))
          (manifestRecs m (pagesA cfg m vol).2.2.1 (pagesA cfg m vol).2.2.2.1 (pagesA cfg m vol).2.2.2.2)) ++
        [ioA .ws, memA (.compacted (cUpTo m) (pagesA cfg m vol).2.2.2.1 (pagesA cfg m vol).2.2.2.2 (pagesA cfg m vol).2.2.1
          (cEdges m) (m.epoch + 1))])) := by
  have hap := appendsA_eq cfg (Rec.begin m.nextTxid)
    (sysOps (m.epoch + 1) ((pagesA cfg m vol).2.2.1 :: m.segs.map (·.1)) (pagesA cfg m vol).2.2.2.1
      (pagesA cfg m vol).2.2.2.2 (cUpTo m) ++ [Rec.commit m.nextTxid]) (m.ws w) ho
  have hop := appendsA_isOpen cfg (manifestRecs m (pagesA cfg m vol).2.2.1 (pagesA cfg m vol).2.2.2.1 (pagesA cfg m vol).2.2.2.2)
    (m.ws w) ho
  rw [← List.cons_append, ← manifestRecs_eq] at hap
  rw [compactA_eq cfg m vol w hne, hap, hop]
  simp

/-- the log block of a compaction, started after the page phase: the system transaction is
    appended as a commit appends its records (`blk_logBlock`), from the handle invariant the page
    phase has kept -/
theorem blk_compactLog {cfg : Cfg} {T : List Tx} {fs fsP : FS} {m mP : Mem} {cs : List CTx} {c : Nat} (ht : TailPre cfg fs m)
    (e : PagesEnd cfg T fs m cs c fsP mP) :
    Blk (LogSafe cs (compactCs cfg m fs.pv cs) fsP.pd)
      (fun g' m' => cfg.walRollback = true → InvOpen T g' m' cs c ∧ TailPre cfg g' m')
      (cutActs cfg (m.ws fs.wf) ++ wwActs cfg (startOf cfg (m.ws fs.wf))
        (manifestRecs m (pagesA cfg m fs.pv).2.2.1 (pagesA cfg m fs.pv).2.2.2.1 (pagesA cfg m fs.pv).2.2.2.2))
      fsP (applyUpd mP .bumpTxid)
      (LogBlockEnd cs (compactCs cfg m fs.pv cs) (startOf cfg (m.ws fs.wf)) fsP (applyUpd mP .bumpTxid)) := by
  have htB : TailPre cfg fsP (applyUpd mP .bumpTxid) := by
    rcases ht with ht | ht
    · left; rw [e.wf]; exact ht
    · right; rw [e.mem]; exact ht
  have hb := blk_logBlock (cfg := cfg) e.inv.bump htB m.nextTxid
    (sysOps (m.epoch + 1) ((pagesA cfg m fs.pv).2.2.1 :: m.segs.map (·.1)) (pagesA cfg m fs.pv).2.2.2.1
      (pagesA cfg m fs.pv).2.2.2.2 (cUpTo m)) (sysOps_isOp _ _ _ _ _) _ (manifestRecs_eq m _ _ _).symm
  rw [show (applyUpd mP .bumpTxid).ws fsP.wf = m.ws fs.wf by rw [e.mem, e.wf]; rfl] at hb
  exact hb

/-- a compaction as a block: crash images that tear no live leaf represent `T` at every step;
    with rollback, an injected error at any step leaves such files and a handle that shows what it
    showed; at the end files and handle agree on `T` through the new manifest -/
theorem blk_compact {cfg : Cfg} {T : List Tx} {fs : FS} {m : Mem} {cs : List CTx} {c : Nat}
    (hcap1 : 1 ≤ cfg.leafCap) (h : InvOpen T fs m cs c) (ht : TailPre cfg fs m)
    (hns : NoLiveSplit cfg m fs.pv) (hne : m.runs.isEmpty = false) :
    Blk (SafeFSL m.proot [T])
      (fun g mm => cfg.walRollback = true → SafeFSL m.proot [T] g ∧ Spec.Content.same (content mm g.pv) (Spec.run T))
      (compactA cfg m fs.pv fs.wf) fs m (fun g mm => ∃ cs' c', InvOpen T g mm cs' c' ∧ TailPre cfg g mm) := by
  have hruns : m.runs ≠ [] := by
    intro h0; rw [h0] at hne; simp at hne
  rw [compactA_blocks cfg m fs.pv fs.wf hne h.mwal]
  refine ((blk_pages hcap1 h hns hruns).mono (fun _ hs => hs) (fun _ _ hf _ => hf) (fun _ _ hq => hq)).append
    fun fsP mP e => Blk.mem _ ?_
  have hinv := e.inv
  obtain ⟨c', hn⟩ := e.manifest
  refine (((blk_compactLog ht e).mono (Safe' := SafeFSL m.proot [T]) ?_ ?_ (fun _ _ hq => hq)).post_safe).append
    fun g1 m1 ⟨⟨⟨b, hm1⟩, hpj1, hpd1, hcom1, hcl1, _, _⟩, hs1⟩ => ?_
  · intro g hg
    exact (safeFS_mono (hg.safeFS h.log hinv.pager hinv.store hn.log hn.pager hn.store) (by simp)).toL
  · intro g mm hF hroll
    exact ⟨(hF hroll).1.safeFS.toL, content_of_inv (hF hroll).1⟩
  subst hm1
  have hin1 : Inert g1.pj := hpj1 ▸ hinv.pj
  -- a failing log sync leaves the system transaction in the page cache of the log
  refine .io _ _ hs1 (fun _ => ⟨hs1, ?_⟩) (.mem _ (.nil ?_ ⟨compactCs cfg m fs.pv cs, c', ?_, Or.inl hcl1⟩))
  · show Spec.Content.same (content mP g1.pv) _
    rw [pv_inert g1 hin1, hpd1]
    exact content_of_store hinv.store hinv.mexts hinv.mruns hinv.msegs hinv.mroot hinv.mptop
  · exact (safeFS_of_rep (show Inert (g1.step .ws).pj from hin1) ⟨rfl, rfl⟩
      ⟨_, c', hcom1, hn.log, by show PagerOK _ _ g1.pd; rw [hpd1]; exact hn.pager, by show StoreOK _ _ g1.pd; rw [hpd1]; exact hn.store⟩).toL
  · exact hinv.compacted ⟨rfl, rfl, rfl, rfl, rfl, rfl, rfl, rfl, rfl, rfl, rfl, rfl⟩ (g := g1.step .ws) hin1 hpd1 ⟨rfl, rfl⟩ hcom1
      hn (by rw [e.mem]; exact Nat.max_le.mpr ⟨Nat.le_of_lt h.mtxid, Nat.le_refl _⟩)

/-- compaction is crash-safe at every I/O step (`C02.compact_every_step`; no in-place leaf split of
    the LIVE tree; crash images that tear no leaf write of the live property tree): after any prefix
    of its steps every such image represents `T`. -/
theorem compact_safe {cfg : Cfg} {T : List Tx} {fs : FS} {m : Mem} {cs : List CTx} {c : Nat}
    (hcap1 : 1 ≤ cfg.leafCap) (h : InvOpen T fs m cs c) (ht : TailPre cfg fs m) (hns : NoLiveSplit cfg m fs.pv) :
    SafeAlong (SafeFSL m.proot [T]) fs (ioSteps (compactA cfg m fs.pv fs.wf)) := by
  by_cases hne : m.runs.isEmpty = true
  · rw [show compactA cfg m fs.pv fs.wf = [] by simp [compactA, hne]]
    exact safeAlong_nil h.safeFS.toL
  · exact (blk_compact hcap1 h ht hns (by simpa using hne)).safe

/-- a completed compaction re-establishes the handle invariant (same committed list, new
    manifest); `TailPre` and not a clean log, because a compaction without runs does nothing -/
theorem compact_post {cfg : Cfg} {T : List Tx} {fs : FS} {m : Mem} {cs : List CTx} {c : Nat}
    (hcap1 : 1 ≤ cfg.leafCap) (h : InvOpen T fs m cs c) (ht : TailPre cfg fs m) (hns : NoLiveSplit cfg m fs.pv) :
    ∃ cs' c', InvOpen T (run (compactA cfg m fs.pv fs.wf) .none fs m).fs (run (compactA cfg m fs.pv fs.wf) .none fs m).mem cs' c' ∧
      TailPre cfg (run (compactA cfg m fs.pv fs.wf) .none fs m).fs (run (compactA cfg m fs.pv fs.wf) .none fs m).mem := by
  by_cases hne : m.runs.isEmpty = true
  · rw [show compactA cfg m fs.pv fs.wf = [] by simp [compactA, hne]]
    exact ⟨cs, c, h, ht⟩
  · exact (blk_compact hcap1 h ht hns (by simpa using hne)).run_none.2

theorem inert_stats_snoc {pj : List PEff} (h : Inert pj) : Inert (pj ++ [PEff.stats]) := by
  intro e he
  rcases List.mem_append.mp he with h' | h'
  · exact h e h'
  · simpa using h'

theorem compactA_runs {cfg : Cfg} {m : Mem} {vol : PImg} {w : List Frag} {k : Nat}
    (hk : k < (ioSteps (compactA cfg m vol w)).length) : m.runs.isEmpty = false := by
  cases hr : m.runs.isEmpty with
  | false => rfl
  | true => rw [show compactA cfg m vol w = [] by simp [compactA, hr]] at hk; simp [ioSteps] at hk

/-- a compaction that fails at ANY I/O step: the error is reported; the handle shows what it
    showed; every crash image of the files (that tears no leaf write of the live tree) represents
    the committed list -/
theorem failed_compact {cfg : Cfg} {T : List Tx} {fs : FS} {m : Mem} {cs : List CTx} {c : Nat}
    (hroll : cfg.walRollback = true) (hcap1 : 1 ≤ cfg.leafCap) (h : InvOpen T fs m cs c) (ht : TailPre cfg fs m) (hns : NoLiveSplit cfg m fs.pv)
    (k : Nat) (hk : k < (ioSteps (compactA cfg m fs.pv fs.wf)).length) :
    (run (compactA cfg m fs.pv fs.wf) (.faultAt k) fs m).err = some .io ∧
    SafeFSL m.proot [T] (run (compactA cfg m fs.pv fs.wf) (.faultAt k) fs m).fs ∧
    Spec.Content.same (content (run (compactA cfg m fs.pv fs.wf) (.faultAt k) fs m).mem
      (run (compactA cfg m fs.pv fs.wf) (.faultAt k) fs m).fs.pv) (Spec.run T) := by
  obtain ⟨e1, hF⟩ := (blk_compact hcap1 h ht hns (compactA_runs hk)).run_fault k hk
  exact ⟨e1, hF hroll⟩

/-- a compaction that fails in its log block (tail cut, any write of the four system records; `hk2`
    leaves out the last I/O step, the log sync, whose failure undoes nothing): the append is rolled
    back; files and handle satisfy the invariant again -/
theorem failed_compact_log {cfg : Cfg} {T : List Tx} {fs : FS} {m : Mem} {cs : List CTx} {c : Nat}
    (hroll : cfg.walRollback = true) (hcap1 : 1 ≤ cfg.leafCap) (h : InvOpen T fs m cs c) (ht : TailPre cfg fs m) (hns : NoLiveSplit cfg m fs.pv)
    (k : Nat) (hk1 : (ioSteps (pagesA cfg m fs.pv).1).length ≤ k) (hk2 : k + 1 < (ioSteps (compactA cfg m fs.pv fs.wf)).length) :
    InvOpen T (run (compactA cfg m fs.pv fs.wf) (.faultAt k) fs m).fs (run (compactA cfg m fs.pv fs.wf) (.faultAt k) fs m).mem cs c ∧
    TailPre cfg (run (compactA cfg m fs.pv fs.wf) (.faultAt k) fs m).fs (run (compactA cfg m fs.pv fs.wf) (.faultAt k) fs m).mem := by
  have hne := compactA_runs hk2
  have hp := blk_pages hcap1 h hns (by intro h0; rw [h0] at hne; simp at hne)
  have hl := (blk_compactLog ht hp.post).nofail
  obtain ⟨k2, rfl⟩ : ∃ k2, k = (ioSteps (pagesA cfg m fs.pv).1).length + k2 := ⟨k - (ioSteps (pagesA cfg m fs.pv).1).length, by omega⟩
  rw [compactA_blocks cfg m fs.pv fs.wf hne h.mwal] at hk2 ⊢
  refine hp.run_fault_mid (Safe' := fun _ => True) (R := fun _ _ => True) (fun fsP mP e =>
    .mem _ ((blk_compactLog ht e).mono (fun _ _ => trivial) (fun _ _ hf => hf) (fun _ _ _ => trivial))) _ k2 ?_ hroll
  rw [ioSteps_append_noFail _ _ hp.nofail, List.length_append,
    show ∀ (u : MemUpd) (l : List Action), ioSteps (memA u :: l) = ioSteps l from fun _ _ => rfl,
    ioSteps_append_noFail _ _ hl, List.length_append] at hk2
  simp [ioSteps] at hk2
  exact show k2 < (ioSteps (cutActs cfg (m.ws fs.wf) ++ wwActs cfg (startOf cfg (m.ws fs.wf)) _)).length by omega

end Nervus.Crash
