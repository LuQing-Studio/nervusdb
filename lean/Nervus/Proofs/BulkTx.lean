/-
  Proofs/BulkTx.lean — the transactional load `txLoad ns es` is a well-formed transaction that triggers no
  C06 finding (C30), so `C06_partial` applies to it; and the read-by-read facts of BulkAgree put together as
  `ReadsAgree` for the opened bulk database (`bulk_reads_agree`).
-/
import Nervus.Proofs.BulkAgree
namespace Nervus.Storage
open Nervus.GraphSpec (Graph TxOp Op Rel opWF txWF txDeletesRelWithProps txLabelReAdd txEdgeAndEndpointDelete txExtZero)

def isLoadOp : TxOp → Bool
  | .node _ _ => true
  | .nprop _ _ _ => true
  | .edge _ _ _ => true
  | .eprop _ _ _ _ _ => true
  | _ => false

theorem load_noDeletes (ops : List TxOp) (h : ∀ o ∈ ops, isLoadOp o = true) :
    ∀ g, txDeletesRelWithProps g ops = false := by
  induction ops with
  | nil => intro g; rfl
  | cons o os ih =>
    intro g
    have ho := h o List.mem_cons_self
    simp only [txDeletesRelWithProps, Bool.or_eq_false_iff]
    refine ⟨?_, ih (fun x hx => h x (List.mem_cons_of_mem _ hx)) _⟩
    cases o <;> simp [isLoadOp] at ho <;> rfl

theorem load_noLabelReAdd (ops : List TxOp) (h : ∀ o ∈ ops, isLoadOp o = true) : txLabelReAdd ops = false := by
  induction ops with
  | nil => rfl
  | cons o os ih =>
    have ho := h o List.mem_cons_self
    have ih' := ih (fun x hx => h x (List.mem_cons_of_mem _ hx))
    cases o <;> simp [isLoadOp] at ho <;> simp only [txLabelReAdd, ih']

theorem load_noEndpointDelete (ops : List TxOp) (h : ∀ o ∈ ops, isLoadOp o = true) :
    txEdgeAndEndpointDelete ops = false := by
  induction ops with
  | nil => rfl
  | cons o os ih =>
    have ho := h o List.mem_cons_self
    have hos := fun x hx => h x (List.mem_cons_of_mem _ hx)
    have ih' := ih hos
    have hnt : ∀ n, os.contains (TxOp.tombNode n) = false := by
      intro n
      rw [Bool.eq_false_iff]; intro hc
      have := hos _ (by simpa using hc)
      simp [isLoadOp] at this
    cases o <;> simp [isLoadOp] at ho <;> simp only [txEdgeAndEndpointDelete, ih', hnt, Bool.or_self]

section
variable (ns : List BulkNode) (es : List BulkEdge)

theorem txLoad_loadOps : ∀ o ∈ txLoad ns es, isLoadOp o = true := by
  intro o ho
  rw [txLoad_eq] at ho
  rcases List.mem_append.mp ho with h | h
  · unfold nodeOpsFrom at h
    obtain ⟨p, _, hp⟩ := List.mem_flatMap.mp h
    rcases List.mem_cons.mp hp with rfl | hp'
    · rfl
    · unfold propOps at hp'
      obtain ⟨kv, _, rfl⟩ := List.mem_map.mp hp'; rfl
  · unfold edgeOps at h
    obtain ⟨e, _, hp⟩ := List.mem_flatMap.mp h
    rcases List.mem_cons.mp hp with rfl | hp'
    · rfl
    · obtain ⟨kv, _, rfl⟩ := List.mem_map.mp hp'; rfl

theorem txLoad_noExtZero (hz : ∀ n ∈ ns, n.ext ≠ 0) : txExtZero (txLoad ns es) = false := by
  unfold txExtZero
  rw [List.any_eq_false]
  intro o ho
  rw [txLoad_eq] at ho
  rcases List.mem_append.mp ho with h | h
  · unfold nodeOpsFrom at h
    obtain ⟨p, hp0, hp⟩ := List.mem_flatMap.mp h
    rcases List.mem_cons.mp hp with rfl | hp'
    · obtain ⟨h1, h2⟩ := zip_mem_inv ns p hp0
      have := hz p.1 (h2 ▸ List.getElem_mem h1)
      cases hx : p.1.ext with
      | zero => exact absurd hx this
      | succ m => simp
    · unfold propOps at hp'
      obtain ⟨kv, _, rfl⟩ := List.mem_map.mp hp'; simp
  · unfold edgeOps at h
    obtain ⟨e, _, hp⟩ := List.mem_flatMap.mp h
    rcases List.mem_cons.mp hp with rfl | hp'
    · simp
    · obtain ⟨kv, _, rfl⟩ := List.mem_map.mp hp'; simp

theorem bulkIid_lt (x : Nat) (h : ∃ n ∈ ns, n.ext = x) : bulkIid ns x < ns.length := by
  obtain ⟨n, hn, rfl⟩ := h
  unfold bulkIid
  have := List.idxOf_lt_length_iff.mpr (List.mem_map.mpr ⟨n, hn, rfl⟩ : n.ext ∈ ns.map (·.ext))
  simpa using this

theorem txLoad_wf (hok : bulkOK ns es = true) : txWF {} (txLoad ns es) = true := by
  obtain ⟨_, hnd, _, hend⟩ := bulkOK_unpack ns es hok
  rw [txLoad_eq, txWF_append, Bool.and_eq_true]
  obtain ⟨hN, hw⟩ := nodePhase ns {} 0 rfl rfl (by intro n _ p hp; cases hp) hnd
  refine ⟨hw, ?_⟩
  exact (edgePhase ns es _).2 (by rw [hN.dead]) (fun e he => by
    rw [hN.next]; simp only [Nat.zero_add]
    exact ⟨bulkIid_lt ns _ (hend e he).1, bulkIid_lt ns _ (hend e he).2⟩)

theorem bulk_reads_agree {b : Engine} (hb : IsBulk ns es b) (hok : bulkOK ns es = true) :
    ReadsAgree Cfg.current b (bulkGraph ns es) := by
  obtain ⟨_, hnd, hz, _⟩ := bulkOK_unpack ns es hok
  obtain ⟨n1, n2, hlive⟩ := bulk_nodes ns es hb hnd
  exact { nodes := n1, nodesSnap := n2,
          ext := fun n hn => bulk_ext ns es hb hnd hz n ((hlive n).mp hn),
          labels := fun n l hn => bulk_labels ns es hb hnd n ((hlive n).mp hn) l,
          nprop := fun n k _ => bulk_nprop ns es hb hnd n k,
          nprops := fun n k _ => by rw [nodeProps_lookup]; exact bulk_nprop ns es hb hnd n k,
          out := fun n rel t _ hm => bulk_out ns es hb hnd n rel t hm,
          inc := fun n rel t _ hm => bulk_inc ns es hb hnd n rel t hm,
          eprop := fun r nm a c k hr _ _ => bulk_eprop ns es hb hnd r nm a c k hr,
          eprops := fun r nm a c k hr _ _ => by rw [edgeProps_lookup]; exact bulk_eprop ns es hb hnd r nm a c k hr,
          extLookup := fun x _ => bulk_extLookup ns es hb hnd hz x }

theorem bulkEngine_isBulk (d : Disk) (hd : d.i2e = bulkI2e ns es) : IsBulk ns es (bulkEngine ns es d) :=
  ⟨by show IdMap.load d.i2e = _; rw [hd], rfl, rfl, rfl, rfl, rfl, rfl⟩

end

end Nervus.Storage
