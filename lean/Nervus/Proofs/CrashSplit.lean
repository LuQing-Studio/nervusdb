/-
  Proofs.CrashSplit — property sinking into a tree that is NOT the live one (a new tree is not
  reachable before the manifest is durable).  Whatever the tree looks like, every step is a block
  of the class and the scratch tree of the program is the tree its writes produce; for ascending
  keys, leaf splits included (`BTree::insert` Err arm), the result is again a chain of leaves.
-/
import Nervus.Proofs.CrashSink
namespace Nervus.Crash

/-! ### the chain that ascending insertions build -/

theorem insNat_ge (q : Nat) : ∀ (xs : List Nat), xs.Pairwise (· ≤ ·) → (∀ x ∈ xs, x ≤ q) → insNat q xs = xs ++ [q]
  | [], _, _ => rfl
  | e :: es, hs, hq => by
    have he : e ≤ q := hq e (by simp)
    have hs' := List.pairwise_cons.mp hs
    simp only [insNat]
    by_cases hlt : e < q
    · simp [hlt, insNat_ge q es hs'.2 (fun x hx => hq x (by simp [hx]))]
    · have heq : e = q := by omega
      subst heq
      simp only [hlt, if_false, List.cons_append, List.cons.injEq, true_and]
      -- every later element lies between e and q = e
      have hall : ∀ x ∈ es, x = e := fun x hx => by
        have h1 := hs'.1 x hx
        have h2 := hq x (by simp [hx])
        omega
      have : es = List.replicate es.length e := List.eq_replicate_iff.mpr ⟨rfl, hall⟩
      rw [this]
      simp [← List.replicate_succ, List.replicate_succ']

/-- Both split branches of `sinkOneA` in one (`np`: the page of a new root, unused when there is one). -/
def treeSplit (t : TreeImg) (q i : Nat) (L R : List Nat) (p rp np : Nat) : TreeImg :=
  { t with blobs := q :: t.blobs
           leaves := setLeaf (setLeaf t.leaves i ⟨L.map some, true, p⟩) (i + 1) ⟨R.map some, false, rp⟩
           inode := some ((t.inode.getD []) ++ [R.headD 0])
           inodePid := if t.inode.isSome then t.inodePid else np }

theorem sinkOne_split (cfg : Cfg) (ps : PS) (t : TreeImg) (q : Nat) (Xi : List (List Nat)) (last : List Nat) (pids : List Nat)
    (hl : t.leaves = mkLeaves (Xi ++ [last]) pids) (hc : ¬ (rmNat q last).length < cfg.leafCap) :
    ∃ p rp np, (sinkOneA cfg ps t q).2.2 = treeSplit t q Xi.length ((insR q last).take ((insR q last).length / 2))
      ((insR q last).drop ((insR q last).length / 2)) p rp np := by
  obtain ⟨p, hlen, hleaf⟩ := lastLeaf_chain hl ⟨[], false, t.key⟩
  have hsep : ∀ l : List Nat, ((l.map some).headD none).getD 0 = l.headD 0 := by
    intro l; cases l <;> simp
  cases hin : t.inode with
  | none =>
    refine ⟨p, (allocA (allocA ps).2.1).2.2, (allocA (allocA (allocA ps).2.1).2.1).2.2, ?_⟩
    simp only [sinkOneA, hlen, List.getD_eq_getElem?_getD, hleaf, List.all_map, Function.comp_def, Option.isSome_some, List.all_eq_true,
      implies_true, if_true, filter_map_some, List.length_map, hc, insertSorted_map, hin, if_false, treeSplit, insR]
    simp only [← List.map_take, ← List.map_drop, hsep, Option.getD_none, List.nil_append, Option.isSome_none, Bool.false_eq_true, if_false]
  | some seps =>
    refine ⟨p, (allocA (allocA ps).2.1).2.2, 0, ?_⟩
    simp only [sinkOneA, hlen, List.getD_eq_getElem?_getD, hleaf, List.all_map, Function.comp_def, Option.isSome_some, List.all_eq_true,
      implies_true, if_true, filter_map_some, List.length_map, hc, insertSorted_map, hin, if_false, treeSplit, insR]
    simp only [← List.map_take, ← List.map_drop, hsep, Option.getD_some]

theorem sinkOne_shape (cfg : Cfg) (hcap : 1 ≤ cfg.leafCap) (ps : PS) (t : TreeImg) (q : Nat) (Xi : List (List Nat))
    (last : List Nat) (top : Bool) (h : TreeShape t (Xi ++ [last]) top) (hq : ∀ x ∈ (Xi ++ [last]).flatten, x ≤ q) (hnq : q ∉ last) :
    ∃ Xi' last' top', TreeShape (sinkOneA cfg ps t q).2.2 (Xi' ++ [last']) top' ∧
      (Xi' ++ [last']).flatten = (Xi ++ [last]).flatten ++ [q] ∧
      (sinkOneA cfg ps t q).2.2.blobs = q :: t.blobs := by
  obtain ⟨pids, hl⟩ := h.leaves
  have hsp := (sortedNat_iff _).mp h.sorted
  have hflat : (Xi ++ [last]).flatten = Xi.flatten ++ last := by simp
  have hslast : last.Pairwise (· ≤ ·) := by
    rw [hflat] at hsp; exact (List.pairwise_append.mp hsp).2.1
  have hqlast : ∀ x ∈ last, x ≤ q := fun x hx => hq x (by rw [hflat]; exact List.mem_append_right _ hx)
  have hsnew : SortedNat ((Xi ++ [last]).flatten ++ [q]) := by
    rw [sortedNat_iff, List.pairwise_append]
    exact ⟨hsp, by simp, fun a ha b hb => by simp only [List.mem_singleton] at hb; subst hb; exact hq a ha⟩
  have hlastne : Xi ≠ [] → last ≠ [] := by
    intro hx
    apply h.tail last
    cases Xi with
    | nil => exact absurd rfl hx
    | cons x Xs => simp
  have hrm : rmNat q last = last := rmNat_eq_self hnq
  have hins : insR q last = last ++ [q] := by rw [insR, hrm, insNat_ge q last hslast hqlast]
  by_cases hc : last.length < cfg.leafCap
  · obtain ⟨p, hA⟩ := sinkOneA_last cfg ps t q Xi last pids hl (by rw [hrm]; exact hc)
    rw [hA, hins]
    refine ⟨Xi, last ++ [q], top, treeShape_setLast h p rfl rfl ?_
      (fun hx => ⟨by simp, headD_append_ne last [q] (hlastne hx)⟩), by simp, rfl⟩
    have : (Xi ++ [last ++ [q]]).flatten = (Xi ++ [last]).flatten ++ [q] := by simp
    rw [this]; exact hsnew
  · obtain ⟨p, rp, np, h2'⟩ := sinkOne_split cfg ps t q Xi last pids hl (by rw [hrm]; exact hc)
    rw [h2', hins, List.length_append, List.length_singleton]
    have hlenl : 1 ≤ last.length := by omega
    have hlast0 : last ≠ [] := by intro h0; rw [h0] at hlenl; simp at hlenl
    have hflat' : (Xi ++ [(last ++ [q]).take ((last.length + 1) / 2), (last ++ [q]).drop ((last.length + 1) / 2)]).flatten =
        (Xi ++ [last]).flatten ++ [q] := by simp
    refine ⟨Xi ++ [(last ++ [q]).take ((last.length + 1) / 2)], (last ++ [q]).drop ((last.length + 1) / 2), true, ?_,
      by rw [List.append_assoc]; exact hflat', rfl⟩
    rw [List.append_assoc]
    refine treeShape_split h p rp rfl rfl (by rw [hflat']; exact hsnew) (fun h0 => ?_) (fun h0 => ?_)
      fun _ => by rw [headD_take _ _ (by omega), headD_append_ne last [q] hlast0]
    · have := congrArg List.length h0
      simp at this; omega
    · have := congrArg List.length h0
      simp at this; omega

theorem forall_mem_snoc {α : Type} {P : α → Prop} {l : List α} {x : α} (h : ∀ y ∈ l, P y) (hx : P x) : ∀ y ∈ l ++ [x], P y :=
  fun y hy => (List.mem_append.mp hy).elim (h y) fun hy => List.mem_singleton.mp hy ▸ hx

theorem forall_mem_snocIf {α : Type} {P : α → Prop} {l : List α} {x : α} (c : Prop) [Decidable c] (h : ∀ y ∈ l, P y) (hx : P x) :
    ∀ y ∈ l ++ (if c then [x] else []), P y := by
  split
  · exact forall_mem_snoc h hx
  · rw [List.append_nil]; exact h

variable {p0 : PImg} {live lo : Nat} {allowed covered : List Nat} {lv : LiveP}

/-! ### any tree but the live one -/

/-- No shape of `t` is assumed (`CEff` admits any write into a tree other than the live one), so there
    is no closed form of `sinkOneA` to rewrite with: the proof names its `let`s and follows its branches. -/
theorem pblk_sinkOneNew (cfg : Cfg) (nd : Nat) (ps : PS) (t : TreeImg) (q : Nat)
    (hsk : SameKey p0.hdr ps.pm) (hnp : min ps.bm ps.pm.nextPage = nd) (hk : t.key ≠ live) :
    ∃ nd' effs, PBlk p0 live allowed covered lv lo nd ps (sinkOneA cfg ps t q).1 effs nd' (sinkOneA cfg ps t q).2.1 ∧
      (∀ e ∈ effs, OnTree t.key e) ∧ effs.foldl (fun t e => effT e t) t = (sinkOneA cfg ps t q).2.2 := by
  have bb := (PBlk.nil (live := live) (lo := lo) (allowed := allowed) (covered := covered) (lv := lv) hsk hnp).alloc.write
    (.blob t.key q) (allocA ps).2.2 trivial
  have ob : ∀ e ∈ ([] ++ [PEff.blob t.key q] : List PEff), OnTree t.key e := forall_mem_snoc (fun _ h => absurd h List.not_mem_nil) rfl
  generalize hr : sinkOneA cfg ps t q = r
  unfold sinkOneA at hr
  extract_lets t1 li leaf0 clean k found kept ad leaf j es mid left right sep at hr
  dsimp only at hr
  have hli : li ≤ t.leaves.length - 1 := Nat.le_refl _
  have bd := bb.writeIf (kept.length < leaf0.entries.length) (.leaf t.key li kept leaf0.sib leaf0.pid) leaf0.pid fun _ => Or.inl hk
  have od := forall_mem_snocIf (kept.length < leaf0.entries.length) (x := PEff.leaf t.key li kept leaf0.sib leaf0.pid) ob rfl
  split at hr
  · subst hr
    refine ⟨_, _, bd.write (.leaf t.key li es leaf0.sib leaf0.pid) leaf0.pid (Or.inl hk), forall_mem_snoc od rfl, ?_⟩
    split
    · exact congrArg (fun l => ({ t1 with leaves := l } : TreeImg)) (setLeaf_setLeaf _ _ _ _ hli)
    · rfl
  · have bR := (bd.alloc.write (.leaf t.key li left true leaf0.pid) leaf0.pid (Or.inl hk)).write
      (.leaf t.key (li + 1) right leaf0.sib (allocA (allocA ps).2.1).2.2) (allocA (allocA ps).2.1).2.2 (Or.inl hk)
    have oR := forall_mem_snoc (forall_mem_snoc od (x := PEff.leaf t.key li left true leaf0.pid) rfl)
      (x := PEff.leaf t.key (li + 1) right leaf0.sib (allocA (allocA ps).2.1).2.2) rfl
    rw [List.append_assoc] at bR
    split at hr
    · subst hr
      refine ⟨_, _, bR.alloc.write (.inode t.key [sep] (allocA (allocA (allocA ps).2.1).2.1).2.2) (allocA (allocA (allocA ps).2.1).2.1).2.2 hk,
        forall_mem_snoc oR rfl, ?_⟩
      split
      · exact congrArg (fun l => (⟨t.key, setLeaf l (li + 1) ⟨right, leaf0.sib, (allocA (allocA ps).2.1).2.2⟩, some [sep], q :: t.blobs,
          (allocA (allocA (allocA ps).2.1).2.1).2.2⟩ : TreeImg)) (setLeaf_setLeaf _ _ _ _ hli)
      · rfl
    · rename_i seps _
      subst hr
      refine ⟨_, _, bR.write (.inode t.key (seps ++ [sep]) t.inodePid) t.inodePid hk, forall_mem_snoc oR rfl, ?_⟩
      split
      · exact congrArg (fun l => (⟨t.key, setLeaf l (li + 1) ⟨right, leaf0.sib, (allocA (allocA ps).2.1).2.2⟩, some (seps ++ [sep]),
          q :: t.blobs, t.inodePid⟩ : TreeImg)) (setLeaf_setLeaf _ _ _ _ hli)
      · rfl

theorem pblk_sinkNew (cfg : Cfg) : ∀ (qs : List Nat) (nd : Nat) (ps : PS) (t : TreeImg),
    SameKey p0.hdr ps.pm → min ps.bm ps.pm.nextPage = nd → t.key ≠ live →
    ∃ nd' effs, PBlk p0 live allowed covered lv lo nd ps (sinkA cfg ps t qs).1 effs nd' (sinkA cfg ps t qs).2.1 ∧
      (∀ e ∈ effs, OnTree t.key e) ∧ effs.foldl (fun t e => effT e t) t = (sinkA cfg ps t qs).2.2
  | [], nd, ps, t, hsk, hnp, _ => ⟨nd, [], PBlk.nil hsk hnp, fun _ h => absurd h List.not_mem_nil, rfl⟩
  | q :: qs, nd, ps, t, hsk, hnp, hk => by
    obtain ⟨nd1, e1, b1, o1, f1⟩ := pblk_sinkOneNew (p0 := p0) (lo := lo) (allowed := allowed) (covered := covered) (lv := lv) cfg nd ps t q hsk hnp hk
    have hkey : (sinkOneA cfg ps t q).2.2.key = t.key := by rw [← f1]; exact effsT_key e1 t
    obtain ⟨nd2, e2, b2, o2, f2⟩ := pblk_sinkNew cfg qs nd1 _ (sinkOneA cfg ps t q).2.2 b1.sk b1.np (by rw [hkey]; exact hk)
    rw [sinkA_cons]
    refine ⟨nd2, e1 ++ e2, b1.append b2, fun e he => ?_, by rw [List.foldl_append, f1, f2]⟩
    rcases List.mem_append.mp he with h | h
    · exact o1 e h
    · exact hkey ▸ o2 e h

theorem sinkA_shape (cfg : Cfg) (hcap : 1 ≤ cfg.leafCap) :
    ∀ (qs : List Nat) (ps : PS) (t : TreeImg) (Xi : List (List Nat)) (last : List Nat) (tp : Bool),
      TreeShape t (Xi ++ [last]) tp → qs.Pairwise (· < ·) → (∀ x ∈ (Xi ++ [last]).flatten, ∀ q ∈ qs, x < q) →
      ∃ Xi' last' tp', TreeShape (sinkA cfg ps t qs).2.2 (Xi' ++ [last']) tp' ∧
        (Xi' ++ [last']).flatten = (Xi ++ [last]).flatten ++ qs ∧
        (∀ y, y ∈ (sinkA cfg ps t qs).2.2.blobs ↔ y ∈ qs ∨ y ∈ t.blobs)
  | [], ps, t, Xi, last, tp, hsh, _, _ => ⟨Xi, last, tp, hsh, by simp, by simp [sinkA]⟩
  | q :: qs, ps, t, Xi, last, tp, hsh, hpw, hq => by
    have hflat : (Xi ++ [last]).flatten = Xi.flatten ++ last := by simp
    have hnq : q ∉ last := fun hin => Nat.lt_irrefl q (hq q (by rw [hflat]; exact List.mem_append_right _ hin) q (by simp))
    obtain ⟨Xi1, last1, tp1, hsh1, hflat1, hbl1⟩ :=
      sinkOne_shape cfg hcap ps t q Xi last tp hsh (fun x hx => Nat.le_of_lt (hq x hx q (by simp))) hnq
    have hpw' := List.pairwise_cons.mp hpw
    obtain ⟨Xi2, last2, tp2, hsh2, hflat2, hbl2⟩ :=
      sinkA_shape cfg hcap qs (sinkOneA cfg ps t q).2.1 (sinkOneA cfg ps t q).2.2 Xi1 last1 tp1 hsh1 hpw'.2
        (by
          intro x hx q' hq'
          rw [hflat1] at hx
          rcases List.mem_append.mp hx with hx | hx
          · exact hq x hx q' (by simp [hq'])
          · simp at hx; subst hx; exact hpw'.1 q' hq')
    rw [sinkA_cons]
    refine ⟨Xi2, last2, tp2, hsh2, by rw [hflat2, hflat1]; simp, fun y => ?_⟩
    rw [hbl2 y, hbl1]
    simp only [List.mem_cons]
    constructor
    · rintro (h | h | h)
      · exact Or.inl (Or.inr h)
      · exact Or.inl (Or.inl h)
      · exact Or.inr h
    · rintro ((h | h) | h)
      · exact Or.inr (Or.inl h)
      · exact Or.inl h
      · exact Or.inr (Or.inr h)

end Nervus.Crash
