/-
  Proofs/EngineCompactProps.lean — property sinking against the single-key property reads (C05):
  when the runs hold no property removal, compaction is invisible to `node_property` /
  `edge_property` (any engine state with `RootOK`).  The sinking loops are `or_insert` folds: per key the
  newest run that holds it wins (`firstRun`), which is what the run overlay answered before.
-/
import Nervus.Proofs.EngineCompact
import Nervus.Proofs.StoreRoot
import Nervus.Proofs.PropKind
namespace Nervus.Storage

def firstRun {κ} [BEq κ] (sel : Run → List (κ × PV)) (k : κ) : List Run → Option PV
  | [] => none
  | r :: rs => match (sel r).lookup k with
    | some v => some v
    | none => firstRun sel k rs

theorem any_key_iff {κ} [DecidableEq κ] [BEq κ] [LawfulBEq κ] (acc : List (κ × PV)) (k : κ) :
    (acc.any (fun q => @BEq.beq κ instBEqOfDecidableEq q.1 k)) = (acc.lookup k).isSome := by
  induction acc with
  | nil => rfl
  | cons q qs ih =>
    obtain ⟨a, b⟩ := q
    simp only [List.any_cons, List.lookup_cons]
    by_cases h : k = a
    · subst h; simp
    · have h1 : (k == a) = false := by simpa using h
      have h2 : (@BEq.beq κ instBEqOfDecidableEq a k) = false := by simpa using (Ne.symm h)
      rw [h2, h1]
      simpa using ih

/-- `entry(k).or_insert(v)` over a list of pairs: a key that is present keeps its value, otherwise its first pair
    in the list wins — whatever the test for presence and the insertion are, as long as they read and extend the
    association list -/
theorem lookup_foldl_orInsert {κ ν} [BEq κ] [LawfulBEq κ] (has : List (κ × ν) → κ → Bool)
    (ins : List (κ × ν) → κ × ν → List (κ × ν)) (hhas : ∀ m k, has m k = (m.lookup k).isSome)
    (hins : ∀ m p k, m.lookup p.1 = none → (ins m p).lookup k = if k == p.1 then some p.2 else m.lookup k)
    (l acc : List (κ × ν)) (k : κ) :
    (l.foldl (fun m p => if has m p.1 then m else ins m p) acc).lookup k = (acc.lookup k).or (l.lookup k) := by
  induction l generalizing acc with
  | nil => simp
  | cons p ps ih =>
    obtain ⟨a, b⟩ := p
    rw [List.foldl_cons, ih, List.lookup_cons, hhas]
    cases hl : acc.lookup a with
    | some v =>
      simp only [Option.isSome_some, if_true]
      by_cases hk : (k == a) = true
      · rw [eq_of_beq hk, hl]; rfl
      · simp [hk]
    | none =>
      simp only [Option.isSome_none, Bool.false_eq_true, if_false]
      rw [hins _ _ _ hl]
      by_cases hk : (k == a) = true
      · rw [eq_of_beq hk, hl]; simp
      · simp [hk]

theorem sink_inner {κ} [DecidableEq κ] [BEq κ] [LawfulBEq κ] (ps acc : List (κ × PV)) (k : κ) :
    (ps.foldl (fun acc p => if acc.any (fun q => @BEq.beq κ instBEqOfDecidableEq q.1 p.1) then acc else acc ++ [p]) acc).lookup k =
      (acc.lookup k).or (ps.lookup k) :=
  lookup_foldl_orInsert (fun m k => m.any (fun q => @BEq.beq κ instBEqOfDecidableEq q.1 k)) (fun m p => m ++ [p])
    any_key_iff (fun m p k h => by
      rw [List.lookup_append, List.lookup_cons, List.lookup_nil]
      by_cases hk : (k == p.1) = true
      · rw [eq_of_beq hk, h]; simp
      · simp [hk]) ps acc k

theorem sink_outer {κ} [DecidableEq κ] [BEq κ] [LawfulBEq κ] (sel : Run → List (κ × PV)) (runs : List Run)
    (acc : List (κ × PV)) (k : κ) :
    (runs.foldl (fun acc r => (sel r).foldl (fun acc p => if acc.any (fun q => @BEq.beq κ instBEqOfDecidableEq q.1 p.1) then acc else acc ++ [p]) acc) acc).lookup k =
      (acc.lookup k).or (firstRun sel k runs) := by
  induction runs generalizing acc with
  | nil => simp [firstRun]
  | cons r rs ih =>
    simp only [List.foldl_cons]
    rw [ih, sink_inner]
    simp only [firstRun]
    cases acc.lookup k <;> cases (sel r).lookup k <;> simp

theorem sinkProps_lookup {κ} [DecidableEq κ] [BEq κ] [LawfulBEq κ] (sel : Run → List (κ × PV))
    (runs : List Run) (k : κ) : (Engine.sinkProps sel runs).lookup k = firstRun sel k runs := by
  unfold Engine.sinkProps
  rw [sink_outer]; simp

theorem overlayRead_noDel {κ} [BEq κ] (del : Run → List (κ × Nat)) (set : Run → List ((κ × Nat) × PV)) (a : κ) (k : Nat)
    (runs : List Run) (h : ∀ r ∈ runs, del r = []) : overlayRead del set a k runs = firstRun set (a, k) runs := by
  induction runs with
  | nil => rfl
  | cons r rs ih =>
    simp only [overlayRead, firstRun, h r List.mem_cons_self, List.contains_nil, Bool.false_eq_true, if_false]
    rw [ih (fun r' hr' => h r' (List.mem_cons_of_mem _ hr'))]
    rfl

/-- the same entries under two keyings: the bulk store is keyed by type ids, the Spec's property map by type
    names (`bulk_eprop`) -/
theorem lookup_two_keys {α κ κ' ν} [BEq κ] [LawfulBEq κ] [BEq κ'] [LawfulBEq κ'] (X : List α) (f : α → κ) (f' : α → κ')
    (val : α → ν) (key : κ) (key' : κ') (h : ∀ x ∈ X, (f x == key) = (f' x == key')) :
    (X.map (fun x => (f x, val x))).lookup key = (X.map (fun x => (f' x, val x))).lookup key' := by
  induction X with
  | nil => rfl
  | cons x xs ih =>
    have hx := h x List.mem_cons_self
    have ih' := ih (fun y hy => h y (List.mem_cons_of_mem _ hy))
    simp only [List.map_cons, List.lookup_cons]
    rw [BEq.comm (a := key), BEq.comm (a := key'), hx, ih']

theorem lookup_map_key {κ κ' ν} [BEq κ] [LawfulBEq κ] [BEq κ'] [LawfulBEq κ'] (f : κ → κ')
    (hf : ∀ a b, f a = f b → a = b) (l : List (κ × ν)) (k : κ) :
    (l.map (fun p => (f p.1, p.2))).lookup (f k) = l.lookup k := by
  have h := lookup_two_keys l (fun p => f p.1) (·.1) (·.2) (f k) k (fun x _ => by
    rw [Bool.eq_iff_iff, beq_iff_eq, beq_iff_eq]; exact ⟨hf _ _, congrArg f⟩)
  rwa [List.map_id'' (fun _ => rfl)] at h

theorem lookup_map_key_none {κ κ' ν} [BEq κ'] [LawfulBEq κ'] (f : κ → κ') (k' : κ') (hf : ∀ a, f a ≠ k')
    (l : List (κ × ν)) : (l.map (fun p => (f p.1, p.2))).lookup k' = none :=
  lookup_eq_none_of_not_mem_keys fun _ hp e => by
    obtain ⟨q, _, rfl⟩ := List.mem_map.mp hp
    exact hf q.1 e

theorem lookup_map_node (l : List ((Nat × Nat) × PV)) (n k : Nat) :
    (l.map (fun p => (SKey.node p.1.1 p.1.2, p.2))).lookup (SKey.node n k) = l.lookup (n, k) :=
  lookup_map_key (fun q : Nat × Nat => SKey.node q.1 q.2) (fun a b h => by cases a; cases b; cases h; rfl) l (n, k)

theorem lookup_map_edge (l : List ((Edge × Nat) × PV)) (e : Edge) (k : Nat) :
    (l.map (fun p => (SKey.edge p.1.1 p.1.2, p.2))).lookup (SKey.edge e k) = l.lookup (e, k) :=
  lookup_map_key (fun q : Edge × Nat => SKey.edge q.1 q.2) (fun a b h => by cases a; cases b; cases h; rfl) l (e, k)

theorem lookup_map_node_edge (l : List ((Edge × Nat) × PV)) (n k : Nat) :
    (l.map (fun p => (SKey.edge p.1.1 p.1.2, p.2))).lookup (SKey.node n k) = none :=
  lookup_map_key_none (fun q : Edge × Nat => SKey.edge q.1 q.2) _ (fun _ h => by cases h) l

theorem lookup_map_edge_node (l : List ((Nat × Nat) × PV)) (e : Edge) (k : Nat) :
    (l.map (fun p => (SKey.node p.1.1 p.1.2, p.2))).lookup (SKey.edge e k) = none :=
  lookup_map_key_none (fun q : Nat × Nat => SKey.node q.1 q.2) _ (fun _ h => by cases h) l

/-- `hflag`: were the root read before the insert loops, a root split would leave `propsRoot` on a former root
    and the reads would miss entries (in the model: all of them; C05-seed1).  `hsunk`: the sunk entries of this kind
    sit under its keys. -/
theorem PKind.compact_read {κ} [BEq κ] [LawfulBEq κ] (p : PKind κ)
    (hsunk : ∀ (s : Engine) a k, (sunkOf s).lookup (p.key a k) = firstRun p.set (a, k) s.runs)
    (c : Cfg) (hflag : c.rootAfterInserts = true) (s : Engine) (hdel : ∀ r ∈ s.runs, p.del r = []) (hroot : RootOK s)
    (a : κ) (k : Nat) : p.read (s.compact c) a k = p.read s a k := by
  cases he : s.runs.isEmpty with
  | true => rw [compact_noop c s he]
  | false =>
    obtain ⟨h1, _, _, _⟩ := compact_fields c s he
    unfold PKind.read
    rw [visibleStore_ok (hroot.compact c hflag), visibleStore_ok hroot, h1, overlayRead_noDel _ _ a k s.runs hdel]
    unfold Store.get
    rw [compact_store_lookup c s he, List.lookup_append, hsunk]
    simp only [overlayRead]
    cases firstRun p.set (a, k) s.runs <;> simp

theorem compact_nodeProp (c : Cfg) (hflag : c.rootAfterInserts = true) (s : Engine)
    (hdel : ∀ r ∈ s.runs, r.nDel = []) (hroot : RootOK s) (n k : Nat) :
    (s.compact c).nodeProp n k = s.nodeProp n k := by
  rw [nodeProp_eq_kind, nodeProp_eq_kind]
  refine PKind.node.compact_read (fun s n k => ?_) c hflag s hdel hroot n k
  show (sunkOf s).lookup (SKey.node n k) = firstRun (·.nprops) (n, k) s.runs
  unfold sunkOf
  rw [List.lookup_append, lookup_map_node, lookup_map_node_edge, sinkProps_lookup, Option.or_none]

theorem compact_edgeProp (c : Cfg) (hflag : c.rootAfterInserts = true) (s : Engine)
    (hdel : ∀ r ∈ s.runs, r.eDel = []) (hroot : RootOK s) (e : Edge) (k : Nat) :
    (s.compact c).edgeProp e k = s.edgeProp e k := by
  rw [edgeProp_eq_kind, edgeProp_eq_kind]
  refine PKind.edge.compact_read (fun s e k => ?_) c hflag s hdel hroot e k
  show (sunkOf s).lookup (SKey.edge e k) = firstRun (·.eprops) (e, k) s.runs
  unfold sunkOf
  rw [List.lookup_append, lookup_map_edge_node, lookup_map_edge, sinkProps_lookup, Option.none_or]

end Nervus.Storage
