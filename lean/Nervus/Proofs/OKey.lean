/-
  Proofs.OKey — the pieces of `encode_ordered_value` are strictly monotone: the byte stuffing `stuff` for `bytesLt`
  (`stuff_lt`), with no stuffed string a proper prefix of another (`stuff_not_prefix`: the terminator `00 00` occurs
  only at the end), the sign flip of integers (`signFlip_eq`), and the sortable image of a float as a function of
  the Spec's key `fkey` (`floatSortable_norm`).
-/
import Nervus.Proofs.BytesOrder
import Nervus.Spec.OrderedValue
namespace Nervus.OKey
open Nervus

theorem stuff_lt : ∀ (a b : Bytes), bytesLt a b = true → bytesLt (stuff a) (stuff b) = true
  | [], [], h => by simp [bytesLt] at h
  | [], y :: ys, _ => by
    by_cases hy : y = 0
    · subst hy; simp [stuff, bytesLt]
    · simp [stuff, hy, bytesLt, UInt8.pos_iff_ne_zero.2 hy]
  | _ :: _, [], h => by simp [bytesLt] at h
  | x :: xs, y :: ys, h => by
    simp only [bytesLt] at h
    by_cases hxy : x < y
    · have hy : y ≠ 0 := by intro h0; subst h0; exact UInt8.not_lt_zero hxy
      by_cases hx : x = 0
      · subst hx; simp [stuff, hy, bytesLt, hxy]
      · simp [stuff, hx, hy, bytesLt, hxy]
    · by_cases hyx : y < x
      · simp [hxy, hyx] at h
      · have : x = y := u8_eq_of_not_lt hxy hyx
        subst this
        simp only [hxy, if_false] at h
        have ih := stuff_lt xs ys h
        by_cases hx : x = 0
        · subst hx; simp [stuff, bytesLt, ih]
        · simp [stuff, hx, bytesLt, ih]

theorem stuff_inj (a b : Bytes) (h : stuff a = stuff b) : a = b :=
  mid_of_bytes_eq (bytesLt_total a b) (stuff_lt a b) (stuff_lt b a) h

theorem stuff_not_prefix : ∀ (a b : Bytes), properPrefix (stuff a) (stuff b) = false
  | [], [] => by simp [stuff, properPrefix]
  | [], y :: ys => by
    by_cases hy : y = 0
    · subst hy; simp [stuff, properPrefix]
    · simp [stuff, hy, properPrefix]; intro h; exact absurd h.symm hy
  | x :: xs, [] => by
    by_cases hx : x = 0
    · subst hx; simp [stuff, properPrefix]
    · simp [stuff, hx, properPrefix]
  | x :: xs, y :: ys => by
    have ih := stuff_not_prefix xs ys
    by_cases hx : x = 0 <;> by_cases hy : y = 0
    · subst hx; subst hy; simp [stuff, properPrefix, ih]
    · subst hx; simp [stuff, hy, properPrefix]; intro h; exact absurd h.symm hy
    · subst hy; simp [stuff, hx, properPrefix]
    · simp [stuff, hx, hy, properPrefix, ih]

theorem signFlip_eq (i : Int) (h : I64.inRange i) : (signFlip i : Int) = i + 9223372036854775808 := by
  unfold signFlip toU64 two63 two64
  unfold I64.inRange at h
  omega

theorem signFlip_lt (i : Int) (h : I64.inRange i) : signFlip i < 256 ^ 8 := by
  have := signFlip_eq i h
  unfold I64.inRange at h
  have e : (256:Nat) ^ 8 = 18446744073709551616 := by decide
  omega

theorem floatSortable_lt (b : Nat) (h : b < two64) : floatSortable b < 256 ^ 8 := by
  have e : (256:Nat) ^ 8 = 18446744073709551616 := by decide
  unfold floatSortable two63 two64 at *
  split <;> omega

/-- with `-0.0` normalised, the sortable image is a strictly monotone function of `fkey` -/
theorem floatSortable_norm (b : Nat) (h : b < two64) (hn : Generated.okeyNormalisesNegZero = true) :
    (floatSortable (normZero b) : Int) =
      if fkey b < 0 then 9223372036854775807 + fkey b else 9223372036854775808 + fkey b := by
  unfold normZero floatSortable fkey fmag two63 two64 at *
  simp only [hn, Bool.true_and, beq_iff_eq]
  split <;> split <;> split <;> omega

theorem normZero_lt (b : Nat) (h : b < two64) : normZero b < two64 := by
  unfold normZero; split <;> simp_all [two64]

end Nervus.OKey
