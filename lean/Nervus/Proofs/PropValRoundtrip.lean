/-
  Round trip of the PropertyValue codec (C25): `decode (encode v) = v` for every well-formed value whose
  nesting the decoder accepts — by mutual structural induction over `PV` / `PVList` / `PVMap`.
-/
import Nervus.Proofs.PropValSafe
import Nervus.Proofs.BytesOrder
namespace Nervus.PropVal
open Nervus

/-! ### `PVMap` as a `BTreeMap` -/

theorem PVMap.append_nil : ∀ (m : PVMap), m.append .nil = m
  | .nil => rfl
  | .cons k v t => by simp [PVMap.append, PVMap.append_nil t]

theorem PVMap.append_assoc : ∀ (a b c : PVMap), (a.append b).append c = a.append (b.append c)
  | .nil, _, _ => rfl
  | .cons k v t, b, c => by simp [PVMap.append, PVMap.append_assoc t b c]

theorem PVMap.keys_append : ∀ (a b : PVMap), (a.append b).keys = a.keys ++ b.keys
  | .nil, _ => rfl
  | .cons k v t, b => by simp [PVMap.append, PVMap.keys, PVMap.keys_append t b]

/-- inserting a key larger than every present key appends it (the decoder re-inserts sorted entries) -/
theorem PVMap.insert_eq_append (k : Bytes) (v : PV) : ∀ (acc : PVMap),
    (∀ a ∈ acc.keys, bytesLt a k = true) → acc.insert k v = acc.append (.cons k v .nil)
  | .nil, _ => rfl
  | .cons k' v' t, h => by
    have hk : bytesLt k' k = true := h k' (by simp [PVMap.keys])
    have hne : k ≠ k' := by
      intro e; subst e; rw [bytesLt_irrefl] at hk; cases hk
    have hnl : bytesLt k k' = false := bytesLt_asymm _ _ hk
    have ih := PVMap.insert_eq_append k v t (fun a ha => h a (by simp [PVMap.keys, ha]))
    simp [PVMap.insert, hne, hnl, PVMap.append, ih]

theorem encode_length_pos (v : PV) : 0 < (encode v).length := by
  cases v <;> simp [encode]

section
open Generated
variable (cfg : Cfg) (fuel d : Nat) (b : UInt8) (tl : Bytes)

theorem decodeRec_null : decodeRec cfg (fuel + 1) d (pvTagNull :: tl) = (Res.ret (.null, tl)).enter d := rfl
theorem decodeRec_bool :
    decodeRec cfg (fuel + 1) d (pvTagBool :: b :: tl) = (Res.ret (.bool (b != 0), tl)).enter d := rfl
theorem decodeRec_int : decodeRec cfg (fuel + 1) d (pvTagInt :: tl) =
    (decFixed8 (pvTagInt :: tl) fun u => .int (ofU64 u)).enter d := rfl
theorem decodeRec_float :
    decodeRec cfg (fuel + 1) d (pvTagFloat :: tl) = (decFixed8 (pvTagFloat :: tl) .float).enter d := rfl
theorem decodeRec_string : decodeRec cfg (fuel + 1) d (pvTagString :: tl) =
    (decLenPrefixed (pvTagString :: tl) validUtf8 .str).enter d := rfl
theorem decodeRec_datetime : decodeRec cfg (fuel + 1) d (pvTagDateTime :: tl) =
    (decFixed8 (pvTagDateTime :: tl) fun u => .datetime (ofU64 u)).enter d := rfl
theorem decodeRec_blob : decodeRec cfg (fuel + 1) d (pvTagBlob :: tl) =
    (decLenPrefixed (pvTagBlob :: tl) (fun _ => true) .blob).enter d := rfl
theorem decodeRec_list : decodeRec cfg (fuel + 1) d (pvTagList :: tl) =
    (decList cfg (decodeRec cfg fuel (d + 1)) d (pvTagList :: tl)).enter d := rfl
theorem decodeRec_map : decodeRec cfg (fuel + 1) d (pvTagMap :: tl) =
    (decMap cfg (decodeRec cfg fuel (d + 1)) d (pvTagMap :: tl)).enter d := rfl
end

/-! ### the arms of `decodeRec` on encoded input -/

theorem lenField_enc {α : Type} (pre s rest : Bytes) (check : Bytes → Bool) (mk : Bytes → α) (hs : s.length < two32)
    (hc : check s = true) :
    (lenField pre.length (pre ++ (leBytes 4 s.length ++ (s ++ rest))) check mk).val = .ok (mk s, rest) := by
  have hsl := slice_append (pre ++ leBytes 4 s.length) s rest
  have hd := List.drop_left (l₁ := pre ++ (leBytes 4 s.length ++ s)) (l₂ := rest)
  simp only [List.append_assoc, List.length_append, leBytes_length, ← Nat.add_assoc] at hsl hd
  unfold lenField
  rw [if_neg (by simp [leBytes_length]), readU32_append pre _ _ hs]
  simp only
  rw [if_neg (by simp [leBytes_length]; omega), hsl]
  simp only [Res.alloc_val, hc, if_true, Res.ret_val, hd]

theorem decFixed8_enc (t : UInt8) (x rest : Bytes) (mk : Nat → PV) (hx : x.length = 8) :
    decFixed8 (t :: (x ++ rest)) mk = Res.ret (mk (leVal x), rest) := by
  have hs : slice (t :: (x ++ rest)) 1 9 = some x := slice_append' [t] x rest 1 9 rfl (by simp [hx])
  have hd : (t :: (x ++ rest)).drop 9 = rest := List.drop_left' (l₁ := t :: x) (by simp [hx])
  unfold decFixed8
  rw [if_neg (by simp [hx]), hs, hd]

theorem header_enc (t : UInt8) (n : Nat) (body : Bytes) (hn : n < two32) :
    ¬ (t :: (leBytes 4 n ++ body)).length < 5 ∧ readU32 (t :: (leBytes 4 n ++ body)) 1 = some n ∧
    (t :: (leBytes 4 n ++ body)).drop 5 = body :=
  ⟨by simp [leBytes_length], readU32_append [t] body n hn,
   List.drop_left' (l₁ := t :: leBytes 4 n) (by simp [leBytes_length])⟩

/-- nesting the decoder accepts below a frame at depth `d` -/
def DepthFits (cfg : Cfg) (d n : Nat) : Prop := ∀ m, cfg.maxDepth = some m → d + n ≤ m

section
variable {cfg : Cfg} {d n n' : Nat}

theorem DepthFits.mono (h : DepthFits cfg d n) (hn : n' ≤ n) : DepthFits cfg d n' :=
  fun m hm => Nat.le_trans (Nat.add_le_add_left hn d) (h m hm)

theorem DepthFits.succ (h : DepthFits cfg d (n + 1)) : DepthFits cfg (d + 1) n :=
  fun m hm => by have := h m hm; omega

theorem tooDeep_of_fits (h : DepthFits cfg d (n + 1)) : tooDeep cfg d = false := by
  unfold tooDeep
  cases hm : cfg.maxDepth with
  | none => rfl
  | some m => have := h m hm; simp; omega
end

theorem decList_enc (cfg : Cfg) (f : Bytes → Res (PV × Bytes)) (d : Nat) (t : UInt8) (n : Nat) (body : Bytes)
    (hn : n < two32) (htd : tooDeep cfg d = false) :
    (decList cfg f d (t :: (leBytes 4 n ++ body))).val =
      ((loopList f n body).bind fun q => Res.ret (PV.list q.1, q.2)).val := by
  obtain ⟨h1, h2, h3⟩ := header_enc t n body hn
  unfold decList
  rw [htd, if_neg Bool.false_ne_true, if_neg h1, h2, h3]; rfl

theorem decMap_enc (cfg : Cfg) (f : Bytes → Res (PV × Bytes)) (d : Nat) (t : UInt8) (n : Nat) (body : Bytes)
    (hn : n < two32) (htd : tooDeep cfg d = false) :
    (decMap cfg f d (t :: (leBytes 4 n ++ body))).val =
      ((loopMap f n body .nil).bind fun q => Res.ret (PV.map q.1, q.2)).val := by
  obtain ⟨h1, h2, h3⟩ := header_enc t n body hn
  unfold decMap
  rw [htd, if_neg Bool.false_ne_true, if_neg h1, h2, h3]

theorem decLenPrefixed_enc (t : UInt8) (s rest : Bytes) (check : Bytes → Bool) (mk : Bytes → PV)
    (hs : s.length < two32) (hc : check s = true) :
    (decLenPrefixed (t :: (leBytes 4 s.length ++ (s ++ rest))) check mk).val = .ok (mk s, rest) := by
  rw [decLenPrefixed_eq]; exact lenField_enc [t] s rest check mk hs hc

theorem readKey_enc (k rest : Bytes) (hk : k.length < two32) (hu : validUtf8 k = true) :
    (readKey (leBytes 4 k.length ++ (k ++ rest))).val = .ok (k, rest) := by
  rw [readKey_eq]; exact lenField_enc [] k rest validUtf8 id hk hu

open Generated in
mutual
  theorem rt_pv (cfg : Cfg) : ∀ (v : PV) (fuel d : Nat) (rest : Bytes), (encode v).length < fuel →
      v.wf = true → DepthFits cfg d v.nesting → (decodeRec cfg fuel d (encode v ++ rest)).val = .ok (v, rest)
    | v, 0, _, _, h, _, _ => absurd h (Nat.not_lt_zero _)
    | .null, fuel + 1, d, rest, _, _, _ => by rw [encode, List.singleton_append, decodeRec_null]; rfl
    | .bool b, fuel + 1, d, rest, _, _, _ => by
      rw [encode, List.cons_append, List.singleton_append, decodeRec_bool]; cases b <;> rfl
    | .int i, fuel + 1, d, rest, _, hw, _ => by
      have hr : I64.inRange i := by simpa [PV.wf] using hw
      rw [encode, List.cons_append, decodeRec_int, Res.enter_val, decFixed8_enc _ _ _ _ (leBytes_length 8 _),
        leVal_leBytes 8 _ (toU64_lt i), ofU64_toU64 i hr]; rfl
    | .float f, fuel + 1, d, rest, _, hw, _ => by
      have hr : f < two64 := by simpa [PV.wf] using hw
      rw [encode, List.cons_append, decodeRec_float, Res.enter_val, decFixed8_enc _ _ _ _ (leBytes_length 8 _),
        leVal_leBytes 8 f hr]; rfl
    | .str s, fuel + 1, d, rest, _, hw, _ => by
      have hr : validUtf8 s = true ∧ s.length < two32 := by simpa [PV.wf] using hw
      rw [encode, List.cons_append, List.append_assoc, decodeRec_string, Res.enter_val]
      exact decLenPrefixed_enc _ s rest _ _ hr.2 hr.1
    | .datetime i, fuel + 1, d, rest, _, hw, _ => by
      have hr : I64.inRange i := by simpa [PV.wf] using hw
      rw [encode, List.cons_append, decodeRec_datetime, Res.enter_val, decFixed8_enc _ _ _ _ (leBytes_length 8 _),
        leVal_leBytes 8 _ (toU64_lt i), ofU64_toU64 i hr]; rfl
    | .blob b, fuel + 1, d, rest, _, hw, _ => by
      have hr : b.length < two32 := by simpa [PV.wf] using hw
      rw [encode, List.cons_append, List.append_assoc, decodeRec_blob, Res.enter_val]
      exact decLenPrefixed_enc _ b rest _ _ hr rfl
    | .list l, fuel + 1, d, rest, hf, hw, hd => by
      have hr : l.len < two32 ∧ l.wf = true := by simpa [PV.wf] using hw
      have hfl : (encodeL l).length < fuel := by
        simp [encode, leBytes_length] at hf; omega
      rw [encode, List.cons_append, List.append_assoc, decodeRec_list, Res.enter_val,
        decList_enc cfg _ d _ l.len _ hr.1 (tooDeep_of_fits hd),
        (Res.bind_ok (rt_list cfg l fuel (d + 1) rest hfl hr.2 hd.succ) _).1]; rfl
    | .map m, fuel + 1, d, rest, hf, hw, hd => by
      have hr : (m.len < two32 ∧ m.wf = true) ∧ m.keys.Pairwise (fun a b => bytesLt a b = true) := by
        simpa [PV.wf] using hw
      have hfl : (encodeM m).length < fuel := by
        simp [encode, leBytes_length] at hf; omega
      rw [encode, List.cons_append, List.append_assoc, decodeRec_map, Res.enter_val,
        decMap_enc cfg _ d _ m.len _ hr.1.1 (tooDeep_of_fits hd),
        (Res.bind_ok (rt_map cfg m fuel (d + 1) rest .nil hfl hr.1.2 hd.succ hr.2 (by simp [PVMap.keys])) _).1]; rfl
  theorem rt_list (cfg : Cfg) : ∀ (l : PVList) (fuel d : Nat) (rest : Bytes), (encodeL l).length < fuel →
      l.wf = true → DepthFits cfg d l.nesting →
      (loopList (decodeRec cfg fuel d) l.len (encodeL l ++ rest)).val = .ok (l, rest)
    | .nil, fuel, d, rest, _, _, _ => by simp [PVList.len, encodeL, loopList]
    | .cons v t, fuel, d, rest, hf, hw, hd => by
      have hr : v.wf = true ∧ t.wf = true := by simpa [PVList.wf] using hw
      have hf1 : (encode v).length < fuel := by simp [encodeL] at hf; omega
      have hf2 : (encodeL t).length < fuel := by simp [encodeL] at hf; omega
      simp only [PVList.len, encodeL, List.append_assoc, loopList]
      have h1 := rt_pv cfg v fuel d (encodeL t ++ rest) hf1 hr.1 (hd.mono (Nat.le_max_left _ _))
      rw [(Res.bind_ok h1 _).1]
      have h2 := rt_list cfg t fuel d rest hf2 hr.2 (hd.mono (Nat.le_max_right _ _))
      rw [(Res.bind_ok h2 _).1]; rfl
  theorem rt_map (cfg : Cfg) : ∀ (m : PVMap) (fuel d : Nat) (rest : Bytes) (acc : PVMap), (encodeM m).length < fuel →
      m.wf = true → DepthFits cfg d m.nesting → m.keys.Pairwise (fun a b => bytesLt a b = true) →
      (∀ a ∈ acc.keys, ∀ b ∈ m.keys, bytesLt a b = true) →
      (loopMap (decodeRec cfg fuel d) m.len (encodeM m ++ rest) acc).val = .ok (acc.append m, rest)
    | .nil, fuel, d, rest, acc, _, _, _, _, _ => by
      simp [PVMap.len, encodeM, loopMap, PVMap.append_nil]
    | .cons k v t, fuel, d, rest, acc, hf, hw, hd, hp, ha => by
      have hr : ((validUtf8 k = true ∧ k.length < two32) ∧ v.wf = true) ∧ t.wf = true := by
        simpa [PVMap.wf] using hw
      have hf1 : (encode v).length < fuel := by simp [encodeM] at hf; omega
      have hf2 : (encodeM t).length < fuel := by simp [encodeM] at hf; omega
      have hp' : (∀ b ∈ t.keys, bytesLt k b = true) ∧ t.keys.Pairwise (fun a b => bytesLt a b = true) := by
        simpa [PVMap.keys] using hp
      simp only [PVMap.len, encodeM, List.append_assoc, loopMap]
      have h0 := readKey_enc k (encode v ++ (encodeM t ++ rest)) hr.1.1.2 hr.1.1.1
      rw [(Res.bind_ok h0 _).1]
      have h1 := rt_pv cfg v fuel d (encodeM t ++ rest) hf1 hr.1.2 (hd.mono (Nat.le_max_left _ _))
      rw [(Res.bind_ok h1 _).1]
      simp only
      rw [PVMap.insert_eq_append k v acc (fun a ha' => ha a ha' k (by simp [PVMap.keys]))]
      have h2 := rt_map cfg t fuel d rest (acc.append (.cons k v .nil)) hf2 hr.2 (hd.mono (Nat.le_max_right _ _)) hp'.2 (by
        intro a ha' b hb
        rw [PVMap.keys_append] at ha'
        rcases List.mem_append.mp ha' with h | h
        · exact ha a h b (by simp [PVMap.keys, hb])
        · simp [PVMap.keys] at h; subst h; exact hp'.1 b hb)
      rw [h2, PVMap.append_assoc]; rfl
end

end Nervus.PropVal
