/-
  C31, the engine around the index: `erun_conn` carries `Conn` along a history of first-time inserts;
  deletes and compactions never reach the index.
-/
import Nervus.Proofs.HnswGraph
namespace Nervus.Hnsw

variable {V D : Type}

def vecIds : List (EOp V) → List Nat
  | [] => []
  | .vec id _ _ :: ops => id :: vecIds ops
  | _ :: ops => vecIds ops

theorem storedIds_length_insert {ix ix' : Index V} {id : Nat}
    (hid : id ∉ storedIds ix) (h : ∀ j, j ∈ storedIds ix' ↔ (j = id ∨ j ∈ storedIds ix)) :
    (storedIds ix').length = (storedIds ix).length + 1 := by
  have : (storedIds ix').Perm (id :: storedIds ix) := by
    rw [List.perm_ext_iff_of_nodup (storedIds_nodup ix') (List.nodup_cons.mpr ⟨hid, storedIds_nodup ix⟩)]
    intro j; rw [h j, List.mem_cons]
  rw [this.length_eq, List.length_cons]

/-- any levels, any interleaving of deletes and compactions: as long as every id is inserted once
    and at most `2m+1` vectors are stored, the base layer stays symmetric and connected -/
theorem erun_conn {sp : Space V D} (p : Params) (hefc : 1 ≤ p.efC) :
    ∀ (ops : List (EOp V)) (st st' : EState V), Conn st.ix → (vecIds ops).Nodup →
      (∀ id, id ∈ vecIds ops → id ∉ storedIds st.ix) →
      (storedIds st.ix).length + (vecIds ops).length ≤ p.m * 2 + 1 →
      erun sp p ops st = .ok st' →
      Conn st'.ix ∧ (storedIds st'.ix).length = (storedIds st.ix).length + (vecIds ops).length := by
  intro ops
  induction ops with
  | nil => intro st st' hc _ _ _ h; cases h; exact ⟨hc, rfl⟩
  | cons op ops ih =>
    intro st st' hc hnd hfresh hlen h
    unfold erun at h
    split at h
    · cases h
    · next st1 hs =>
      cases op with
      | vec id level v =>
        have hnd := List.nodup_cons.mp hnd
        have hlen : (storedIds st.ix).length + ((vecIds ops).length + 1) ≤ p.m * 2 + 1 := hlen
        simp only [estep] at hs
        split at hs
        · cases hs
        · next ix' hi =>
          cases hs
          have hidf : id ∉ storedIds st.ix := hfresh id List.mem_cons_self
          obtain ⟨c1, c2⟩ := insert_conn sp p st.ix hc id v level hidf (by omega) hefc ix' hi
          have hl := storedIds_length_insert hidf c2
          obtain ⟨r1, r2⟩ := ih ⟨ix', st.tomb⟩ st' c1 hnd.2
            (fun j hj hin => ((c2 j).mp hin).elim (fun e => hnd.1 (e ▸ hj))
              (hfresh j (List.mem_cons_of_mem _ hj)))
            (by show (storedIds ix').length + _ ≤ _; omega) h
          refine ⟨r1, r2.trans ?_⟩
          show (storedIds ix').length + _ = _ + ((vecIds ops).length + 1)
          omega
      | del id =>
        cases hs
        exact ih ⟨st.ix, if st.tomb.contains id then st.tomb else id :: st.tomb⟩ st'
          hc hnd hfresh hlen h
      | compact => cases hs; exact ih ⟨st.ix, []⟩ st' hc hnd hfresh hlen h

end Nervus.Hnsw
