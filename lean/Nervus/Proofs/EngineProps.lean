/-
  Proofs/EngineProps.lean — the property overlay: the whole-map merge agrees with the single-key
  read on every key (model-internal; node and edge versions from one statement).
-/
import Nervus.Proofs.EngineReads
namespace Nervus.Storage

/-- `npropRuns` / `epropRuns` for either kind of entity: `del` and `set` pick the removed keys and the
    property entries of a run -/
def overlayRead {κ} [BEq κ] (del : Run → List (κ × Nat)) (set : Run → List ((κ × Nat) × PV)) (a : κ) (k : Nat) :
    List Run → Option PV
  | [] => none
  | r :: rs =>
    if (del r).contains (a, k) then none
    else match (set r).lookup (a, k) with
      | some v => some v
      | none => overlayRead del set a k rs

/-- `mergeNProps` / `mergeEProps` likewise -/
def overlayMerge {κ} [BEq κ] (del : Run → List (κ × Nat)) (set : Run → List ((κ × Nat) × PV)) (a : κ) :
    List Run → List (Nat × PV) → List Nat → List (Nat × PV)
  | [], m, _ => m
  | r :: rs, m, res =>
    let res1 := res ++ ((del r).filter (·.1 == a)).map (·.2)
    let ps := ((set r).filter (·.1.1 == a)).map (fun p => (p.1.2, p.2))
    let acc := ps.foldl mergeStep (m, res1)
    overlayMerge del set a rs acc.1 acc.2

theorem npropRuns_eq_overlay : npropRuns = overlayRead (·.nDel) (·.nprops) := by
  funext n k runs
  induction runs with
  | nil => rfl
  | cons r rs ih => simp only [npropRuns, overlayRead, ih]; rfl

theorem epropRuns_eq_overlay : epropRuns = overlayRead (·.eDel) (·.eprops) := by
  funext e k runs
  induction runs with
  | nil => rfl
  | cons r rs ih => simp only [epropRuns, overlayRead, ih]; rfl

theorem mergeNProps_eq_overlay : mergeNProps = overlayMerge (·.nDel) (·.nprops) := by
  funext n runs
  induction runs with
  | nil => rfl
  | cons r rs ih => funext m res; simp only [mergeNProps, overlayMerge, ih]

theorem mergeEProps_eq_overlay : mergeEProps = overlayMerge (·.eDel) (·.eprops) := by
  funext e runs
  induction runs with
  | nil => rfl
  | cons r rs ih => funext m res; simp only [mergeEProps, overlayMerge, ih]

/-- one step of the merge loop, seen from one key `k` and with `v` standing for what the rest of the
    loop would give a key that is still unresolved: `k` keeps what `merged` holds for it once it is
    resolved; while it is unresolved `merged` has no entry for it, and its first entry resolves it -/
theorem mergeStep_key (k a : Nat) (b : PV) (m : List (Nat × PV)) (res : List Nat)
    (hk : k ∉ res → m.lookup k = none) (v : Option PV) :
    (if k ∈ (mergeStep (m, res) (a, b)).2 then (mergeStep (m, res) (a, b)).1.lookup k else v) =
      (if k ∈ res then m.lookup k else if k = a then some b else v) ∧
    (k ∉ (mergeStep (m, res) (a, b)).2 → (mergeStep (m, res) (a, b)).1.lookup k = none) := by
  by_cases ha : a ∈ res
  · rw [show mergeStep (m, res) (a, b) = (m, res) by simp [mergeStep, ha]]
    refine ⟨?_, hk⟩
    by_cases hr : k ∈ res
    · simp [hr]
    · simp [hr, show k ≠ a from fun h => hr (h ▸ ha)]
  · rw [show mergeStep (m, res) (a, b) = (m ++ [(a, b)], a :: res) by simp [mergeStep, ha]]
    by_cases hka : k = a
    · subst hka; simp [ha, List.lookup_append, hk ha]
    · by_cases hr : k ∈ res
      · cases hm : m.lookup k <;> simp [hka, hr, hm, List.lookup_append]
      · simp [hka, hr, List.lookup_append, hk hr]

theorem mergeStep_fold (k : Nat) (ps : List (Nat × PV)) (m : List (Nat × PV)) (res : List Nat)
    (hk : k ∉ res → m.lookup k = none) (v : Option PV) :
    (if k ∈ (ps.foldl mergeStep (m, res)).2 then (ps.foldl mergeStep (m, res)).1.lookup k else v) =
      (if k ∈ res then m.lookup k else (ps.lookup k).or v) ∧
    (k ∉ (ps.foldl mergeStep (m, res)).2 → (ps.foldl mergeStep (m, res)).1.lookup k = none) := by
  induction ps generalizing m res with
  | nil => exact ⟨by rw [List.lookup_nil, Option.none_or]; rfl, hk⟩
  | cons p ps ih =>
    obtain ⟨h1, h2⟩ := mergeStep_key k p.1 p.2 m res hk ((ps.lookup k).or v)
    obtain ⟨h3, h4⟩ := ih _ _ h2
    refine ⟨?_, h4⟩
    rw [List.foldl_cons, h3, h1, List.lookup_cons]
    by_cases hka : k = p.1
    · simp [hka]
    · simp [hka, beq_false_of_ne hka]

theorem lookup_filter_map_fst {κ ν} [BEq κ] [LawfulBEq κ] (l : List ((κ × Nat) × ν)) (a : κ) (k : Nat) :
    ((l.filter (·.1.1 == a)).map (fun p => (p.1.2, p.2))).lookup k = l.lookup (a, k) := by
  induction l with
  | nil => rfl
  | cons p ps ih =>
    obtain ⟨⟨a', k'⟩, v⟩ := p
    have hb : ((a, k) == (a', k')) = (a == a' && k == k') := rfl
    by_cases ha : a' = a
    · subst ha; simp [List.lookup_cons, ih, hb]
    · simp [List.lookup_cons, ha, beq_false_of_ne (Ne.symm ha), hb, ih]

theorem mem_filter_map_fst {κ} [BEq κ] [LawfulBEq κ] (l : List (κ × Nat)) (a : κ) (k : Nat) :
    k ∈ (l.filter (·.1 == a)).map (·.2) ↔ (a, k) ∈ l := by
  simp only [List.mem_map, List.mem_filter, beq_iff_eq]
  constructor
  · rintro ⟨⟨a', k'⟩, ⟨h1, rfl⟩, rfl⟩; exact h1
  · intro h; exact ⟨(a, k), ⟨h, rfl⟩, rfl⟩

theorem overlayMerge_lookup {κ} [BEq κ] [LawfulBEq κ] (del : Run → List (κ × Nat))
    (set : Run → List ((κ × Nat) × PV)) (a : κ) (k : Nat) (runs : List Run) (m : List (Nat × PV))
    (res : List Nat) (hk : k ∉ res → m.lookup k = none) :
    (overlayMerge del set a runs m res).lookup k =
      if k ∈ res then m.lookup k else overlayRead del set a k runs := by
  induction runs generalizing m res with
  | nil => by_cases h : k ∈ res <;> simp [overlayMerge, overlayRead, h, hk]
  | cons r rs ih =>
    obtain ⟨h1, h2⟩ := mergeStep_fold k (((set r).filter (·.1.1 == a)).map (fun p => (p.1.2, p.2))) m
      (res ++ ((del r).filter (·.1 == a)).map (·.2)) (fun h => hk fun h' => h (List.mem_append_left _ h'))
      (overlayRead del set a k rs)
    rw [overlayMerge, ih _ _ h2, h1, overlayRead, lookup_filter_map_fst]
    simp only [List.mem_append, mem_filter_map_fst, List.contains_eq_mem, decide_eq_true_eq]
    by_cases hr : k ∈ res
    · simp [hr]
    · by_cases hd : (a, k) ∈ del r
      · simp [hr, hd, hk hr]
      · cases (set r).lookup (a, k) <;> simp [hr, hd]

/-- api.rs node_properties agrees with node_property on every key (run overlay) -/
theorem mergeNProps_eq_npropRuns (n : Nat) (runs : List Run) (k : Nat) :
    (mergeNProps n runs [] []).lookup k = npropRuns n k runs := by
  rw [mergeNProps_eq_overlay, npropRuns_eq_overlay, overlayMerge_lookup _ _ _ _ _ _ _ fun _ => rfl]; rfl

theorem mergeEProps_eq_epropRuns (e : Edge) (runs : List Run) (k : Nat) :
    (mergeEProps e runs [] []).lookup k = epropRuns e k runs := by
  rw [mergeEProps_eq_overlay, epropRuns_eq_overlay, overlayMerge_lookup _ _ _ _ _ _ _ fun _ => rfl]; rfl

theorem visibleStore_noRoot {s : Engine} (h : s.propsRoot = 0) : s.visibleStore = [] := by
  unfold Engine.visibleStore; rw [h]; rfl

theorem visibleStore_congr {s s' : Engine} (h1 : s'.store = s.store) (h2 : s'.propsRoot = s.propsRoot)
    (h3 : s'.storeRoot = s.storeRoot) : s'.visibleStore = s.visibleStore := by
  unfold Engine.visibleStore; rw [h1, h2, h3]

end Nervus.Storage
