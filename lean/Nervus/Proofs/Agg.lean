/-
  Proofs.Agg — aggregates of `Model.Agg`: `sum` follows THE overflow rule and never wraps (`sum_spec`,
  `sum_never_wraps`), is the fold with Cypher `+` where that is defined (`fold_add_ints`, `fold_add_floats`);
  `min_by` / `max_by` return a least / greatest element for any total preorder (`reduceBest_spec`); DISTINCT keeps
  the first representative of every class of `keyEq`, the kernel of the key normalisation `norm` (`DedupInv`);
  grouping preserves rows, is key-homogeneous and has one group per class, for all keys.  A hash set computes the
  DISTINCT set of the scan when the hash respects the equality (`hashDedup_eq_of_respects`).
-/
import Nervus.Proofs.Logic
import Nervus.Proofs.F64
import Nervus.Spec.Findings
import Nervus.Model.Agg
namespace Nervus
open F64 Value Eval Spec Agg

def isFloatV : Value → Bool
  | .float _ => true
  | _ => false

/-- the float accumulator of `sum`: left fold of the float addition over the numbers (integers cast) -/
def ffold (F : FArith) (vs : List Value) : Nat := (vs.foldl (sumStep F) sumInit).floatSum

theorem sum_fold_inv (F : FArith) : ∀ (vs : List Value) (acc : SumAcc),
    (vs.foldl (sumStep F) acc).sawFloat = (acc.sawFloat || vs.any isFloatV) ∧
    (vs.foldl (sumStep F) acc).intSum = acc.intSum + Spec.intSum vs
  | [], acc => by simp [Spec.intSum]
  | v :: vs, acc => by
    have ih := sum_fold_inv F vs (sumStep F acc v)
    simp only [List.foldl_cons, List.any_cons]
    rw [ih.1, ih.2]
    cases v <;> simp [sumStep, isFloatV, Spec.intSum] <;> omega

theorem sum_spec (F : FArith) (vs : List Value) :
    Agg.sum F vs = if vs.any isFloatV then .float (ffold F vs) else Spec.intRule (Spec.intSum vs) (ffold F vs) := by
  have inv := sum_fold_inv F vs sumInit
  simp only [sumInit, Bool.false_or, Int.zero_add] at inv
  simp only [Agg.sum, sumFinish, ffold, sumInit, inv.1, inv.2]
  by_cases h : vs.any isFloatV = true
  · simp [h]
  · simp only [h, Bool.false_eq_true, if_false]
    exact intRule_eq _ _

theorem sum_never_wraps (F : FArith) (vs : List Value) (s : Int) (h : Agg.sum F vs = .int s) :
    s = Spec.intSum vs ∧ Spec.i64Min ≤ s ∧ s ≤ Spec.i64Max := by
  rw [sum_spec] at h
  by_cases hf : vs.any isFloatV = true
  · simp [hf] at h
  · simp only [hf, Bool.false_eq_true, if_false, Spec.intRule] at h
    by_cases hr : Spec.i64Min ≤ Spec.intSum vs ∧ Spec.intSum vs ≤ Spec.i64Max
    · rw [if_pos hr] at h; cases h; exact ⟨rfl, hr⟩
    · rw [if_neg hr] at h; cases h

/-- the pinned tree: `Value::Int(int_sum as i64)` wraps the exact sum -/
theorem pinned_sum_spec (F : FArith) (vs : List Value) (hf : vs.any isFloatV = false) :
    Agg.Pinned.sum F vs = .int (wrapI64 (Spec.intSum vs)) := by
  have inv := sum_fold_inv F vs sumInit
  simp only [sumInit, Bool.false_or, Int.zero_add] at inv
  simp [Agg.Pinned.sum, Agg.Pinned.sumFinish, sumInit, inv.1, inv.2, hf]

/-! `sum` as the fold with Cypher `+` -/

section
variable (E : Env)

/-- every value is an integer and every running total (starting from `s`) fits an i64 -/
def prefixOk : Int → List Value → Bool
  | _, [] => true
  | s, .int i :: vs => inI64 (s + i) && prefixOk (s + i) vs
  | _, _ :: _ => false

theorem fold_add_ints : ∀ (vs : List Value) (s : Int) (acc : SumAcc), acc.sawFloat = false → acc.intSum = s →
    inI64 s = true → prefixOk s vs = true →
    vs.foldl (fun a v => evalBin E .add a v) (.int s) = sumFinish (vs.foldl (sumStep E.F) acc)
  | [], s, acc, h1, h2, h3, _ => by simp [sumFinish, h1, h2, h3]
  | v :: vs, s, acc, h1, h2, h3, h4 => by
    cases v <;> simp only [prefixOk, Bool.and_eq_true, Bool.false_eq_true] at h4
    rename_i i
    simp only [List.foldl_cons]
    rw [add_int E s i, Spec.intRule, if_pos ((inI64_iff _).1 h4.1)]
    exact fold_add_ints vs (s + i) (sumStep E.F acc (.int i)) (by simp [sumStep, h1]) (by simp [sumStep, h2]) h4.1 h4.2

theorem fold_add_floats : ∀ (vs : List Value) (x : Nat) (acc : SumAcc), acc.sawFloat = true → acc.floatSum = x →
    vs.all isFloatV = true →
    vs.foldl (fun a v => evalBin E .add a v) (.float x) = sumFinish (vs.foldl (sumStep E.F) acc)
  | [], x, acc, h1, h2, _ => by simp [sumFinish, h1, h2]
  | v :: vs, x, acc, h1, h2, h3 => by
    cases v <;> simp only [List.all_cons, isFloatV, Bool.and_eq_true, Bool.false_eq_true, false_and] at h3
    rename_i f
    simp only [List.foldl_cons]
    rw [add_float]
    exact fold_add_floats vs _ (sumStep E.F acc (.float f)) (by simp [sumStep]) (by simp [sumStep, h2]) h3.2

end

/-! ### min / max: `Iterator::min_by` / `max_by` -/

/-- `Iterator::reduce` with a step that returns one of its two arguments, one that is at least as good as both for a
    preorder `R` on `P`: the result is a member of the list and at least as good as every member -/
theorem reduceBest_spec {α : Type} {P : α → Prop} {R : α → α → Prop} {f : α → α → α}
    (refl : ∀ a, P a → R a a) (trans : ∀ {a b c}, P a → P b → P c → R a b → R b c → R a c)
    (step : ∀ m y, P m → P y → (f m y = m ∨ f m y = y) ∧ R (f m y) m ∧ R (f m y) y) :
    ∀ (xs : List α) (m : α), (∀ x ∈ m :: xs, P x) → xs.foldl f m ∈ m :: xs ∧ ∀ x ∈ m :: xs, R (xs.foldl f m) x
  | [], m, hP => ⟨.head _, fun x hx => by cases List.mem_singleton.1 hx; exact refl m (hP m (.head _))⟩
  | y :: ys, m, hP => by
    have hm := hP m (.head _)
    have hy := hP y (.tail _ (.head _))
    obtain ⟨e, r1, r2⟩ := step m y hm hy
    have hf : f m y ∈ m :: y :: ys := by
      rcases e with e | e
      · rw [e]; exact .head _
      · rw [e]; exact .tail _ (.head _)
    have hP' : ∀ x ∈ f m y :: ys, P x := fun x hx =>
      (List.mem_cons.1 hx).elim (fun e => e ▸ hP _ hf) fun hx => hP x (.tail _ (.tail _ hx))
    obtain ⟨i1, i2⟩ := reduceBest_spec refl trans step ys (f m y) hP'
    have up : ∀ {x}, P x → R (f m y) x → R (ys.foldl f (f m y)) x :=
      fun hx r => trans (hP' _ i1) (hP' _ (.head _)) hx (i2 _ (.head _)) r
    refine ⟨(List.mem_cons.1 i1).elim (fun e1 => ?_) fun e1 => .tail _ (.tail _ e1), fun x hx => ?_⟩
    · rw [List.foldl_cons, e1]; exact hf
    · rcases List.mem_cons.1 hx with rfl | hx
      · exact up hm r1
      · rcases List.mem_cons.1 hx with rfl | hx
        · exact up hy r2
        · exact i2 x (.tail _ hx)

section
variable {α : Type} (cmp : α → α → Ordering) {P : α → Prop}

theorem minBy_spec (h : CmpLawsOn cmp P) (xs : List α) (hP : ∀ x ∈ xs, P x) (m : α)
    (hm : Agg.minBy cmp xs = some m) : m ∈ xs ∧ ∀ x ∈ xs, cmp m x ≠ .gt := by
  cases xs with
  | nil => cases hm
  | cons x xs =>
    cases hm
    refine reduceBest_spec (R := fun r x => cmp r x ≠ .gt) (fun a ha => by simp [h.refl ha])
      (fun ha hb hc => h.le_trans ha hb hc) (fun m y hm hy => ?_) xs x hP
    by_cases hc : (cmp m y == .gt) = true
    · rw [if_pos hc]; exact ⟨.inr rfl, h.le_of_gt hm hy (eq_of_beq hc), by simp [h.refl hy]⟩
    · rw [if_neg hc]; exact ⟨.inl rfl, by simp [h.refl hm], fun e => hc (beq_iff_eq.2 e)⟩

theorem maxBy_spec (h : CmpLawsOn cmp P) (xs : List α) (hP : ∀ x ∈ xs, P x) (m : α)
    (hm : Agg.maxBy cmp xs = some m) : m ∈ xs ∧ ∀ x ∈ xs, cmp x m ≠ .gt := by
  cases xs with
  | nil => cases hm
  | cons x xs =>
    cases hm
    refine reduceBest_spec (R := fun r x => cmp x r ≠ .gt) (fun a ha => by simp [h.refl ha])
      (fun ha hb hc r1 r2 => h.le_trans hc hb ha r2 r1) (fun m y hm hy => ?_) xs x hP
    by_cases hc : (cmp m y == .gt) = true
    · rw [if_pos hc]; exact ⟨.inl rfl, by simp [h.refl hm], h.le_of_gt hm hy (eq_of_beq hc)⟩
    · rw [if_neg hc]; exact ⟨.inr rfl, fun e => hc (beq_iff_eq.2 e), by simp [h.refl hy]⟩
end

/-! ### the grouping / DISTINCT equivalence `keyEq` is the kernel of `norm` -/

theorem keyEq_iff (a b : Value) : keyEq a b = true ↔ norm a = norm b := by
  unfold keyEq
  exact ⟨same_sound _ _, fun h => by rw [h]; exact same_refl _⟩

theorem keyEq_refl (a : Value) : keyEq a a = true := (keyEq_iff a a).2 rfl
theorem keyEq_symm (a b : Value) : keyEq a b = keyEq b a := by
  cases h : keyEq b a
  · cases h' : keyEq a b
    · rfl
    · rw [(keyEq_iff b a).2 ((keyEq_iff a b).1 h').symm] at h; cases h
  · exact (keyEq_iff a b).2 ((keyEq_iff b a).1 h).symm
theorem keyEq_trans {a b c : Value} (h1 : keyEq a b = true) (h2 : keyEq b c = true) : keyEq a c = true :=
  (keyEq_iff a c).2 (((keyEq_iff a b).1 h1).trans ((keyEq_iff b c).1 h2))

/-! ### DISTINCT: first representatives w.r.t. `keyEq` -/

/-- what the `distinct_values` loop keeps between the values consumed so far and the representatives: every
    representative is a non-null value seen, no two are equivalent, every non-null value seen (NaN included) has one -/
structure DedupInv (done seen : List Value) : Prop where
  sound : ∀ x ∈ seen, x ∈ done ∧ x.isNull = false
  distinct : seen.Pairwise (fun a b => keyEq a b = false)
  complete : ∀ x ∈ done, x.isNull = false → ∃ e ∈ seen, keyEq e x = true

theorem DedupInv.skip {done seen : List Value} {v : Value} (h : DedupInv done seen)
    (hv : v.isNull = false → ∃ e ∈ seen, keyEq e v = true) : DedupInv (done ++ [v]) seen :=
  ⟨fun x hx => ⟨List.mem_append_left _ (h.sound x hx).1, (h.sound x hx).2⟩, h.distinct, fun x hx hn =>
    (List.mem_append.1 hx).elim (fun hx => h.complete x hx hn) fun hx => by cases List.mem_singleton.1 hx; exact hv hn⟩

theorem DedupInv.add {done seen : List Value} {v : Value} (h : DedupInv done seen) (hn : v.isNull = false)
    (hv : ∀ e ∈ seen, keyEq e v = false) : DedupInv (done ++ [v]) (seen ++ [v]) := by
  refine ⟨fun x hx => ?_, List.pairwise_append.2 ⟨h.distinct, List.pairwise_singleton _ _, fun a ha b hb => ?_⟩,
    fun x hx hx' => ?_⟩
  · rcases List.mem_append.1 hx with hx | hx
    · exact ⟨List.mem_append_left _ (h.sound x hx).1, (h.sound x hx).2⟩
    · cases List.mem_singleton.1 hx; exact ⟨List.mem_append_right _ hx, hn⟩
  · cases List.mem_singleton.1 hb; exact hv a ha
  · rcases List.mem_append.1 hx with hx | hx
    · obtain ⟨e, he, hk⟩ := h.complete x hx hx'
      exact ⟨e, List.mem_append_left _ he, hk⟩
    · cases List.mem_singleton.1 hx; exact ⟨v, List.mem_append_right _ hx, keyEq_refl v⟩

theorem dedupInto_inv : ∀ (vs done seen : List Value), DedupInv done seen → DedupInv (done ++ vs) (dedupInto seen vs)
  | [], _, _, h => by rwa [List.append_nil]
  | v :: vs, done, seen, h => by
    rw [dedupInto, List.append_cons]
    split
    · next hv => exact dedupInto_inv vs _ _ (h.skip fun hn => by rw [hn] at hv; cases hv)
    · next hv =>
      split
      · next ha =>
        obtain ⟨e, he, hk⟩ := List.any_eq_true.1 ha
        exact dedupInto_inv vs _ _ (h.skip fun _ => ⟨e, he, hk⟩)
      · next ha =>
        exact dedupInto_inv vs _ _ (h.add (Bool.not_eq_true _ ▸ hv) fun e he =>
          Bool.not_eq_true _ ▸ fun hk => ha (List.any_eq_true.2 ⟨e, he, hk⟩))

theorem distinct_inv (vs : List Value) : DedupInv vs (distinctVals vs) :=
  dedupInto_inv vs [] [] ⟨nofun, .nil, nofun⟩

/-! ### grouping: `groupInsert`, `groupRows` -/

theorem groupKeyEq_iff (a b : List Value) : groupKeyEq a b = true ↔ norm.normList a = norm.normList b := by
  unfold groupKeyEq
  exact ⟨sameList_sound _ _, fun h => by rw [h]; exact sameList_refl _⟩

section
variable {α : Type}

def allRows (g : List (List Value × List α)) : List α := g.flatMap Prod.snd

theorem groupInsert_rows (k : List Value) (r : α) : ∀ (g : List (List Value × List α)),
    (allRows (groupInsert k r g)).Perm (allRows g ++ [r])
  | [] => by simp [groupInsert, allRows]
  | (k', rs) :: rest => by
    simp only [groupInsert]
    split
    · simp only [allRows, List.flatMap_cons, List.append_assoc]
      exact List.Perm.append_left rs List.perm_append_comm
    · simp only [allRows, List.flatMap_cons, List.append_assoc]
      exact List.Perm.append_left rs (groupInsert_rows k r rest)

theorem groupFold_rows : ∀ (rows : List (List Value × α)) (g : List (List Value × List α)),
    (allRows (rows.foldl (fun g kr => groupInsert kr.1 kr.2 g) g)).Perm (allRows g ++ rows.map Prod.snd)
  | [], g => by simp
  | (k, r) :: rows, g => by
    simp only [List.foldl_cons, List.map_cons]
    refine (groupFold_rows rows (groupInsert k r g)).trans ?_
    refine ((groupInsert_rows k r g).append_right _).trans ?_
    simp

def normKeys (g : List (List Value × List α)) : List (List Value) := g.map (fun kr => norm.normList kr.1)

theorem groupInsert_keys (k : List Value) (r : α) : ∀ (g : List (List Value × List α)),
    normKeys (groupInsert k r g) = normKeys g ∨ normKeys (groupInsert k r g) = normKeys g ++ [norm.normList k]
  | [] => Or.inr rfl
  | (k', rs) :: rest => by
    simp only [groupInsert]
    split
    · exact Or.inl rfl
    · rcases groupInsert_keys k r rest with h | h
      · exact Or.inl (by simp only [normKeys, List.map_cons] at h ⊢; rw [h])
      · exact Or.inr (by simp only [normKeys, List.map_cons, List.cons_append] at h ⊢; rw [h])

/-- a new group is opened only when no group has an equivalent key: the groups' keys stay pairwise
    inequivalent, NaN and ±0.0 keys included -/
theorem groupInsert_nodup (k : List Value) (r : α) : ∀ (g : List (List Value × List α)),
    (normKeys g).Nodup → (normKeys (groupInsert k r g)).Nodup
  | [], _ => by simp [groupInsert, normKeys]
  | (k', rs) :: rest, h => by
    simp only [groupInsert]
    split
    · exact h
    · rename_i hne
      simp only [normKeys, List.map_cons, List.nodup_cons] at h ⊢
      refine ⟨?_, groupInsert_nodup k r rest h.2⟩
      rcases groupInsert_keys k r rest with e | e
      · simp only [normKeys] at e; rw [e]; exact h.1
      · simp only [normKeys] at e; rw [e]
        simp only [List.mem_append, List.mem_singleton, not_or]
        refine ⟨h.1, ?_⟩
        intro e'
        exact hne ((groupKeyEq_iff k' k).2 e')

/-- every row of a group was inserted under a key equivalent to the group's key -/
def Homog (orig : List (List Value × α)) (g : List (List Value × List α)) : Prop :=
  ∀ kr ∈ g, ∀ r ∈ kr.2, ∃ k, (k, r) ∈ orig ∧ norm.normList k = norm.normList kr.1

theorem groupInsert_homog (orig : List (List Value × α)) (k : List Value) (r : α) (hkr : (k, r) ∈ orig) :
    ∀ (g : List (List Value × List α)), Homog orig g → Homog orig (groupInsert k r g)
  | [], _ => by
    intro kr hkr' x hx
    simp only [groupInsert, List.mem_singleton] at hkr'
    subst hkr'
    simp only [List.mem_singleton] at hx
    subst hx; exact ⟨k, hkr, rfl⟩
  | (k', rs) :: rest, h => by
    simp only [groupInsert]
    split
    · rename_i he
      have ek := (groupKeyEq_iff k' k).1 he
      intro kr hkr' x hx
      rcases List.mem_cons.1 hkr' with e | e
      · subst e
        rcases List.mem_append.1 hx with hx | hx
        · exact h (k', rs) (by simp) x hx
        · simp only [List.mem_singleton] at hx
          subst hx; exact ⟨k, hkr, ek.symm⟩
      · exact h kr (by simp [e]) x hx
    · intro kr hkr' x hx
      rcases List.mem_cons.1 hkr' with e | e
      · subst e; exact h (k', rs) (by simp) x hx
      · exact groupInsert_homog orig k r hkr rest (fun kr' hk' => h kr' (by simp [hk'])) kr e x hx

theorem groupFold_nodup (rows : List (List Value × α)) :
    (normKeys (rows.foldl (fun g kr => groupInsert kr.1 kr.2 g) [])).Nodup :=
  List.foldlRecOn rows _ (motive := fun g => (normKeys g).Nodup) .nil fun g hg kr _ => groupInsert_nodup kr.1 kr.2 g hg

theorem groupFold_homog (rows : List (List Value × α)) :
    Homog rows (rows.foldl (fun g kr => groupInsert kr.1 kr.2 g) []) :=
  List.foldlRecOn rows _ (motive := Homog rows) (fun _ hkr => nomatch hkr) fun g hg kr hkr =>
    groupInsert_homog rows kr.1 kr.2 hkr g hg

theorem groupRows_eq_fold (rows : List (List Value × α)) (_h : rows ≠ []) :
    groupRows false rows = rows.foldl (fun g kr => groupInsert kr.1 kr.2 g) [] := by
  simp [groupRows]
end

/-! ### hash-based de-duplication is only correct when the hash respects the equality -/

section
variable {α H : Type} [DecidableEq H]

/-- de-duplication through a hash set: an element is "already there" iff an element with the same hash AND
    equal to it was kept (what `HashSet::insert` does) -/
def hashDedupInto (h : α → H) (eq : α → α → Bool) (seen : List α) : List α → List α
  | [] => seen
  | v :: vs =>
    if seen.any (fun e => decide (h e = h v) && eq e v) then hashDedupInto h eq seen vs
    else hashDedupInto h eq (seen ++ [v]) vs

/-- de-duplication by the equality alone (the quadratic scan) -/
def eqDedupInto (eq : α → α → Bool) (seen : List α) : List α → List α
  | [] => seen
  | v :: vs =>
    if seen.any (fun e => eq e v) then eqDedupInto eq seen vs else eqDedupInto eq (seen ++ [v]) vs

theorem hashDedup_eq_of_respects (h : α → H) (eq : α → α → Bool) (hr : ∀ a b, eq a b = true → h a = h b) :
    ∀ (vs seen : List α), hashDedupInto h eq seen vs = eqDedupInto eq seen vs
  | [], _ => rfl
  | v :: vs, seen => by
    have : seen.any (fun e => decide (h e = h v) && eq e v) = seen.any (fun e => eq e v) := by
      congr 1; funext e
      cases he : eq e v
      · simp
      · simp [hr e v he]
    simp only [hashDedupInto, eqDedupInto, this]
    split
    · exact hashDedup_eq_of_respects h eq hr vs seen
    · exact hashDedup_eq_of_respects h eq hr vs _
end

mutual
theorem deq_refl_of_noNaN : ∀ (a : Value), hasNaN a = false → deq a a = true
  | .list xs, h => by simp only [deq]; exact deqList_refl xs h
  | .map xs, h => by simp only [deq]; exact deqMap_refl xs h
  | .float x, h => by
    simp only [hasNaN] at h
    simp only [deq]; exact eqv_refl _ h
  | .null, _ | .bool _, _ | .int _, _ | .str _, _ | .nodeId _, _ | .externalId _, _ | .edgeKey _, _
  | .dateTime _, _ | .blob _, _ | .path _ _, _ => by simp [deq]
theorem deqList_refl : ∀ (xs : List Value), hasNaN.hasNaNList xs = false → deqList xs xs = true
  | [], _ => rfl
  | x :: xs, h => by
    simp only [hasNaN.hasNaNList, Bool.or_eq_false_iff] at h
    simp only [deqList, deq_refl_of_noNaN x h.1, deqList_refl xs h.2, Bool.and_self]
theorem deqMap_refl : ∀ (xs : List (Str × Value)), hasNaN.hasNaNMap xs = false → deqMap xs xs = true
  | [], _ => rfl
  | (k, x) :: xs, h => by
    simp only [hasNaN.hasNaNMap, Bool.or_eq_false_iff] at h
    simp only [deqMap, deq_refl_of_noNaN x h.1, deqMap_refl xs h.2, beq_self_eq_true, Bool.and_self]
end

end Nervus
