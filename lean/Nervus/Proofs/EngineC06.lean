/-
  Proofs/EngineC06.lean — one transaction, then the history induction of the C06 refinement.  The side
  conditions every history theorem of the storage part carries (`HistOK`: well-formed from the current Spec
  graph, no more names than the label table holds, no committed transaction triggers a C06 finding) are
  taken apart one step at a time (`HistOK.cons`), so that a history induction needs one lemma per operation.
-/
import Nervus.Proofs.EngineTx
namespace Nervus.Storage
open Nervus.GraphSpec (Graph TxOp Op Rel opWF txWF wfFrom txOnly anyCommitted txDeletesRelWithProps
  txLabelReAdd txEdgeAndEndpointDelete txExtZero)

/-- the invariant between the published engine state and the Spec graph (`abs s = g`, pointwise) -/
structure Sim (s : Engine) (g : Graph) : Prop where
  G : SimG s g
  L : SimL s g

theorem fold_ext (c : Cfg) (s0 : Engine) (ops : List TxOp) :
    ∀ st : Engine × Txn, Ext s0 st.1 → Ext s0 (ops.foldl (stepTx c) st).1 :=
  fold_engine_rel (R := fun s s' => Ext s0 s → Ext s0 s') (fun _ h => h) (fun f g h => g (f h))
    (fun st op he => stepTx_ext c s0 st.1 st.2 op he) ops

/-- every staged write interns at most one name -/
theorem fold_interner_le (c : Cfg) (ops : List TxOp) :
    ∀ st : Engine × Txn, (ops.foldl (stepTx c) st).1.interner.length ≤ st.1.interner.length + ops.length := by
  induction ops with
  | nil => intro st; exact Nat.le_refl _
  | cons op ops ih =>
    intro ⟨s, t⟩
    have h1 := (stepTx_names c s t op).1
    have h2 := ih (stepTx c (s, t) op)
    show (ops.foldl (stepTx c) (stepTx c (s, t) op)).1.interner.length ≤ s.interner.length + (ops.length + 1)
    omega

/-- what a history may ask of one operation: a transaction is well-formed from the current Spec graph and
    interns no more names than the label table holds (`n` is its size); a committed one triggers no C06 finding -/
def OpOK (g : Graph) (n : Nat) : Op → Prop
  | .tx ops b => txWF g ops = true ∧ n + ops.length ≤ labelMax ∧
      (b = true → txDeletesRelWithProps g ops = false ∧ txLabelReAdd ops = false ∧
        txEdgeAndEndpointDelete ops = false ∧ txExtZero ops = false)
  | _ => True

theorem stage_tx (c : Cfg) {s0 g0} (h : Sim s0 g0) (ops : List TxOp) (ho : OpOK g0 s0.interner.length (.tx ops true)) :
    StagedTx s0 g0 (ops.foldl (stepTx c) s0.beginWrite).1 (ops.foldl (stepTx c) s0.beginWrite).2 (g0.apply ops) := by
  obtain ⟨hrp, hra, hed, hz⟩ := ho.2.2 rfl
  exact stage_ops c h.L ops s0.beginWrite.1 s0.beginWrite.2 g0 (StagedTx.init h.G h.L) ho.1 ho.2.1 hz hra hed hrp
    (fun _ hp => (nomatch hp)) (fun _ he => (nomatch he))

theorem tx_commit (c : Cfg) {s0 g0} (h : Sim s0 g0) (ops : List TxOp) (ho : OpOK g0 s0.interner.length (.tx ops true)) :
    Sim (runTx c s0 ops true) (g0.apply ops) := by
  have hst := stage_tx c h ops ho
  obtain ⟨m, hok, hL'⟩ := SimL.commit c h.L hst.L hst.G.ext fun n hn => (hst.G.dead n).mpr (Or.inl hn)
  exact ⟨SimG.commit c h.G hst.G m hok, hL'⟩

theorem tx_abort (c : Cfg) {s0 g0} (h : Sim s0 g0) (ops : List TxOp)
    (hb : s0.interner.length + ops.length ≤ labelMax) :
    Sim (runTx c s0 ops false) g0 := by
  have he := fold_ext c s0 ops s0.beginWrite (Ext.begin h.G.nodup)
  exact ⟨h.G.of_ext he, h.L.of_ext he (Nat.le_trans (fold_interner_le c ops s0.beginWrite) hb)⟩

/-- number of staged writes of a history (each interns at most one name) -/
def histSize : List Op → Nat
  | [] => 0
  | .tx ops _ :: h => ops.length + histSize h
  | _ :: h => histSize h

theorem runTx_interner_le (c : Cfg) (s0 : Engine) (ops : List TxOp) (b : Bool) :
    (runTx c s0 ops b).interner.length ≤ s0.interner.length + ops.length := by
  have hlen := fold_interner_le c ops s0.beginWrite
  unfold runTx
  split
  · rw [commit_interner]; exact hlen
  · exact hlen

/-- `n` is the size of the label table before the history -/
structure HistOK (g : Graph) (n : Nat) (h : List Op) : Prop where
  wf : wfFrom g h = true
  size : n + histSize h ≤ labelMax
  relProps : anyCommitted txDeletesRelWithProps g h = false
  reAdd : anyCommitted (fun _ => txLabelReAdd) g h = false
  endDel : anyCommitted (fun _ => txEdgeAndEndpointDelete) g h = false
  extZero : anyCommitted (fun _ => txExtZero) g h = false

def opSize : Op → Nat
  | .tx ops _ => ops.length
  | _ => 0

/-- the first step of an admissible history, and the rest from any label table the step can leave -/
theorem HistOK.cons {g : Graph} {n : Nat} {op : Op} {h : List Op} (hk : HistOK g n (op :: h)) :
    OpOK g n op ∧ ∀ n', n' ≤ n + opSize op → HistOK (g.opStep op) n' h := by
  obtain ⟨w, sz, a, b, c, d⟩ := hk
  cases op with
  | tx ops cm =>
    simp only [wfFrom, Bool.and_eq_true] at w
    simp only [histSize] at sz
    have hsz : ∀ n', n' ≤ n + opSize (.tx ops cm) → n' + histSize h ≤ labelMax := fun n' hn => by
      simp only [opSize] at hn; omega
    cases cm with
    | true =>
      simp only [anyCommitted, Bool.or_eq_false_iff] at a b c d
      exact ⟨⟨w.1, by omega, fun _ => ⟨a.1, b.1, c.1, d.1⟩⟩, fun n' hn => ⟨w.2, hsz n' hn, a.2, b.2, c.2, d.2⟩⟩
    | false => exact ⟨⟨w.1, by omega, fun hc => nomatch hc⟩, fun n' hn => ⟨w.2, hsz n' hn, a, b, c, d⟩⟩
  | compact => exact ⟨trivial, fun _ hn => ⟨w, Nat.le_trans (Nat.add_le_add_right hn _) sz, a, b, c, d⟩⟩
  | close => exact ⟨trivial, fun _ hn => ⟨w, Nat.le_trans (Nat.add_le_add_right hn _) sz, a, b, c, d⟩⟩
  | reopen => exact ⟨trivial, fun _ hn => ⟨w, Nat.le_trans (Nat.add_le_add_right hn _) sz, a, b, c, d⟩⟩

/-- the hypotheses of the C04 / C06 history theorems -/
theorem HistOK.of_noTrigger {h : List Op} (hwf : GraphSpec.wellFormed h = true)
    (hk : GraphSpec.noC06Trigger h = true) (hsz : histSize h ≤ labelMax) : HistOK {} 0 h := by
  simp only [GraphSpec.noC06Trigger, Bool.and_eq_true, Bool.not_eq_true'] at hk
  exact ⟨hwf, by omega, hk.1.1.1, hk.1.1.2, hk.1.2, hk.2⟩

theorem Sim.runTx (c : Cfg) {s g} (h : Sim s g) {ops : List TxOp} {b : Bool} (ho : OpOK g s.interner.length (.tx ops b)) :
    Sim (runTx c s ops b) (g.opStep (.tx ops b)) := by
  cases b with
  | true => exact tx_commit c h ops ho
  | false => exact tx_abort c h ops ho.2.1

theorem run_sim (c : Cfg) (h : List Op) :
    ∀ s g, Sim s g → txOnly h = true → HistOK g s.interner.length h →
      ∃ s', h.foldlM (runOp c) s = .ok s' ∧ Sim s' (h.foldl Graph.opStep g) := by
  induction h with
  | nil => intro s g hs _ _; exact ⟨s, rfl, hs⟩
  | cons op h ih =>
    intro s g hs htx hk
    obtain ⟨ho, hk'⟩ := hk.cons
    cases op with
    | tx ops b => exact ih _ _ (hs.runTx c ho) htx (hk' _ (runTx_interner_le c s ops b))
    | compact => cases htx
    | close => cases htx
    | reopen => cases htx

theorem Sim.empty : Sim {} {} :=
  ⟨{ segs := rfl, root := rfl, nodup := List.nodup_nil, dead := fun n => by simp [isTombNode],
     edges := fun r nm a b hr => by simp at hr, runsOK := trivial, runsRel := fun run hr => (nomatch hr),
     relsInt := fun e he => (nomatch he), nprops := fun n k _ => rfl,
     eprops := fun r nm a b k hr => by simp at hr, runsERel := fun run hr => (nomatch hr),
     epropsInt := fun p hp => (nomatch hp) },
   { lenE := rfl, lenL := rfl, e2i := fun _ => rfl, extPt := fun n => rfl, extLt := fun p hp => (nomatch hp),
     extNZ := fun p hp => (nomatch hp), extND := List.nodup_nil, extIdND := List.nodup_nil,
     labels := fun n lid nm hr => by simp at hr, labelsInt := fun p hp => (nomatch hp),
     labelsLt := fun p hp => (nomatch hp), deadLt := fun n hn => (nomatch hn), small := by decide,
     i2lOK := fun n l hl => by simp at hl }⟩

end Nervus.Storage
