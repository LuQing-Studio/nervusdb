/-
  Shared by the read (C11) and the update (C12) proofs: the three-valued connectives as a filter sees them
  (`evalBool`: only `Bool(true)` passes), the and-chains the planner builds, `Row.get` / `Row.set`, and graphs
  whose node ids are pairwise distinct (`Graph.NodesDistinct`, the well-formedness the MATCH statements of C11 assume).
-/
import Nervus.Proofs.ListBasics
import Nervus.Spec.Denote
import Nervus.Model.QCompile
import Nervus.Model.QExec
namespace Nervus.Cy
open Nervus.Cy

/-! ### three-valued logic seen through `== .bool true` -/

theorem boolOp_and_true (x y : Val) : boolOp .and x y = .bool true ↔ x = .bool true ∧ y = .bool true := by
  cases x with
  | bool a =>
    cases a <;> cases y with
    | bool b => cases b <;> simp [boolOp]
    | _ => simp [boolOp]
  | _ =>
    cases y with
    | bool b => cases b <;> simp [boolOp]
    | _ => simp [boolOp]

theorem boolOp_or_bool (a b : Bool) : boolOp .or (.bool a) (.bool b) = .bool (a || b) := by
  cases a <;> cases b <;> rfl

theorem evalBool_and (A : Algebra) (env : Env) (r : Row) (a b : Expr) :
    evalBool A env r (.bool .and a b) = (evalBool A env r a && evalBool A env r b) := by
  simp only [evalBool, eval]
  rw [Bool.eq_iff_iff]
  simp only [Bool.and_eq_true, beq_iff_eq]
  exact boolOp_and_true _ _

theorem evalBool_foldl_and (A : Algebra) (env : Env) (r : Row) (es : List Expr) (e : Expr) :
    evalBool A env r (es.foldl (fun acc x => .bool .and acc x) e) =
      (evalBool A env r e && es.all (evalBool A env r)) := by
  induction es generalizing e with
  | nil => simp
  | cons x xs ih => simp only [List.foldl_cons, ih, evalBool_and, List.all_cons, Bool.and_assoc]

theorem evalBool_andChain (A : Algebra) (env : Env) (r : Row) (es : List Expr) (e : Expr)
    (h : Compile.andChain es = some e) : evalBool A env r e = es.all (evalBool A env r) := by
  cases es with
  | nil => simp [Compile.andChain] at h
  | cons x xs =>
    simp only [Compile.andChain, Option.some.injEq] at h
    subst h
    simp [evalBool_foldl_and]

theorem andChain_nil_iff (es : List Expr) : Compile.andChain es = none ↔ es = [] := by
  cases es <;> simp [Compile.andChain]

namespace Row

theorem get_cons (y : String) (w : Val) (rest : Row) (x : String) :
    Row.get ((y, w) :: rest) x = if x == y then some w else Row.get rest x := by
  simp only [Row.get, List.lookup]; cases x == y <;> rfl

theorem get_set_self (r : Row) (x : String) (v : Val) : (r.set x v).get x = some v := by
  fun_induction Row.set r x v with
  | case1 => simp [Row.get]
  | case2 y w rest x v h => simp [get_cons, eq_of_beq h]
  | case3 y w rest x v h ih =>
    have : x ≠ y := fun hh => h (by simp [hh])
    simp [get_cons, this, ih]

theorem get_set_ne (r : Row) (x y : String) (v : Val) (hne : y ≠ x) : (r.set x v).get y = r.get y := by
  fun_induction Row.set r x v with
  | case1 => simp [Row.get, hne]
  | case2 z w rest x v h => simp [get_cons, eq_of_beq h, hne]
  | case3 z w rest x v h ih => simp [get_cons, ih hne]

theorem get_nil (x : String) : Row.get [] x = none := rfl

theorem get_singleton (a : String) (v : Val) : Row.get [(a, v)] a = some v := by
  simp [Row.get, List.lookup]

end Row

def Graph.NodesDistinct (g : Graph) : Prop := g.nodes.Pairwise fun a b => a.id ≠ b.id

instance (g : Graph) : Decidable g.NodesDistinct := by unfold Graph.NodesDistinct; infer_instance

theorem Graph.node?_of_mem {g : Graph} (h : g.NodesDistinct) {n : NodeRec} (hn : n ∈ g.nodes) :
    g.node? n.id = some n := find?_key_of_mem_pairwise NodeRec.id h hn

theorem Graph.hasLabel_of_mem {g : Graph} (h : g.NodesDistinct) {n : NodeRec} (hn : n ∈ g.nodes) (l : String) :
    g.hasLabel n.id l = n.labels.contains l := by
  simp [Graph.hasLabel, Graph.node?_of_mem h hn]

end Nervus.Cy
