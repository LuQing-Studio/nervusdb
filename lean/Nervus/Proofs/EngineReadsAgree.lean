/-
  Proofs/EngineReadsAgree.lean — the invariant `Sim` implies that every read interface of the engine
  answers what the Spec graph answers.
-/
import Nervus.Proofs.EngineC06
import Nervus.Proofs.IterFlush
namespace Nervus.Storage
open Nervus.GraphSpec (Graph TxOp Op Rel)

/-- rel filter of a read, as id (model) and as name (spec) -/
def RelMatch (s : Engine) (rel : Option Nat) (t : Option Nat) : Prop :=
  (rel = none ∧ t = none) ∨ (∃ r nm, rel = some r ∧ t = some nm ∧ s.interner[r]? = some nm)

/-- every read interface agrees with the Spec graph (reads are issued for live nodes and for
    relationships between live nodes; external-id lookup for ids that did not belong to a deleted node) -/
structure ReadsAgree (c : Cfg) (s : Engine) (g : Graph) : Prop where
  nodes : s.nodes = g.nodes
  nodesSnap : s.nodesSnap = g.nodes
  ext : ∀ n, g.live n = true → s.resolveExternal n = g.extOf n
  labels : ∀ n l, g.live n = true → (l ∈ s.nodeLabelNames n ↔ g.hasLabel n l = true)
  nprop : ∀ n k, g.live n = true → s.nodeProp n k = g.nprop n k
  nprops : ∀ n k, g.live n = true → (s.nodeProps n).lookup k = g.nprop n k
  out : ∀ n rel t, g.live n = true → RelMatch s rel t →
    ∃ es, s.neighbors n rel = some es ∧ (∀ e ∈ es, ∃ nm, s.interner[e.rel]? = some nm) ∧
      ∀ r nm a b, s.interner[r]? = some nm → es.count ⟨a, r, b⟩ = (g.out n t).count ⟨a, nm, b⟩
  inc : ∀ n rel t, g.live n = true → RelMatch s rel t →
    ∃ es, s.incoming c n rel = some es ∧ (∀ e ∈ es, ∃ nm, s.interner[e.rel]? = some nm) ∧
      ∀ r nm a b, s.interner[r]? = some nm → es.count ⟨a, r, b⟩ = (g.inc n t).count ⟨a, nm, b⟩
  eprop : ∀ r nm a b k, s.interner[r]? = some nm → g.live a = true → g.live b = true →
    s.edgeProp ⟨a, r, b⟩ k = g.eprop ⟨a, nm, b⟩ k
  eprops : ∀ r nm a b k, s.interner[r]? = some nm → g.live a = true → g.live b = true →
    (s.edgeProps ⟨a, r, b⟩).lookup k = g.eprop ⟨a, nm, b⟩ k
  extLookup : ∀ x, GraphSpec.extOfDeleted g x = false → s.lookupInternal x = g.extLookup x

theorem visE_pos_mem (e : Edge) (runs : List Run) (h : 0 < visE e runs) : ∃ run ∈ runs, e ∈ run.edges := by
  induction runs with
  | nil => simp [visE] at h
  | cons r rs ih =>
    rw [visE_cons] at h
    by_cases hc : 0 < r.edges.count e
    · exact ⟨r, List.mem_cons_self, List.count_pos_iff.mp hc⟩
    · have hz : r.edges.count e = 0 := by omega
      rw [hz, Nat.zero_add] at h
      split at h
      · omega
      · obtain ⟨run, hr, he⟩ := ih h
        exact ⟨run, List.mem_cons_of_mem _ hr, he⟩

theorem lookup_swap (l : List (Nat × Nat)) (x : Nat) :
    (l.map (fun p => (p.2, p.1))).lookup x = (l.find? (·.2 == x)).map (·.1) := by
  induction l with
  | nil => rfl
  | cons p ps ih =>
    obtain ⟨a, b⟩ := p
    simp only [List.map_cons, List.lookup_cons, List.find?_cons]
    rw [BEq.comm (a := x)]
    cases b == x
    · exact ih
    · rfl

theorem RelMatch.relOk {s : Engine} (hn : s.interner.Nodup) {rel t : Option Nat} (hm : RelMatch s rel t)
    {r nm : Nat} (hr : s.interner[r]? = some nm) (a b : Nat) :
    Storage.relOk rel ⟨a, r, b⟩ = Graph.relOk t (⟨a, nm, b⟩ : Rel) := by
  rcases hm with ⟨rfl, rfl⟩ | ⟨r0, nm0, rfl, rfl, h3⟩
  · rfl
  · simp only [Storage.relOk, Graph.relOk]
    rw [Bool.eq_iff_iff, beq_iff_eq, beq_iff_eq]
    exact ⟨fun hh => Option.some.inj (hr.symm.trans (hh ▸ h3)), fun hh => name_inj _ hn _ _ _ hr (hh ▸ h3)⟩

theorem extOf_eq_some_iff {g : Graph} (hnd : (g.ext.map (·.1)).Nodup) (n x : Nat) :
    g.extOf n = some x ↔ (n, x) ∈ g.ext := by
  unfold Graph.extOf
  constructor
  · intro h
    obtain ⟨p, hp, rfl⟩ := Option.map_eq_some_iff.mp h
    have hn := List.find?_some hp
    simp only [beq_iff_eq] at hn
    rw [← hn]; exact List.mem_of_find?_eq_some hp
  · intro hm
    rw [find?_key_of_mem (·.1) hnd hm]; rfl

theorem SimL.ext_mem {s : Engine} {g : Graph} (hL : SimL s g) (n x : Nat) :
    (n, x) ∈ g.ext ↔ ∃ r, s.idmap.i2e[n]? = some r ∧ r.ext = x := by
  rw [← extOf_eq_some_iff hL.extIdND, hL.extPt n, Option.map_eq_some_iff]

/-- `nearS` picks on the Spec side the end `d.near` picks on the engine side -/
theorem SimG.dir_reads {s g} (hG : SimG s g) (d : Dir) (hends : d.Ends) {nearS : Rel → Nat}
    (hnear : ∀ a r nm b, d.near ⟨a, r, b⟩ = nearS ⟨a, nm, b⟩) (n : Nat) {rel t : Option Nat}
    (htomb : isTombNode s.runs n = false) (hm : RelMatch s rel t) :
    ∃ es, d.read s n rel = some es ∧ (∀ e ∈ es, ∃ nm, s.interner[e.rel]? = some nm) ∧
      ∀ r nm a b, s.interner[r]? = some nm → es.count ⟨a, r, b⟩ =
        (g.rels.filter (fun e => nearS e == n && Graph.relOk t e)).count ⟨a, nm, b⟩ := by
  have hc : ∀ e, (d.runs n rel s.runs [] []).1.count e =
      if d.near e = n ∧ Storage.relOk rel e = true then visE e s.runs else 0 := fun e => by
    rw [(d.runs_count hends n rel s.runs [] [] rfl htomb e).1]; simp [Dir.blocked]
  obtain ⟨fin, hfin⟩ := Option.isSome_iff_exists.mp (d.runs_count hends n rel s.runs [] [] rfl htomb ⟨0, 0, 0⟩).2
  refine ⟨(d.runs n rel s.runs [] []).1, ?_, fun e he => ?_, fun r nm a b hr => ?_⟩
  · -- no segments yet: the run phase is the whole answer
    rw [Dir.read, show d.runs n rel s.runs [] [] = (_, some fin) from Prod.ext rfl hfin, hG.segs]
    simp
  · have hpos : 0 < (d.runs n rel s.runs [] []).1.count e := List.count_pos_iff.mpr he
    rw [hc e] at hpos
    split at hpos
    · obtain ⟨run, hr, hme⟩ := visE_pos_mem e s.runs hpos
      exact ⟨_, List.getElem?_eq_getElem (hG.runsRel run hr e hme)⟩
    · omega
  · rw [hc, count_filter_ite, hm.relOk hG.nodup hr, hnear a r nm b]
    simp only [Bool.and_eq_true, beq_iff_eq]
    split
    · exact hG.edges r nm a b hr
    · rfl

theorem Sim.reads (c : Cfg) {s g} (h : Sim s g) : ReadsAgree c s g := by
  have hG := h.G
  have hL := h.L
  have hlive : ∀ n, g.live n = true → (n < g.next ∧ n ∉ g.dead ∧ isTombNode s.runs n = false) := by
    intro n hn
    obtain ⟨h1, h2⟩ := (live_iff g n).mp hn
    exact ⟨h1, h2, Bool.eq_false_iff.mpr fun ht => h2 ((hG.dead n).mp ht)⟩
  have hpred : ∀ n, (!isTombNode s.runs n) = (!g.dead.contains n) := by
    intro n
    congr 1
    rw [Bool.eq_iff_iff, hG.dead n]; simp
  have hout : ∀ n rel t, g.live n = true → RelMatch s rel t →
      ∃ es, s.neighbors n rel = some es ∧ (∀ e ∈ es, ∃ nm, s.interner[e.rel]? = some nm) ∧
        ∀ r nm a b, s.interner[r]? = some nm → es.count ⟨a, r, b⟩ = (g.out n t).count ⟨a, nm, b⟩ :=
    fun n rel t hn hm => neighbors_eq_dir s n rel ▸ hG.dir_reads Dir.out Dir.out_ends (nearS := (·.src))
      (fun _ _ _ _ => rfl) n (hlive n hn).2.2 hm
  have hinc : ∀ n rel t, g.live n = true → RelMatch s rel t →
      ∃ es, s.incoming c n rel = some es ∧ (∀ e ∈ es, ∃ nm, s.interner[e.rel]? = some nm) ∧
        ∀ r nm a b, s.interner[r]? = some nm → es.count ⟨a, r, b⟩ = (g.inc n t).count ⟨a, nm, b⟩ :=
    fun n rel t hn hm => incoming_eq_dir c s n rel ▸ hG.dir_reads (Dir.inc c.csrGuard) (Dir.inc_ends _) (nearS := (·.dst))
      (fun _ _ _ _ => rfl) n (hlive n hn).2.2 hm
  refine { nodes := ?_, nodesSnap := ?_, ext := ?_, labels := ?_, nprop := ?_, nprops := ?_, out := hout,
           inc := hinc, eprop := ?_, eprops := ?_, extLookup := ?_ }
  · unfold Engine.nodes liveNodeIds Graph.nodes
    rw [hL.lenE]
    exact List.filter_congr (fun n _ => hpred n)
  · unfold Engine.nodesSnap liveNodeIds Graph.nodes
    rw [hL.lenL]
    exact List.filter_congr (fun n _ => hpred n)
  · intro n hn
    unfold Engine.resolveExternal
    have hpt := hL.extPt n
    cases hi : s.idmap.i2e[n]? with
    | none => rw [hpt, hi]; rfl
    | some r =>
      have hnz : r.ext ≠ 0 := hL.extNZ _ ((hL.ext_mem n r.ext).mpr ⟨r, hi, rfl⟩)
      rw [hpt, hi]
      exact if_neg (by simpa using hnz)
  · intro n l hn
    obtain ⟨h1, h2, _⟩ := hlive n hn
    unfold Engine.nodeLabelNames Engine.nodeLabels Graph.hasLabel Interner.getName
    rw [List.mem_filterMap, List.contains_eq_mem, decide_eq_true_eq]
    constructor
    · rintro ⟨lid, hmem, hname⟩
      exact (hL.labels n lid l hname h1 h2).mp hmem
    · intro hmem
      have hint := hL.labelsInt _ hmem
      simp only at hint
      obtain ⟨lid, hlt, hget⟩ := List.mem_iff_getElem.mp hint
      have hname : s.interner[lid]? = some l := by rw [List.getElem?_eq_getElem hlt, hget]
      exact ⟨lid, (hL.labels n lid l hname h1 h2).mpr hmem, hname⟩
  · intro n k hn
    obtain ⟨_, h2, _⟩ := hlive n hn
    unfold Engine.nodeProp
    rw [visibleStore_noRoot hG.root, ← hG.nprops n k h2]
    cases npropRuns n k s.runs <;> rfl
  · intro n k hn
    obtain ⟨_, h2, _⟩ := hlive n hn
    unfold Engine.nodeProps
    rw [hG.root]
    simp only [bne_self_eq_false, Bool.false_eq_true, if_false]
    rw [mergeNProps_eq_npropRuns]; exact hG.nprops n k h2
  · intro r nm a b k hr ha hb
    obtain ⟨_, ha2, _⟩ := hlive a ha
    obtain ⟨_, hb2, _⟩ := hlive b hb
    unfold Engine.edgeProp
    rw [visibleStore_noRoot hG.root, ← hG.eprops r nm a b k hr ha2 hb2]
    cases epropRuns ⟨a, r, b⟩ k s.runs <;> rfl
  · intro r nm a b k hr ha hb
    obtain ⟨_, ha2, _⟩ := hlive a ha
    obtain ⟨_, hb2, _⟩ := hlive b hb
    unfold Engine.edgeProps
    rw [hG.root]
    simp only [bne_self_eq_false, Bool.false_eq_true, if_false]
    rw [mergeEProps_eq_epropRuns]; exact hG.eprops r nm a b k hr ha2 hb2
  · intro x hx
    unfold Engine.lookupInternal Graph.extLookup
    rw [hL.e2i x, lookup_swap]
    congr 1
    apply find?_congr_mem
    intro p hp
    unfold GraphSpec.extOfDeleted at hx
    rw [List.any_eq_false] at hx
    have := hx p hp
    by_cases hpx : p.2 = x
    · simp only [hpx, beq_self_eq_true, Bool.true_and, Bool.not_eq_true] at this ⊢
      have hnm : p.1 ∉ g.dead := by simpa using this
      simp [hnm]
    · have : (p.2 == x) = false := by simpa using hpx
      simp [this]

end Nervus.Storage
