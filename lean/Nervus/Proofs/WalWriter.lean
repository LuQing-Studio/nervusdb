/-
  The writer (C17): appending through a handle opened on a file with an arbitrary tail continues the log right after
  its last complete valid frame.  The facts hold of the repaired configurations `Fixed`.
-/
import Nervus.Proofs.WalFrame
namespace Nervus.WalFrame
open Nervus Nervus.PropVal Nervus.WalRec

/-- the repaired configuration: tolerant reader, tail cut before the first append, oversize records refused,
    a codec that never writes what it cannot read -/
structure Fixed (cfg : Cfg) : Prop where
  over : cfg.oversizeIsEof = true
  undec : cfg.undecodableIsEof = true
  trunc : cfg.truncatesBeforeAppend = true
  rej : cfg.appendRejectsOversize = true
  resets : cfg.beginResetsPending = true
  cap : cfg.maxLen < two32
  codec : Coherent cfg.codec

theorem validPrefix_isFrames {cfg : Cfg} (hf : Fixed cfg) (f : Bytes) :
    ∃ base, validPrefix cfg f = .ok base ∧ IsFrames cfg base (readAll cfg f).1 := by
  obtain ⟨pre, tail, rfl, hpre, ⟨-, ht⟩ | ⟨e, hn, -⟩⟩ := readAll_decompose cfg f
  · refine ⟨pre, ?_, hpre⟩
    unfold validPrefix
    rw [ht]
    simp
  · exact absurd hn (nextRecord_tolerant hf.over hf.undec tail e)

/-- an acknowledged append wrote one complete valid frame carrying exactly the record, right after the
    complete valid frames of the file (first append) or at the end of the file (later appends) -/
theorem append_inv {cfg : Cfg} (hf : Fixed cfg) (h h' : Handle) (r : Rec) (hw : r.wf = true)
    (ha : append cfg h r = .ok h') :
    ∃ base body, h'.file = base ++ frame body ∧ body.length ≤ cfg.maxLen ∧ decodeBody cfg.codec body = .ok r ∧
      h'.tailChecked = true ∧
      (if h.tailChecked then base = h.file else validPrefix cfg h.file = .ok base) := by
  unfold append at ha
  cases he : encodeBody cfg.codec r with
  | error e => rw [he] at ha; cases ha
  | ok body =>
    rw [he] at ha; simp only at ha
    have hdec := rec_roundtrip_cfg cfg.codec hf.codec r hw body he
    split at ha; · cases ha
    split at ha; · cases ha
    rename_i hlen hrej
    have hle : body.length ≤ cfg.maxLen := by
      rw [hf.rej] at hrej; simp at hrej; exact hrej
    rw [hf.trunc] at ha
    cases htc : h.tailChecked with
    | true =>
      rw [htc] at ha; simp at ha
      subst ha
      exact ⟨h.file, body, rfl, hle, hdec, rfl, by simp⟩
    | false =>
      rw [htc] at ha; simp at ha
      cases hv : validPrefix cfg h.file with
      | error e => rw [hv] at ha; cases ha
      | ok f =>
        rw [hv] at ha; simp at ha; subst ha
        exact ⟨f, body, rfl, hle, hdec, rfl, by simp⟩

theorem appendAll_checked {cfg : Cfg} (hf : Fixed cfg) : ∀ (ns : List Rec) (h h' : Handle) (rs : List Rec),
    (∀ r ∈ ns, r.wf = true) → h.tailChecked = true → IsFrames cfg h.file rs → appendAll cfg h ns = .ok h' →
    IsFrames cfg h'.file (rs ++ ns) ∧ h'.tailChecked = true
  | [], h, h', rs, _, htc, hfr, ha => by
    simp only [appendAll] at ha; injection ha with ha; subst ha
    exact ⟨by simpa using hfr, htc⟩
  | r :: ns, h, h', rs, hw, htc, hfr, ha => by
    simp only [appendAll] at ha
    cases h1 : append cfg h r with
    | error e => rw [h1] at ha; cases ha
    | ok h1' =>
      rw [h1] at ha; simp only at ha
      obtain ⟨base, body, hfile, hle, hdec, htc', hbase⟩ := append_inv hf h h1' r (hw r (by simp)) h1
      rw [htc] at hbase; simp at hbase; subst hbase
      have hfr' : IsFrames cfg h1'.file (rs ++ [r]) := by
        rw [hfile]; exact hfr.append (IsFrames.single hle hdec)
      have := appendAll_checked hf ns h1' h' (rs ++ [r]) (fun q hq => hw q (by simp [hq])) htc' hfr' ha
      simpa using this

/-- no stale bytes, no resurrection (C17 `no_resurrection`): a handle opened on ANY file `f` (damage anywhere,
    valid frames of discarded transactions possibly behind it); after at least one acknowledged append the file
    is exactly the frames of the records the reader accepted from `f` followed by the frames of the new records -/
theorem appendAll_any_file {cfg : Cfg} (hf : Fixed cfg) (f : Bytes) (r : Rec) (ns : List Rec)
    (hw : ∀ q ∈ r :: ns, q.wf = true) (h' : Handle) (ha : appendAll cfg (walOpen f) (r :: ns) = .ok h') :
    IsFrames cfg h'.file ((readAll cfg f).1 ++ (r :: ns)) := by
  simp only [appendAll] at ha
  cases h1 : append cfg (walOpen f) r with
  | error e => rw [h1] at ha; cases ha
  | ok h1' =>
    rw [h1] at ha; simp only at ha
    obtain ⟨base, body, hfile, hle, hdec, htc', hbase⟩ := append_inv hf _ h1' r (hw r (by simp)) h1
    obtain ⟨base', hv, hfr⟩ := validPrefix_isFrames hf f
    simp only [walOpen, Bool.false_eq_true, if_false, hv, Except.ok.injEq] at hbase
    subst hbase
    have hfr' : IsFrames cfg h1'.file ((readAll cfg f).1 ++ [r]) := by
      rw [hfile]; exact hfr.append (IsFrames.single hle hdec)
    have := appendAll_checked hf ns h1' h' _ (fun q hq => hw q (by simp [hq])) htc' hfr' ha
    simpa using this.1

theorem appendAll_fresh {cfg : Cfg} (hf : Fixed cfg) (rs : List Rec) (hw : ∀ q ∈ rs, q.wf = true) (h' : Handle)
    (ha : appendAll cfg (walOpen []) rs = .ok h') : IsFrames cfg h'.file rs := by
  cases rs with
  | nil => simp only [appendAll] at ha; injection ha with ha; subst ha; exact IsFrames.nil
  | cons r ns =>
    simpa [readAll_of_eof (cfg := cfg) (t := []) rfl] using appendAll_any_file hf [] r ns hw h' ha

end Nervus.WalFrame
