/-
  Proofs/EngineReads.lean — what the run phase of the read path computes, as recurrences over the run
  list (newest first): `visE`, the visible multiplicity of an edge key, and `Dir`, under which the two
  neighbour iterators are one (`Dir.runs_count`: the run phase yields every key `visE` times).
-/
import Nervus.Proofs.ListBasics
import Nervus.Model.EngineRun
namespace Nervus.Storage

/-! ### `isort` is a permutation -/

theorem insertBy_eq {α} (le : α → α → Bool) (a : α) (l : List α) :
    insertBy le a l = l.takeWhile (!le a ·) ++ a :: l.dropWhile (!le a ·) := by
  induction l with
  | nil => rfl
  | cons b bs ih =>
    unfold insertBy
    rw [ih, List.takeWhile_cons, List.dropWhile_cons]
    cases le a b <;> rfl

theorem isort_perm {α} (le : α → α → Bool) (l : List α) : (isort le l).Perm l := by
  induction l with
  | nil => exact .refl _
  | cons a as ih => exact (insertBy_eq le a _ ▸ perm_insert_span _ a _).trans (ih.cons a)

theorem count_isort {α} [BEq α] [LawfulBEq α] (le : α → α → Bool) (l : List α) (a : α) :
    (isort le l).count a = l.count a := (isort_perm le l).count_eq a

theorem mem_isort {α} (le : α → α → Bool) (l : List α) (a : α) : a ∈ isort le l ↔ a ∈ l :=
  (isort_perm le l).mem_iff

theorem contains_isort {α} [BEq α] [LawfulBEq α] (le : α → α → Bool) (l : List α) (a : α) :
    (isort le l).contains a = l.contains a := by
  rw [Bool.eq_iff_iff]; simp [mem_isort]

/-! ### visible multiplicity of an edge key in a run list -/

def visE (e : Edge) : List Run → Nat
  | [] => 0
  | r :: rs => r.edges.count e +
      (if r.tombEdges.contains e || r.tombNodes.contains e.src || r.tombNodes.contains e.dst then 0 else visE e rs)

theorem visE_cons (e : Edge) (r : Run) (rs : List Run) :
    visE e (r :: rs) = r.edges.count e +
      (if (e ∈ r.tombEdges ∨ e.src ∈ r.tombNodes ∨ e.dst ∈ r.tombNodes) then 0 else visE e rs) := by
  simp [visE, or_assoc]

/-- no run holds an edge to a node that it or an older run tombstones -/
def RunsOK : List Run → Prop
  | [] => True
  | r :: rs => (∀ e ∈ r.edges, isTombNode (r :: rs) e.src = false ∧ isTombNode (r :: rs) e.dst = false) ∧ RunsOK rs

theorem isTombNode_cons (r : Run) (rs : List Run) (n : Nat) :
    isTombNode (r :: rs) n = (r.tombNodes.contains n || isTombNode rs n) := by
  simp [isTombNode]

/-! ### the two neighbour iterators as one -/

/-- what differs between the two neighbour iterators: the end of an edge the read starts from, the other
    end (whose tombstone blocks the edge), and the segment index that answers -/
structure Dir where
  near : Edge → Nat
  far : Edge → Nat
  seg : Seg → Nat → Option Nat → Option (List Edge)

def Dir.out : Dir := ⟨(·.src), (·.dst), Seg.neighbors⟩
def Dir.inc (guard : Bool) : Dir := ⟨(·.dst), (·.src), Seg.incomingG guard⟩

namespace Dir
variable (d : Dir)

def blocked (bn : List Nat) (be : List Edge) (e : Edge) : Bool := bn.contains (d.far e) || be.contains e

/-- the run phase of either iterator (`outRuns` / `inRuns`) -/
def runs (n : Nat) (rel : Option Nat) :
    List Run → List Nat → List Edge → List Edge × Option (List Nat × List Edge)
  | [], bn, be => if bn.contains n then ([], none) else ([], some (bn, be))
  | r :: rs, bn, be =>
    if bn.contains n then ([], none)
    else
      let cur := if r.tombNodes.contains n then []
                 else (r.edges.filter (d.near · == n)).filter (fun e => relOk rel e && !d.blocked bn be e)
      let (rest, fin) := runs n rel rs (bn ++ r.tombNodes) (be ++ r.tombEdges)
      (cur ++ rest, fin)

/-- either iterator (`neighborsFlushed` / `incomingFlushed`) -/
def read (s : Engine) (n : Nat) (rel : Option Nat) : Option (List Edge) :=
  match d.runs n rel s.runs [] [] with
  | (es, none) => some es
  | (es, some (bn, be)) =>
    (s.segs.mapM (fun (g : Seg) => (d.seg g n rel).map (·.filter (fun e => !d.blocked bn be e)))).map
      (fun ls => es ++ ls.flatten)

/-- `near` and `far` are the two ends of an edge, in either order -/
def Ends : Prop :=
  ∀ (e : Edge) (l : List Nat), (l.contains e.src || l.contains e.dst) = (l.contains (d.near e) || l.contains (d.far e))

end Dir

theorem Dir.out_ends : Dir.out.Ends := fun _ _ => rfl
theorem Dir.inc_ends (guard : Bool) : (Dir.inc guard).Ends := fun _ _ => Bool.or_comm _ _

theorem outRuns_eq_dir (src : Nat) (rel : Option Nat) (rs : List Run) :
    ∀ bn be, outRuns src rel rs bn be = Dir.out.runs src rel rs bn be := by
  induction rs with
  | nil => intro bn be; rfl
  | cons r rs ih => intro bn be; simp only [outRuns, Dir.runs, ih]; rfl

theorem inRuns_eq_dir (guard : Bool) (dst : Nat) (rel : Option Nat) (rs : List Run) :
    ∀ bn be, inRuns dst rel rs bn be = (Dir.inc guard).runs dst rel rs bn be := by
  induction rs with
  | nil => intro bn be; rfl
  | cons r rs ih => intro bn be; simp only [inRuns, Dir.runs, ih]; rfl

theorem Dir.runs_count (d : Dir) (hends : d.Ends)
    (n : Nat) (rel : Option Nat) (runs : List Run) (bn : List Nat) (be : List Edge)
    (hb : bn.contains n = false) (hs : isTombNode runs n = false) (e : Edge) :
    (d.runs n rel runs bn be).1.count e =
      (if d.near e = n ∧ relOk rel e = true then
         if d.blocked bn be e = true then 0 else visE e runs
       else 0) ∧
    (d.runs n rel runs bn be).2.isSome = true := by
  induction runs generalizing bn be with
  | nil => rw [Dir.runs, hb]; simp [visE]
  | cons r rs ih =>
    rw [isTombNode_cons, Bool.or_eq_false_iff] at hs
    have ih' := ih (bn ++ r.tombNodes) (be ++ r.tombEdges) (by rw [List.contains_append, hb, hs.1]; rfl) hs.2
    simp only [Dir.runs, hb, hs.1, Bool.false_eq_true, if_false]
    refine ⟨?_, ih'.2⟩
    rw [List.count_append, ih'.1, count_filter_ite, count_filter_ite, visE, Bool.or_assoc, hends]
    unfold Dir.blocked
    rw [List.contains_append, List.contains_append]
    by_cases h1 : d.near e = n
    · -- the run does not tombstone the near end; the far end and the key decide
      rw [h1, hs.1]
      cases relOk rel e <;> cases bn.contains (d.far e) <;> cases be.contains e <;> simp [Bool.or_comm]
    · simp [h1]

end Nervus.Storage
