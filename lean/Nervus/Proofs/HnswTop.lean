/-
  C31, `search` and `search_vector` on the repaired configuration.  Of the greedy descent only one
  fact is used: it ends on a stored id (`search_fixed_ok`).  Soundness is `searchLayer_sound` with
  the trivial set.  Exactness: on a closed and connected base layer with `ef_search ≥ n` the
  `search_layer` result covers every stored id, so it is a permutation of the pairs `bruteForce`
  sorts, and both sorted lists are the one ascending arrangement (`eq_bruteForce`).
  `search_vector` asks the index for `k + t` hits, `t` the number of tombstoned ids, and drops the
  tombstoned ones: since at most `t` can be dropped, the first `k` survivors are the first `k` of the
  whole filtered list (`take_filter_take`), and the filtered reference is the reference with
  tombstones (`bruteForce_filter`).
-/
import Nervus.Proofs.HnswSearch
namespace Nervus.Hnsw

variable {V D : Type}

/-! ### stored ids -/

theorem mem_dedupIds (l : List Nat) (x : Nat) : x ∈ dedupIds l ↔ x ∈ l := by
  induction l with
  | nil => exact Iff.rfl
  | cons a l ih =>
    simp only [dedupIds, List.mem_cons, List.mem_filter, ih, bne_iff_ne, ne_eq]
    by_cases hx : x = a <;> simp [hx]

theorem dedupIds_nodup (l : List Nat) : (dedupIds l).Nodup := by
  induction l with
  | nil => exact List.nodup_nil
  | cons a l ih =>
    exact List.nodup_cons.mpr ⟨fun h => by simpa using (List.mem_filter.mp h).2, ih.sublist List.filter_sublist⟩

theorem mem_storedIds (ix : Index V) (i : Nat) : i ∈ storedIds ix ↔ ∃ v, ix.vecs.lookup i = some v := by
  unfold storedIds
  rw [mem_dedupIds, ← Option.isSome_iff_exists, List.lookup_isSome_iff, List.mem_map]
  exact ⟨fun ⟨p, hp, he⟩ => ⟨p, hp, beq_iff_eq.mpr he.symm⟩, fun ⟨p, hp, he⟩ => ⟨p, hp, (beq_iff_eq.mp he).symm⟩⟩

theorem storedIds_nodup (ix : Index V) : (storedIds ix).Nodup := dedupIds_nodup _

/-! ### greedy descent stays inside a set that holds every neighbour with a vector -/

theorem greedyPass_in {sp : Space V D} {ix : Index V} {q : V} {P : Nat → Prop} (ns : List Nat) :
    ∀ (cur : D × Nat) (ch : Bool) (r : (D × Nat) × Bool),
      (∀ n v, n ∈ ns → ix.vecs.lookup n = some v → P n) → P cur.2 →
      greedyPass sp ix q ns cur ch = .ok r → P r.1.2 := by
  induction ns with
  | nil => intro cur ch r _ h hr; cases hr; exact h
  | cons n ns ih =>
    intro cur ch r hP h hr
    unfold greedyPass at hr
    have hPns : ∀ m v, m ∈ ns → ix.vecs.lookup m = some v → P m := fun m v hm => hP m v (List.mem_cons_of_mem _ hm)
    split at hr
    · cases hr
    · next v hg =>
      simp only at hr
      split at hr
      · exact ih _ _ r hPns (hP n v List.mem_cons_self (getVec_ok hg)) hr
      · exact ih _ _ r hPns h hr

theorem greedyLayer_in {sp : Space V D} {ix : Index V} {q : V} {P : Nat → Prop} (layer : Nat)
    (hcl : ∀ i, P i → ∀ j v, j ∈ getNbrs ix layer i → ix.vecs.lookup j = some v → P j) (fuel : Nat) :
    ∀ (cur r : D × Nat), P cur.2 → greedyLayer sp ix q layer fuel cur = .ok r → P r.2 := by
  induction fuel with
  | zero => intro _ _ _ hr; cases hr
  | succ fuel ih =>
    intro cur r h hr
    unfold greedyLayer at hr
    split at hr
    · cases hr
    · next cur' hp => exact ih cur' r (greedyPass_in _ _ _ _ (hcl cur.2 h) h hp) hr
    · next cur' hp => cases hr; exact greedyPass_in _ _ _ _ (hcl cur.2 h) h hp

theorem greedyDown_in {sp : Space V D} {ix : Index V} {q : V} {P : Nat → Prop}
    (hcl : ∀ l i, P i → ∀ j v, j ∈ getNbrs ix l i → ix.vecs.lookup j = some v → P j) (ls : List Nat) :
    ∀ (cur r : D × Nat), P cur.2 → greedyDown sp ix q ls cur = .ok r → P r.2 := by
  induction ls with
  | nil => intro cur r h hr; cases hr; exact h
  | cons l ls ih =>
    intro cur r h hr
    unfold greedyDown at hr
    split at hr
    · cases hr
    · next cur' hg => exact ih cur' r (greedyLayer_in l (hcl l) _ _ _ h hg) hr

/-! ### soundness -/

theorem sound_of_found {sp : Space V D} (law : sp.Lawful) {ix : Index V} {q : V} (found : List (D × Nat))
    (hg : ∀ h, h ∈ found → GoodPair sp ix q h) (hnd : (found.map (·.2)).Nodup) (k : Nat) :
    Sound sp ix [] q k ((sortPairs sp found).take k) := by
  have hperm := sortPairs_perm sp found
  have hsub : ((sortPairs sp found).take k).Sublist (sortPairs sp found) := List.take_sublist _ _
  exact ⟨List.length_take_le _ _, ((hperm.map (·.2)).nodup_iff.mpr hnd).sublist (hsub.map _),
    fun h hh => hg h (hperm.subset (hsub.subset hh)), fun _ _ hin => (nomatch hin),
    ((sortPairs_asc law found hnd).imp not_lt_of_not_pairLt).sublist hsub⟩

/-- what `search` returns comes from a `search_layer` result started on a stored id -/
theorem search_fixed_ok {sp : Space V D} {p : Params} {ix : Index V} {q : V} {k : Nat} {r : List (D × Nat)}
    (h : search Cfg.fixed sp p ix q k = .ok r) :
    (ix.entry = none ∧ r = []) ∨ ∃ s found, s ∈ storedIds ix ∧ searchLayer sp ix q [s] p.efS 0 = .ok found ∧
      r = (sortPairs sp found).take k := by
  unfold search at h
  split at h
  · next he => cases h; exact Or.inl ⟨he, rfl⟩
  · next e he =>
    split at h
    · cases h
    · next ve hg =>
      split at h
      · cases h
      · next cur hd =>
        split at h
        · cases h
        · next found hs =>
          cases h
          refine Or.inr ⟨cur.2, found, ?_, hs, rfl⟩
          exact greedyDown_in (P := (· ∈ storedIds ix)) (fun _ _ _ j v _ hv => (mem_storedIds ix j).mpr ⟨v, hv⟩)
            _ _ _ ((mem_storedIds ix e).mpr ⟨ve, getVec_ok hg⟩) hd

theorem search_sound {sp : Space V D} (law : sp.Lawful) (p : Params) (ix : Index V) (q : V) (k : Nat)
    (r : List (D × Nat)) (h : search Cfg.fixed sp p ix q k = .ok r) : Sound sp ix [] q k r := by
  rcases search_fixed_ok h with ⟨_, rfl⟩ | ⟨s, found, _, hs, rfl⟩
  · exact ⟨Nat.zero_le _, List.nodup_nil, fun _ h => (nomatch h), fun _ h => (nomatch h), List.Pairwise.nil⟩
  · obtain ⟨_, g1, g2, _⟩ := searchLayer_sound (P := fun _ => True) [s] p.efS 0 (fun _ _ => trivial)
      (fun _ _ _ _ => trivial) found hs
    exact sound_of_found law found g1 g2 k

theorem searchVector_fixed_ok {sp : Space V D} {p : Params} {ix : Index V} {tomb : List Nat} {q : V} {k : Nat}
    {r : List (D × Nat)} (h : searchVector Cfg.fixed sp p ix tomb q k = .ok r) :
    ∃ hits, search Cfg.fixed sp p ix q (k + tomb.length) = .ok hits ∧
      r = (hits.filter (fun h => !tomb.contains h.2)).take k := by
  unfold searchVector at h
  rw [if_pos (show Cfg.fixed.skipTomb = true from rfl)] at h
  split at h
  · cases h
  · next hits hs => cases h; exact ⟨hits, hs, rfl⟩

theorem searchVector_sound {sp : Space V D} (law : sp.Lawful) (p : Params) (ix : Index V) (tomb : List Nat)
    (q : V) (k : Nat) (r : List (D × Nat)) (h : searchVector Cfg.fixed sp p ix tomb q k = .ok r) :
    Sound sp ix tomb q k r := by
  obtain ⟨hits, hs, rfl⟩ := searchVector_fixed_ok h
  have hsnd := search_sound law p ix q _ hits hs
  have hsub : ((hits.filter (fun h => !tomb.contains h.2)).take k).Sublist hits :=
    (List.take_sublist _ _).trans List.filter_sublist
  refine ⟨List.length_take_le _ _, hsnd.distinct.sublist (hsub.map _), fun x hx => hsnd.dist x (hsub.subset hx),
    fun x hx => ?_, hsnd.sorted.sublist hsub⟩
  simpa using (List.mem_filter.mp ((List.take_sublist _ _).subset hx)).2

/-! ### exactness on a connected base layer -/

/-- connected from EVERY stored id, not only from the entry point: the descent through the upper
    layers may hand any stored id to the base-layer search -/
structure Connected0 (ix : Index V) : Prop where
  closed : ∀ i, i ∈ storedIds ix → ∀ j, j ∈ getNbrs ix 0 i → j ∈ storedIds ix
  conn : ∀ i j, i ∈ storedIds ix → j ∈ storedIds ix → Reach ix 0 i j

/-- all stored ids with their distances, as `bruteForce` lists them before sorting -/
def allPairs (sp : Space V D) (ix : Index V) (tomb : List Nat) (q : V) : List (D × Nat) :=
  ((storedIds ix).filter (fun i => !tomb.contains i)).filterMap (fun i =>
    match ix.vecs.lookup i with
    | some v => some (sp.dist q v, i)
    | none => none)

theorem bruteForce_eq (sp : Space V D) (ix : Index V) (tomb : List Nat) (q : V) :
    bruteForce sp ix tomb q = sortPairs sp (allPairs sp ix tomb q) := rfl

theorem allPairs_some_iff {sp : Space V D} {ix : Index V} {q : V} {i : Nat} {h : D × Nat} :
    (match ix.vecs.lookup i with | some v => some (sp.dist q v, i) | none => none) = some h ↔
      h.2 = i ∧ GoodPair sp ix q h := by
  unfold GoodPair
  constructor
  · intro hf
    split at hf
    · next v hl => cases hf; exact ⟨rfl, v, hl, rfl⟩
    · cases hf
  · rintro ⟨rfl, v, hv, hd⟩
    rw [hv]; exact congrArg some (Prod.ext hd.symm rfl)

theorem mem_allPairs (sp : Space V D) (ix : Index V) (tomb : List Nat) (q : V) (h : D × Nat) :
    h ∈ allPairs sp ix tomb q ↔ (h.2 ∉ tomb ∧ GoodPair sp ix q h) := by
  unfold allPairs
  simp only [List.mem_filterMap, allPairs_some_iff, List.mem_filter, mem_storedIds]
  constructor
  · rintro ⟨i, ⟨_, hi⟩, rfl, hg⟩; exact ⟨by simpa using hi, hg⟩
  · rintro ⟨hnt, v, hv, hd⟩; exact ⟨h.2, ⟨⟨v, hv⟩, by simpa using hnt⟩, rfl, v, hv, hd⟩

theorem allPairs_ids_nodup (sp : Space V D) (ix : Index V) (tomb : List Nat) (q : V) :
    ((allPairs sp ix tomb q).map (·.2)).Nodup := by
  refine List.pairwise_map.mpr (((storedIds_nodup ix).sublist List.filter_sublist).filterMap _
    fun a a' hne b hb b' hb' heq => hne ?_)
  rw [← (allPairs_some_iff.mp hb).1, ← (allPairs_some_iff.mp hb').1, heq]

theorem mem_bruteForce (sp : Space V D) (ix : Index V) (tomb : List Nat) (q : V) (h : D × Nat) :
    h ∈ bruteForce sp ix tomb q ↔ (h.2 ∉ tomb ∧ GoodPair sp ix q h) :=
  (sortPairs_perm sp _).mem_iff.trans (mem_allPairs sp ix tomb q h)

theorem bruteForce_ids_nodup (sp : Space V D) (ix : Index V) (tomb : List Nat) (q : V) :
    ((bruteForce sp ix tomb q).map (·.2)).Nodup :=
  ((sortPairs_perm sp _).map (·.2)).nodup_iff.mpr (allPairs_ids_nodup sp ix tomb q)

theorem bruteForce_asc {sp : Space V D} (law : sp.Lawful) (ix : Index V) (tomb : List Nat) (q : V) :
    Asc sp (bruteForce sp ix tomb q) := sortPairs_asc law _ (allPairs_ids_nodup sp ix tomb q)

/-- the reference is the only ascending list with distinct ids that holds exactly the pairs of the
    stored vectors outside `tomb` -/
theorem eq_bruteForce {sp : Space V D} (law : sp.Lawful) {ix : Index V} {tomb : List Nat} {q : V}
    {l : List (D × Nat)} (ha : Asc sp l) (hnd : (l.map (·.2)).Nodup)
    (hm : ∀ h, h ∈ l ↔ (h.2 ∉ tomb ∧ GoodPair sp ix q h)) : l = bruteForce sp ix tomb q := by
  refine asc_unique _ _ ha (bruteForce_asc law ix tomb q) ?_ hnd
  rw [List.perm_ext_iff_of_nodup (nodup_of_ids_nodup hnd) (nodup_of_ids_nodup (bruteForce_ids_nodup sp ix tomb q))]
  exact fun h => (hm h).trans (mem_bruteForce sp ix tomb q h).symm

theorem search_exact {sp : Space V D} (law : sp.Lawful) (p : Params) (ix : Index V) (hc : Connected0 ix)
    (hef : (storedIds ix).length ≤ p.efS) (hent : ix.entry = none → storedIds ix = [])
    (q : V) (k : Nat) (r : List (D × Nat))
    (h : search Cfg.fixed sp p ix q k = .ok r) : r = (bruteForce sp ix [] q).take k := by
  rcases search_fixed_ok h with ⟨he, rfl⟩ | ⟨s, found, hs, hsl, rfl⟩
  · rw [bruteForce_eq, show allPairs sp ix [] q = [] by unfold allPairs; rw [hent he]; rfl]; exact List.take_nil.symm
  · have hs1 : ∀ e, e ∈ [s] → e ∈ storedIds ix := fun e he => List.mem_singleton.mp he ▸ hs
    obtain ⟨_, g1, g2, _⟩ := searchLayer_sound (P := (· ∈ storedIds ix)) [s] p.efS 0 hs1 hc.closed found hsl
    have hcov := searchLayer_complete (U := storedIds ix) [s] p.efS 0 hef hs1 hc.closed found hsl
    have hperm := sortPairs_perm sp found
    refine congrArg (List.take k) (eq_bruteForce law (sortPairs_asc law found g2)
      ((hperm.map (·.2)).nodup_iff.mpr g2) fun h => hperm.mem_iff.trans
        ⟨fun hh => ⟨List.not_mem_nil, g1 h hh⟩, fun ⟨_, v, hv, hd⟩ => ?_⟩)
    -- `found` covers every stored id, and the pair it holds for this one carries the same distance
    obtain ⟨h', hh', hid⟩ := List.mem_map.mp
      (hcov s List.mem_cons_self h.2 (hc.conn _ _ hs ((mem_storedIds ix h.2).mpr ⟨v, hv⟩)))
    obtain ⟨v', hv', hd'⟩ := g1 h' hh'
    have hid : h'.2 = h.2 := hid
    rw [hid, hv] at hv'
    cases hv'
    exact Prod.ext (hd.trans hd'.symm) hid.symm ▸ hh'

/-! ### asking for `k + t` hits and dropping at most `t` of them -/

theorem take_filter_take {α : Type} (P : α → Bool) (S : List α) :
    ∀ (k t : Nat), (S.filter (fun x => !P x)).length ≤ t →
      ((S.take (k + t)).filter P).take k = (S.filter P).take k := by
  induction S with
  | nil => intro k t _; simp
  | cons x S ih =>
    intro k t h
    cases k with
    | zero => rw [List.take_zero, List.take_zero]
    | succ k =>
      rw [List.filter_cons] at h
      cases hp : P x with
      | true =>
        -- a kept hit uses up one of the `k`
        rw [hp] at h
        rw [show k + 1 + t = (k + t) + 1 by omega, List.take_succ_cons, List.filter_cons, List.filter_cons]
        simp only [hp, if_true, List.take_succ_cons]
        rw [ih k t h]
      | false =>
        -- a dropped hit uses up one of the `t`
        rw [hp] at h
        obtain ⟨t', rfl⟩ : ∃ t', t = t' + 1 := ⟨t - 1, by have := h; simp at this; omega⟩
        rw [show k + 1 + (t' + 1) = ((k + 1) + t') + 1 by omega, List.take_succ_cons, List.filter_cons,
          List.filter_cons]
        simp only [hp, Bool.false_eq_true, if_false]
        exact ih (k + 1) t' (by simp at h; omega)

theorem asc_filter {sp : Space V D} {l : List (D × Nat)} (P : D × Nat → Bool) (h : Asc sp l) :
    Asc sp (l.filter P) := List.Pairwise.sublist List.filter_sublist h

theorem bruteForce_filter {sp : Space V D} (law : sp.Lawful) (ix : Index V) (tomb : List Nat) (q : V) :
    bruteForce sp ix tomb q = (bruteForce sp ix [] q).filter (fun h => !tomb.contains h.2) := by
  refine (eq_bruteForce law (asc_filter _ (bruteForce_asc law ix [] q))
    ((bruteForce_ids_nodup sp ix [] q).sublist (List.filter_sublist.map _)) fun h => ?_).symm
  rw [List.mem_filter, mem_bruteForce]
  simp
  exact and_comm

theorem searchVector_exact {sp : Space V D} (law : sp.Lawful) (p : Params) (ix : Index V) (hc : Connected0 ix)
    (hef : (storedIds ix).length ≤ p.efS) (hent : ix.entry = none → storedIds ix = [])
    (tomb : List Nat) (q : V) (k : Nat) (r : List (D × Nat))
    (h : searchVector Cfg.fixed sp p ix tomb q k = .ok r) : r = (bruteForce sp ix tomb q).take k := by
  obtain ⟨hits, hs, rfl⟩ := searchVector_fixed_ok h
  rw [search_exact law p ix hc hef hent q _ hits hs, bruteForce_filter law ix tomb q]
  apply take_filter_take
  -- the dropped hits have distinct ids, all in `tomb`
  have hsub : (((bruteForce sp ix [] q).filter (fun x => !!tomb.contains x.2)).map (·.2)).Nodup :=
    (bruteForce_ids_nodup sp ix [] q).sublist ((List.filter_sublist).map _)
  have := hsub.length_le_of_subset (l₂ := tomb) (by
    intro x hx
    rcases List.mem_map.mp hx with ⟨y, hy, rfl⟩
    have := (List.mem_filter.mp hy).2
    simpa using this)
  rw [List.length_map] at this
  exact this

end Nervus.Hnsw
