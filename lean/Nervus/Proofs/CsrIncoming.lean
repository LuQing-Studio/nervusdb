/-
  Proofs/CsrIncoming.lean — the CSR construction lemma, reverse index: `incoming_neighbors(dst, rel)` of a
  built and persisted segment returns exactly the edges with that destination (as a multiset); an
  edge-free segment answers with nothing when the guard of fix 2666d9b is present and panics (model:
  `none`) without it.
-/
import Nervus.Proofs.CsrReverse
namespace Nervus.Storage

theorem prefixSums_isEmpty (ls : List Nat) (c : Nat) : (prefixSums ls c).isEmpty = false := by
  cases ls <;> rfl

theorem expand_nil_of_edges_nil (g : Seg) (h : g.edges = []) : g.expand = [] := by
  unfold Seg.expand
  apply List.flatMap_eq_nil_iff.mpr
  intro i _
  split
  · rw [h]; simp
  · rfl

theorem dst_group_readback (ews : List Edge) (dst : Nat) (rel : Option Nat) :
    ((((ews.filter (·.dst == dst)).map (fun e => (e.rel, e.src))).filter (recOk rel)).map
      (fun r => (⟨r.2, r.1, dst⟩ : Edge))) = ews.filter (fun e => e.dst == dst && relOk rel e) :=
  records_readback (·.dst) (fun e => (e.rel, e.src)) (fun d r => ⟨r.2, r.1, d⟩) (fun _ => rfl) (fun _ => rfl) ews dst rel

theorem built_incoming (guard : Bool) (id : Nat) (es : List Edge) (dst : Nat) (rel : Option Nat)
    (hg : guard = true ∨ es ≠ []) :
    ∃ l, ((buildForward id es).persist).incomingG guard dst rel = some l ∧
      l.Perm (es.filter (fun e => e.dst == dst && relOk rel e)) := by
  have hexp := expand_buildForward id es
  by_cases hes : es = []
  · subst hes
    have hguard : guard = true := by
      rcases hg with h | h
      · exact h
      · exact absurd rfl h
    subst hguard
    refine ⟨[], ?_, by simp⟩
    simp [buildForward, isort, emptySeg, Seg.persist, Seg.incomingG]
  · generalize hg0 : buildForward id es = g0 at *
    have hinE : g0.inEdges = [] := by
      rw [← hg0]; unfold buildForward; simp only; split <;> rfl
    have hedges : g0.edges ≠ [] := by
      intro h
      have := expand_nil_of_edges_nil g0 h
      rw [this] at hexp
      exact hes (List.length_eq_zero_iff.mp hexp.length_eq.symm)
    have hews := isort_perm dstLe g0.expand
    have hsorted := isort_key_sorted dstLe (·.dst) dstLe_key1 dstLe_key2 g0.expand
    generalize hews' : isort dstLe g0.expand = ews at *
    have hne : ews ≠ [] := by
      intro h
      rw [h] at hews
      have h0 : g0.expand = [] := List.length_eq_zero_iff.mp hews.length_eq.symm
      rw [h0] at hexp
      exact hes (List.length_eq_zero_iff.mp hexp.length_eq.symm)
    obtain ⟨f, hf⟩ : ∃ f, ews.head? = some f := by
      cases ews with
      | nil => exact absurd rfl hne
      | cons a as => exact ⟨a, rfl⟩
    obtain ⟨z, hz⟩ : ∃ z, ews.getLast? = some z := by
      cases hl : ews.getLast? with
      | none => exact absurd (List.getLast?_eq_none_iff.mp hl) hne
      | some z => exact ⟨z, rfl⟩
    have hlo := sorted_head_le (·.dst) ews hsorted f hf
    have hhi := sorted_le_last (·.dst) ews hsorted z hz
    have hperm : (ews.filter (fun e => e.dst == dst && relOk rel e)).Perm
        (es.filter (fun e => e.dst == dst && relOk rel e)) := (hews.trans hexp).filter _
    have hpersist : g0.persist =
        { g0 with minDst := f.dst, maxDst := z.dst,
                  inOffsets := prefixSums (((List.range (z.dst - f.dst + 1)).map (fun j =>
                    (ews.filter (·.dst == f.dst + j)).map (fun e => (e.rel, e.src)))).map List.length) 0,
                  inEdges := ((List.range (z.dst - f.dst + 1)).map (fun j =>
                    (ews.filter (·.dst == f.dst + j)).map (fun e => (e.rel, e.src)))).flatten } := by
      unfold Seg.persist
      have h1 : (!g0.edges.isEmpty && g0.inEdges.isEmpty) = true := by
        rw [hinE]
        cases hq : g0.edges with
        | nil => exact absurd hq hedges
        | cons a as => rfl
      rw [if_pos h1, hews']
      simp only [hf, hz]
    rw [hpersist, incomingG_eq_csrRead]
    simp only [prefixSums_isEmpty, Bool.and_false, Bool.false_eq_true, if_false]
    rw [csrRead_built (fun d => (ews.filter (·.dst == d)).map (fun e => (e.rel, e.src))) f.dst z.dst dst fun h => ?_]
    · exact ⟨_, rfl, (List.Perm.of_eq (dst_group_readback ews dst rel)).trans hperm⟩
    · -- no edge has a destination outside the range
      rw [List.filter_eq_nil_iff.mpr fun e he hs => by
        have := hlo e he; have := hhi e he; simp only [beq_iff_eq] at hs; omega]
      rfl

/-- the pinned tree: an edge-free segment panics on `incoming_neighbors(0)` (csr.rs:67) -/
theorem empty_segment_panics (id : Nat) :
    ((buildForward id []).persist).incomingG false 0 none = none := by
  simp [buildForward, isort, emptySeg, Seg.persist, Seg.incomingG]

end Nervus.Storage
