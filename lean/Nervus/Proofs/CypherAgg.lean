/-
  Operator lemmas 8 and 9 for C11: aggregation with implicit grouping keys (what the groups are; the single row
  over empty input) and ORDER BY (the executor's keyed sort is a merge sort of the rows by the reference
  comparator; its output is sorted whenever the value order is a total preorder).
-/
import Nervus.Proofs.CypherBase
import Nervus.Proofs.Cmp
namespace Nervus.Cy
open Nervus.Cy

variable (A : Algebra) (env : Env)

/-! ### 8. grouping -/

theorem groupRows_eq (gb : List String) (T : Table) :
    Exec.groupRows gb T = Spec.groupBy (fun r => gb.filterMap r.get) T := by
  induction T with
  | nil => rfl
  | cons r rest ih => simp only [Exec.groupRows, Spec.groupBy, ih]

/-- what "implicit grouping" means, said without the way `groupBy` computes it -/
def GroupsOf (key : Row → List Val) (T : Table) (gs : List (List Val × Table)) : Prop :=
  (gs.map (·.1)).Nodup ∧ (∀ p ∈ gs, p.2 = T.filter (fun r => key r == p.1) ∧ p.2 ≠ []) ∧
  (∀ r ∈ T, key r ∈ gs.map (·.1))

theorem map_fst_update (gs : List (List Val × Table)) (k : List Val) (r : Row) :
    (gs.map fun (p : List Val × Table) => if p.1 == k then (p.1, r :: p.2) else (p.1, p.2)).map (·.1) = gs.map (·.1) := by
  rw [List.map_map]
  apply List.map_congr_left
  intro p _
  simp only [Function.comp]
  split <;> rfl

theorem groupBy_groups (key : Row → List Val) (T : Table) : GroupsOf key T (Spec.groupBy key T) := by
  induction T with
  | nil =>
    unfold GroupsOf
    refine ⟨List.nodup_nil, ?_, ?_⟩ <;> intro _ h <;> cases h
  | cons r rest ih =>
    unfold GroupsOf at ih ⊢
    obtain ⟨hnd, hrows, hcov⟩ := ih
    simp only [Spec.groupBy]
    by_cases hany : (Spec.groupBy key rest).any (fun p => p.1 == key r) = true
    · rw [if_pos hany]
      have hmap : ((Spec.groupBy key rest).map fun (p : List Val × Table) =>
          if p.1 == key r then (p.1, r :: p.2) else (p.1, p.2)) =
          ((Spec.groupBy key rest).map fun (x : List Val × Table) =>
            match x with | (k', rs) => if k' == key r then (k', r :: rs) else (k', rs)) := by
        apply List.map_congr_left; intro p _; rfl
      rw [← hmap]
      refine ⟨by rw [map_fst_update]; exact hnd, ?_, ?_⟩
      · intro p hp
        obtain ⟨q, hq, rfl⟩ := List.mem_map.mp hp
        obtain ⟨h1, h2⟩ := hrows q hq
        by_cases hk : (q.1 == key r) = true
        · have hk' : key r == q.1 := by rw [eq_of_beq hk]; exact beq_self_eq_true _
          simp only [hk, ↓reduceIte, List.filter_cons, hk', ne_eq, reduceCtorEq, not_false_eq_true, and_true]
          rw [h1]
        · have hk' : (key r == q.1) = false := by
            cases h : key r == q.1
            · rfl
            · exact absurd (by rw [eq_of_beq h]; exact beq_self_eq_true _) hk
          simp only [hk, Bool.false_eq_true, ↓reduceIte, List.filter_cons, hk']
          exact ⟨h1, h2⟩
      · intro x hx
        rw [map_fst_update]
        rcases List.mem_cons.mp hx with rfl | hx
        · obtain ⟨p, hp, hpk⟩ := List.any_eq_true.mp hany
          rw [← eq_of_beq hpk]
          exact List.mem_map_of_mem hp
        · exact hcov x hx
    · rw [if_neg hany]
      have hnot : key r ∉ (Spec.groupBy key rest).map (·.1) := by
        intro hmem
        obtain ⟨p, hp, hpk⟩ := List.mem_map.mp hmem
        exact hany (List.any_eq_true.mpr ⟨p, hp, by rw [hpk]; exact beq_self_eq_true _⟩)
      refine ⟨?_, ?_, ?_⟩
      · simp only [List.map_cons]
        exact List.nodup_cons.mpr ⟨hnot, hnd⟩
      · intro p hp
        rcases List.mem_cons.mp hp with rfl | hp
        · have : rest.filter (fun x => key x == key r) = [] := by
            rw [List.filter_eq_nil_iff]
            intro x hx hxe
            exact hnot ((eq_of_beq hxe) ▸ hcov x hx)
          simp [this]
        · obtain ⟨h1, h2⟩ := hrows p hp
          have hk' : (key r == p.1) = false := by
            cases h : key r == p.1
            · rfl
            · exact absurd ((eq_of_beq h) ▸ List.mem_map_of_mem hp) hnot
          simp only [List.filter_cons, hk', Bool.false_eq_true, ↓reduceIte]
          exact ⟨h1, h2⟩
      · intro x hx
        simp only [List.map_cons]
        rcases List.mem_cons.mp hx with rfl | hx
        · exact List.mem_cons_self
        · exact List.mem_cons_of_mem _ (hcov x hx)

theorem groupRows_nil_key (T : Table) : Exec.groupRows [] T = if T.isEmpty then [] else [([], T)] := by
  induction T with
  | nil => rfl
  | cons r rest ih =>
    simp only [Exec.groupRows, ih, List.filterMap_nil, List.isEmpty_cons, Bool.false_eq_true, ↓reduceIte]
    cases rest with
    | nil => rfl
    | cons r' rest' => simp

theorem aggregate_keyed (gb : List String) (hgb : gb.isEmpty = false) (aggs : List (AggFn × String)) (T : Table) :
    Exec.aggregate A env gb aggs T =
      (Spec.groupBy (fun r => gb.filterMap r.get) T).map fun (p : List Val × Table) =>
        aggs.foldl (fun (r : Row) (q : AggFn × String) => r.set q.2 (Exec.aggValue A env q.1 p.2))
          ((gb.zip p.1).foldl (fun (r : Row) (kv : String × Val) => r.set kv.1 kv.2) []) := by
  simp only [Exec.aggregate, groupRows_eq, hgb, Bool.and_false, Bool.false_eq_true, ↓reduceIte]

theorem aggregate_keyed_empty (gb : List String) (hgb : gb.isEmpty = false) (aggs : List (AggFn × String)) :
    Exec.aggregate A env gb aggs [] = [] := by
  rw [aggregate_keyed A env gb hgb]; rfl

/-! ### 9. ORDER BY -/

/-- `Spec.keyLe` on the rows the sort keys are evaluated in (the second components of its pairs) -/
def rowLe (items : List (Expr × Bool)) (a b : Row) : Bool :=
  match items with
  | [] => true
  | (e, asc) :: rest =>
    match A.ord (eval A env a e) (eval A env b e) with
    | .eq => rowLe rest a b
    | .lt => asc
    | .gt => !asc

theorem keysLe_eq_rowLe (items : List (Expr × Bool)) (a b : Row) :
    Exec.keysLe A (items.map fun (p : Expr × Bool) => (eval A env a p.1, p.2))
      (items.map fun (p : Expr × Bool) => (eval A env b p.1, p.2)) = rowLe A env items a b := by
  induction items with
  | nil => rfl
  | cons it rest ih => obtain ⟨e, asc⟩ := it; simp only [List.map_cons, Exec.keysLe, rowLe, ih]; cases A.ord (eval A env a e) (eval A env b e) <;> rfl

/-- the reference's ORDER BY is `mergeSort` by `keyLe`: this is equality with the list it denotes, ties included,
    and needs no law of `A.ord` -/
theorem orderBy_eq_mergeSort (items : List (Expr × Bool)) (T : Table) :
    Exec.orderBy A env items T = T.mergeSort (rowLe A env items) := by
  unfold Exec.orderBy
  rw [List.map_mergeSort (s := rowLe A env items)]
  · rw [List.map_map]
    congr 1
    exact List.map_id' T |>.symm ▸ (by simp [])
  · intro a ha b hb
    obtain ⟨ra, _, rfl⟩ := List.mem_map.mp ha
    obtain ⟨rb, _, rfl⟩ := List.mem_map.mp hb
    exact keysLe_eq_rowLe A env items ra rb

/-- `rowLe` as a three-way comparison (`rowLe_eq`), the shape `CmpLaws.lex` composes -/
def rowCmp : List (Expr × Bool) → Row → Row → Ordering
  | [], _, _ => .eq
  | (e, asc) :: rest, a, b =>
    (if asc then A.ord (eval A env a e) (eval A env b e) else (A.ord (eval A env a e) (eval A env b e)).swap).then
      (rowCmp rest a b)

theorem rowLe_eq (items : List (Expr × Bool)) (a b : Row) :
    rowLe A env items a b = (rowCmp A env items a b != .gt) := by
  induction items with
  | nil => rfl
  | cons it rest ih =>
    obtain ⟨e, asc⟩ := it
    simp only [rowLe, rowCmp, ih]
    cases A.ord (eval A env a e) (eval A env b e) <;> cases asc <;> rfl

theorem rowCmp_laws (h : Nervus.CmpLaws A.ord) : ∀ items, Nervus.CmpLaws (rowCmp A env items)
  | [] => ⟨fun _ _ => rfl, fun _ _ _ _ _ => rfl⟩
  | (e, asc) :: rest => by
    have hk : Nervus.CmpLaws fun x y => if asc then A.ord x y else (A.ord x y).swap := by
      cases asc
      · exact h.reverse
      · exact h
    exact Nervus.CmpLaws.lex hk (rowCmp_laws h rest) (eval A env · e) id

theorem rowLe_total (h : Nervus.CmpLaws A.ord) (items : List (Expr × Bool)) (a b : Row) :
    (rowLe A env items a b || rowLe A env items b a) = true := by
  rw [rowLe_eq, rowLe_eq, (rowCmp_laws A env h items).swap a b]
  cases rowCmp A env items b a <;> rfl

theorem rowLe_trans (h : Nervus.CmpLaws A.ord) (items : List (Expr × Bool)) (a b c : Row)
    (h1 : rowLe A env items a b = true) (h2 : rowLe A env items b c = true) : rowLe A env items a c = true := by
  rw [rowLe_eq, bne_iff_ne] at h1 h2 ⊢
  exact (rowCmp_laws A env h items).le_trans h1 h2

theorem orderBy_sorted (h : Nervus.CmpLaws A.ord) (items : List (Expr × Bool)) (T : Table) :
    (Exec.orderBy A env items T).Pairwise fun a b => rowLe A env items a b = true := by
  rw [orderBy_eq_mergeSort]
  exact List.pairwise_mergeSort (rowLe_trans A env h items) (rowLe_total A env h items) T

end Nervus.Cy
