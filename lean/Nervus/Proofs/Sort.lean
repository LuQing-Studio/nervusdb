/-
  Proofs.Sort — the stable insertion sort of `Model.Order` is, for any three-way comparison that is a
  total preorder on the members of the input, a sorted stable permutation; everything about `insertSorted` is read
  off its closed form `insertSorted_eq` (a `takeWhile` / `dropWhile` split of the list).  SKIP/LIMIT positions.
-/
import Nervus.Proofs.Cmp
import Nervus.Proofs.ListBasics
import Nervus.Model.Order
namespace Nervus
open Order


section
variable {α : Type} (cmp : α → α → Ordering)

theorem insertSorted_eq (x : α) (l : List α) :
    insertSorted cmp x l = l.takeWhile (cmp x · == .gt) ++ x :: l.dropWhile (cmp x · == .gt) := by
  induction l with
  | nil => rfl
  | cons y ys ih =>
    unfold insertSorted
    rw [ih, List.takeWhile_cons, List.dropWhile_cons]
    by_cases h : (cmp x y == .gt) = true <;> simp [bne, h]

theorem insertSorted_perm (x : α) (l : List α) : (insertSorted cmp x l).Perm (x :: l) :=
  insertSorted_eq cmp x l ▸ perm_insert_span _ x l

theorem isort_perm : ∀ l : List α, (isort cmp l).Perm l
  | [] => List.Perm.refl _
  | x :: xs => (insertSorted_perm cmp x (isort cmp xs)).trans ((isort_perm xs).cons x)

theorem mem_insertSorted {x y : α} {l : List α} : y ∈ insertSorted cmp x l ↔ y = x ∨ y ∈ l := by
  rw [(insertSorted_perm cmp x l).mem_iff]; simp

theorem mem_isort {y : α} {l : List α} : y ∈ isort cmp l ↔ y ∈ l := (isort_perm cmp l).mem_iff

theorem insertSorted_sorted {P : α → Prop} (h : CmpLawsOn cmp P) (x : α) (hx : P x) (l : List α)
    (hP : ∀ y ∈ l, P y) (hs : SortedBy cmp l) : SortedBy cmp (insertSorted cmp x l) := by
  rw [insertSorted_eq]
  exact pairwise_insert_span _ x hs (fun y hy hg => h.le_of_gt hx (hP y hy) (beq_iff_eq.mp hg))
    (fun y _ hg => by simpa using hg)
    fun y z hy hz => h.le_trans hx (hP y hy) (hP z hz)

theorem isort_sorted {P : α → Prop} (h : CmpLawsOn cmp P) : ∀ l : List α, (∀ y ∈ l, P y) → SortedBy cmp (isort cmp l)
  | [], _ => List.Pairwise.nil
  | x :: xs, hP =>
    insertSorted_sorted cmp h x (hP x List.mem_cons_self) _
      (fun y hy => hP y (List.mem_cons_of_mem _ ((mem_isort cmp).1 hy)))
      (isort_sorted h xs fun y hy => hP y (List.mem_cons_of_mem _ hy))

theorem sublist_insertSorted (x : α) (l : List α) : l.Sublist (insertSorted cmp x l) := by
  have := (List.sublist_cons_self x (l.dropWhile (cmp x · == .gt))).append_left (l.takeWhile (cmp x · == .gt))
  rwa [List.takeWhile_append_dropWhile, ← insertSorted_eq] at this

/-- an element that `x` is not greater than stops the scan or comes after what does -/
theorem pair_insertSorted (x b : α) (hxb : cmp x b ≠ .gt) (l : List α) (hb : b ∈ l) :
    [x, b].Sublist (insertSorted cmp x l) := by
  rw [insertSorted_eq]
  rw [← List.takeWhile_append_dropWhile (p := (cmp x · == .gt)) (l := l)] at hb
  refine ((List.singleton_sublist.2 ((List.mem_append.mp hb).resolve_left fun h => ?_)).cons_cons x).trans
    (List.sublist_append_right _ _)
  exact hxb (beq_iff_eq.mp (of_mem_takeWhile (p := (cmp x · == .gt)) h))

theorem isort_stable (a b : α) (hab : cmp a b ≠ .gt) :
    ∀ l : List α, [a, b].Sublist l → [a, b].Sublist (isort cmp l)
  | [], h => by simp at h
  | x :: xs, h => by
    simp only [isort]
    cases h with
    | cons _ h' => exact (isort_stable a b hab xs h').trans (sublist_insertSorted cmp x _)
    | cons_cons _ h' =>
      have hb : b ∈ isort cmp xs := (mem_isort cmp).2 (List.singleton_sublist.1 h')
      exact pair_insertSorted cmp a b hab _ hb
end

theorem skip_limit_get {α : Type} (rows : List α) (s l i : Nat) :
    (limit l (skip s rows))[i]? = if i < l then rows[s + i]? else none := by
  simp only [limit, skip, List.getElem?_take, List.getElem?_drop]

theorem skip_limit_length {α : Type} (rows : List α) (s l : Nat) :
    (limit l (skip s rows)).length = min l (rows.length - s) := by
  simp [limit, skip]

end Nervus
