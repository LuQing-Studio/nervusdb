/-
  C34's write classification on `Model.CApi`: with the arms the regenerated tables have (`arm_table`, `clause_arms`),
  `plan_contains_write` is computed shape by shape (`pcw_*`), the AST classifier is "an updating clause at any depth"
  (`queryContainsWrite_eq`), and a compiled plan contains a write node exactly when the plan it was seeded with did or
  the clauses update (`compileQuery_pcw`, mutual structural recursion over clause and query).
-/
import Nervus.Model.CApi
namespace Nervus.CApi

/-! ### what the regenerated arm tables say (re-checked on every build)

One kernel evaluation reads every arm off `Generated.planArms`: evaluated together, the table's names are
compared once, not once per constructor.  The lists are all the kinds of each family (`arms_WK` … `arms_LK`). -/

theorem arm_table :
    (∀ k ∈ [WK.create, .delete, .setProperty, .setPropertiesFromMap, .setLabels, .removeProperty, .removeLabels],
      armWrite k.name = true) ∧
    (∀ k ∈ [UK.filter, .project, .limit, .skip, .orderBy, .distinct, .unwind, .aggregate, .procedureCall,
      .matchBoundRel], armWrite k.name = false ∧ armRec k.name "input" = true) ∧
    (∀ k ∈ [MK.matchOut, .matchIn, .matchUndirected, .matchOutVarLen],
      armWrite k.name = false ∧ armRec k.name "input?" = true) ∧
    (∀ k ∈ [LK.nodeScan, .returnOne, .values], armWrite k.name = false) ∧
    armWrite "Foreach" = true ∧
    (armWrite "OptionalWhereFixup" = false ∧ armRec "OptionalWhereFixup" "outer" = true ∧
      armRec "OptionalWhereFixup" "filtered" = true) ∧
    (armWrite "IndexSeek" = false ∧ armRec "IndexSeek" "fallback" = true) ∧
    (armWrite "Apply" = false ∧ armRec "Apply" "input" = true ∧ armRec "Apply" "subquery" = true) ∧
    (armWrite "CartesianProduct" = false ∧ armRec "CartesianProduct" "left" = true ∧
      armRec "CartesianProduct" "right" = true) ∧
    (armWrite "Union" = false ∧ armRec "Union" "left" = true ∧ armRec "Union" "right" = true) := by
  decide +kernel

theorem arms_WK (k : WK) : armWrite k.name = true := arm_table.1 k (by cases k <;> decide)
theorem arms_UK (k : UK) : armWrite k.name = false ∧ armRec k.name "input" = true :=
  arm_table.2.1 k (by cases k <;> decide)
theorem arms_MK (k : MK) : armWrite k.name = false ∧ armRec k.name "input?" = true :=
  arm_table.2.2.1 k (by cases k <;> decide)
theorem arms_LK (k : LK) : armWrite k.name = false := arm_table.2.2.2.1 k (by cases k <;> decide)
theorem clause_arms :
    Generated.clauseWriteKinds.contains "Create" = true ∧ Generated.clauseWriteKinds.contains "Merge" = true ∧
    Generated.clauseWriteKinds.contains "Set" = true ∧ Generated.clauseWriteKinds.contains "Remove" = true ∧
    Generated.clauseWriteKinds.contains "Delete" = true ∧ Generated.clauseWriteKinds.contains "Foreach" = true ∧
    Generated.clauseWriteKinds.contains "Match" = false ∧ Generated.clauseWriteKinds.contains "Where" = false ∧
    Generated.clauseWriteKinds.contains "With" = false ∧ Generated.clauseWriteKinds.contains "Return" = false ∧
    Generated.clauseWriteKinds.contains "Unwind" = false ∧ Generated.clauseWriteKinds.contains "Call.Procedure" = false ∧
    Generated.clauseWriteKinds.contains "Call.Subquery" = false ∧ Generated.clauseWriteKinds.contains "Union" = false ∧
    Generated.clauseRecurseKinds.contains "Call.Subquery" = true ∧ Generated.clauseRecurseKinds.contains "Union" = true := by
  decide +kernel

/-! ### plan_contains_write on each shape -/

@[simp] theorem pcw_write (k : WK) (i : Plan) : planContainsWrite (.write k i) = true := by
  simp [planContainsWrite, arms_WK]
@[simp] theorem pcw_foreach (i s : Plan) : planContainsWrite (.foreach i s) = true := by
  simp [planContainsWrite, arm_table]
@[simp] theorem pcw_unary (k : UK) (i : Plan) : planContainsWrite (.unary k i) = planContainsWrite i := by
  simp [planContainsWrite, arms_UK]
@[simp] theorem pcw_expand0 (k : MK) : planContainsWrite (.expand0 k) = false := by
  simp [planContainsWrite, arms_MK]
@[simp] theorem pcw_expand1 (k : MK) (i : Plan) : planContainsWrite (.expand1 k i) = planContainsWrite i := by
  simp [planContainsWrite, arms_MK]
@[simp] theorem pcw_optFixup (o f : Plan) :
    planContainsWrite (.optFixup o f) = (planContainsWrite o || planContainsWrite f) := by
  simp [planContainsWrite, arm_table]
@[simp] theorem pcw_indexSeek (f : Plan) : planContainsWrite (.indexSeek f) = planContainsWrite f := by
  simp [planContainsWrite, arm_table]
@[simp] theorem pcw_apply (i s : Plan) : planContainsWrite (.apply i s) = (planContainsWrite i || planContainsWrite s) := by
  simp [planContainsWrite, arm_table]
@[simp] theorem pcw_cart (l r : Plan) : planContainsWrite (.cart l r) = (planContainsWrite l || planContainsWrite r) := by
  simp [planContainsWrite, arm_table]
@[simp] theorem pcw_union (l r : Plan) : planContainsWrite (.union l r) = (planContainsWrite l || planContainsWrite r) := by
  simp [planContainsWrite, arm_table]
@[simp] theorem pcw_leaf (k : LK) : planContainsWrite (.leaf k) = false := by
  simp [planContainsWrite, arms_LK]
/-- `plan_contains_write` of the plan so far (`None` ⇒ false) -/
def optPcw : Option Plan → Bool
  | none => false
  | some p => planContainsWrite p

@[simp] theorem pcw_orReturnOne (p : Option Plan) : planContainsWrite (orReturnOne p) = optPcw p := by
  cases p <;> simp [orReturnOne, optPcw]

@[simp] theorem pcw_matchPlan (shape : Nat) (prev : Option Plan) : planContainsWrite (matchPlan shape prev) = optPcw prev := by
  cases prev with
  | none => simp only [matchPlan, optPcw]; split <;> simp
  | some p => simp only [matchPlan, optPcw]; split <;> simp

@[simp] theorem pcw_projPlan (shape : Nat) (i : Plan) : planContainsWrite (projPlan shape i) = planContainsWrite i := by
  simp only [projPlan]; split <;> simp

@[simp] theorem pcw_setPlan (s : SetShape) (i : Plan) : planContainsWrite (setPlan s i) = true := by
  cases s <;> simp [setPlan]

@[simp] theorem pcw_removePlan (l : Bool) (i : Plan) : planContainsWrite (removePlan l i) = true := by
  cases l <;> simp [removePlan]

/-! ### the AST classifier is "an updating clause at any depth" -/

mutual
theorem clauseContainsWrite_eq : ∀ c : Clause, clauseContainsWrite c = clauseUpdates c
  | .callSub q | .union q => by
    simp only [clauseContainsWrite, clauseUpdates, clause_arms, queryContainsWrite_eq q, Bool.false_or, Bool.true_and]
  | .foreach _ | .match_ .. | .where_ | .with_ _ | .return_ _ | .unwind | .callProc | .create | .merge | .set _
  | .remove _ | .delete => by simp only [clauseContainsWrite, clauseUpdates, clause_arms, Bool.true_or]
theorem queryContainsWrite_eq : ∀ q : Query, queryContainsWrite q = queryUpdates q
  | .nil => rfl
  | .cons c rest => by
    simp only [queryContainsWrite, queryUpdates, clauseContainsWrite_eq c, queryContainsWrite_eq rest]
end

/-! ### the compiled plan contains a write node exactly when the plan so far did or the clauses update -/

mutual
theorem compileClause_pcw : ∀ (c : Clause) (plan : Option Plan) (p : Plan), compileClause c plan = some p →
    planContainsWrite p = (optPcw plan || clauseUpdates c)
  | .match_ optional shape, plan, p, h => by
    simp only [compileClause] at h
    split at h <;> cases h <;> simp [clauseUpdates]
  | .with_ _, plan, p, h | .return_ _, plan, p, h | .unwind, plan, p, h | .callProc, plan, p, h
  | .create, plan, p, h | .merge, plan, p, h => by
    simp only [compileClause] at h; cases h; simp [clauseUpdates]
  | .where_, plan, p, h | .set _, plan, p, h | .remove _, plan, p, h | .delete, plan, p, h => by
    simp only [compileClause, Option.map_eq_some_iff] at h
    obtain ⟨i, rfl, rfl⟩ := h
    simp [optPcw, clauseUpdates]
  | .foreach updates, plan, p, h => by
    simp only [compileClause, Option.map_eq_some_iff] at h
    obtain ⟨sub, -, rfl⟩ := h
    simp [clauseUpdates]
  | .callSub q, plan, p, h => by
    simp only [compileClause, Option.map_eq_some_iff] at h
    obtain ⟨sub, hq, rfl⟩ := h
    simp [clauseUpdates, compileQuery_pcw q none sub hq, optPcw]
  | .union q, plan, p, h => by
    cases plan <;> cases hq : compileQuery q none <;> simp [compileClause, hq] at h
    subst h
    simp [clauseUpdates, compileQuery_pcw q none _ hq, optPcw]
theorem compileQuery_pcw : ∀ (q : Query) (plan : Option Plan) (p : Plan), compileQuery q plan = some p →
    planContainsWrite p = (optPcw plan || queryUpdates q)
  | .nil, plan, p, h => by
    simp only [compileQuery] at h; subst h; simp [optPcw, queryUpdates]
  | .cons c rest, plan, p, h => by
    simp only [compileQuery] at h
    cases hc : compileClause c plan with
    | none => simp [hc] at h
    | some p1 =>
      simp only [hc] at h
      have i1 := compileClause_pcw c plan p1 hc
      have i2 := compileQuery_pcw rest (some p1) p h
      rw [i2]; simp only [optPcw, i1, queryUpdates, Bool.or_assoc]
end

end Nervus.CApi
