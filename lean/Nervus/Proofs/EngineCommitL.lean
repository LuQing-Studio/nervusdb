/-
  Proofs/EngineCommitL.lean — `commit` re-establishes the idmap / label part of the invariant.
-/
import Nervus.Proofs.EngineCommitG
namespace Nervus.Storage
open Nervus.GraphSpec (Graph TxOp Op Rel)

/-- interning alone keeps the idmap / label part: no label vector holds a new label id -/
theorem SimL.of_ext {s0 g0 s} (hL : SimL s0 g0) (he : Ext s0 s) (hsmall : s.interner.length ≤ labelMax) :
    SimL s g0 := by
  have hlen := he.pre.length_le
  have hpre := he.pre
  have hnd := he.nodup
  have hid := he.idmap
  cases s
  subst hid
  exact { hL with
    labels := fun n lid nm hr hn hd => by
      rcases old_or_new hpre hnd hr with hold | ⟨hnew, hge⟩
      · exact hL.labels n lid nm hold hn hd
      · refine ⟨fun h => ?_, fun h => absurd (hL.labelsInt _ h) hnew⟩
        have := hL.i2lOK n lid h; have := lt_of_getElem?_eq_some hr; omega
    labelsInt := fun p h => hpre.subset (hL.labelsInt p h)
    small := hsmall
    i2lOK := fun n l h => (hL.i2lOK n l h).imp id (Nat.lt_of_lt_of_le · hlen) }

theorem ext_vals {s0 g0 s t g} (hstL : StagedL s0 g0 s t g) :
    g.ext.map (·.2) = (t.created.map (·.1)).reverse ++ g0.ext.map (·.2) := by
  rw [hstL.extEq, List.map_append, List.map_reverse, List.map_map]; rfl

/-- what `applyIdmap_explicit` asks of the pending lists of a staged transaction -/
theorem StagedL.idmap_facts {s0 g0 s t g} (hL : SimL s0 g0) (hstL : StagedL s0 g0 s t g) :
    (∀ i c, t.created[i]? = some c → c.2.2 = s0.idmap.i2e.length + i) ∧
    (∀ c ∈ t.created, s0.idmap.lookup c.1 = none) ∧ (t.created.map (·.1)).Nodup ∧
    (∀ p ∈ t.addL, p.1 < s0.idmap.i2l.length + t.created.length) ∧
    (∀ p ∈ t.delL, p.1 < s0.idmap.i2l.length + t.created.length) := by
  have hnd := hstL.extND
  rw [ext_vals hstL, List.nodup_append] at hnd
  obtain ⟨hnd1, _, hdisj⟩ := hnd
  refine ⟨fun i c hc => hL.lenE ▸ hstL.ids i c hc, fun c hc => ?_, (List.reverse_perm _).nodup_iff.mp hnd1,
    fun p hp => by rw [hL.lenL, ← hstL.next]; exact (hstL.addOK p hp).1,
    fun p hp => by rw [hL.lenL, ← hstL.next]; exact (hstL.delOK p hp).1⟩
  rw [hL.e2i c.1]
  refine lookup_eq_none_of_not_mem_keys fun p hp heq => ?_
  obtain ⟨q, hq, rfl⟩ := List.mem_map.mp hp
  exact hdisj c.1 (List.mem_reverse.mpr (List.mem_map.mpr ⟨c, hc, rfl⟩)) q.2 (List.mem_map.mpr ⟨q, hq, rfl⟩) heq.symm

theorem StagedL.created_label {s0 g0 s t g} (hstL : StagedL s0 g0 s t g) (n lid : Nat) (hge : g0.next ≤ n) :
    lid ∈ (((t.created.map (fun c => [c.2.1]))[n - g0.next]?).getD []) ↔ ∃ x, (x, lid, n) ∈ t.created := by
  rw [List.getElem?_map]
  constructor
  · intro h
    cases hc : t.created[n - g0.next]? with
    | none => rw [hc] at h; cases h
    | some c =>
      obtain ⟨x, l, i⟩ := c
      rw [hc, Option.map_some, Option.getD_some, List.mem_singleton] at h
      have := hstL.ids _ _ hc
      exact ⟨x, by rw [h, show n = i by simp only at this; omega]; exact List.mem_of_getElem? hc⟩
  · rintro ⟨x, hx⟩
    obtain ⟨i, hi, hget⟩ := List.mem_iff_getElem.mp hx
    have hg : t.created[i]? = some (x, lid, n) := by rw [List.getElem?_eq_getElem hi, hget]
    have := hstL.ids i _ hg
    rw [show n - g0.next = i by simp only at this; omega, hg]
    exact List.mem_singleton.mpr rfl

theorem SimL.commit {s0 g0 s t g} (c : Cfg) (hL : SimL s0 g0) (hstL : StagedL s0 g0 s t g)
    (hext : Ext s0 s) (hdead : ∀ n, n ∈ g0.dead → n ∈ g.dead) :
    ∃ m, applyIdmap s.idmap t.created t.addL t.delL = (m, none) ∧ SimL (s.commit c t).1 g := by
  obtain ⟨f1, f2, f3, f4, f5⟩ := hstL.idmap_facts hL
  rw [← hext.idmap] at f1 f2 f4 f5
  have hok := applyIdmap_explicit s.idmap t f1 f2 f3 f4 f5
  refine ⟨_, hok, ?_⟩
  rw [commit_ok_eq c s t _ hok]
  have hL' := hL.of_ext hext hstL.small
  have hlenA : (s.idmap.i2l ++ t.created.map (fun c => [c.2.1])).length = g.next := by
    rw [List.length_append, List.length_map, hL'.lenL, hstL.next]
  have hadd : ∀ p ∈ t.addL, p.1 < (s.idmap.i2l ++ t.created.map (fun c => [c.2.1])).length :=
    fun p hp => hlenA ▸ (hstL.addOK p hp).1
  -- the label vector of a node before the pending additions and removals
  have hbase : ∀ n, ((s.idmap.i2l ++ t.created.map (fun c => [c.2.1]))[n]?).getD [] =
      if n < g0.next then (s.idmap.i2l[n]?).getD [] else ((t.created.map (fun c => [c.2.1]))[n - g0.next]?).getD [] := by
    intro n
    split
    · next h => rw [List.getElem?_append_left (hL'.lenL ▸ h)]
    · next h => rw [List.getElem?_append_right (hL'.lenL ▸ Nat.le_of_not_lt h), hL'.lenL]
  show SimL { s with idmap := idmapAfter s.idmap t, wal := _, vecs := _, runs := _, nextTxid := _ } g
  refine { lenE := ?_, lenL := ?_, e2i := ?_, extPt := ?_, extLt := hstL.extLt,
           extNZ := hstL.extNZ, extND := hstL.extND, extIdND := hstL.extIdND, labels := ?_,
           labelsInt := hstL.labelsInt, labelsLt := hstL.labelsLt, deadLt := hstL.deadLt, small := hstL.small,
           i2lOK := ?_ }
  · show (s.idmap.i2e ++ t.created.map _).length = g.next
    rw [List.length_append, List.length_map, hL'.lenE, hstL.next]
  · show (delAll (addAll _ t.addL) t.delL).length = g.next
    rw [delAll_length, addAll_length, hlenA]
  · intro x
    show ((t.created.map (fun c => (c.1, c.2.2))).reverse ++ s.idmap.e2i).lookup x = _
    rw [hstL.extEq, List.map_append, List.map_reverse, List.map_map, List.lookup_append, List.lookup_append]
    exact congrArg _ (hL'.e2i x)
  · intro n
    show _ = ((s.idmap.i2e ++ t.created.map (fun c => (⟨c.1, c.2.1⟩ : I2e)))[n]?).map (·.ext)
    rw [hstL.extPt n]
    split
    · next hlt => rw [List.getElem?_append_left (hL'.lenE ▸ hlt)]; exact hL'.extPt n
    · next hlt =>
      rw [List.getElem?_append_right (hL'.lenE ▸ Nat.le_of_not_lt hlt), List.getElem?_map, hL'.lenE]
      cases t.created[n - g0.next]? <;> rfl
  · intro n lid nm hr hn hd
    show lid ∈ (((delAll (addAll _ t.addL) t.delL))[n]?).getD [] ↔ _
    rw [mem_delAll, mem_addAll _ _ hadd, hstL.labels n lid nm hr hn hd, hbase n, ← or_assoc]
    split
    · next hlt =>
      rw [hL'.labels n lid nm hr hlt fun h => hd (hdead n h),
        show (∃ x, (x, lid, n) ∈ t.created) ↔ False from
          iff_false_intro fun ⟨x, hx⟩ => Nat.lt_irrefl _ (Nat.lt_of_lt_of_le hlt (by
            obtain ⟨i, hi, hget⟩ := List.mem_iff_getElem.mp hx
            have := hstL.ids i _ (by rw [List.getElem?_eq_getElem hi, hget]); simp only at this; omega)),
        or_false]
    · next hlt =>
      rw [hstL.created_label n lid (Nat.le_of_not_lt hlt),
        show (n, nm) ∈ g0.labels ↔ False from iff_false_intro fun h => hlt (hL'.labelsLt _ h), false_or]
  · intro n l hl
    have hl' : l ∈ (((delAll (addAll _ t.addL) t.delL))[n]?).getD [] := hl
    rw [mem_delAll, mem_addAll _ _ hadd, hbase n] at hl'
    rcases hl'.1 with h | h
    · split at h
      · exact hL'.i2lOK n l h
      · next hlt =>
        obtain ⟨x, hx⟩ := (hstL.created_label n l (Nat.le_of_not_lt hlt)).mp h
        exact hstL.createdLid _ hx
    · exact Or.inr (hstL.addOK _ h).2

end Nervus.Storage
