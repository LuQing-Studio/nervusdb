/-
  Proofs/CheckpointHist.lean — histories with transactions, compactions, close and reopen (C04 with
  compactions): the engine `s` that runs the whole history and the shadow engine `u` that runs only
  its transactions stay read-equivalent; `u` refines the Spec graph; `s` keeps the recovery invariant.
-/
import Nervus.Proofs.CheckpointRec
import Nervus.Proofs.ShadowEngine
namespace Nervus.Storage
open Nervus.GraphSpec (Graph TxOp Op txWF wfFrom anyCommitted txDeletesRelWithProps
  txLabelReAdd txEdgeAndEndpointDelete txExtZero)

/-! ### transactions without label operations -/

def isLabelOp : TxOp → Bool
  | .labelAdd _ _ => true
  | .labelDel _ _ => true
  | _ => false

def txNoLabelOps (ops : List TxOp) : Bool := ops.all (fun o => !isLabelOp o)

theorem stepTx_noLabel (c : Cfg) (st : Engine × Txn) (op : TxOp) (h : isLabelOp op = false) :
    (stepTx c st op).2.addL = st.2.addL ∧ (stepTx c st op).2.delL = st.2.delL := by
  cases op with
  | node x lab =>
    simp only [stepTx]
    split
    · rename_i r hr; exact ⟨(createNode_fields _ _ _ _ _ hr).2.2.1, (createNode_fields _ _ _ _ _ hr).2.1⟩
    · exact ⟨rfl, rfl⟩
  | labelAdd n nm => cases h
  | labelDel n nm => cases h
  | vec n v =>
    show (st.2.setVector c st.1 n v).2.addL = _ ∧ (st.2.setVector c st.1 n v).2.delL = _
    unfold Txn.setVector; split <;> exact ⟨rfl, rfl⟩
  | _ => exact ⟨rfl, rfl⟩

theorem fold_noLabel (c : Cfg) (ops : List TxOp) (h : txNoLabelOps ops = true) : ∀ st : Engine × Txn,
    (ops.foldl (stepTx c) st).2.addL = st.2.addL ∧ (ops.foldl (stepTx c) st).2.delL = st.2.delL := by
  induction ops with
  | nil => intro st; exact ⟨rfl, rfl⟩
  | cons op ops ih =>
    intro st
    simp only [txNoLabelOps, List.all_cons, Bool.and_eq_true, Bool.not_eq_true'] at h
    obtain ⟨h1, h2⟩ := stepTx_noLabel c st op h.1
    obtain ⟨h3, h4⟩ := ih h.2 (stepTx c st op)
    exact ⟨h3.trans h1, h4.trans h2⟩

/-! ### the pair invariant -/

/-- the pair invariant without the two clauses that only a later checkpoint needs (`Quiet`, `LabelsBase`) -/
structure PairD (s u : Engine) (g : Graph) : Prop where
  eqv : Eqv Cfg.current s u
  sim : Sim u g
  recv : Rec s
  segs : SegsOK s
  root : RootOK s

structure Pair (s u : Engine) (g : Graph) : Prop where
  eqv : Eqv Cfg.current s u
  sim : Sim u g
  recv : Rec s
  quiet : Quiet s
  segs : SegsOK s
  base : LabelsBase s.idmap
  root : RootOK s

theorem Pair.toD {s u : Engine} {g : Graph} (h : Pair s u g) : PairD s u g :=
  ⟨h.eqv, h.sim, h.recv, h.segs, h.root⟩

theorem Pair.empty : Pair {} {} {} :=
  ⟨Eqv.refl _ _, Sim.empty, Rec.empty, Quiet.empty, ⟨rfl, (fun _ h => nomatch h), List.nodup_nil⟩, rfl, RootOK.empty'⟩

/-- the label columns of the staged relation read the engine through its interner, and the transaction
    through its node and label lists -/
theorem StagedL.of_cor {s0 u0 : Engine} {g0 g : Graph} {st su : Engine × Txn} (h : StagedL u0 g0 su.1 su.2 g)
    (hc : StCor st su) : StagedL s0 g0 st.1 st.2 g := by
  obtain ⟨hi, _, c1, c2, c3, _, _⟩ := hc
  exact { h with
    ids := by rw [c1]; exact h.ids
    next := by rw [c1]; exact h.next
    extEq := by rw [c1]; exact h.extEq
    extPt := by rw [c1]; exact h.extPt
    labels := by rw [hi, c1, c2, c3]; exact h.labels
    labelsInt := by rw [hi]; exact h.labelsInt
    addOK := by rw [hi, c2]; exact h.addOK
    delOK := by rw [hi, c3]; exact h.delOK
    createdLid := by rw [hi, c1]; exact h.createdLid
    small := by rw [hi]; exact h.small }

/-- staging a good transaction on the `s` side of a pair: the label columns of the refinement and of the staged
    relation hold for `s` as they do for the shadow -/
theorem stage_s {s u : Engine} {g : Graph} (hE : Eqv Cfg.current s u) (hS : Sim u g) (ops : List TxOp)
    (ho : OpOK g u.interner.length (.tx ops true)) :
    SimL s g ∧ StagedL s g (ops.foldl (stepTx Cfg.current) s.beginWrite).1
      (ops.foldl (stepTx Cfg.current) s.beginWrite).2 (g.apply ops) :=
  ⟨hS.L.of_ideq hE.idmap hE.interner, (stage_tx Cfg.current hS ops ho).L.of_cor
    (fold_cor Cfg.current ops s.beginWrite u.beginWrite ⟨hE.interner, hE.vecs, rfl, rfl, rfl, rfl, rfl⟩ hE.idmap)⟩

theorem PairD.commit {s u : Engine} {g : Graph} (h : PairD s u g) (ops : List TxOp)
    (hwf : txWF g ops = true) (hb : u.interner.length + ops.length ≤ labelMax)
    (hz : txExtZero ops = false) (hra : txLabelReAdd ops = false) (hed : txEdgeAndEndpointDelete ops = false)
    (hrp : txDeletesRelWithProps g ops = false)
    (hclear : removalsClear (runTx Cfg.current s ops true) = true) :
    PairD (runTx Cfg.current s ops true) (runTx Cfg.current u ops true) (g.apply ops) := by
  have ho : OpOK g u.interner.length (.tx ops true) := ⟨hwf, hb, fun _ => ⟨hrp, hra, hed, hz⟩⟩
  obtain ⟨hL, hstL⟩ := stage_s h.eqv h.sim ops ho
  obtain ⟨hrun, hR', _⟩ := h.recv.runTx_staged hL ops hstL
  have f := TxFrame.runTx Cfg.current s ops true
  exact ⟨(tx_eqv Cfg.current h.eqv h.sim.G.root ops true hclear).1, tx_commit Cfg.current h.sim ops ho,
    by rw [hrun]; exact hR', h.segs.congr f.segStore f.segs f.nextSegId, runTx_rootOK Cfg.current h.root ops true⟩

theorem PairD.abort {s u : Engine} {g : Graph} (h : PairD s u g) (ops : List TxOp)
    (hb : u.interner.length + ops.length ≤ labelMax)
    (hclear : removalsClear (runTx Cfg.current s ops false) = true) :
    PairD (runTx Cfg.current s ops false) (runTx Cfg.current u ops false) g :=
  have f := TxFrame.runTx Cfg.current s ops false
  ⟨(tx_eqv Cfg.current h.eqv h.sim.G.root ops false hclear).1, tx_abort Cfg.current h.sim ops hb,
    tx_abort_rec Cfg.current h.recv ops, h.segs.congr f.segStore f.segs f.nextSegId,
    runTx_rootOK Cfg.current h.root ops false⟩

theorem Pair.commit {s u : Engine} {g : Graph} (h : Pair s u g) (ops : List TxOp)
    (hwf : txWF g ops = true) (hb : u.interner.length + ops.length ≤ labelMax)
    (hz : txExtZero ops = false) (hra : txLabelReAdd ops = false) (hed : txEdgeAndEndpointDelete ops = false)
    (hrp : txDeletesRelWithProps g ops = false) (hnl : txNoLabelOps ops = true)
    (hclear : removalsClear (runTx Cfg.current s ops true) = true) :
    Pair (runTx Cfg.current s ops true) (runTx Cfg.current u ops true) (g.apply ops) := by
  have hD := h.toD.commit ops hwf hb hz hra hed hrp hclear
  obtain ⟨hL, hstL⟩ := stage_s h.eqv h.sim ops ⟨hwf, hb, fun _ => ⟨hrp, hra, hed, hz⟩⟩
  obtain ⟨hrun, _, hmt, hfresh, hnd⟩ := h.recv.runTx_staged hL ops hstL
  obtain ⟨hadd, hdel⟩ := fold_noLabel Cfg.current ops hnl s.beginWrite
  have hq := Quiet.commit (Quiet.fold Cfg.current ops s.beginWrite (h.quiet.congr rfl rfl rfl rfl)) hmt hfresh hnd hadd hdel
  refine ⟨hD.eqv, hD.sim, hD.recv, by rw [hrun]; exact hq, hD.segs, ?_, hD.root⟩
  rw [hrun]
  exact LabelsBase.after (by rw [(StageFrame.fold Cfg.current ops s.beginWrite).idmap]; exact h.base) _ hadd hdel

theorem Pair.abort {s u : Engine} {g : Graph} (h : Pair s u g) (ops : List TxOp)
    (hb : u.interner.length + ops.length ≤ labelMax)
    (hclear : removalsClear (runTx Cfg.current s ops false) = true) :
    Pair (runTx Cfg.current s ops false) (runTx Cfg.current u ops false) g := by
  have hD := h.toD.abort ops hb hclear
  refine ⟨hD.eqv, hD.sim, hD.recv, Quiet.fold Cfg.current ops s.beginWrite (h.quiet.congr rfl rfl rfl rfl), hD.segs, ?_,
    hD.root⟩
  show LabelsBase (ops.foldl (stepTx Cfg.current) s.beginWrite).1.idmap
  rw [(StageFrame.fold Cfg.current ops s.beginWrite).idmap]; exact h.base

theorem Pair.compact {s u : Engine} {g : Graph} (h : Pair s u g)
    (hs : compactSafe Cfg.current s = true) : Pair (s.compact Cfg.current) u g := by
  obtain ⟨hR, hQ⟩ := Rec.compact Cfg.current h.recv h.quiet h.base
  refine ⟨compact_eqv Cfg.current (by decide) (by decide) (by decide) h.eqv h.root hs, h.sim, hR, hQ,
    h.segs.compact Cfg.current, ?_, h.root.compact Cfg.current (by decide)⟩
  rw [(compact_keeps Cfg.current s).1]; exact h.base

/-- the conjuncts behind `PairD s' u g` are what `Pair.reopen` needs to carry `Quiet` and `LabelsBase` over -/
theorem PairD.reopen_core {s u : Engine} {g : Graph} (h : PairD s u g) :
    ∃ s', s.reopen = .ok s' ∧ PairD s' u g ∧ s'.wal = s.wal ∧ s'.ckptTxid = s.ckptTxid ∧
      RunsEq s'.runs s.runs ∧ IdEq s'.idmap s.idmap := by
  have hload := load_lookup_eq (h.sim.L.of_ideq h.eqv.idmap h.eqv.interner)
  obtain ⟨s', hopen, hsegs, hsegStore, hstore, hroot, hint, hvecs, _, hckpt, hwal, hidmap, hruns, hrec, hlt, hsroot⟩ :=
    reopen_rec h.recv h.segs.find hload
  have hid : IdEq s'.idmap s.idmap := by rw [hidmap]; exact ⟨rfl, rfl, hload⟩
  exact ⟨s', hopen, ⟨(eqv_runsEq Cfg.current hruns hsegs hstore hroot hsroot hid hint hvecs).trans h.eqv, h.sim, hrec,
    ⟨by rw [hsegStore, hsegs]; exact h.segs.store, hlt, by rw [hsegs]; exact h.segs.nodup⟩, h.root.congr hstore hroot hsroot⟩,
    hwal, hckpt, hruns, hid⟩

theorem PairD.reopen {s u : Engine} {g : Graph} (h : PairD s u g) : ∃ s', s.reopen = .ok s' ∧ PairD s' u g := by
  obtain ⟨s', h1, h2, _⟩ := h.reopen_core
  exact ⟨s', h1, h2⟩

theorem Pair.reopen {s u : Engine} {g : Graph} (h : Pair s u g) : ∃ s', s.reopen = .ok s' ∧ Pair s' u g := by
  obtain ⟨s', hopen, hD, r9, r8, rE, hid⟩ := h.toD.reopen_core
  refine ⟨s', hopen, hD.eqv, hD.sim, hD.recv, ?_, hD.segs, ?_, hD.root⟩
  · obtain ⟨txs, hb, hq⟩ := h.quiet.inv
    refine ⟨⟨txs, by rw [r9]; exact hb, fun tx htx => ?_⟩⟩
    rcases hq tx htx with q1 | ⟨r, hr, hre⟩ | q3
    · exact Or.inl (by rw [r8]; exact q1)
    · obtain ⟨r', hr', he'⟩ := rE.symm.mem r hr
      exact Or.inr (Or.inl ⟨r', hr', by rw [← he'.txid]; exact hre⟩)
    · exact Or.inr (Or.inr (fun k m acc hc => q3 k m acc (fun x iid hx => hc x iid ((hid.lookup x).trans hx))))
  · show s'.idmap.i2l = s'.idmap.i2e.map (fun r => [r.label])
    rw [hid.i2l, hid.i2e]; exact h.base

theorem Pair.closedView {s u : Engine} {g : Graph} (h : Pair s u g) (he : s.runs = []) : Pair (closedView s) u g := by
  obtain ⟨hR, hQ⟩ := close_rec h.recv h.base (h.eqv.interner ▸ h.sim.G.nodup) he
  rw [closedView_eq he] at hR hQ ⊢
  exact ⟨h.eqv.congr ⟨rfl, rfl, rfl, rfl, rfl⟩ (RFrame.refl u) h.eqv.idmap h.eqv.interner h.eqv.vecs, h.sim, hR, hQ,
    ⟨h.segs.store, h.segs.lt, h.segs.nodup⟩, h.base, ⟨h.root.eq, h.root.empty⟩⟩

theorem Pair.close {s u : Engine} {g : Graph} (h : Pair s u g) :
    ∃ s', s.checkpointOnClose.reopen = .ok s' ∧ Pair s' u g := by
  cases he : s.runs with
  | cons r rs =>
    have : s.checkpointOnClose = s := by
      unfold Engine.checkpointOnClose; rw [he]; rfl
    rw [this]; exact h.reopen
  | nil => rw [← closedView_reopen]; exact (h.closedView he).reopen

/-! ### histories -/

/-- the decidable side conditions of the checkpoint theorem (they run the model): transactions hold no
    label operations and leave no removal over a store value; every compaction starts from a
    `compactSafe` state; every reopen / close succeeds -/
def ckptHistSafe (c : Cfg) : Engine → List Op → Bool
  | _, [] => true
  | s, .tx ops b :: h => txNoLabelOps ops && removalsClear (runTx c s ops b) && ckptHistSafe c (runTx c s ops b) h
  | s, .compact :: h => compactSafe c s && ckptHistSafe c (s.compact c) h
  | s, .reopen :: h => match s.reopen with
    | .ok s' => ckptHistSafe c s' h
    | .error _ => false
  | s, .close :: h => match s.checkpointOnClose.reopen with
    | .ok s' => ckptHistSafe c s' h
    | .error _ => false

def opSafe (c : Cfg) (s : Engine) : Op → Bool
  | .tx ops b => txNoLabelOps ops && removalsClear (runTx c s ops b)
  | .compact => compactSafe c s
  | _ => true

theorem ckptHistSafe_cons (c : Cfg) (s : Engine) (op : Op) (h : List Op) :
    ckptHistSafe c s (op :: h) =
      (opSafe c s op && match runOp c s op with
        | .ok s' => ckptHistSafe c s' h
        | .error _ => false) := by
  cases op <;> rfl

theorem Pair.step {s u : Engine} {g : Graph} (hP : Pair s u g) (op : Op) (hs : opSafe Cfg.current s op = true)
    (ho : OpOK g u.interner.length op) :
    ∃ s', runOp Cfg.current s op = .ok s' ∧ Pair s' (shadowStep Cfg.current u op) (g.opStep op) := by
  cases op with
  | tx ops b =>
    simp only [opSafe, Bool.and_eq_true] at hs
    cases b with
    | true =>
      obtain ⟨p1, p2, p3, p4⟩ := ho.2.2 rfl
      exact ⟨_, rfl, hP.commit ops ho.1 ho.2.1 p4 p2 p3 p1 hs.1 hs.2⟩
    | false => exact ⟨_, rfl, hP.abort ops ho.2.1 hs.2⟩
  | compact => exact ⟨_, rfl, hP.compact hs⟩
  | reopen => exact hP.reopen
  | close => exact hP.close

/-- `k`: the rest of the history, handed on with its conditions to `hist_ckpt_tail`, which goes on behind the last
    checkpoint with `PairD` only -/
theorem hist_pair_prefix : ∀ (h k : List Op) (s u : Engine) (g : Graph), Pair s u g →
    ckptHistSafe Cfg.current s h = true → HistOK g u.interner.length (h ++ k) →
    ∃ s', h.foldlM (runOp Cfg.current) s = .ok s' ∧
      Pair s' (h.foldl (shadowStep Cfg.current) u) (h.foldl Graph.opStep g) ∧
      HistOK (h.foldl Graph.opStep g) (h.foldl (shadowStep Cfg.current) u).interner.length k := by
  intro h
  induction h with
  | nil => intro k s u g hP _ hk; exact ⟨s, rfl, hP, hk⟩
  | cons op h ih =>
    intro k s u g hP hs hk
    obtain ⟨ho, hk'⟩ := HistOK.cons hk
    rw [ckptHistSafe_cons, Bool.and_eq_true] at hs
    obtain ⟨s1, h1, hP1⟩ := hP.step op hs.1 ho
    have hs2 := hs.2
    rw [h1] at hs2
    obtain ⟨s', h2, hP', hk''⟩ := ih k s1 _ _ hP1 hs2 (hk' _ (shadowStep_interner_le _ u op))
    exact ⟨s', by rw [List.foldlM_cons, h1]; exact h2, hP', hk''⟩

theorem hist_pair : ∀ (h : List Op) (s u : Engine) (g : Graph), Pair s u g →
    ckptHistSafe Cfg.current s h = true → wfFrom g h = true → u.interner.length + histSize h ≤ labelMax →
    anyCommitted txDeletesRelWithProps g h = false →
    anyCommitted (fun _ => txLabelReAdd) g h = false →
    anyCommitted (fun _ => txEdgeAndEndpointDelete) g h = false →
    anyCommitted (fun _ => txExtZero) g h = false →
    ∃ s' u', h.foldlM (runOp Cfg.current) s = .ok s' ∧ (txPart h).foldlM (runOp Cfg.current) u = .ok u' ∧
      Pair s' u' (h.foldl Graph.opStep g) := by
  intro h s u g hP hs hwf hb t1 t2 t3 t4
  obtain ⟨s', h1, hP', _⟩ := hist_pair_prefix h [] s u g hP hs (by rw [List.append_nil]; exact ⟨hwf, hb, t1, t2, t3, t4⟩)
  exact ⟨s', _, h1, txPart_run _ h u, hP'⟩

/-! ### failed commits (C07): BeginTx and some records stay in the log, without a CommitTx -/

/-- a log fragment of a failed commit changes none of the invariants: replay drops it -/
theorem Pair.walFragment {a u : Engine} {g : Graph} (h : Pair a u g) (t : Nat) (recs : List WalRec)
    (hb : ∀ r ∈ recs, r.isBody = true) (j : Nat) :
    Pair { a with wal := a.wal ++ (WalRec.beginTx t :: recs).take j } u g := by
  refine ⟨h.eqv.congr ⟨rfl, rfl, rfl, rfl, rfl⟩ ⟨rfl, rfl, rfl, rfl, rfl⟩ h.eqv.idmap h.eqv.interner h.eqv.vecs,
    h.sim, ?_, ?_, ⟨h.segs.store, h.segs.lt, h.segs.nodup⟩, h.base, ⟨h.root.eq, h.root.empty⟩⟩
  · obtain ⟨⟨txs, hbk, hl, hs, hg, b1, b2, b3⟩, hp, ha⟩ := h.recv
    exact ⟨⟨txs, hbk.appendFragment t recs hb j, hl, hs, hg, b1, b2, b3⟩, hp, ha⟩
  · obtain ⟨txs, hbk, hq⟩ := h.quiet.inv
    exact ⟨⟨txs, hbk.appendFragment t recs hb j, hq⟩⟩

theorem Pair.txFail {s u : Engine} {g : Graph} (h : Pair s u g) (ops : List TxOp) (j : Nat)
    (hb : u.interner.length + ops.length ≤ labelMax)
    (hclear : removalsClear (runTx Cfg.current s ops false) = true) :
    Pair (runTxFail Cfg.current s ops j) (runTx Cfg.current u ops false) g :=
  (h.abort ops hb hclear).walFragment _ _
    (fun r hr => (graphRecords_body (ops.foldl (stepTx Cfg.current) s.beginWrite).2 _ r hr).1) j

/-- the decidable side conditions for histories with failed commits (as `ckptHistSafe`) -/
def xHistSafe (c : Cfg) : Engine → List XOp → Bool
  | _, [] => true
  | s, .op (.tx ops b) :: h => txNoLabelOps ops && removalsClear (runTx c s ops b) && xHistSafe c (runTx c s ops b) h
  | s, .txFail ops j :: h =>
    txNoLabelOps ops && removalsClear (runTx c s ops false) && xHistSafe c (runTxFail c s ops j) h
  | s, .op .compact :: h => compactSafe c s && xHistSafe c (s.compact c) h
  | s, .op .reopen :: h => match s.reopen with
    | .ok s' => xHistSafe c s' h
    | .error _ => false
  | s, .op .close :: h => match s.checkpointOnClose.reopen with
    | .ok s' => xHistSafe c s' h
    | .error _ => false

theorem xHistSafe_cons (c : Cfg) (s : Engine) (x : XOp) (xs : List XOp) :
    xHistSafe c s (x :: xs) =
      (opSafe c s x.erase && match runX c s x with
        | .ok s' => xHistSafe c s' xs
        | .error _ => false) := by
  cases x with
  | txFail ops j => rfl
  | op o => cases o <;> rfl

theorem hist_pairX : ∀ (xs : List XOp) (s u : Engine) (g : Graph), Pair s u g →
    xHistSafe Cfg.current s xs = true → wfFrom g (xs.map XOp.erase) = true →
    u.interner.length + histSize (xs.map XOp.erase) ≤ labelMax →
    anyCommitted txDeletesRelWithProps g (xs.map XOp.erase) = false →
    anyCommitted (fun _ => txLabelReAdd) g (xs.map XOp.erase) = false →
    anyCommitted (fun _ => txEdgeAndEndpointDelete) g (xs.map XOp.erase) = false →
    anyCommitted (fun _ => txExtZero) g (xs.map XOp.erase) = false →
    ∃ s' u', xs.foldlM (runX Cfg.current) s = .ok s' ∧
      (txPart (xs.map XOp.erase)).foldlM (runOp Cfg.current) u = .ok u' ∧
      Pair s' u' ((xs.map XOp.erase).foldl Graph.opStep g) := by
  intro xs s u g hP hs hwf hb t1 t2 t3 t4
  suffices H : ∀ (xs : List XOp) (s u : Engine) (g : Graph), Pair s u g → xHistSafe Cfg.current s xs = true →
      HistOK g u.interner.length (xs.map XOp.erase) →
      ∃ s', xs.foldlM (runX Cfg.current) s = .ok s' ∧
        Pair s' ((xs.map XOp.erase).foldl (shadowStep Cfg.current) u) ((xs.map XOp.erase).foldl Graph.opStep g) by
    obtain ⟨s', h1, hP'⟩ := H xs s u g hP hs ⟨hwf, hb, t1, t2, t3, t4⟩
    exact ⟨s', _, h1, txPart_run _ _ u, hP'⟩
  intro xs
  induction xs with
  | nil => intro s u g hP _ _; exact ⟨s, rfl, hP⟩
  | cons x xs ih =>
    intro s u g hP hs hk
    obtain ⟨ho, hk'⟩ := HistOK.cons hk
    rw [xHistSafe_cons, Bool.and_eq_true] at hs
    -- a failed commit is a dropped transaction whose records stay in the log
    obtain ⟨s1, h1, hP1⟩ : ∃ s1, runX Cfg.current s x = .ok s1 ∧
        Pair s1 (shadowStep Cfg.current u x.erase) (g.opStep x.erase) := by
      cases x with
      | op o => exact hP.step o hs.1 ho
      | txFail ops j =>
        simp only [XOp.erase, opSafe, Bool.and_eq_true] at hs
        exact ⟨_, rfl, hP.txFail ops j ho.2.1 hs.1.2⟩
    have hs2 := hs.2
    rw [h1] at hs2
    obtain ⟨s', h2, hP'⟩ := ih s1 _ _ hP1 hs2 (hk' _ (shadowStep_interner_le _ u x.erase))
    exact ⟨s', by rw [List.foldlM_cons, h1]; exact h2, hP'⟩

end Nervus.Storage
