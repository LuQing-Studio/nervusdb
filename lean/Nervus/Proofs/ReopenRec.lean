/-
  Proofs/ReopenRec.lean — the recovery invariant `Rec` (C04): what `GraphEngine::open` computes from the
  log of an engine — label table, manifest / checkpoint state (scan_recovery_state), idmap and runs
  (replay_graph_transactions) — stated as a relation between the engine and its log and maintained
  transaction by transaction: each of the three folds of `open` is read at a log with one more transaction
  at its end (`replayLabels_snoc`, `scanRecovery_snoc`, `replayGraph_snoc`).
-/
import Nervus.Proofs.EngineReplay
import Nervus.Proofs.WalBlocks
namespace Nervus.Storage
open Nervus.GraphSpec (TxOp Op)

/-- the per-transaction step of replay_graph_transactions -/
def replayStep (ckpt : Nat) (acc : IdMap × List Run) (tx : Nat × List WalRec) : Except OpenErr (IdMap × List Run) :=
  if tx.1 ≤ ckpt then .ok acc
  else do
    let (m, mt) ← tx.2.foldlM replayOp (acc.1, {})
    let run := mt.freeze tx.1
    pure (m, if run.isEmpty then acc.2 else acc.2 ++ [run])

theorem replayGraph_eq (txs : List (Nat × List WalRec)) (ckpt : Nat) (m : IdMap) :
    replayGraph txs ckpt m = txs.foldlM (replayStep ckpt) (m, []) := rfl

theorem replayGraph_snoc (txs : List (Nat × List WalRec)) (tx : Nat × List WalRec) (ckpt : Nat) (m : IdMap) :
    replayGraph (txs ++ [tx]) ckpt m = replayGraph txs ckpt m >>= fun acc => replayStep ckpt acc tx :=
  foldlM_snoc _ _ _ _

/-- records that carry recovery metadata or label definitions -/
def WalRec.isMeta : WalRec → Bool
  | .manifestSwitch _ _ _ => true
  | .checkpoint _ _ _ => true
  | _ => false

def WalRec.isLabelDef : WalRec → Bool
  | .createLabel _ _ => true
  | _ => false

/-- what scan_recovery_state finds in the log: epoch, published segment ids, checkpoint txid, root -/
def ScanIs (epoch : Nat) (segs : List Nat) (ckpt root : Nat) (txs : List (Nat × List WalRec)) : Prop :=
  (scanRecovery txs).epoch = epoch ∧ (scanRecovery txs).segs = segs ∧ (scanRecovery txs).ckptTxid = ckpt ∧
  (scanRecovery txs).propsRoot = root

def scanOp (st : Recovery) (op : WalRec) : Recovery :=
  match op with
  | .manifestSwitch epoch segs root =>
    if epoch ≥ st.epoch then { st with epoch, segs, ckptTxid := 0, propsRoot := root } else st
  | .checkpoint upTo epoch root =>
    if epoch == st.epoch then { st with ckptTxid := max st.ckptTxid upTo, propsRoot := root } else st
  | _ => st

def scanTx (st : Recovery) (tx : Nat × List WalRec) : Recovery :=
  tx.2.foldl scanOp { st with maxTxid := max st.maxTxid tx.1 }

theorem scanRecovery_eq (txs : List (Nat × List WalRec)) : scanRecovery txs = txs.foldl scanTx {} := by
  unfold scanRecovery
  congr 1

theorem scanRecovery_snoc (txs : List (Nat × List WalRec)) (tx : Nat × List WalRec) :
    scanRecovery (txs ++ [tx]) =
      tx.2.foldl scanOp { scanRecovery txs with maxTxid := max (scanRecovery txs).maxTxid tx.1 } := by
  rw [scanRecovery_eq, scanRecovery_eq, List.foldl_append]; rfl

/-- only manifest and checkpoint records reach scan_recovery_state -/
theorem scanOps_skip (ops : List WalRec) (st : Recovery) (h : ∀ r ∈ ops, r.isMeta = false) :
    ops.foldl scanOp st = st :=
  foldl_ignored _ _ (fun r hr _ => by
    have hr := h r hr
    cases r <;> simp only [WalRec.isMeta] at hr <;> first | rfl | cases hr) st

theorem ScanIs.append {e : Nat} {ids : List Nat} {ck root : Nat} {txs : List (Nat × List WalRec)}
    (h : ScanIs e ids ck root txs) (tx : Nat × List WalRec)
    (hm : ∀ r ∈ tx.2, r.isMeta = false) : ScanIs e ids ck root (txs ++ [tx]) := by
  unfold ScanIs at *
  rw [scanRecovery_snoc, scanOps_skip _ _ hm]
  exact h

theorem scanOp_maxTxid (st : Recovery) (r : WalRec) : (scanOp st r).maxTxid = st.maxTxid := by
  cases r <;> simp only [scanOp] <;> first | rfl | (split <;> rfl)

theorem scanOps_maxTxid (ops : List WalRec) (st : Recovery) : (ops.foldl scanOp st).maxTxid = st.maxTxid := by
  induction ops generalizing st with
  | nil => rfl
  | cons r rs ih => rw [List.foldl_cons, ih, scanOp_maxTxid]

theorem scan_maxTxid_append (txs : List (Nat × List WalRec)) (tx : Nat × List WalRec) :
    (scanRecovery (txs ++ [tx])).maxTxid = max (scanRecovery txs).maxTxid tx.1 := by
  rw [scanRecovery_snoc, scanOps_maxTxid]

/-! ### replay_label_transactions -/

def labelOp (t : Interner) (op : WalRec) : Except OpenErr Interner :=
  match op with
  | .createLabel name id =>
    match t.getId name with
    | some i => if i != id then .error .walProtocol else .ok t
    | none =>
      let gap := (List.range (id - t.length)).map (fun j => placeholderName (t.length + j))
      .ok (t ++ gap ++ [name])
  | _ => .ok t

def labelTx (t : Interner) (tx : Nat × List WalRec) : Except OpenErr Interner := tx.2.foldlM labelOp t

theorem replayLabels_eq (txs : List (Nat × List WalRec)) : replayLabels txs = txs.foldlM labelTx [] := by
  unfold replayLabels
  congr 1

/-- only label definitions reach replay_label_transactions -/
theorem labelOps_noDef (ops : List WalRec) (t : Interner) (h : ∀ r ∈ ops, r.isLabelDef = false) :
    ops.foldlM labelOp t = .ok t :=
  foldlM_ignored _ _ (fun r hr _ => by
    have hr := h r hr
    cases r <;> simp only [WalRec.isLabelDef] at hr <;> first | rfl | cases hr) t

theorem replayLabels_snoc (txs : List (Nat × List WalRec)) (tx : Nat × List WalRec) :
    replayLabels (txs ++ [tx]) = replayLabels txs >>= fun t => tx.2.foldlM labelOp t := by
  rw [replayLabels_eq, replayLabels_eq]; exact foldlM_snoc _ _ _ _

theorem replayLabels_append_noDef (txs : List (Nat × List WalRec)) (t : Interner) (h : replayLabels txs = .ok t)
    (tx : Nat × List WalRec) (hd : ∀ r ∈ tx.2, r.isLabelDef = false) : replayLabels (txs ++ [tx]) = .ok t := by
  rw [replayLabels_snoc, h]; exact labelOps_noDef _ _ hd

theorem replayLabels_append_new (txs : List (Nat × List WalRec)) (t : Interner) (h : replayLabels txs = .ok t)
    (txid nm : Nat) (hn : t.getId nm = none) :
    replayLabels (txs ++ [(txid, [WalRec.createLabel nm t.length])]) = .ok (t ++ [nm]) := by
  rw [replayLabels_snoc, h]
  show ([WalRec.createLabel nm t.length].foldlM labelOp t) = _
  simp [labelOp, hn]

/-- what `open` would recover from the log of `s`: the interner, the manifest / checkpoint state, and —
    from ANY idmap that covers the external ids of `s` and holds the persisted first labels — the label
    vectors of `s` and, from the transactions newer than the checkpoint, runs that no read can tell
    from the published ones.  The txid bounds keep the checkpoint skip and the txid counter sound. -/
structure Rec (s : Engine) : Prop where
  inv : ∃ txs, Blocks s.wal txs ∧ replayLabels txs = .ok s.interner ∧
    ScanIs s.epoch (s.segs.map (·.id)) s.ckptTxid s.propsRoot txs ∧
    (∀ (m0 : IdMap) (T : List (List Nat)),
      (∀ x iid, s.idmap.lookup x = some iid → m0.lookup x = some iid) →
      m0.i2l = s.idmap.i2e.map (fun r => [r.label]) ++ T →
      ∃ R, replayGraph txs s.ckptTxid m0 = .ok ({ m0 with i2l := s.idmap.i2l ++ T }, R) ∧
        RunsEq R.reverse s.runs) ∧
    s.ckptTxid ≤ (scanRecovery txs).maxTxid ∧ (∀ r ∈ s.runs, r.txid ≤ (scanRecovery txs).maxTxid) ∧
    (scanRecovery txs).maxTxid < s.nextTxid
  txidPos : 1 ≤ s.nextTxid
  runsAbove : ∀ r ∈ s.runs, s.ckptTxid < r.txid

theorem Rec.ckptLt {s : Engine} (h : Rec s) : s.ckptTxid < s.nextTxid := by
  obtain ⟨⟨txs, _, _, _, _, h1, _, h3⟩, _, _⟩ := h
  omega

theorem Rec.empty : Rec {} := by
  refine ⟨⟨[], Blocks.nil, rfl, ⟨rfl, rfl, rfl, rfl⟩, ?_, Nat.le_refl _, ?_, Nat.lt_succ_self _⟩, Nat.le_refl _, ?_⟩
  · intro m0 T _ h2
    refine ⟨[], ?_, RunsEq.nil⟩
    have : ({ m0 with i2l := ({} : Engine).idmap.i2l ++ T } : IdMap) = m0 := by
      cases m0; simp only at h2 ⊢; rw [h2]; rfl
    rw [this]; rfl
  · intro r hr; cases hr
  · intro r hr; cases hr

theorem Rec.congr {s s' : Engine} (h : Rec s) (h1 : s'.wal = s.wal) (h2 : s'.interner = s.interner)
    (h3 : s'.idmap = s.idmap) (h4 : s'.runs = s.runs) (h5 : s.nextTxid ≤ s'.nextTxid)
    (h6 : s'.epoch = s.epoch) (h7 : s'.segs = s.segs) (h8 : s'.ckptTxid = s.ckptTxid)
    (h9 : s'.propsRoot = s.propsRoot) : Rec s' := by
  obtain ⟨⟨txs, hb, hl, hs, hg, b1, b2, b3⟩, hp, ha⟩ := h
  refine ⟨⟨txs, by rw [h1]; exact hb, by rw [h2]; exact hl, by rw [h6, h7, h8, h9]; exact hs, ?_,
    by rw [h8]; exact b1, by rw [h4]; exact b2, Nat.lt_of_lt_of_le b3 h5⟩, Nat.le_trans hp h5,
    by rw [h4, h8]; exact ha⟩
  rw [h3, h4, h8]; exact hg

theorem freeze_empty (t : Nat) : (({} : MemTable).freeze t).isEmpty = true := rfl

theorem Rec.intern {s : Engine} (h : Rec s) (nm : Nat) : Rec (s.getOrCreateLabel nm).1 := by
  unfold Engine.getOrCreateLabel
  cases hq : s.interner.getId nm with
  | some id => exact h
  | none =>
    simp only
    have hck := h.ckptLt
    obtain ⟨⟨txs, hb, hl, hs, hg, b1, b2, b3⟩, hp, ha⟩ := h
    have hmax := scan_maxTxid_append txs (s.nextTxid, [WalRec.createLabel nm s.interner.length])
    refine ⟨⟨txs ++ [(s.nextTxid, [WalRec.createLabel nm s.interner.length])], ?_, ?_, ?_, ?_, ?_, ?_, ?_⟩,
      Nat.le_succ_of_le hp, ha⟩
    · exact hb.append s.nextTxid [WalRec.createLabel nm s.interner.length]
        (by intro r hr; simp only [List.mem_singleton] at hr; subst hr; rfl)
    · exact replayLabels_append_new txs s.interner hl s.nextTxid nm hq
    · exact hs.append _ (by intro r hr; simp only [List.mem_singleton] at hr; subst hr; rfl)
    · intro m0 T hc hi
      obtain ⟨R, hR, hE⟩ := hg m0 T hc hi
      refine ⟨R, ?_, hE⟩
      rw [replayGraph_snoc, hR]
      have hpos : ¬ s.nextTxid ≤ s.ckptTxid := by omega
      simp only [replayStep, hpos, if_false, List.foldlM_cons, List.foldlM_nil, replayOp]
      rfl
    · rw [hmax]; exact Nat.le_trans b1 (Nat.le_max_left _ _)
    · intro r hr; rw [hmax]; exact Nat.le_trans (b2 r hr) (Nat.le_max_left _ _)
    · rw [hmax]; show max _ s.nextTxid < s.nextTxid + 1; omega

theorem Rec.stepTx (c : Cfg) (s : Engine) (t : Txn) (op : TxOp) (h : Rec s) : Rec (stepTx c (s, t) op).1 := by
  rcases stepTx_engine c s t op with e | ⟨nm, e⟩ | ⟨n, v, _, e⟩ <;> rw [e]
  · exact h
  · exact h.intern nm
  · exact h.congr rfl rfl rfl rfl (Nat.le_refl _) rfl rfl rfl rfl

theorem Rec.fold (c : Cfg) (ops : List TxOp) : ∀ st : Engine × Txn, Rec st.1 → Rec (ops.foldl (Storage.stepTx c) st).1 :=
  fold_engine_rel (R := fun s s' => Rec s → Rec s') (fun _ h => h) (fun f g h => g (f h))
    (fun st op => Rec.stepTx c st.1 st.2 op) ops

theorem walRecords_current (t : Txn) (run : Run) :
    t.walRecords Cfg.current run = WalRec.beginTx t.txid :: (graphRecords t run ++ [WalRec.commitTx t.txid]) := by
  unfold Txn.walRecords graphRecords; simp

theorem graphRecords_body (t : Txn) (run : Run) :
    ∀ r ∈ graphRecords t run, r.isBody = true ∧ r.isMeta = false ∧ r.isLabelDef = false := by
  intro r hr
  rw [graphRecords_eq] at hr
  simp only [List.mem_append, List.mem_map, List.append_nil] at hr
  rcases hr with ⟨_, _, rfl⟩ | ⟨_, _, rfl⟩ | ⟨_, _, rfl⟩ | ⟨_, _, rfl⟩ | ⟨_, _, rfl⟩ | ⟨_, _, rfl⟩ |
    ⟨_, _, rfl⟩ | ⟨_, _, rfl⟩ | ⟨_, _, rfl⟩ | ⟨_, _, rfl⟩ <;> exact ⟨rfl, rfl, rfl⟩

theorem Blocks.commit {w : List WalRec} {txs : List (Nat × List WalRec)} (h : Blocks w txs) (t : Txn) (run : Run) :
    Blocks (w ++ t.walRecords Cfg.current run) (txs ++ [(t.txid, graphRecords t run)]) := by
  rw [walRecords_current]
  exact h.append t.txid _ fun r hr => (graphRecords_body t run r hr).1

/-! ### emptiness of read-equivalent runs -/

theorem isEmpty_of_mem_iff {α} (l l' : List α) (h : ∀ a, a ∈ l ↔ a ∈ l') : l.isEmpty = l'.isEmpty := by
  cases l with
  | nil =>
    cases l' with
    | nil => rfl
    | cons b bs => exact absurd ((h b).mpr List.mem_cons_self) List.not_mem_nil
  | cons a as =>
    cases l' with
    | nil => exact absurd ((h a).mp List.mem_cons_self) List.not_mem_nil
    | cons b bs => rfl

theorem isEmpty_of_lookup_eq {κ ν} [BEq κ] [LawfulBEq κ] (l l' : List (κ × ν))
    (h : ∀ k, l.lookup k = l'.lookup k) : l.isEmpty = l'.isEmpty := by
  cases l with
  | nil =>
    cases l' with
    | nil => rfl
    | cons b bs => have := h b.1; simp [List.lookup] at this
  | cons a as =>
    cases l' with
    | nil => have := h a.1; simp [List.lookup] at this
    | cons b bs => rfl

theorem RunEq.isEmpty {r r' : Run} (h : RunEq r r') : r.isEmpty = r'.isEmpty := by
  unfold Run.isEmpty
  rw [isEmpty_of_mem_iff _ _ (fun a => h.edges.mem_iff), isEmpty_of_mem_iff _ _ h.tombNodes,
    isEmpty_of_mem_iff _ _ h.tombEdges, isEmpty_of_lookup_eq _ _ h.nprops, isEmpty_of_lookup_eq _ _ h.eprops,
    isEmpty_of_mem_iff _ _ h.nDel, isEmpty_of_mem_iff _ _ h.eDel]

theorem foldlM_append_ok {α β ε} (f : β → α → Except ε β) (l l' : List α) (a b : β)
    (h : l.foldlM f a = .ok b) : (l ++ l').foldlM f a = l'.foldlM f b := by
  rw [List.foldlM_append, h]; rfl

/-- **replaying what `commit` wrote**, as one step of replay_graph_transactions from an idmap that knows
    the created nodes already: the label records act on the prefix `A` of the label vectors as step 3 of
    `commit` does, and the memtable records rebuild a run no read can tell from the published one; it
    goes behind the runs replayed so far unless it is empty -/
theorem replayStep_commit (t : Txn) (hwf : t.mt.WF) (k : Nat) (hk : k < t.txid) (m : IdMap)
    (A T : List (List Nat)) (hm : m.i2l = A ++ T) (hc : ∀ c ∈ t.created, m.lookup c.1 = some c.2.2)
    (hadd : ∀ p ∈ t.addL, p.1 < A.length) (hdel : ∀ p ∈ t.delL, p.1 < A.length) (acc : List Run) :
    ∃ r, RunEq r (t.mt.freeze t.txid) ∧
      replayStep k (m, acc) (t.txid, graphRecords t (t.mt.freeze t.txid)) =
        .ok ({ m with i2l := delAll (addAll A t.addL) t.delL ++ T },
             if (t.mt.freeze t.txid).isEmpty then acc else acc ++ [r]) := by
  have e1 := replay_createNodes t.created m {} hc
  have e2 := replay_addLabels t.addL m {} fun p hp => by
    rw [hm, List.length_append]; exact Nat.lt_add_right _ (hadd p hp)
  have e3 := replay_delLabels t.delL { m with i2l := addAll m.i2l t.addL } {} fun p hp => by
    rw [addAll_length, hm, List.length_append]; exact Nat.lt_add_right _ (hdel p hp)
  obtain ⟨mt', hfold⟩ : ∃ mt', (graphRecords t (t.mt.freeze t.txid)).foldlM replayOp (m, {}) =
      .ok ({ m with i2l := delAll (addAll A t.addL) t.delL ++ T }, mt') := by
    apply Exists.intro
    -- behind the node and label records come the seven kinds that only touch the memtable
    rw [graphRecords_eq, foldlM_append_ok _ _ _ _ _ e1, foldlM_append_ok _ _ _ _ _ e2,
      foldlM_append_ok _ _ _ _ _ e3, replay_memRecs _ _ _ fun r hr => ?_, hm, addAll_append _ _ _ hadd,
      delAll_append _ _ _ fun p hp => by rw [addAll_length]; exact hdel p hp]
    simp only [List.mem_append, List.mem_map, List.append_nil] at hr
    rcases hr with ⟨_, _, rfl⟩ | ⟨_, _, rfl⟩ | ⟨_, _, rfl⟩ | ⟨_, _, rfl⟩ | ⟨_, _, rfl⟩ | ⟨_, _, rfl⟩ | ⟨_, _, rfl⟩ <;> rfl
  have hrun := replay_commit_roundtrip t hwf t.txid _ _ _ hfold
  refine ⟨_, hrun, ?_⟩
  simp only [replayStep, Nat.not_le.mpr hk, if_false, hfold, ← hrun.isEmpty]
  rfl

theorem Rec.commit {s : Engine} {t : Txn} (h : Rec s) (hwf : t.mt.WF) (htx : s.ckptTxid < t.txid)
    (htx2 : t.txid < s.nextTxid)
    (hids : ∀ i c, t.created[i]? = some c → c.2.2 = s.idmap.i2e.length + i)
    (hfresh : ∀ c ∈ t.created, s.idmap.lookup c.1 = none) (hnd : (t.created.map (·.1)).Nodup)
    (hlen : s.idmap.i2l.length = s.idmap.i2e.length)
    (hadd : ∀ p ∈ t.addL, p.1 < s.idmap.i2l.length + t.created.length)
    (hdel : ∀ p ∈ t.delL, p.1 < s.idmap.i2l.length + t.created.length) :
    applyIdmap s.idmap t.created t.addL t.delL = (idmapAfter s.idmap t, none) ∧
    Rec (committed Cfg.current s t (idmapAfter s.idmap t)) := by
  have hok := applyIdmap_explicit s.idmap t hids hfresh hnd hadd hdel
  refine ⟨hok, ?_⟩
  obtain ⟨⟨txs, hb, hl, hs, hg, b1, b2, b3⟩, hp, ha⟩ := h
  have hgr := graphRecords_body t (t.mt.freeze t.txid)
  have hmax := scan_maxTxid_append txs (t.txid, graphRecords t (t.mt.freeze t.txid))
  have hruns : ∀ r ∈ (committed Cfg.current s t (idmapAfter s.idmap t)).runs, r ∈ s.runs ∨ r.txid = t.txid := by
    intro r hr
    have hr' : r ∈ (if (t.mt.freeze t.txid).isEmpty then s.runs else t.mt.freeze t.txid :: s.runs) := hr
    split at hr'
    · exact Or.inl hr'
    · rcases List.mem_cons.mp hr' with rfl | h'
      · exact Or.inr rfl
      · exact Or.inl h'
  refine ⟨⟨txs ++ [(t.txid, graphRecords t (t.mt.freeze t.txid))], ?_, ?_, ?_, ?_, ?_, ?_, ?_⟩,
    Nat.le_succ_of_le hp, ?_⟩
  rotate_left 4
  · rw [hmax]; exact Nat.le_trans b1 (Nat.le_max_left _ _)
  · intro r hr
    rw [hmax]
    rcases hruns r hr with h' | h'
    · exact Nat.le_trans (b2 r h') (Nat.le_max_left _ _)
    · rw [h']; exact Nat.le_max_right _ _
  · rw [hmax]; show max _ t.txid < s.nextTxid + 1; omega
  · intro r hr
    rcases hruns r hr with h' | h'
    · exact ha r h'
    · rw [h']; exact htx
  · exact hb.commit t _
  · exact replayLabels_append_noDef txs _ hl _ fun r hr => (hgr r hr).2.2
  · exact hs.append _ fun r hr => (hgr r hr).2.1
  · intro m0 T hc hi
    show ∃ R', replayGraph _ s.ckptTxid m0 = .ok ({ m0 with i2l := (idmapAfter s.idmap t).i2l ++ T }, R') ∧
      RunsEq R'.reverse (if (t.mt.freeze t.txid).isEmpty then s.runs else t.mt.freeze t.txid :: s.runs)
    obtain ⟨R, hR, hE⟩ := hg m0 (t.created.map (fun c => [c.2.1]) ++ T)
      (fun x iid hx => hc x iid (idmapAfter_lookup_old _ t hfresh hx))
      ((hi.trans (congrArg (· ++ T) (idmapAfter_firstLabels s.idmap t))).trans (List.append_assoc _ _ _))
    have hlenA : (s.idmap.i2l ++ t.created.map (fun c => [c.2.1])).length = s.idmap.i2l.length + t.created.length := by
      rw [List.length_append, List.length_map]
    obtain ⟨r, hr, hstep⟩ := replayStep_commit t hwf s.ckptTxid htx
      { m0 with i2l := s.idmap.i2l ++ (t.created.map (fun c => [c.2.1]) ++ T) }
      (s.idmap.i2l ++ t.created.map (fun c => [c.2.1])) T (List.append_assoc _ _ _).symm
      (fun c hcm => hc _ _ (idmapAfter_lookup_created _ t hnd hcm))
      (fun p hp => hlenA ▸ hadd p hp) (fun p hp => hlenA ▸ hdel p hp) R
    refine ⟨_, by rw [replayGraph_snoc, hR]; exact hstep, ?_⟩
    split
    · exact hE
    · rw [List.reverse_append]; exact RunsEq.cons hr hE

end Nervus.Storage
