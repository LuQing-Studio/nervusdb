/-
  Proofs/IterFlush.lean — the neighbour iterators of the current source fold the pending tombstones of
  the last run into the blocked sets before they read segment edges (regenerated fact; seed C14-seed1).
-/
import Nervus.Proofs.EngineReads
namespace Nervus.Storage

theorem iters_flush_before_segments : Generated.itersFlushBeforeSegments = true := by decide

theorem neighbors_eq : Engine.neighbors = Engine.neighborsFlushed := by
  funext s src rel; unfold Engine.neighbors; rw [iters_flush_before_segments]; rfl

theorem incoming_eq : Engine.incoming = Engine.incomingFlushed := by
  funext c s dst rel; unfold Engine.incoming; rw [iters_flush_before_segments]; rfl

def allTombNodes (runs : List Run) : List Nat := runs.flatMap (·.tombNodes)
def allTombEdgesOf (runs : List Run) : List Edge := runs.flatMap (·.tombEdges)

theorem Dir.runs_fin_all (d : Dir) (n : Nat) (rel : Option Nat) (runs : List Run) :
    ∀ (bn : List Nat) (be : List Edge) (bn' : List Nat) (be' : List Edge),
      (d.runs n rel runs bn be).2 = some (bn', be') →
      bn' = bn ++ allTombNodes runs ∧ be' = be ++ allTombEdgesOf runs ∧ n ∉ bn' := by
  induction runs with
  | nil =>
    intro bn be bn' be' h
    simp only [Dir.runs] at h
    split at h
    · cases h
    · next hc =>
      simp only [Option.some.injEq, Prod.mk.injEq] at h
      obtain ⟨rfl, rfl⟩ := h
      exact ⟨by simp [allTombNodes], by simp [allTombEdgesOf], by simpa using hc⟩
  | cons r rs ih =>
    intro bn be bn' be' h
    simp only [Dir.runs] at h
    split at h
    · cases h
    · obtain ⟨h1, h2, h3⟩ := ih _ _ _ _ h
      exact ⟨by rw [h1]; simp [allTombNodes], by rw [h2]; simp [allTombEdgesOf], h3⟩

theorem mem_flatten_mapM {σ} (f : σ → Option (List Edge)) (p : Edge → Bool) :
    ∀ (l : List σ) (ls : List (List Edge)), l.mapM (fun g => (f g).map (·.filter p)) = some ls →
      ∀ e ∈ ls.flatten, p e = true := by
  intro l
  induction l with
  | nil => intro ls h e he; simp only [List.mapM_nil] at h; cases h; cases he
  | cons g gs ih =>
    intro ls h e he
    simp only [List.mapM_cons] at h
    cases hf : f g with
    | none => rw [hf] at h; cases h
    | some x =>
      rw [hf] at h
      cases hm : gs.mapM (fun g => (f g).map (·.filter p)) with
      | none => rw [hm] at h; cases h
      | some ls' =>
        rw [hm] at h
        simp only [Option.map_some, bind, Option.bind, pure] at h
        cases h
        rw [List.flatten_cons, List.mem_append] at he
        rcases he with he | he
        · exact (List.mem_filter.mp he).2
        · exact ih ls' hm e he

theorem neighbors_eq_dir (s : Engine) (n : Nat) (rel : Option Nat) : s.neighbors n rel = Dir.out.read s n rel := by
  rw [neighbors_eq]; unfold Engine.neighborsFlushed Dir.read; rw [outRuns_eq_dir]; rfl

theorem incoming_eq_dir (c : Cfg) (s : Engine) (n : Nat) (rel : Option Nat) :
    s.incoming c n rel = (Dir.inc c.csrGuard).read s n rel := by
  rw [incoming_eq]; unfold Engine.incomingFlushed Dir.read; rw [inRuns_eq_dir c.csrGuard]; rfl

/-- **segment edges are read behind ALL run tombstones**: whatever either iterator returns is the run
    phase followed by segment edges none of which is tombstoned — itself, its far end or the start node —
    by any published run, the oldest (the first transaction after a compaction) included -/
theorem Dir.read_segment_part {d : Dir} {s : Engine} {n : Nat} {rel : Option Nat} {es : List Edge}
    (h : d.read s n rel = some es) :
    ∃ segEs, es = (d.runs n rel s.runs [] []).1 ++ segEs ∧
      ∀ e ∈ segEs, d.far e ∉ allTombNodes s.runs ∧ e ∉ allTombEdgesOf s.runs ∧ n ∉ allTombNodes s.runs := by
  unfold Dir.read at h
  have hfin := d.runs_fin_all n rel s.runs [] []
  generalize d.runs n rel s.runs [] [] = walk at h hfin
  obtain ⟨es0, fin⟩ := walk
  cases fin with
  | none => exact ⟨[], by simpa using h.symm, fun _ he => nomatch he⟩
  | some f =>
    obtain ⟨f1, f2⟩ := f
    obtain ⟨rfl, rfl, a3⟩ := hfin f1 f2 rfl
    simp only at h
    cases hm : s.segs.mapM (fun g => (d.seg g n rel).map
        (·.filter (fun e => !d.blocked ([] ++ allTombNodes s.runs) ([] ++ allTombEdgesOf s.runs) e))) with
    | none => rw [hm] at h; cases h
    | some ls =>
      rw [hm] at h
      refine ⟨ls.flatten, (Option.some.inj h).symm, fun e he => ?_⟩
      simpa [Dir.blocked, and_assoc] using And.intro (mem_flatten_mapM _ _ s.segs ls hm e he) a3

theorem neighbors_segment_part (s : Engine) (src : Nat) (rel : Option Nat) (es : List Edge)
    (h : s.neighbors src rel = some es) :
    ∃ segEs, es = (outRuns src rel s.runs [] []).1 ++ segEs ∧
      ∀ e ∈ segEs, e.dst ∉ allTombNodes s.runs ∧ e ∉ allTombEdgesOf s.runs ∧ src ∉ allTombNodes s.runs := by
  rw [neighbors_eq_dir] at h; rw [outRuns_eq_dir]; exact Dir.read_segment_part h

theorem incoming_segment_part (c : Cfg) (s : Engine) (dst : Nat) (rel : Option Nat) (es : List Edge)
    (h : s.incoming c dst rel = some es) :
    ∃ segEs, es = (inRuns dst rel s.runs [] []).1 ++ segEs ∧
      ∀ e ∈ segEs, e.src ∉ allTombNodes s.runs ∧ e ∉ allTombEdgesOf s.runs ∧ dst ∉ allTombNodes s.runs := by
  rw [incoming_eq_dir] at h; rw [inRuns_eq_dir c.csrGuard]; exact Dir.read_segment_part h

end Nervus.Storage
