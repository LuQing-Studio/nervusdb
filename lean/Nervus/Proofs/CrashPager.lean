/-
  Proofs.CrashPager — the pager's own programs `flush_meta_and_bitmap`, `ensure_allocated`,
  `allocate_page` (`flushA`, `ensureA`, `allocA`), which creation, the node table and compaction all
  run: what they are as action lists, `allocA` in closed form, what a flush leaves in the files,
  what they leave in the pager's memory, and their `Hoare` rules, proved once for any class.
-/
import Nervus.Proofs.CrashHoare
namespace Nervus.Crash

theorem pagerActs_flush (pm : Meta) (bm : Nat) : PagerActs (flushA pm bm) := by
  intro a ha
  simp [flushA] at ha
  rcases ha with rfl | rfl | rfl <;> trivial

theorem pagerActs_ensure (ps : PS) (pid : Nat) : PagerActs (ensureA ps pid).1 :=
  (((pagerActs_ite (pagerActs_single_mem _)).append (pagerActs_single_mem _)).append
    (pagerActs_ite (pagerActs_pg _ _))).append (pagerActs_flush _ _)

theorem pagerActs_alloc (ps : PS) : PagerActs (allocA ps).1 :=
  (pagerActs_single_mem _).append (pagerActs_ensure _ _)

/-- `b` differs from `a` only in counters that recovery does not look at (and `nextPage` grows) -/
structure SameKey (a b : Meta) : Prop where
  init : b.init = a.init
  catRoot : b.catRoot = a.catRoot
  start : b.i2eStart = a.i2eStart
  len : b.i2eLen = a.i2eLen
  np : a.nextPage ≤ b.nextPage

theorem SameKey.refl (a : Meta) : SameKey a a := ⟨rfl, rfl, rfl, rfl, Nat.le_refl _⟩

theorem SameKey.trans {a b c : Meta} (h1 : SameKey a b) (h2 : SameKey b c) : SameKey a c :=
  ⟨h2.init.trans h1.init, h2.catRoot.trans h1.catRoot, h2.start.trans h1.start, h2.len.trans h1.len,
    Nat.le_trans h1.np h2.np⟩

theorem SameKey.nextPage (a : Meta) {n : Nat} (h : a.nextPage ≤ n) : SameKey a { a with nextPage := n } :=
  ⟨rfl, rfl, rfl, rfl, h⟩

def flushSteps (pm : Meta) (bm : Nat) : List Step := [.pg (.hdr pm) 0, .pg (.bitmap bm) 1, .ps]

theorem ioSteps_flushA (pm : Meta) (bm : Nat) : ioSteps (flushA pm bm) = flushSteps pm bm := rfl

def EndsFlushed (acts : List Action) (pm : Meta) (bm : Nat) : Prop := ∃ pre, ioSteps acts = pre ++ flushSteps pm bm

theorem endsFlushed_append {a b : List Action} {pm : Meta} {bm : Nat} (ha : failOf a = none) (hb : EndsFlushed b pm bm) :
    EndsFlushed (a ++ b) pm bm := by
  obtain ⟨pre, h⟩ := hb
  exact ⟨ioSteps a ++ pre, by rw [ioSteps_append_noFail _ _ ha, h, List.append_assoc]⟩

theorem applyEffs_append (a b : List PEff) (p : PImg) : applyEffs (a ++ b) p = applyEffs b (applyEffs a p) := by
  simp [applyEffs, List.foldl_append]

theorem steps_flushed (fs : FS) (S : List Step) (pm : Meta) (bm : Nat) (h : ∃ pre, S = pre ++ flushSteps pm bm) :
    (fs.steps S).pj = [] ∧ (fs.steps S).pd.hdr = pm ∧ (fs.steps S).pd.bm = bm := by
  obtain ⟨pre, rfl⟩ := h
  rw [steps_append]
  generalize fs.steps pre = g
  simp [flushSteps, FS.steps, FS.step, FS.pv, applyEffs, applyEff]

theorem ensureA_form (ps : PS) (pid : Nat) :
    SameKey ps.pm (ensureA ps pid).2.pm ∧ ps.bm ≤ (ensureA ps pid).2.bm := by
  refine ⟨?_, ?_⟩
  · show SameKey _ (if ps.pm.nextPage ≤ pid then { ps.pm with nextPage := pid + 1 } else ps.pm)
    split
    · exact SameKey.nextPage _ (by omega)
    · exact SameKey.refl _
  · show _ ≤ (if pid < ps.bm then ps.bm else pid + 1)
    split <;> omega

/-- Both branches of `allocA` (a hole below `next_page_id`, or none) in one closed form; `f` is the
    allocation frontier, the page handed out. -/
theorem allocA_eq (ps : PS) {f : Nat} (hf : f = min ps.bm ps.pm.nextPage) :
    allocA ps =
      ([memA (.setPm { ps.pm with nextPage := max ps.pm.nextPage (f + 1) }), memA (.setBm (max ps.bm (f + 1)))] ++
        (if ps.len < f + 1 then [ioA (.pg (.setLen (f + 1)) (f + 1))] else []) ++
        flushA { ps.pm with nextPage := max ps.pm.nextPage (f + 1) } (max ps.bm (f + 1)),
       { pm := { ps.pm with nextPage := max ps.pm.nextPage (f + 1) },
         len := if ps.len < f + 1 then f + 1 else ps.len, bm := max ps.bm (f + 1) },
       f) := by
  subst hf
  by_cases hh : ps.bm < ps.pm.nextPage
  · have e1 : min ps.bm ps.pm.nextPage = ps.bm := by omega
    have e2 : max ps.pm.nextPage (ps.bm + 1) = ps.pm.nextPage := by omega
    have e3 : max ps.bm (ps.bm + 1) = ps.bm + 1 := by omega
    have e4 : ¬ ps.pm.nextPage ≤ ps.bm := by omega
    simp only [allocA, ensureA, hh, e1, e2, e3, e4, if_true, if_false, Nat.lt_irrefl, List.nil_append, List.cons_append]
  · have e1 : min ps.bm ps.pm.nextPage = ps.pm.nextPage := by omega
    have e2 : max ps.pm.nextPage (ps.pm.nextPage + 1) = ps.pm.nextPage + 1 := by omega
    have e4 : ¬ ps.pm.nextPage + 1 ≤ ps.pm.nextPage := by omega
    by_cases hb : ps.pm.nextPage < ps.bm
    · have e3 : max ps.bm (ps.pm.nextPage + 1) = ps.bm := by omega
      simp only [allocA, ensureA, hh, hb, e1, e2, e3, e4, if_true, if_false, List.nil_append, List.cons_append]
    · have e3 : max ps.bm (ps.pm.nextPage + 1) = ps.pm.nextPage + 1 := by omega
      simp only [allocA, ensureA, hh, hb, e1, e2, e3, e4, if_false, List.nil_append, List.cons_append]

/-- what `allocate_page` does, read off its closed form -/
structure AllocForm (ps : PS) : Prop where
  pid : (allocA ps).2.2 = min ps.bm ps.pm.nextPage
  next : min (allocA ps).2.1.bm (allocA ps).2.1.pm.nextPage = min ps.bm ps.pm.nextPage + 1
  sameKey : SameKey ps.pm (allocA ps).2.1.pm
  bm : ps.bm ≤ (allocA ps).2.1.bm
  nofail : failOf (allocA ps).1 = none
  steps : ∃ pre, (∀ s ∈ pre, ∃ n pid, s = Step.pg (.setLen n) pid) ∧
    ioSteps (allocA ps).1 = pre ++ flushSteps (allocA ps).2.1.pm (allocA ps).2.1.bm

theorem allocA_form (ps : PS) : AllocForm ps := by
  constructor
  all_goals rw [allocA_eq ps rfl]
  · show min (max ps.bm (min ps.bm ps.pm.nextPage + 1)) (max ps.pm.nextPage (min ps.bm ps.pm.nextPage + 1)) = _
    omega
  · exact SameKey.nextPage _ (Nat.le_max_left _ _)
  · exact Nat.le_max_left _ _
  · dsimp only; split <;> rfl
  · refine ⟨if ps.len < min ps.bm ps.pm.nextPage + 1 then
      [.pg (.setLen (min ps.bm ps.pm.nextPage + 1)) (min ps.bm ps.pm.nextPage + 1)] else [], ?_, ?_⟩
    · intro s hs; split at hs <;> simp at hs; exact ⟨_, _, hs⟩
    · dsimp only; split <;> rfl

theorem allocA_bm (ps : PS) : ps.bm ≤ (allocA ps).2.1.bm := (allocA_form ps).bm

def lastBm : List MemUpd → Nat → Nat
  | [], d => d
  | .setBm b :: l, _ => lastBm l b
  | _ :: l, d => lastBm l d

def lastPm : List MemUpd → Meta → Meta
  | [], d => d
  | .setPm p :: l, _ => lastPm l p
  | _ :: l, d => lastPm l d

theorem lastBm_append (a b : List MemUpd) (d : Nat) : lastBm (a ++ b) d = lastBm b (lastBm a d) := by
  induction a generalizing d with
  | nil => rfl
  | cons u a ih => cases u <;> simp [lastBm, ih]

theorem lastPm_append (a b : List MemUpd) (d : Meta) : lastPm (a ++ b) d = lastPm b (lastPm a d) := by
  induction a generalizing d with
  | nil => rfl
  | cons u a ih => cases u <;> simp [lastPm, ih]

def OnlySetPm (l : List MemUpd) : Prop := ∀ u ∈ l, (∃ pm, u = MemUpd.setPm pm) ∨ (∃ b, u = MemUpd.setBm b)

theorem memUpds_ensureA (ps : PS) (pid : Nat) :
    memUpds (ensureA ps pid).1 =
      (if ps.pm.nextPage ≤ pid then [.setPm (ensureA ps pid).2.pm] else []) ++ [.setBm (ensureA ps pid).2.bm] := by
  unfold ensureA
  dsimp only; repeat' split
  all_goals rfl

theorem onlySetPm_ensure (ps : PS) (pid : Nat) : OnlySetPm (memUpds (ensureA ps pid).1) := by
  rw [memUpds_ensureA]
  intro u hu
  split at hu <;> simp at hu
  · rcases hu with rfl | rfl
    · exact Or.inl ⟨_, rfl⟩
    · exact Or.inr ⟨_, rfl⟩
  · exact Or.inr ⟨_, hu⟩

theorem lastPm_ensure (ps : PS) (pid : Nat) : lastPm (memUpds (ensureA ps pid).1) ps.pm = (ensureA ps pid).2.pm := by
  rw [memUpds_ensureA]
  split
  · rfl
  · simp only [List.nil_append, lastPm, ensureA, *, if_false]

theorem lastBm_ensure (ps : PS) (pid : Nat) (d : Nat) : lastBm (memUpds (ensureA ps pid).1) d = (ensureA ps pid).2.bm := by
  rw [memUpds_ensureA, lastBm_append]; rfl

theorem onlySetPm_alloc (ps : PS) : OnlySetPm (memUpds (allocA ps).1) := by
  rw [allocA_eq ps rfl]
  intro u hu
  dsimp only at hu
  split at hu <;> simp [memUpds, flushA] at hu <;> rcases hu with rfl | rfl
  all_goals first | exact Or.inl ⟨_, rfl⟩ | exact Or.inr ⟨_, rfl⟩

theorem lastPm_alloc (ps : PS) (d : Meta) : lastPm (memUpds (allocA ps).1) d = (allocA ps).2.1.pm := by
  rw [allocA_eq ps rfl]; dsimp only; split <;> rfl

theorem lastBm_alloc (ps : PS) (d : Nat) : lastBm (memUpds (allocA ps).1) d = (allocA ps).2.1.bm := by
  rw [allocA_eq ps rfl]; dsimp only; split <;> rfl

section
variable {Safe X X' V V' : PImg → Prop} {E : PEff → Prop}

def Cache (W : PImg → Prop) (ps : PS) (p : PImg) : Prop := W p ∧ p.hdr = ps.pm ∧ p.bm = ps.bm

def PagerEff : PEff → Prop
  | .setLen _ => True
  | .hdr _ => True
  | .bitmap _ => True
  | _ => False

/-- `flush_meta_and_bitmap`.  The scratch `ps` of the precondition is free, here and in `ensure` and
    `alloc`: which meta page and bitmap the cache held before does not matter. -/
theorem Hoare.flush {W : PImg → Prop} (c : ClosedUnder X E) (hs : ∀ p, X p → Safe p) (hs' : ∀ p, X' p → Safe p)
    {ps : PS} {pm : Meta} {bm : Nat} (hh : E (.hdr pm)) (hb : E (.bitmap bm))
    (hw : ∀ p e, PagerEff e → W p → W (applyEff e p)) (h : ∀ p, X p → W p → p.hdr = pm → p.bm = bm → X' p) :
    Hoare .syncs Safe X (Cache W ps) (flushA pm bm) X' (Cache W { ps with pm := pm, bm := bm }) :=
  (Hoare.pg c hs hh 0 (V' := fun p => W p ∧ p.hdr = pm) fun p _ hp => ⟨hw p _ trivial hp.1, rfl⟩).seq
    ((Hoare.pg c hs hb 1 (V' := Cache W { ps with pm := pm, bm := bm }) fun p _ hp => ⟨hw p _ trivial hp.1, hp.2, rfl⟩).seq
      (Hoare.sync hs hs' fun p hx hp => ⟨h p hx hp.1 hp.2.1 hp.2.2, hp⟩))

theorem Hoare.ensure {W : PImg → Prop} (c : ClosedUnder X E) (hs : ∀ p, X p → Safe p) {ps0 : PS} (ps : PS) (pid : Nat)
    (hl : ∀ n, E (.setLen n)) (hh : E (.hdr (ensureA ps pid).2.pm)) (hb : E (.bitmap (ensureA ps pid).2.bm))
    (hw : ∀ p e, PagerEff e → W p → W (applyEff e p)) :
    Hoare .syncs Safe X (Cache W ps0) (ensureA ps pid).1 X (Cache W (ensureA ps pid).2) :=
  (((Hoare.ite (Hoare.mem hs _) hs).seq (Hoare.mem hs _)).seq
    (Hoare.ite (Hoare.pg c hs (hl _) _ fun p _ hp => ⟨hw p _ trivial hp.1, hp.2⟩) hs)).seq
      (Hoare.flush c hs hs hh hb hw fun _ hx _ _ _ => hx)

theorem Hoare.alloc {W : PImg → Prop} (c : ClosedUnder X E) (hs : ∀ p, X p → Safe p) {ps0 : PS} (ps : PS)
    (hl : ∀ n, E (.setLen n)) (hh : E (.hdr (allocA ps).2.1.pm)) (hb : E (.bitmap (allocA ps).2.1.bm))
    (hw : ∀ p e, PagerEff e → W p → W (applyEff e p)) :
    Hoare .syncs Safe X (Cache W ps0) (allocA ps).1 X (Cache W (allocA ps).2.1) :=
  (Hoare.mem hs _).seq (Hoare.ensure c hs _ _ hl hh hb hw)

end

end Nervus.Crash
