/-
  Proofs.CrashOpen — `GraphEngine::open` on files that represent `T`: the program is memory updates
  around one node-table block (`blk_nodes`), so every crash image during the recovery itself still
  represents `T`, and the handle it returns sees exactly `T`.
-/
import Nervus.Proofs.CrashPhase
namespace Nervus.Crash

/-- the memory assembled by `IdMap::load` -/
def bootMem (vol : PImg) : Mem :=
  { pm := vol.hdr, bm := vol.bm, idStart := vol.hdr.i2eStart, idLen := vol.hdr.i2eLen,
    exts := (List.range (if vol.hdr.i2eStart = 0 then 0 else vol.hdr.i2eLen)).map (getSlot vol.i2e) }

/-- what the first half of open returns on a fully created database -/
def bootedRes (vol : PImg) (es : List Nat) : BootRes :=
  { acts := [memA (.setPm vol.hdr), memA (.loaded (bootMem vol)), memA (.catalog vol.hdr.catRoot es)],
    ps := { pm := vol.hdr, len := vol.len, bm := vol.bm }, catRoot := vol.hdr.catRoot, entries := es, m0 := bootMem vol }

/-- on a fully created database the first half of open performs no I/O -/
theorem bootA_booted (cfg : Cfg) (vol : PImg) (hb : Booted vol) :
    ∃ es, vol.cat = some es ∧
      bootA cfg vol = .ok (bootedRes vol es) := by
  obtain ⟨es, hcat, hlen, hidx⟩ := hb.cat
  refine ⟨es, hcat, ?_⟩
  have h0 : ¬ vol.len = 0 := by have := hb.len; omega
  have h2 : ¬ vol.len < 2 := by have := hb.len; omega
  unfold bootA
  simp [h0, h2, hb.init, hb.catRoot, hcat, mkIndexA, hlen, bootMem, bootedRes]
  intro x hx _
  exact hidx x hx

/-- the memory `open` has assembled when the log has been scanned and the segments are loaded -/
def replayMem (vol : PImg) (b : BootRes) (sc : RScan) : Mem :=
  { b.m0 with
    pm := b.ps.pm, bm := b.ps.bm, catRootM := b.catRoot, catEntries := b.entries,
    segs := sc.segs.map (fun k => (k, segEdges vol k)),
    epoch := sc.epoch, ckpt := sc.ckpt, proot := sc.proot, ptop := sc.ptop,
    nextTxid := max (sc.maxTxid + 1) 1 }

theorem replayA_eq (cfg : Cfg) (vol : PImg) (w : List Frag) (b : BootRes) (cs : List CTx) (ap : List Nat) (rs : List Run)
    (hcom : committed (readAll w) = .ok cs) (hseg : ∀ k ∈ (scan cs).segs, (segFind vol k).isSome)
    (hplan : planTxs (scan cs).ckpt cs b.m0.exts b.m0.idLen {} = { apply := ap, runs := rs, err := none }) :
    replayA cfg vol w b =
      [memA (.loaded (replayMem vol b (scan cs)))] ++
        (nodesA cfg b.ps { start := b.m0.idStart, len := b.m0.idLen } ap).1 ++ [memA (.setRuns rs)] := by
  unfold replayA
  have hany : ((scan cs).segs.map (fun k => (k, vol.segs.find? (fun s => s.key == k && s.complete)))).any
      (fun s => s.2.isNone) = false := by
    rw [List.any_eq_false]
    intro x hx
    obtain ⟨k, hk, rfl⟩ := List.mem_map.mp hx
    have := hseg k hk
    simp only [segFind] at this
    simp [Option.isNone_iff_eq_none, Option.isSome_iff_ne_none.mp this]
  simp only [hcom, hany, hplan]
  simp [replayMem, segEdges, segFind, List.map_map, Function.comp]

theorem plan_of_rep {T : List Tx} {cs : List CTx} {c : Nat} {p : PImg} (hlog : LogOK T cs c)
    (hp : PagerOK (allNodes T) c p) :
    (bootMem p).exts = (allNodes T).take p.hdr.i2eLen ∧
    planTxs (scan cs).ckpt cs (bootMem p).exts (bootMem p).idLen {} =
      { apply := (allNodes T).drop p.hdr.i2eLen, runs := logRuns (scan cs).ckpt cs, err := none } := by
  have hexts : (bootMem p).exts = (allNodes T).take p.hdr.i2eLen := by
    by_cases hs : p.hdr.i2eStart = 0
    · have := hp.start hs
      simp [bootMem, hs, this]
    · simp only [bootMem, hs, if_false]
      exact range_map_getSlot_eq_take _ _ _ hp.hi hp.slots
  refine ⟨hexts, ?_⟩
  have hseq := planNodes_seq (allNodes T) hlog.nodup hlog.nozero (flatOps (scan cs).ckpt cs) c
    ((allNodes T).length - c) p.hdr.i2eLen [] hlog.nodes (by have := hlog.cle; omega) hp.lo hp.hi
  have hmax : max p.hdr.i2eLen (c + ((allNodes T).length - c)) = (allNodes T).length := by
    have := hlog.cle; have := hp.hi; omega
  rw [hmax, List.take_length] at hseq
  have := planTxs_ok (scan cs).ckpt cs ((allNodes T).take p.hdr.i2eLen) p.hdr.i2eLen {} _ _ _ hseq
  rw [hexts]
  show planTxs (scan cs).ckpt cs ((allNodes T).take p.hdr.i2eLen) p.hdr.i2eLen {} = _
  rw [this]
  simp

/-- the second half of `open` (log scan, segment loading, replay of the node table) from what any
    first half returned on files that represent `T` and have nothing unsynced (`hpj`, `hq`): every
    prefix of its I/O steps leaves every crash image representing `T`; it succeeds and the handle
    satisfies the invariant for `T`. -/
theorem replay_blk {cfg : Cfg} {T : List Tx} {fs : FS} (hsync : (allNodes T).drop fs.pd.hdr.i2eLen ≠ [] → cfg.syncSlot = true)
    (hpj : fs.pj = []) (hq : WalQuiet fs) (hrep : Rep T fs.pd fs.wf) (b : BootRes) (m : Mem)
    (hpm : b.ps.pm = fs.pd.hdr) (hbm : b.ps.bm = fs.pd.bm) (hst : b.m0.idStart = fs.pd.hdr.i2eStart)
    (hlen : b.m0.idLen = fs.pd.hdr.i2eLen) (hex : b.m0.exts = (bootMem fs.pd).exts) (hwal : b.m0.walOpen = true)
    (htc : b.m0.tailChecked = false) :
    Blk (SafeFS [T]) (fun _ _ => True) (replayA cfg fs.pd fs.wf b) fs m
      (fun g mm => g.wf = fs.wf ∧ ∃ cs c, InvOpen T g mm cs c ∧ mm.tailChecked = false) := by
  obtain ⟨cs, c, hcom, hlog, hp, hst'⟩ := hrep
  obtain ⟨hexts, hplan⟩ := plan_of_rep hlog hp
  rw [← hex, show (bootMem fs.pd).idLen = b.m0.idLen from hlen.symm] at hplan
  have hlenN : fs.pd.hdr.i2eLen + ((allNodes T).drop fs.pd.hdr.i2eLen).length = (allNodes T).length := by
    have := hp.hi; simp; omega
  obtain ⟨hB, hS, st⟩ := NG.enter (N' := allNodes T) (ps := b.ps) (id := { start := b.m0.idStart, len := b.m0.idLen }) hp (fun _ _ => rfl)
    (inert_of_nil hpj) rfl (by rw [hpm]; exact SameKey.refl _) (Nat.le_of_eq hbm.symm) hlen hst
  have hnodes := blk_nodes (cfg := cfg) hp.booted hsync (replayMem fs.pd b (scan cs))
    hq hcom hlog hst' rfl hB hS st hp.lo hp.hi rfl rfl rfl
  rw [replayA_eq cfg fs.pd fs.wf b cs _ _ hcom hst'.segs hplan, List.append_assoc]
  refine .mem _ <| hnodes.post_safe.append
    fun g mm ⟨n, hsafe⟩ => .mem _ <| .nil hsafe ⟨n.wf, cs, c, ?_, ?_⟩
  · obtain ⟨pmF, bmF, stF, hmm⟩ := n.mem
    subst hmm
    exact {
      pj := n.pj
      wal := WalStable.of_quiet n.quiet (by rw [n.wf]; exact hcom)
      log := hlog
      pager := n.pager
      store := n.store
      full := n.full
      mpm := n.mpm
      mbm := n.mbm
      mlen := by
        show b.m0.idLen + _ = _
        rw [hlen, hlenN]
      mstart := n.mstart
      mexts := by
        show b.m0.exts ++ (allNodes T).drop fs.pd.hdr.i2eLen = allNodes T
        rw [hex, hexts, List.take_append_drop]
      mruns := rfl
      msegs := by show (scan cs).segs.map (fun k => (k, segEdges fs.pd k)) = _; rw [n.segs]
      mroot := rfl
      mptop := rfl
      mepoch := rfl
      mtxid := by
        show (scan cs).maxTxid < max ((scan cs).maxTxid + 1) 1
        omega
      mwal := hwal }
  · obtain ⟨pmF, bmF, stF, hmm⟩ := n.mem
    subst hmm; exact htc

/-- recovery as a block (`C02.open_every_step`): on files that represent `T` and have nothing
    unsynced, every prefix of the I/O steps of `open` leaves every crash image representing `T`;
    `open` succeeds, leaves the log as it is, and the handle satisfies the invariant for `T`. -/
theorem blk_open {cfg : Cfg} {T : List Tx} {fs : FS} (hsync : cfg.syncSlot = true)
    (hpj : fs.pj = []) (hq : WalQuiet fs) (hrep : Rep T fs.pd fs.wf) :
    Blk (SafeFS [T]) (fun _ _ => True) (openA cfg fs.pv fs.wf) fs {}
      (fun g mm => g.wf = fs.wf ∧ ∃ cs c, InvOpen T g mm cs c ∧ mm.tailChecked = false) := by
  rw [show fs.pv = fs.pd by simp [FS.pv, hpj, applyEffs]]
  obtain ⟨es, _, hboot⟩ := bootA_booted cfg fs.pd hrep.booted
  unfold openA
  rw [hboot]
  exact .mem _ <| .mem _ <| .mem _ <| replay_blk (fun _ => hsync) hpj hq hrep (bootedRes fs.pd es) _ rfl rfl rfl rfl rfl rfl rfl

end Nervus.Crash
