/-
  C11 on F1a, the model side: one MATCH clause followed by core clauses — the filters the planner stacks on a plan,
  WHERE push-down, how the first MATCH compiles, and node patterns.
-/
import Nervus.Proofs.CypherCore
namespace Nervus.Cy
open Nervus.Cy Nervus.Cy.Compile

variable (A : Algebra) (env : Env)

/-! ### filters the planner stacks on a plan -/

/-- the predicate of the Filter that `applyFilters · x m` adds (`exec_applyFilters`) -/
def pushedOK (x : String) (m : Preds) (r : Row) : Bool :=
  match m.lookup x with
  | some fields => fields.all fun kv => evalBool A env r (.cmp .eq (.prop x kv.1) kv.2)
  | none => true

theorem exec_applyFilters (P : Plan) (R : Table) (h : Exec.exec A env P = .ok R) (x : String) (m : Preds) :
    Exec.exec A env (applyFilters P x m) = .ok (R.filter (pushedOK A env x m)) := by
  unfold applyFilters pushedOK
  cases m.lookup x with
  | none => simpa [filter_const_true] using h
  | some fields => exact (exec_andChain A env P R h _).trans (by simp only [List.all_map]; rfl)

theorem outKinds_applyFilters (P : Plan) (x : String) (m : Preds) : outKinds (applyFilters P x m) = outKinds P := by
  unfold applyFilters; split
  · split <;> rfl
  · rfl

theorem outKinds_applyLabelFilters (P : Plan) (x : String) (ls : List String) :
    outKinds (applyLabelFilters P x ls) = outKinds P := by
  unfold applyLabelFilters; split <;> rfl

/-! ### what `extract_predicates` pushes down is implied by the WHERE it was extracted from -/

theorem mem_insertSorted {β} (m : List (String × β)) (k : String) (v : β) (p : String × β)
    (h : p ∈ insertSorted m k v) : p = (k, v) ∨ p ∈ m := by
  fun_induction insertSorted m k v with
  | case1 => simpa using h
  | case2 k' v' rest h1 => simpa using h
  | case3 k' v' rest h1 h2 => rcases List.mem_cons.mp h with h | h <;> simp [h]
  | case4 k' v' rest h1 h2 ih =>
    rcases List.mem_cons.mp h with h | h
    · simp [h]
    · rcases ih h with h | h <;> simp [h]

theorem mem_lookup_predsInsert {m : Preds} {x k : String} {v : Expr} {x' : String} {fields : List (String × Expr)}
    {kv : String × Expr} (hl : (predsInsert m x k v).lookup x' = some fields) (hkv : kv ∈ fields) :
    (x' = x ∧ kv = (k, v)) ∨ ∃ f0, m.lookup x' = some f0 ∧ kv ∈ f0 := by
  unfold predsInsert at hl
  rw [lookup_insertSorted] at hl
  by_cases hx : (x' == x) = true
  · have hxx : x' = x := by simpa using hx
    subst hxx
    simp only [hx, ↓reduceIte, Option.some.injEq] at hl
    subst hl
    rcases mem_insertSorted _ k v kv hkv with rfl | hmem
    · exact Or.inl ⟨rfl, rfl⟩
    · cases hm : m.lookup x' with
      | none => simp [hm] at hmem
      | some f0 => exact Or.inr ⟨f0, rfl, by simpa [hm] using hmem⟩
  · simp only [hx, Bool.false_eq_true, ↓reduceIte] at hl
    exact Or.inr ⟨fields, hl, hkv⟩

def PredsHold (m : Preds) (r : Row) : Prop :=
  ∀ x fields, m.lookup x = some fields → ∀ kv ∈ fields, evalBool A env r (.cmp .eq (.prop x kv.1) kv.2) = true

theorem PredsHold.insert (m : Preds) (r : Row) (h : PredsHold A env m r) (x k : String) (v : Expr)
    (hv : evalBool A env r (.cmp .eq (.prop x k) v) = true) : PredsHold A env (predsInsert m x k v) r := by
  intro x' fields hl kv hkv
  rcases mem_lookup_predsInsert hl hkv with ⟨rfl, rfl⟩ | ⟨f0, h0, hmem⟩
  · exact hv
  · exact h x' f0 h0 kv hmem

theorem PredsHold.nil (r : Row) : PredsHold A env [] r := by
  intro x fields hl; simp [List.lookup] at hl

/-- `=` of the value algebra is symmetric (true of every equality the engine implements; needed because
    `extract_predicates` also accepts `<literal> = x.k`) -/
def EqSymm (A : Algebra) : Prop := ∀ a b, A.cmp .eq a b = A.cmp .eq b a

theorem extractPredicates_hold (hsym : EqSymm A) (r : Row) (w : Expr) :
    ∀ m, evalBool A env r w = true → PredsHold A env m r → PredsHold A env (extractPredicates w m) r := by
  induction w with
  | bool op a b iha ihb =>
    intro m hw hm
    cases op with
    | and =>
      rw [evalBool_and, Bool.and_eq_true] at hw
      exact ihb _ hw.2 (iha _ hw.1 hm)
    | _ => exact hm
  | cmp op a b _ _ =>
    intro m hw hm
    cases op with
    | eq =>
      have hw' : evalBool A env r (.cmp .eq b a) = true := by
        simp only [evalBool, eval] at hw ⊢
        rw [hsym]; exact hw
      have chk : ∀ (l rr : Expr) (m : Preds), evalBool A env r (.cmp .eq l rr) = true → PredsHold A env m r →
          PredsHold A env (match l, rr with
            | .prop x k, .lit v => predsInsert m x k (.lit v)
            | .prop x k, .param p => predsInsert m x k (.param p)
            | _, _ => m) r := by
        intro l rr m hlr hm
        split
        · exact PredsHold.insert A env m r hm _ _ _ hlr
        · exact PredsHold.insert A env m r hm _ _ _ hlr
        · exact hm
      exact chk b a _ hw' (chk a b m hw hm)
    | _ => exact hm
  | _ => intro m _ hm; exact hm

theorem pushedOK_of_hold (x : String) (m : Preds) (r : Row) (h : PredsHold A env m r) : pushedOK A env x m r = true := by
  unfold pushedOK
  cases hl : m.lookup x with
  | none => rfl
  | some fields => exact List.all_eq_true.mpr fun kv hkv => h x fields hl kv hkv

theorem pushedOK_of_where (hsym : EqSymm A) (x : String) (w : Expr) (r : Row) (hw : evalBool A env r w = true) :
    pushedOK A env x (extractPredicates w []) r = true :=
  pushedOK_of_hold A env x _ r (extractPredicates_hold A env hsym r w [] hw (PredsHold.nil A env r))

/-- the values `extract_predicates` records are literals or parameters -/
def ClosedVal : Expr → Prop
  | .lit _ => True | .param _ => True | _ => False

def PredsClosed (m : Preds) : Prop := ∀ x fields, m.lookup x = some fields → ∀ kv ∈ fields, ClosedVal kv.2

theorem PredsClosed.insert (m : Preds) (h : PredsClosed m) (x k : String) (v : Expr) (hv : ClosedVal v) :
    PredsClosed (predsInsert m x k v) := by
  intro x' fields hl kv hkv
  rcases mem_lookup_predsInsert hl hkv with ⟨rfl, rfl⟩ | ⟨f0, h0, hmem⟩
  · exact hv
  · exact h x' f0 h0 kv hmem

theorem extractPredicates_closed (w : Expr) : ∀ m, PredsClosed m → PredsClosed (extractPredicates w m) := by
  induction w with
  | bool op a b iha ihb =>
    intro m hm
    cases op with
    | and => exact ihb _ (iha _ hm)
    | _ => exact hm
  | cmp op a b _ _ =>
    intro m hm
    cases op with
    | eq =>
      have chk : ∀ (l rr : Expr) (m : Preds), PredsClosed m →
          PredsClosed (match l, rr with
            | .prop x k, .lit v => predsInsert m x k (.lit v)
            | .prop x k, .param p => predsInsert m x k (.param p)
            | _, _ => m) := by
        intro l rr m hm
        split
        · exact PredsClosed.insert m hm _ _ _ trivial
        · exact PredsClosed.insert m hm _ _ _ trivial
        · exact hm
      exact chk b a _ (chk a b m hm)
    | _ => exact hm
  | _ => intro m hm; exact hm

theorem pushedOK_congr (x : String) (w : Expr) (r r' : Row) (h : r.get x = r'.get x) :
    pushedOK A env x (extractPredicates w []) r = pushedOK A env x (extractPredicates w []) r' := by
  unfold pushedOK
  cases hl : (extractPredicates w []).lookup x with
  | none => rfl
  | some fields =>
    apply all_congr_mem
    intro kv hkv
    have hc := extractPredicates_closed w [] (fun x f h => by simp [List.lookup] at h) x fields hl kv hkv
    obtain ⟨k, v⟩ := kv
    cases v <;> simp [ClosedVal] at hc <;> simp [evalBool, eval, h]

theorem pushedOK_nil (x : String) : pushedOK A env x [] = fun _ => true := rfl

/-! ### how the first MATCH of a query compiles -/

def predsOf (tail : Query) : Preds := match tail with | .where_ w :: _ => extractPredicates w [] | _ => []

theorem compileClauses_match (pats : List PathPat) (rest : Query) (l : Loop) :
    compileClauses (.match_ false pats :: rest) l =
      (compileMatch l.plan pats (predsOf rest) l.st).bind fun ps =>
        compileClauses rest { plan := some ps.1, st := ps.2 } := rfl

theorem compileMatch_single (input : Option Plan) (raw : PathPat) (preds : Preds) (s : St) :
    compileMatch input [raw] preds s =
      let known := match input with | some p => outKinds p | none => []
      let p := maybeReanchor raw known
      (validatePattern p known).bind fun _ =>
        let fs := match p.start.var with | some v => (v, s) | none => genName s
        if boundAsNode known fs.1 || usesOuter p known || (p.start :: p.steps.map (·.2)).any (fun np =>
            match np.var with | some v => boundAsNode known v | none => false) then
          .ok (compileChain input p preds known fs.2)
        else
          let c := compileChain none p preds known fs.2
          .ok (match input with | some existing => .cartesianProduct existing c.1 | none => c.1, c.2) := by
  simp only [compileMatch, List.forIn_cons, List.forIn_nil, bind, Except.bind, pure, Except.pure]
  generalize validatePattern _ _ = v
  cases v with
  | error e => rfl
  | ok u =>
    generalize (boundAsNode _ _ || usesOuter _ _ || List.any _ _) = c
    cases c <;> rfl

theorem maybeReanchor_nil (p : PathPat) : maybeReanchor p [] = p := by
  unfold maybeReanchor
  split
  · rfl
  · dsimp only
    split
    · rfl
    · rename_i h
      exact absurd (by cases (lastNode p).var <;> simp [boundAsNode, List.lookup]) h

theorem validatePattern_nil (p : PathPat) : validatePattern p [] = .ok () := by
  unfold validatePattern
  simp only [bind, Except.bind, pure, Except.pure]
  cases p.start.var <;> simp only [List.lookup] <;>
  · rw [forIn_yield_ok]
    intro x _
    obtain ⟨rp, np⟩ := x
    cases rp.var <;> cases np.var <;> rfl

/-- on an empty plan nothing is bound: no re-anchoring, nothing to validate, the pattern is compiled as a chain of
    its own -/
theorem compileMatch_fresh (p : PathPat) (preds : Preds) (s : St) :
    compileMatch none [p] preds s =
      .ok (compileChain none p preds [] (match p.start.var with | some _ => s | none => (genName s).2)) := by
  have hany : ((p.start :: p.steps.map (·.2)).any fun np =>
      match np.var with | some v => boundAsNode [] v | none => false) = false := by
    rw [List.any_eq_false]; intro np _; cases np.var <;> simp [boundAsNode, List.lookup]
  rw [compileMatch_single]
  simp only [maybeReanchor_nil, validatePattern_nil, Except.bind]
  rw [if_neg (by rw [hany]; exact Bool.false_ne_true)]
  cases p.start.var <;> rfl

theorem denote_match (pats : List PathPat) (tail : Query) (hs : Spec.WellScoped (.match_ false pats :: tail)) :
    Spec.denote A env (.match_ false pats :: tail) =
      Spec.denoteClauses A env tail (Spec.denoteMatch A env false pats [[]]) := by
  unfold Spec.denote
  rw [if_pos (show (Spec.scopeAfter [] _).isSome = true from hs)]
  rfl

/-- an F1a query on the model side: the MATCH (one pattern with a named start node) compiles to its chain, and
    running the core tail from that plan gives exactly what the reference's tail denotes from the PLAN's rows `R`;
    what is left is to relate `R` to the reference's rows of the MATCH -/
theorem run_match_core (p : PathPat) (a : String) (hstart : p.start.var = some a) (tail : Query) (R : Table)
    (s s' : List String) (hexec : Exec.exec A env (compileChain none p (predsOf tail) [] {}).1 = .ok R)
    (hK : KOk (outKinds (compileChain none p (predsOf tail) [] {}).1) s)
    (hc : coreClauses true tail = true) (hs : Spec.scopeAfter s tail = some s') :
    Exec.run A env (.match_ false [p] :: tail) = (Spec.denoteClauses A env tail R).map Spec.Result.rows := by
  have hcomp : compileClauses (.match_ false [p] :: tail) {} = compileClauses tail
      { plan := some (compileChain none p (predsOf tail) [] {}).1, st := (compileChain none p (predsOf tail) [] {}).2 } := by
    rw [compileClauses_match, compileMatch_fresh, hstart]; rfl
  unfold Exec.run compile
  rw [hcomp]
  exact core_induction A env tail true _ R s s' hc hs rfl (fun _ => rfl) hexec hK

/-- `F preds`: the rows of the MATCH plan compiled with push-down map `preds`.  Only a WHERE right behind the MATCH
    makes `predsOf` non-empty, and it is the first thing the tail applies: when that filter cannot tell
    `F (extractPredicates w [])` from `F []`, neither can the tail. -/
theorem denoteClauses_predsOf (F : Preds → Table) (tail : Query)
    (h : ∀ w, (F (extractPredicates w [])).filter (evalBool A env · w) = (F []).filter (evalBool A env · w)) :
    Spec.denoteClauses A env tail (F (predsOf tail)) = Spec.denoteClauses A env tail (F []) := by
  cases tail with
  | nil => rfl
  | cons c rest => cases c <;> first | rfl | (simp only [Spec.denoteClauses, predsOf]; rw [h])

theorem filter_filter_implied {α} (l : List α) (q w : α → Bool) (h : ∀ x, w x = true → q x = true) :
    (l.filter q).filter w = l.filter w := by
  rw [List.filter_filter]
  apply List.filter_congr
  intro x _
  by_cases hw : w x = true
  · simp [hw, h x hw]
  · simp [hw]

/-! ### F1a, node patterns: `MATCH (a:L1:L2…)` as the first clause, then core clauses -/

/-- the plan `compile_pattern_chain` builds for a fresh single-node pattern without property map -/
def nodePlan (a : String) (ls : List String) (preds : Preds) : Plan :=
  let start : Plan := .nodeScan a ls.head?
  let start := match ls.head?, (preds.lookup a).bind (·.head?) with
    | some l, some (field, v) => Plan.indexSeek a l field v start
    | _, _ => start
  applyLabelFilters (applyFilters start a preds) a ls

/-- the plan a chain starts from when its first node is `(a:la)`: the incoming plan (joined with a scan of `a` unless
    it binds `a`) or the node plan, under the filters on `a` -/
def chainStart (input : Option Plan) (a : String) (la : List String) (preds : Preds) (known : Kinds) : Plan :=
  match input with
  | some existing =>
    applyLabelFilters (applyFilters
      (if boundAsNode known a then existing else .cartesianProduct existing (.nodeScan a la.head?)) a preds) a la
  | none => nodePlan a la preds

theorem compileChain_named (input : Option Plan) (a : String) (la : List String) (steps : List (RelPat × NodePat))
    (preds : Preds) (known : Kinds) (s : St) :
    compileChain input ⟨⟨some a, la, []⟩, steps⟩ preds known s =
      compileChain.hops known (genPath s).1 (chainStart input a la preds known) a preds [] (genPath s).2 steps := by
  unfold compileChain chainStart nodePlan
  cases input with
  | none => rfl
  | some P => simp only [extendPreds, List.foldl_nil]; split <;> rfl

theorem hops_single (known : Kinds) (path : String) (plan : Plan) (cur : String) (lp : Preds) (lb : List String)
    (s : St) (ev : Option String) (rels : List String) (dir : Dir) (d : String) (dl : List String) :
    compileChain.hops known path plan cur lp lb s [(⟨ev, rels, dir, []⟩, ⟨some d, dl, []⟩)] =
      (let h := applyFilters (mkHop dir plan cur rels ev d dl (lb.contains cur || boundAsNode known cur) (some path)) d lp
       match ev with | some ea => applyFilters h ea lp | none => h, s) := by
  cases ev <;> rfl

theorem compileChain_node (a : String) (ls : List String) (preds : Preds) (s : St) :
    compileChain none ⟨⟨some a, ls, []⟩, []⟩ preds [] s = (nodePlan a ls preds, (genPath s).2) := by
  rw [compileChain_named]; rfl

def nodeRows (a : String) (ls : List String) (preds : Preds) : Table :=
  ((scanRows env a ls.head?).filter (pushedOK A env a preds)).filter (labelOK A env a ls)

theorem exec_nodePlan (a : String) (ls : List String) (preds : Preds) :
    Exec.exec A env (nodePlan a ls preds) = .ok (nodeRows A env a ls preds) := by
  unfold nodePlan
  apply exec_applyLabelFilters
  apply exec_applyFilters
  cases ls.head? with
  | none => rfl
  | some l =>
    cases (preds.lookup a).bind (·.head?) with
    | none => rfl
    | some fv => obtain ⟨f, v⟩ := fv; rfl

theorem outKinds_nodePlan (a : String) (ls : List String) (preds : Preds) :
    outKinds (nodePlan a ls preds) = [(a, Kind.node)] := by
  unfold nodePlan
  rw [outKinds_applyLabelFilters, outKinds_applyFilters]
  cases ls.head? with
  | none => rfl
  | some l =>
    cases (preds.lookup a).bind (·.head?) with
    | none => rfl
    | some fv =>
      obtain ⟨f, v⟩ := fv
      simp [outKinds, outKindsAcc, mergeKind, List.lookup, insertSorted]

theorem nodeRows_shape (a : String) (ls : List String) (preds : Preds) :
    ∀ r ∈ nodeRows A env a ls preds, ∃ id, r = [(a, Val.node id)] := by
  intro r hr
  obtain ⟨n, _, rfl⟩ := List.mem_map.mp (List.mem_filter.mp (List.mem_filter.mp hr).1).1
  exact ⟨n.id, rfl⟩

theorem nodeRows_nodup (hg : env.g.NodesDistinct) (a : String) (ls : List String) (preds : Preds) :
    (nodeRows A env a ls preds).Nodup := by
  unfold nodeRows scanRows
  apply List.Pairwise.filter
  apply List.Pairwise.filter
  rw [List.pairwise_map]
  refine (List.Pairwise.filter _ hg).imp ?_
  intro x y hxy h
  simp at h
  exact hxy h

theorem nodeRows_pushdown (hsym : EqSymm A) (a : String) (ls : List String) (w : Expr) :
    (nodeRows A env a ls (extractPredicates w [])).filter (evalBool A env · w) =
      (nodeRows A env a ls []).filter (evalBool A env · w) := by
  unfold nodeRows
  rw [pushedOK_nil, filter_const_true, filter_filter_comm _ (pushedOK A env a _),
    filter_filter_implied _ _ _ (pushedOK_of_where A env hsym a w)]

theorem denoteMatch_single (p : PathPat) :
    Spec.denoteMatch A env false [p] [[]] = (Spec.matchPath A env [] [] p).map (·.1) := by
  simp [Spec.denoteMatch, Spec.matches_, Spec.matchPats]

theorem node_rows_eq (hg : env.g.NodesDistinct) (a : String) (la : List String) :
    nodeRows A env a la [] =
      (env.g.nodes.filter fun n => la.all (env.g.hasLabel n.id)).map fun n => [(a, Val.node n.id)] := by
  unfold nodeRows
  rw [pushedOK_nil, filter_const_true, scanRows_labelOK A env hg]

theorem spec_node_rows (hg : env.g.NodesDistinct) (a : String) (ls : List String) :
    Spec.denoteMatch A env false [⟨⟨some a, ls, []⟩, []⟩] [[]] = nodeRows A env a ls [] := by
  rw [node_rows_eq A env hg, denoteMatch_single, matchPath_fresh_steps A env [] [] a (by simp [Row.cols])]
  simp [Spec.matchSteps, ← List.map_eq_flatMap]

end Nervus.Cy
