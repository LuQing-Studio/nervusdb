/-
  Generic theorems about transducers (`Trans`): an operator that answers an `Err` input item with
  an `Err` first (`ErrFwd`) preserves errors (`ErrPreserved`), stops pulling at the first error
  (`StopsAtError`), and — given the step-wise relation `StepRel` between its limited and its unlimited
  version (lockstep over equal states) — maps `LimRel`-related inputs to `LimRel`-related outputs
  (`StepRel.run`).  The inductions follow the recursion of `Trans.need` (`Trans.need_induct`).
-/
import Nervus.Proofs.Streams
namespace Nervus.PlanOps

section
variable {σ ε ρ : Type}

/-- the `next()` call that pulled an `Err` item returns an `Err` -/
def ErrFwd (t : Trans σ ε ρ) : Prop :=
  ∀ st e, t.done st = false → ∃ e' rest, (t.step st (.error e)).2 = .error e' :: rest

theorem Trans.run_nil (t : Trans σ ε ρ) (st : σ) : t.run st [] = if t.done st then [] else t.flush st := rfl

theorem Trans.run_cons (t : Trans σ ε ρ) (st : σ) (x : Except ε ρ) (xs : Stream ε ρ) :
    t.run st (x :: xs) = if t.done st then [] else (t.step st x).2 ++ t.run (t.step st x).1 xs := rfl

theorem Trans.run_done (t : Trans σ ε ρ) (st : σ) (s : Stream ε ρ) (h : t.done st = true) : t.run st s = [] := by
  cases s <;> exact if_pos h

theorem Trans.run_nil_go (t : Trans σ ε ρ) {st : σ} (h : t.done st = false) : t.run st [] = t.flush st := by
  rw [Trans.run_nil, h]; rfl

theorem Trans.run_cons_go (t : Trans σ ε ρ) {st : σ} (h : t.done st = false) (x : Except ε ρ) (xs : Stream ε ρ) :
    t.run st (x :: xs) = (t.step st x).2 ++ t.run (t.step st x).1 xs := by
  rw [Trans.run_cons, h]; rfl

theorem Trans.need_stop (t : Trans σ ε ρ) {st : σ} {d : Nat} (h : d = 0 ∨ t.done st = true) (s : Stream ε ρ) :
    t.need st s d = 0 := by
  cases s <;> exact if_pos h

theorem Trans.need_cons_go (t : Trans σ ε ρ) {st : σ} (h : t.done st = false) (x : Except ε ρ) (xs : Stream ε ρ)
    (d : Nat) : t.need st (x :: xs) (d + 1) =
      if d + 1 ≤ (t.step st x).2.length then 1
      else 1 + t.need (t.step st x).1 xs (d + 1 - (t.step st x).2.length) :=
  if_neg (by simp [h])

theorem Trans.need_induct (t : Trans σ ε ρ) {motive : σ → Stream ε ρ → Nat → Prop}
    (stop : ∀ st s d, d = 0 ∨ t.done st = true → motive st s d)
    (nil : ∀ st d, t.done st = false → motive st [] (d + 1))
    (cons : ∀ st x xs d, t.done st = false →
      ((t.step st x).2.length < d + 1 → motive (t.step st x).1 xs (d + 1 - (t.step st x).2.length)) →
      motive st (x :: xs) (d + 1))
    (st : σ) (s : Stream ε ρ) (d : Nat) : motive st s d := by
  induction s generalizing st d with
  | nil =>
    cases d with
    | zero => exact stop _ _ _ (.inl rfl)
    | succ d => cases h : t.done st with
      | true => exact stop _ _ _ (.inr h)
      | false => exact nil _ _ h
  | cons x xs ih =>
    cases d with
    | zero => exact stop _ _ _ (.inl rfl)
    | succ d => cases h : t.done st with
      | true => exact stop _ _ _ (.inr h)
      | false => exact cons _ _ _ _ h fun _ => ih _ _

theorem Trans.need_zero (t : Trans σ ε ρ) (st : σ) (s : Stream ε ρ) : t.need st s 0 = 0 :=
  t.need_stop (.inl rfl) s

theorem Trans.need_le (t : Trans σ ε ρ) (st : σ) (s : Stream ε ρ) (d : Nat) : t.need st s d ≤ s.length + 1 := by
  induction st, s, d using t.need_induct with
  | stop st s d h => rw [t.need_stop h]; exact Nat.zero_le _
  | nil st d h => exact Nat.le_of_eq (if_neg (by simp [h]))
  | cons st x xs d h ih =>
    rw [t.need_cons_go h]
    split
    · exact Nat.le_add_left 1 _
    · rw [Nat.add_comm]; exact Nat.succ_le_succ (ih (by omega))

theorem ErrFwd.isOk_of_allOk {t : Trans σ ε ρ} (hf : ErrFwd t) {st : σ} (hd : t.done st = false)
    {x : Except ε ρ} {n : Nat} (h : allOk ((t.step st x).2.take (n + 1)) = true) : Item.isOk x = true := by
  cases x with
  | ok r => rfl
  | error e => obtain ⟨e', rest, he⟩ := hf st e hd; simp [he] at h

/-- C22 per operator, in the form the induction over `Plan` uses (`Sound.ok`) -/
theorem Trans.pulled_ok (t : Trans σ ε ρ) (hf : ErrFwd t) (st : σ) (s : Stream ε ρ) (d : Nat)
    (h : allOk ((t.run st s).take d) = true) : allOk (s.take (t.need st s d)) = true := by
  induction st, s, d using t.need_induct with
  | stop st s d hs => rw [t.need_stop hs]; rfl
  | nil => simp
  | cons st x xs d hd ih =>
    rw [t.run_cons_go hd, allOk_take_append, Bool.and_eq_true] at h
    have hx := hf.isOk_of_allOk hd h.1
    rw [t.need_cons_go hd]
    split
    · simp [hx]
    · rw [Nat.add_comm, List.take_succ_cons, allOk_cons, hx, ih (by omega) h.2]; rfl

/-- C22 per operator (`ErrPreserved`, Spec/Streams) -/
theorem Trans.errPreserved (t : Trans σ ε ρ) (hf : ErrFwd t) : ErrPreserved t := by
  intro st s d hex
  have h1 : allOk (s.take (t.need st s d)) = false := (not_allOk_iff _).2 hex
  cases h2 : allOk ((t.run st s).take d) with
  | false => exact (not_allOk_iff _).1 h2
  | true => rw [t.pulled_ok hf st s d h2] at h1; cases h1

/-- C33 (bounded extra work) per operator, in the form the induction over `Plan` uses (`Sound.good`):
    a consumer that does not call again after an `Err` makes the operator such a consumer of its input -/
theorem Trans.calls (t : Trans σ ε ρ) (hf : ErrFwd t) (st : σ) (s : Stream ε ρ) (d : Nat)
    (h : Calls (t.run st s) d) : Calls s (t.need st s d) := by
  induction st, s, d using t.need_induct with
  | stop st s d hs => rw [t.need_stop hs]; rfl
  | nil => simp [Calls]
  | cons st x xs d hd ih =>
    rw [t.run_cons_go hd] at h
    rw [t.need_cons_go hd]
    split
    · rfl
    · have hout := Calls.allOk_of_lt _ _ _ h (by omega)
      have hx := hf.isOk_of_allOk (n := (t.step st x).2.length) hd (allOk_take _ _ hout)
      have hrest := ih (by omega) (Calls.append_right _ _ _ h)
      rw [Calls, Nat.add_sub_cancel_left]
      cases hn : t.need (t.step st x).1 xs (d + 1 - (t.step st x).2.length) with
      | zero => rfl
      | succ n => rw [hn] at hrest; rw [List.take_succ_cons, allOk_cons, hx]; exact hrest

/-- C33 per operator (`StopsAtError`, Spec/Streams) -/
theorem Trans.stopsAtError (t : Trans σ ε ρ) (hf : ErrFwd t) : StopsAtError t := by
  intro st pre e rest _
  have h := t.calls hf st _ _ (Calls.driver (t.run st (pre ++ .error e :: rest)))
  rw [Calls, allOk_take_append, Bool.and_eq_true] at h
  -- the pulls before the last one do not reach the `Err` item
  cases hk : t.need st (pre ++ .error e :: rest) (driverDemand (t.run st (pre ++ .error e :: rest))) - 1 - pre.length with
  | zero => omega
  | succ k => rw [hk] at h; simp at h

end

/-! ### limited vs unlimited version of an operator -/

section
variable {σ ε ρ : Type}

/-- step-wise relation between the limited (`tL`) and the unlimited (`tU`) version of an operator over
    the same state: emissions are `LimRel`-related, an error-free limited emission is THE unlimited
    emission (and leads to the same state), and an `Err` item is answered with an `Err` first.
    `flush` is kept apart (`StepRel`): ORDER BY and aggregation relate at the end of the input only
    where the final work parks no failure (`block_parks_limRel`) -/
structure StepRelCore (isLimit : ε → Bool) (tL tU : Trans σ ε ρ) : Prop where
  done : ∀ st, tL.done st = tU.done st
  step : ∀ st x, LimRel isLimit (tL.step st x).2 (tU.step st x).2 ∧
    (allOk (tL.step st x).2 = true → tL.step st x = tU.step st x)
  fwd : ∀ st e, tL.done st = false → ∃ e' rest, (tL.step st (.error e)).2 = .error e' :: rest ∧
    (e' = e ∨ isLimit e' = true)

structure StepRel (isLimit : ε → Bool) (tL tU : Trans σ ε ρ) : Prop extends StepRelCore isLimit tL tU where
  flush : ∀ st, LimRel isLimit (tL.flush st) (tU.flush st)

/-- lockstep over a common input prefix -/
theorem StepRel.lockstep {isLimit : ε → Bool} {tL tU : Trans σ ε ρ} (h : StepRel isLimit tL tU)
    (P : Stream ε ρ) (st : σ) (ta tb : Stream ε ρ)
    (k : ∀ st', tL.done st' = false → LimRel isLimit (tL.run st' ta) (tU.run st' tb)) :
    LimRel isLimit (tL.run st (P ++ ta)) (tU.run st (P ++ tb)) := by
  induction P generalizing st with
  | nil =>
    cases hd : tL.done st with
    | true => rw [tL.run_done _ _ hd, tU.run_done _ _ (h.done st ▸ hd)]; exact .refl _ _
    | false => exact k st hd
  | cons x xs ih =>
    cases hd : tL.done st with
    | true => rw [tL.run_done _ _ hd, tU.run_done _ _ (h.done st ▸ hd)]; exact .refl _ _
    | false =>
      rw [List.cons_append, List.cons_append, tL.run_cons_go hd, tU.run_cons_go (h.done st ▸ hd)]
      obtain ⟨hrel, heq⟩ := h.step st x
      cases ho : allOk (tL.step st x).2 with
      | true => rw [← heq ho]; exact LimRel.append_left _ _ _ _ (ih _)
      | false => exact LimRel.append_of_err _ _ _ _ _ hrel ho

theorem StepRel.run {isLimit : ε → Bool} {tL tU : Trans σ ε ρ} (h : StepRel isLimit tL tU)
    (st : σ) (sa sb : Stream ε ρ) (hs : LimRel isLimit sa sb) :
    LimRel isLimit (tL.run st sa) (tU.run st sb) := by
  rcases hs with hc | ⟨pre, e, hc, hl, hp⟩
  · rcases of_cut_eq sa sb hc with ⟨rfl, _⟩ | ⟨pre, e, ta, tb, _, rfl, rfl⟩
    · have := h.lockstep sa st [] [] fun st' hd => by
        rw [tL.run_nil_go hd, tU.run_nil_go (h.done st' ▸ hd)]; exact h.flush st'
      simpa using this
    · -- both sides pull the same `Err` item in the same state
      refine h.lockstep pre st _ _ fun st' hd => ?_
      rw [tL.run_cons_go hd, tU.run_cons_go (h.done st' ▸ hd)]
      obtain ⟨e', r', he, _⟩ := h.fwd st' e hd
      exact LimRel.append_of_err _ _ _ _ _ (h.step st' (.error e)).1 (by rw [he]; rfl)
  · -- the limited side pulls a limit error where the unlimited input goes on
    obtain ⟨_, ta, rfl⟩ := of_cut_eq_append_error sa pre e hc
    obtain ⟨tb, rfl⟩ := hp
    refine h.lockstep pre st _ _ fun st' hd => ?_
    rw [tL.run_cons_go hd]
    obtain ⟨e', r', he, hle⟩ := h.fwd st' e hd
    rw [he]
    exact LimRel.of_stop isLimit [] e' _ _ (hle.elim (fun h => h ▸ hl) id) ⟨_, rfl⟩

end

end Nervus.PlanOps
