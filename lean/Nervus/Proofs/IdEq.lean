/-
  Proofs/IdEq.lean — two idmaps that no caller can tell apart (same node table, same label vectors,
  same external-id lookups): the idmap rebuilt by `open` vs. the one kept in memory.
-/
import Nervus.Model.Engine
namespace Nervus.Storage

structure IdEq (m m' : IdMap) : Prop where
  i2e : m.i2e = m'.i2e
  i2l : m.i2l = m'.i2l
  lookup : ∀ x, m.lookup x = m'.lookup x

theorem IdEq.refl (m : IdMap) : IdEq m m := ⟨rfl, rfl, fun _ => rfl⟩
theorem IdEq.symm {a b : IdMap} (h : IdEq a b) : IdEq b a := ⟨h.i2e.symm, h.i2l.symm, fun x => (h.lookup x).symm⟩
theorem IdEq.trans {a b c : IdMap} (h1 : IdEq a b) (h2 : IdEq b c) : IdEq a c :=
  ⟨h1.i2e.trans h2.i2e, h1.i2l.trans h2.i2l, fun x => (h1.lookup x).trans (h2.lookup x)⟩
theorem IdEq.of_eq {a b : IdMap} (h : a = b) : IdEq a b := h ▸ IdEq.refl a

/-- the outcome of a step on two related idmaps -/
def StepRel (a b : Except IdMap.Err IdMap) : Prop :=
  match a, b with
  | .ok x, .ok y => IdEq x y
  | .error e, .error e' => e = e'
  | _, _ => False

theorem applyCreate_ideq {m m' : IdMap} (h : IdEq m m') (x l iid : Nat) :
    StepRel (m.applyCreate x l iid) (m'.applyCreate x l iid) := by
  unfold IdMap.applyCreate IdMap.nextId
  have hl : m.e2i.lookup x = m'.e2i.lookup x := h.lookup x
  rw [h.i2e, hl]
  by_cases h1 : (iid != m'.i2e.length) = true
  · simp only [h1, if_true]; exact rfl
  · simp only [h1, Bool.false_eq_true, if_false]
    by_cases h2 : (m'.e2i.lookup x).isSome = true
    · simp only [h2, if_true]; exact rfl
    · simp only [h2, Bool.false_eq_true, if_false]
      refine ⟨by simp, by simp [h.i2l], ?_⟩
      intro y
      show ((x, iid) :: m.e2i).lookup y = ((x, iid) :: m'.e2i).lookup y
      simp only [List.lookup_cons]
      have := h.lookup y
      unfold IdMap.lookup at this
      rw [this]

theorem applyAddLabel_ideq {m m' : IdMap} (h : IdEq m m') (n l : Nat) :
    StepRel (m.applyAddLabel n l) (m'.applyAddLabel n l) := by
  unfold IdMap.applyAddLabel
  rw [h.i2l]
  cases m'.i2l[n]? with
  | none => exact rfl
  | some ls => exact ⟨h.i2e, rfl, h.lookup⟩

theorem applyRemoveLabel_ideq {m m' : IdMap} (h : IdEq m m') (n l : Nat) :
    StepRel (m.applyRemoveLabel n l) (m'.applyRemoveLabel n l) := by
  unfold IdMap.applyRemoveLabel
  rw [h.i2l]
  cases m'.i2l[n]? with
  | none => exact rfl
  | some ls => exact ⟨h.i2e, rfl, h.lookup⟩

theorem foldStop_ideq {β} (f : IdMap → β → Except IdMap.Err IdMap)
    (hf : ∀ m m' b, IdEq m m' → StepRel (f m b) (f m' b)) :
    ∀ (l : List β) (m m' : IdMap), IdEq m m' →
      IdEq (foldStop f m l).1 (foldStop f m' l).1 ∧ (foldStop f m l).2 = (foldStop f m' l).2 := by
  intro l
  induction l with
  | nil => intro m m' h; exact ⟨h, rfl⟩
  | cons b bs ih =>
    intro m m' h
    have := hf m m' b h
    simp only [foldStop]
    cases h1 : f m b with
    | ok a =>
      cases h2 : f m' b with
      | ok a' => rw [h1, h2] at this; exact ih a a' this
      | error e => rw [h1, h2] at this; exact absurd this (by simp [StepRel])
    | error e =>
      cases h2 : f m' b with
      | ok a' => rw [h1, h2] at this; exact absurd this (by simp [StepRel])
      | error e' =>
        rw [h1, h2] at this
        have : e = e' := this
        subst this
        exact ⟨h, rfl⟩

theorem applyIdmap_ideq {m m' : IdMap} (h : IdEq m m') (created : List (Nat × Nat × Nat)) (addL delL : List (Nat × Nat)) :
    IdEq (applyIdmap m created addL delL).1 (applyIdmap m' created addL delL).1 ∧
    (applyIdmap m created addL delL).2 = (applyIdmap m' created addL delL).2 := by
  unfold applyIdmap
  obtain ⟨a1, a2⟩ := foldStop_ideq (fun m (c : Nat × Nat × Nat) => m.applyCreate c.1 c.2.1 c.2.2)
    (fun m m' c hh => applyCreate_ideq hh c.1 c.2.1 c.2.2) created m m' h
  cases h1 : foldStop (fun m (c : Nat × Nat × Nat) => m.applyCreate c.1 c.2.1 c.2.2) m created with
  | mk x ex =>
  cases h2 : foldStop (fun m (c : Nat × Nat × Nat) => m.applyCreate c.1 c.2.1 c.2.2) m' created with
  | mk y ey =>
  rw [h1, h2] at a1 a2
  simp only at a1 a2
  subst a2
  cases ex with
  | some e => exact ⟨a1, rfl⟩
  | none =>
    simp only
    obtain ⟨b1, b2⟩ := foldStop_ideq (fun m (p : Nat × Nat) => m.applyAddLabel p.1 p.2)
      (fun m m' p hh => applyAddLabel_ideq hh p.1 p.2) addL x y a1
    cases h3 : foldStop (fun m (p : Nat × Nat) => m.applyAddLabel p.1 p.2) x addL with
    | mk x2 ex2 =>
    cases h4 : foldStop (fun m (p : Nat × Nat) => m.applyAddLabel p.1 p.2) y addL with
    | mk y2 ey2 =>
    rw [h3, h4] at b1 b2
    simp only at b1 b2
    subst b2
    cases ex2 with
    | some e => exact ⟨b1, rfl⟩
    | none =>
      simp only
      exact foldStop_ideq (fun m (p : Nat × Nat) => m.applyRemoveLabel p.1 p.2)
        (fun m m' p hh => applyRemoveLabel_ideq hh p.1 p.2) delL x2 y2 b1

end Nervus.Storage
