/-
  Proofs.CrashTree — point lookups in an intact property-tree leaf: the literal binary search of
  `Page::leaf_lower_bound` on a sorted slot array finds exactly the entries of the leaf.  The search is the
  `bsLoop` of the B-tree model run on this array (`lowerBoundAux_eq_bsLoop`), so its specification is
  `BTree.bsLoop_spec`.
-/
import Nervus.Model.IOSteps
import Nervus.Proofs.BTreeSearch
namespace Nervus.Crash

def SortedNat (xs : List Nat) : Prop := ∀ i j, i < j → j < xs.length → xs.getD i 0 ≤ xs.getD j 0

theorem getD_map_some (xs : List Nat) (i : Nat) (h : i < xs.length) :
    (xs.map some).getD i none = some (xs.getD i 0) := by
  simp [List.getD, List.getElem?_map, List.getElem?_eq_getElem h]

theorem lowerBoundAux_eq_bsLoop (es : List (Option Nat)) (q : Nat) : ∀ (fuel lo hi : Nat),
    BTree.bsLoop (fun i => some (optLt (es.getD i none) q)) fuel lo hi = some (lowerBoundAux es q fuel lo hi)
  | 0, _, _ => rfl
  | fuel + 1, lo, hi => by
    simp only [BTree.bsLoop, lowerBoundAux]
    split
    · cases optLt (es.getD ((lo + hi) / 2) none) q
      · exact lowerBoundAux_eq_bsLoop es q fuel lo _
      · exact lowerBoundAux_eq_bsLoop es q fuel _ hi
    · rfl

theorem lowerBound_spec (xs : List Nat) (q : Nat) (hs : SortedNat xs) :
    (∀ i, i < lowerBound (xs.map some) q → xs.getD i 0 < q) ∧
      (∀ i, lowerBound (xs.map some) q ≤ i → i < xs.length → q ≤ xs.getD i 0) := by
  have hg : ∀ i, i < xs.length → some (optLt ((xs.map some).getD i none) q) = some (decide (xs.getD i 0 < q)) :=
    fun i hi => by rw [getD_map_some xs i hi]; rfl
  obtain ⟨r, hr, _, hlow, hhigh⟩ := BTree.bsLoop_spec _ xs.length (fun i => decide (xs.getD i 0 < q)) hg
    (fun i j hij hj hp => by
      rcases Nat.eq_or_lt_of_le hij with rfl | hlt
      · exact hp
      · exact decide_eq_true (Nat.lt_of_le_of_lt (hs i j hlt hj) (of_decide_eq_true hp)))
    (xs.length + 1) 0 xs.length (Nat.zero_le _) (Nat.le_refl _) (Nat.le_succ _)
    (fun _ h => absurd h (Nat.not_lt_zero _)) (fun i h1 h2 => absurd h2 (Nat.not_lt.mpr h1))
  rw [lowerBoundAux_eq_bsLoop] at hr
  cases hr
  simp only [lowerBound, List.length_map]
  exact ⟨fun i hi => of_decide_eq_true (hlow i hi),
    fun i h1 h2 => Nat.le_of_not_lt (of_decide_eq_false (hhigh i h1 h2))⟩

theorem mem_iff_getD (xs : List Nat) (q : Nat) : q ∈ xs ↔ ∃ i, i < xs.length ∧ xs.getD i 0 = q := by
  constructor
  · intro h
    obtain ⟨i, hi, he⟩ := List.mem_iff_getElem.mp h
    exact ⟨i, hi, by simp [List.getD, List.getElem?_eq_getElem hi, he]⟩
  · rintro ⟨i, hi, he⟩
    rw [← he]
    simp [List.getD, List.getElem?_eq_getElem hi]

theorem lowerBound_finds (xs : List Nat) (hs : SortedNat xs) (q : Nat) (hq : q ∈ xs) :
    lowerBound (xs.map some) q < xs.length ∧ (xs.map some).getD (lowerBound (xs.map some) q) none = some q := by
  obtain ⟨hlow, hhigh⟩ := lowerBound_spec xs q hs
  generalize lowerBound (xs.map some) q = r at hlow hhigh ⊢
  obtain ⟨j, hj, he⟩ := (mem_iff_getD xs q).mp hq
  have hjr : r ≤ j := Nat.le_of_not_lt fun h' => by have := hlow j h'; omega
  have hrl : r < xs.length := by omega
  have h1 := hhigh r (Nat.le_refl _) hrl
  have h2 : xs.getD r 0 ≤ xs.getD j 0 := by
    by_cases hrj : r = j
    · rw [hrj]; exact Nat.le_refl _
    · exact hs r j (by omega) hj
  exact ⟨hrl, by rw [getD_map_some xs r hrl]; congr 1; omega⟩

theorem mem_of_slot (xs : List Nat) (r q : Nat) (hr : r < xs.length)
    (h : ((xs.map some).getD r none == some q) = true) : q ∈ xs := by
  rw [getD_map_some xs r hr] at h
  exact (mem_iff_getD xs q).mpr ⟨r, hr, by simpa using h⟩

theorem leafFind_at (leaves : List LeafImg) (i : Nat) (xs : List Nat) (sib : Bool) (pid : Nat)
    (hl : leaves[i]? = some ⟨xs.map some, sib, pid⟩) (hs : SortedNat xs) (q : Nat) (hq : q ∈ xs) :
    leafFind leaves i q = true := by
  obtain ⟨h1, h2⟩ := lowerBound_finds xs hs q hq
  simp only [leafFind, hl, List.length_map, if_pos h1, h2, beq_self_eq_true]

theorem leafFind_single (xs : List Nat) (hs : SortedNat xs) (pid : Nat) (q : Nat) :
    leafFind [⟨xs.map some, false, pid⟩] 0 q = true ↔ q ∈ xs := by
  refine ⟨fun h => ?_, leafFind_at _ 0 xs false pid rfl hs q⟩
  simp only [leafFind, List.getElem?_cons_zero, List.length_map] at h
  split at h
  · exact mem_of_slot xs _ q ‹_› h
  · simp at h

end Nervus.Crash
