/-
  Proofs/Staging.lean — what staging a write transaction does to the engine: it interns names
  (`get_or_create_label`: label table, one mini-transaction in the log, txid counter) and, while
  `set_vector` is not staged, inserts a vector.  Every relation that holds across these two steps
  holds along a whole staged transaction; in particular the frames `TxFrame` (what no part of a write
  transaction touches) and `StageFrame` (staging also leaves idmap and runs alone).
-/
import Nervus.Proofs.EngineSimBase
namespace Nervus.Storage
open Nervus.GraphSpec (TxOp)

theorem createNode_fields (s : Engine) (t : Txn) (x l : Nat) (r : Txn × Nat) (h : t.createNode s x l = some r) :
    r.1.mt = t.mt ∧ r.1.delL = t.delL ∧ r.1.addL = t.addL ∧ r.1.txid = t.txid := by
  unfold Txn.createNode at h
  split at h
  · cases h
  · split at h <;> cases h
    exact ⟨rfl, rfl, rfl, rfl⟩

theorem stepTx_engine (c : Cfg) (s : Engine) (t : Txn) (op : TxOp) :
    (stepTx c (s, t) op).1 = s ∨ (∃ nm, (stepTx c (s, t) op).1 = (s.getOrCreateLabel nm).1) ∨
    ∃ n v, c.vecStaged = false ∧ (stepTx c (s, t) op).1 = { s with vecs := upsert n v s.vecs } := by
  cases op with
  | node x lab =>
    have : (stepTx c (s, t) (.node x lab)).1 = (internLabel s lab).1 := by simp only [stepTx]; split <;> rfl
    rw [this]
    cases lab with
    | none => exact .inl rfl
    | some l => exact .inr (.inl ⟨l, rfl⟩)
  | vec n v =>
    rw [show (stepTx c (s, t) (.vec n v)).1 = (t.setVector c s n v).1 from rfl, Txn.setVector]
    split
    · exact .inl rfl
    · next h => exact .inr (.inr ⟨n, v, Bool.eq_false_iff.mpr h, rfl⟩)
  | tombNode | nprop | npropDel => exact .inl rfl
  | labelAdd _ nm | labelDel _ nm | edge _ nm | tombEdge _ nm | eprop _ nm | epropDel _ nm =>
    exact .inr (.inl ⟨nm, rfl⟩)

theorem stepTx_engine_rel {R : Engine → Engine → Prop} (refl : ∀ s, R s s)
    (gocl : ∀ s l, R s (s.getOrCreateLabel l).1)
    (vec : ∀ (s : Engine) n v, R s { s with vecs := upsert n v s.vecs })
    (c : Cfg) (st : Engine × Txn) (op : TxOp) : R st.1 (stepTx c st op).1 := by
  show R st.1 (stepTx c (st.1, st.2) op).1
  rcases stepTx_engine c st.1 st.2 op with h | ⟨nm, h⟩ | ⟨n, v, _, h⟩ <;> rw [h]
  · exact refl _
  · exact gocl _ nm
  · exact vec _ n v

theorem fold_engine_rel {R : Engine → Engine → Prop} (refl : ∀ s, R s s)
    (trans : ∀ {a b d}, R a b → R b d → R a d) {c : Cfg}
    (step : ∀ (st : Engine × Txn) op, R st.1 (stepTx c st op).1) (ops : List TxOp) :
    ∀ st : Engine × Txn, R st.1 (ops.foldl (stepTx c) st).1 := by
  induction ops with
  | nil => intro st; exact refl _
  | cons op ops ih => intro st; exact trans (step st op) (ih _)

/-- what no part of a write transaction touches (staging, `commit`, dropping it): segments, property
    tree, manifest state; the txid counter only grows -/
structure TxFrame (s s' : Engine) : Prop where
  segs : s'.segs = s.segs
  segStore : s'.segStore = s.segStore
  store : s'.store = s.store
  storeRoot : s'.storeRoot = s.storeRoot
  propsRoot : s'.propsRoot = s.propsRoot
  nextSegId : s'.nextSegId = s.nextSegId
  epoch : s'.epoch = s.epoch
  ckptTxid : s'.ckptTxid = s.ckptTxid
  nextTxid : s.nextTxid ≤ s'.nextTxid

theorem TxFrame.refl (s : Engine) : TxFrame s s := ⟨rfl, rfl, rfl, rfl, rfl, rfl, rfl, rfl, Nat.le_refl _⟩

theorem TxFrame.trans {a b d : Engine} (h1 : TxFrame a b) (h2 : TxFrame b d) : TxFrame a d :=
  ⟨h2.segs.trans h1.segs, h2.segStore.trans h1.segStore, h2.store.trans h1.store,
   h2.storeRoot.trans h1.storeRoot, h2.propsRoot.trans h1.propsRoot, h2.nextSegId.trans h1.nextSegId,
   h2.epoch.trans h1.epoch, h2.ckptTxid.trans h1.ckptTxid, Nat.le_trans h1.nextTxid h2.nextTxid⟩

structure StageFrame (s s' : Engine) : Prop extends TxFrame s s' where
  idmap : s'.idmap = s.idmap
  runs : s'.runs = s.runs

theorem StageFrame.refl (s : Engine) : StageFrame s s := ⟨TxFrame.refl s, rfl, rfl⟩

theorem StageFrame.trans {a b d : Engine} (h1 : StageFrame a b) (h2 : StageFrame b d) : StageFrame a d :=
  ⟨h1.toTxFrame.trans h2.toTxFrame, h2.idmap.trans h1.idmap, h2.runs.trans h1.runs⟩

theorem StageFrame.gocl (s : Engine) (l : Nat) : StageFrame s (s.getOrCreateLabel l).1 := by
  unfold Engine.getOrCreateLabel
  split
  · exact StageFrame.refl s
  · exact ⟨⟨rfl, rfl, rfl, rfl, rfl, rfl, rfl, rfl, Nat.le_succ _⟩, rfl, rfl⟩

theorem StageFrame.step (c : Cfg) (st : Engine × Txn) (op : TxOp) : StageFrame st.1 (stepTx c st op).1 :=
  stepTx_engine_rel StageFrame.refl StageFrame.gocl (fun _ _ _ => ⟨⟨rfl, rfl, rfl, rfl, rfl, rfl, rfl, rfl, Nat.le_refl _⟩, rfl, rfl⟩) c st op

theorem StageFrame.fold (c : Cfg) (ops : List TxOp) (st : Engine × Txn) :
    StageFrame st.1 (ops.foldl (stepTx c) st).1 :=
  fold_engine_rel StageFrame.refl StageFrame.trans (StageFrame.step c) ops st

theorem StageFrame.staged (c : Cfg) (s : Engine) (ops : List TxOp) :
    StageFrame s (ops.foldl (stepTx c) s.beginWrite).1 :=
  have f := StageFrame.fold c ops s.beginWrite
  ⟨⟨f.segs, f.segStore, f.store, f.storeRoot, f.propsRoot, f.nextSegId, f.epoch, f.ckptTxid,
    Nat.le_trans (Nat.le_succ _) f.nextTxid⟩, f.idmap, f.runs⟩

theorem TxFrame.commit (c : Cfg) (s : Engine) (t : Txn) : TxFrame s (s.commit c t).1 := by
  unfold Engine.commit
  split
  · exact ⟨rfl, rfl, rfl, rfl, rfl, rfl, rfl, rfl, Nat.le_refl _⟩
  · exact ⟨rfl, rfl, rfl, rfl, rfl, rfl, rfl, rfl, Nat.le_succ _⟩

theorem commit_interner (c : Cfg) (s : Engine) (t : Txn) : (s.commit c t).1.interner = s.interner := by
  unfold Engine.commit
  split <;> rfl

theorem TxFrame.runTx (c : Cfg) (s : Engine) (ops : List TxOp) (b : Bool) : TxFrame s (runTx c s ops b) := by
  unfold Storage.runTx
  cases b with
  | false => exact (StageFrame.staged c s ops).toTxFrame
  | true => exact (StageFrame.staged c s ops).toTxFrame.trans (TxFrame.commit c _ _)

end Nervus.Storage
