/-
  Proofs.CrashWal — the log at record granularity: a torn frame is the end of the log, the
  committed-transaction parser over complete / unfinished transaction blocks.
-/
import Nervus.Model.IOSteps
namespace Nervus.Crash

theorem readAll_frames_append (rs : List Rec) (t : List Frag) :
    readAll (frames rs ++ t) = rs ++ readAll t := by
  induction rs with
  | nil => simp [frames]
  | cons r rs ih => simp [frames, readAll, ih]

theorem readAll_frames (rs : List Rec) : readAll (frames rs) = rs := by
  have := readAll_frames_append rs []
  simpa [readAll] using this

theorem validLen_frames_append (rs : List Rec) (t : List Frag) :
    validLen (frames rs ++ t) = 3 * rs.length + validLen t := by
  induction rs with
  | nil => simp [frames]
  | cons r rs ih => simp [frames, validLen, ih]; omega

theorem frames_length (rs : List Rec) : (frames rs).length = 3 * rs.length := by
  induction rs with
  | nil => rfl
  | cons r rs ih => simp [frames, ih]; omega

theorem frames_append (a b : List Rec) : frames (a ++ b) = frames a ++ frames b := by
  induction a with
  | nil => rfl
  | cons r a ih => simp [frames, ih]

theorem validLen_eq (w : List Frag) : validLen w = 3 * (readAll w).length := by
  fun_induction readAll w
  case case1 r r' r'' rest h ih =>
    obtain ⟨rfl, rfl⟩ := h
    simp [validLen, ih]; omega
  all_goals simp_all [validLen]

theorem readAll_prefix (w : List Frag) : ∃ t, w = frames (readAll w) ++ t := by
  fun_induction readAll w
  case case1 r r' r'' rest h ih =>
    obtain ⟨t, ht⟩ := ih
    obtain ⟨rfl, rfl⟩ := h
    exact ⟨t, by simp [frames, ← ht]⟩
  all_goals exact ⟨_, rfl⟩

theorem take_validLen (w : List Frag) : w.take (validLen w) = frames (readAll w) := by
  obtain ⟨t, ht⟩ := readAll_prefix w
  rw [validLen_eq, ← frames_length]
  conv => lhs; arg 2; rw [ht]
  simp

theorem validLen_le (w : List Frag) : validLen w ≤ w.length := by
  obtain ⟨t, ht⟩ := readAll_prefix w
  rw [validLen_eq, ← frames_length, congrArg List.length ht, List.length_append]
  omega

theorem clean_eq_frames (w : List Frag) (h : validLen w = w.length) : w = frames (readAll w) := by
  have := take_validLen w
  rw [h, List.take_length] at this
  exact this

theorem readAll_take_frames : ∀ (rs : List Rec) (n : Nat), readAll ((frames rs).take n) = rs.take (n / 3)
  | [], n => by simp [frames, readAll]
  | r :: rs, 0 => by simp [readAll]
  | r :: rs, 1 => by simp [frames, readAll]
  | r :: rs, 2 => by simp [frames, readAll]
  | r :: rs, n + 3 => by
    have ih := readAll_take_frames rs n
    have : (n + 3) / 3 = n / 3 + 1 := by omega
    simp [frames, readAll, ih, this]

theorem readAll_append_take (rs rs' : List Rec) (n : Nat) :
    readAll (frames rs ++ (frames rs').take n) = rs ++ rs'.take (n / 3) := by
  rw [readAll_frames_append, readAll_take_frames]

theorem take_append_take {α : Type} (wf l : List α) (k j : Nat) (hjk : j ≤ k) :
    (wf ++ l.take k).take (wf.length + j) = wf ++ l.take j := by
  rw [List.take_length_add_append, List.take_take, Nat.min_eq_left hjk]

theorem frames_take (recs : List Rec) (i : Nat) : frames (recs.take i) = (frames recs).take (3 * i) := by
  induction recs generalizing i with
  | nil => simp [frames]
  | cons r rs ih =>
    cases i with
    | zero => simp [frames]
    | succ i =>
      have : 3 * (i + 1) = 3 * i + 3 := by omega
      simp [frames, ih, this]

/-- `committedAux` returning its whole state (open transaction, pending operations, accumulator)
    instead of the final list, so that it splits over `++` (`runP_append`) -/
def runP : List Rec → Option Nat → List Rec → List CTx → Except Err (Option Nat × List Rec × List CTx)
  | [], cur, pend, acc => .ok (cur, pend, acc)
  | .begin t :: rs, _, _, acc => runP rs (some t) [] acc
  | .commit t :: rs, cur, pend, acc =>
    if cur = some t then runP rs none [] (⟨t, pend.reverse⟩ :: acc) else .error .commitMismatch
  | r :: rs, cur, pend, acc =>
    match cur with
    | none => .error .opOutsideTx
    | some _ => runP rs cur (r :: pend) acc

theorem committedAux_eq_runP (rs : List Rec) (cur : Option Nat) (pend : List Rec) (acc : List CTx) :
    committedAux rs cur pend acc = (runP rs cur pend acc).map (fun s => s.2.2.reverse) := by
  induction rs generalizing cur pend acc with
  | nil => simp [committedAux, runP, Except.map]
  | cons r rs ih =>
    cases r <;> simp only [committedAux, runP]
    case begin t => exact ih _ _ _
    case commit t => split <;> simp [ih, Except.map]
    all_goals (cases cur <;> simp [ih, Except.map])

theorem runP_append (a b : List Rec) (cur : Option Nat) (pend : List Rec) (acc : List CTx) :
    runP (a ++ b) cur pend acc =
      (match runP a cur pend acc with
       | .ok (c, p, ac) => runP b c p ac
       | .error e => .error e) := by
  induction a generalizing cur pend acc with
  | nil => simp [runP]
  | cons r a ih =>
    cases r <;> simp only [List.cons_append, runP]
    case begin t => exact ih _ _ _
    case commit t => split <;> simp [ih]
    all_goals (cases cur <;> simp [ih])

def IsOp : Rec → Prop
  | .begin _ => False
  | .commit _ => False
  | _ => True

theorem runP_ops (ops : List Rec) (hops : ∀ r ∈ ops, IsOp r) (t : Nat) (pend : List Rec) (acc : List CTx) :
    runP ops (some t) pend acc = .ok (some t, ops.reverse ++ pend, acc) := by
  induction ops generalizing pend with
  | nil => simp [runP]
  | cons r ops ih =>
    have hr := hops r (by simp)
    have hrest : ∀ r ∈ ops, IsOp r := fun r h => hops r (by simp [h])
    cases r <;> simp [IsOp] at hr <;> simp [runP, ih hrest]

theorem runP_partial (ops : List Rec) (hops : ∀ r ∈ ops, IsOp r) (t : Nat)
    (cur : Option Nat) (pend : List Rec) (acc : List CTx) :
    runP (.begin t :: ops) cur pend acc = .ok (some t, ops.reverse, acc) := by
  simp [runP, runP_ops ops hops]

theorem runP_block (ops : List Rec) (hops : ∀ r ∈ ops, IsOp r) (t : Nat)
    (cur : Option Nat) (pend : List Rec) (acc : List CTx) :
    runP (.begin t :: ops ++ [.commit t]) cur pend acc = .ok (none, [], ⟨t, ops⟩ :: acc) := by
  have : Rec.begin t :: ops ++ [Rec.commit t] = (.begin t :: ops) ++ [.commit t] := by simp
  rw [this, runP_append, runP_partial ops hops]
  simp [runP]

theorem committed_eq (rs : List Rec) :
    committed rs = (runP rs none [] []).map (fun s => s.2.2.reverse) := committedAux_eq_runP rs none [] []

end Nervus.Crash
