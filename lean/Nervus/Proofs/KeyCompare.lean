/-
  Proofs.KeyCompare — the composed ORDER BY comparator over several ASC/DESC keys is a total preorder on rows whose
  key values come from a set on which `order_compare` is one (`keyCompare_lawsOn`, from `orderCompare_lawsOn`): a
  lexicographic step per key (`keyCompare_cons`), reversed for DESC (`dirAdj_lawsOn`).
-/
import Nervus.Model.Order
import Nervus.Proofs.OrderTotal
namespace Nervus
open F64 Value Eval Spec Order

section
variable (E : Env)

def dirAdj (d : Dir) (o : Ordering) : Ordering := if d == .asc then o else o.swap

theorem keyCompare_cons (va : Value) (da : Dir) (as : List (Value × Dir)) (vb : Value) (db : Dir)
    (bs : List (Value × Dir)) :
    keyCompare E ((va, da) :: as) ((vb, db) :: bs) =
      (dirAdj da (orderCompare E va vb)).then (keyCompare E as bs) := by
  simp only [keyCompare, dirAdj]
  cases orderCompare E va vb <;> cases da <;> simp [Ordering.then, Ordering.swap]

theorem dirAdj_lawsOn {P : Value → Prop} (h : CmpLawsOn (orderCompare E) P) (d : Dir) :
    CmpLawsOn (fun a b => dirAdj d (orderCompare E a b)) P := by
  cases d
  · exact h
  · exact h.reverse

/-- the key lists of the rows of one ORDER BY: the same directions in every row, key values from `vs` -/
def KeyOK (vs : List Value) (dirs : List Dir) (ks : List (Value × Dir)) : Prop :=
  ks.map Prod.snd = dirs ∧ ∀ kv ∈ ks, kv.1 ∈ vs

theorem keyCompare_lawsOn_aux {P : Value → Prop} (h : CmpLawsOn (orderCompare E) P) :
    ∀ (dirs : List Dir),
      CmpLawsOn (keyCompare E) (fun ks => ks.map Prod.snd = dirs ∧ ∀ kv ∈ ks, P kv.1)
  | [] => by
    refine ⟨?_, ?_⟩
    · intro a b ha hb
      have : a = [] := by simpa using ha.1
      subst this
      cases b <;> rfl
    · intro a b c ha hb hc _ _
      have ea : a = [] := by simpa using ha.1
      have eb : b = [] := by simpa using hb.1
      subst ea eb
      cases c <;> rfl
  | d :: ds => by
    have ih := keyCompare_lawsOn_aux h ds
    have hd := dirAdj_lawsOn E h d
    have shape : ∀ ks : List (Value × Dir), (ks.map Prod.snd = d :: ds ∧ ∀ kv ∈ ks, P kv.1) →
        ∃ v rest, ks = (v, d) :: rest ∧ P v ∧ (rest.map Prod.snd = ds ∧ ∀ kv ∈ rest, P kv.1) := by
      intro ks hk
      cases ks with
      | nil => simp at hk
      | cons k rest =>
        obtain ⟨v, d'⟩ := k
        simp only [List.map_cons, List.cons.injEq] at hk
        obtain ⟨⟨rfl, hr⟩, hp⟩ := hk
        exact ⟨v, rest, rfl, hp (v, d') (by simp), hr, fun kv hkv => hp kv (by simp [hkv])⟩
    refine ⟨?_, ?_⟩
    · intro a b ha hb
      obtain ⟨va, ra, rfl, pa, hra⟩ := shape a ha
      obtain ⟨vb, rb, rfl, pb, hrb⟩ := shape b hb
      rw [keyCompare_cons, keyCompare_cons, Ordering.swap_then, ← hd.swap va vb pa pb, ← ih.swap ra rb hra hrb]
    · intro a b c ha hb hc
      obtain ⟨va, ra, rfl, pa, hra⟩ := shape a ha
      obtain ⟨vb, rb, rfl, pb, hrb⟩ := shape b hb
      obtain ⟨vc, rc, rfl, pc, hrc⟩ := shape c hc
      rw [keyCompare_cons, keyCompare_cons, keyCompare_cons]
      exact Ordering.then_trans (hd.trans va vb vc pa pb pc) (ih.trans ra rb rc hra hrb hrc)

theorem keyCompare_lawsOn (vs : List Value) (h : ordOK E vs = true) (dirs : List Dir) :
    CmpLawsOn (keyCompare E) (KeyOK vs dirs) :=
  keyCompare_lawsOn_aux E (orderCompare_lawsOn E vs h) dirs
end
end Nervus
