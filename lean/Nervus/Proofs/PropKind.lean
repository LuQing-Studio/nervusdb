/-
  Proofs/PropKind.lean — node properties and relationship properties are one mechanism: a run overlay
  (removals and values per run, newest run first) over the property tree, which keeps both kinds under
  keys of its own.  What differs is collected in `PKind`; what is said about the single-key reads, the
  whole-map scan of the tree and the publication of a run is proved once, for a `PKind`.
-/
import Nervus.Proofs.EngineSimBase
import Nervus.Proofs.StoreRoot
namespace Nervus.Storage

/-- what differs between the two kinds of property: the entity a property belongs to, where a run keeps
    its removals and its values, the key of the property tree and how a key of the tree is read back -/
structure PKind (κ : Type) where
  del : Run → List (κ × Nat)
  set : Run → List ((κ × Nat) × PV)
  key : κ → Nat → SKey
  dec : SKey → Option (κ × Nat)
  dec_key : ∀ a k, dec (key a k) = some (a, k)
  key_dec : ∀ q a k, dec q = some (a, k) → q = key a k

def PKind.node : PKind Nat :=
  { del := (·.nDel), set := (·.nprops), key := SKey.node,
    dec := fun q => match q with
      | .node n k => some (n, k)
      | .edge _ _ => none
    dec_key := fun _ _ => rfl
    key_dec := fun q a k h => by cases q <;> simp at h; rw [h.1, h.2] }

def PKind.edge : PKind Edge :=
  { del := (·.eDel), set := (·.eprops), key := SKey.edge,
    dec := fun q => match q with
      | .edge e k => some (e, k)
      | .node _ _ => none
    dec_key := fun _ _ => rfl
    key_dec := fun q a k h => by cases q <;> simp at h; rw [h.1, h.2] }

namespace PKind
variable {κ : Type} [BEq κ] [LawfulBEq κ] (p : PKind κ)

/-- `node_property` / `edge_property`: run overlay first, then the tree — also when the overlay said "removed" -/
def read (s : Engine) (a : κ) (k : Nat) : Option PV :=
  match overlayRead p.del p.set a k s.runs with
  | some v => some v
  | none => s.visibleStore.get (p.key a k)

/-- the `to_fetch` scan of `extend_*_properties_from_store` -/
def fetch (st : Store) (a : κ) (props : List (Nat × PV)) : List (Nat × PV) :=
  st.filterMap (fun q =>
    match p.dec q.1 with
    | some (a', k) => if a' == a && !props.any (·.1 == k) then some (k, q.2) else none
    | none => none)

/-- the cons step of `overlayRead`, here applied to the whole single-key read: its answer after one more run
    `r` was published on top -/
def push (r : Run) (a : κ) (k : Nat) (o : Option PV) : Option PV :=
  if (p.del r).contains (a, k) then none
  else match (p.set r).lookup (a, k) with
    | some v => some v
    | none => o

omit [BEq κ] [LawfulBEq κ] in
theorem key_inj {a a' : κ} {k k' : Nat} (h : p.key a k = p.key a' k') : a = a' ∧ k = k' := by
  have := p.dec_key a k
  rw [h, p.dec_key] at this
  cases this; exact ⟨rfl, rfl⟩

/-- `hdel`: a removal in `r` over a key of the tree would let the value of the tree through (`read` falls through
    on "removed"), and `push` would not describe the read -/
theorem read_cons (x x' : Engine) (r : Run) (hr : x'.runs = r :: x.runs) (hst : x'.store = x.store)
    (hroot : x'.propsRoot = x.propsRoot) (hsr : x'.storeRoot = x.storeRoot)
    (hdel : x.propsRoot = 0 ∨ ∀ q ∈ p.del r, x.store.any (·.1 == p.key q.1 q.2) = false) (a : κ) (k : Nat) :
    p.read x' a k = p.push r a k (p.read x a k) := by
  unfold read push
  rw [hr, visibleStore_congr hst hroot hsr]
  simp only [overlayRead]
  by_cases hd : (p.del r).contains (a, k) = true
  · simp only [hd, if_true]
    rcases hdel with h0 | hc
    · rw [visibleStore_noRoot h0]; rfl
    · have hm : (a, k) ∈ p.del r := by simpa using hd
      unfold Engine.visibleStore Store.get
      have hnone : x.store.lookup (p.key a k) = none :=
        lookup_eq_none_of_not_mem_keys (fun q hq heq => by
          have : x.store.any (·.1 == p.key a k) = true := List.any_eq_true.mpr ⟨q, hq, by simp [heq]⟩
          rw [hc (a, k) hm] at this; cases this)
      split
      · rfl
      · split
        · exact hnone
        · rfl
  · simp only [hd, Bool.false_eq_true, if_false]
    cases (p.set r).lookup (a, k) <;> rfl

theorem fetch_lookup (st : Store) (a : κ) (props : List (Nat × PV)) (k : Nat) (hk : props.lookup k = none) :
    (p.fetch st a props).lookup k = st.lookup (p.key a k) := by
  unfold fetch
  have hany : props.any (·.1 == k) = false := by
    rw [Bool.eq_false_iff]; intro h
    obtain ⟨q, hq, hqk⟩ := List.any_eq_true.mp h
    simp only [beq_iff_eq] at hqk
    have := List.lookup_eq_none_iff.mp hk q hq
    simp [hqk] at this
  induction st with
  | nil => rfl
  | cons q qs ih =>
    obtain ⟨key, v⟩ := q
    rw [List.filterMap_cons, List.lookup_cons]
    cases hdq : p.dec key with
    | none =>
      have hne : (p.key a k == key) = false := by
        rw [beq_eq_false_iff_ne]; intro h; rw [← h, p.dec_key] at hdq; cases hdq
      simp only [hne, ih]
    | some ak =>
      obtain ⟨a', k'⟩ := ak
      have hkey := p.key_dec key a' k' hdq
      by_cases hm : a' = a ∧ k' = k
      · obtain ⟨rfl, rfl⟩ := hm
        simp only [hkey, beq_self_eq_true, hany, Bool.not_false, Bool.and_self, if_true, List.lookup_cons]
      · have hne : (p.key a k == key) = false := by
          rw [beq_eq_false_iff_ne, hkey]; intro h
          obtain ⟨h1, h2⟩ := p.key_inj h
          exact hm ⟨h1.symm, h2.symm⟩
        simp only [hne]
        by_cases hc : (a' == a && !props.any (·.1 == k')) = true
        · have hkk : (k == k') = false := by
            simp only [Bool.and_eq_true, beq_iff_eq] at hc
            rw [beq_eq_false_iff_ne]; intro h; exact hm ⟨hc.1, h.symm⟩
          simp only [hc, if_true, List.lookup_cons, hkk, ih]
        · simp only [Bool.not_eq_true] at hc
          simp only [hc, Bool.false_eq_true, if_false, ih]

end PKind

theorem nodeProp_eq_kind (s : Engine) (n k : Nat) : s.nodeProp n k = PKind.node.read s n k := by
  unfold Engine.nodeProp PKind.read; rw [npropRuns_eq_overlay]; rfl

theorem edgeProp_eq_kind (s : Engine) (e : Edge) (k : Nat) : s.edgeProp e k = PKind.edge.read s e k := by
  unfold Engine.edgeProp PKind.read; rw [epropRuns_eq_overlay]; rfl

theorem fetchNode_eq_kind : Store.fetchNode = PKind.node.fetch := by
  funext st n props
  unfold Store.fetchNode PKind.fetch
  congr 1; funext q
  cases q.1 <;> rfl

theorem fetchEdge_eq_kind : Store.fetchEdge = PKind.edge.fetch := by
  funext st e props
  unfold Store.fetchEdge PKind.fetch
  congr 1; funext q
  cases q.1 <;> rfl

end Nervus.Storage
