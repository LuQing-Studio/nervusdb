/-
  The tails named by C17 contain no completely written record at their head: a torn frame, zero fill,
  a bad checksum, an oversized length field (tolerant reader) — `next_record` answers end-of-log on each.
  Then the logs and the two facts about the pinned writer and reader that the counterexamples of C17 compute on.
-/
import Nervus.Proofs.WalFrame
namespace Nervus.WalFrame
open Nervus Nervus.PropVal Nervus.WalRec

theorem nextRecord_short {cfg : Cfg} (ho : cfg.oversizeIsEof = true) {t : Bytes} (h : t.length < 8) :
    nextRecord cfg t = .eof :=
  (nextRecord_lt8 cfg h).resolve_right fun ⟨hf, _⟩ => Bool.noConfusion (hf.symm.trans ho)

theorem nextRecord_oversize {cfg : Cfg} (ho : cfg.oversizeIsEof = true) {t : Bytes}
    (h : leVal (t.take 4) > cfg.maxLen) : nextRecord cfg t = .eof := by
  simp [nextRecord, ho, h]

theorem nextRecord_torn {cfg : Cfg} (ho : cfg.oversizeIsEof = true) (body : Bytes) (hb : body.length < two32)
    (k : Nat) (hk : k < 8 + body.length) : nextRecord cfg ((frame body).take k) = .eof := by
  by_cases h8 : k < 8
  · exact nextRecord_short ho (by simp [List.length_take]; omega)
  · obtain ⟨j, rfl⟩ : ∃ j, k = 8 + j := ⟨k - 8, by omega⟩
    have e : (frame body).take (8 + j) = le4 body.length ++ (le4 (crc32 body) ++ body.take j) := by
      have := List.take_length_add_append (l₁ := le4 body.length ++ le4 (crc32 body)) (l₂ := body) j
      simpa [frame] using this
    rw [e, nextRecord_header cfg hb (crc32_lt body), ho]
    by_cases hm : body.length > cfg.maxLen
    · exact if_pos hm
    · rw [if_neg hm, if_pos (by rw [List.length_take]; omega)]

/-- `len = 0`, `crc = 0` is a checksum-valid frame (`crc32 [] = 0`) whose empty body does not decode -/
theorem nextRecord_zeros {cfg : Cfg} (ho : cfg.oversizeIsEof = true) (hu : cfg.undecodableIsEof = true) (n : Nat) :
    nextRecord cfg (List.replicate n 0) = .eof := by
  by_cases h8 : n < 8
  · exact nextRecord_short ho (by simpa using h8)
  · obtain ⟨m, rfl⟩ : ∃ m, n = 8 + m := ⟨n - 8, by omega⟩
    have e : List.replicate (8 + m) (0 : UInt8) = le4 0 ++ (le4 0 ++ List.replicate m 0) := by
      rw [← List.replicate_append_replicate]; rfl
    rw [e, nextRecord_header cfg (by decide) (by decide)]
    simp [hu, decodeBody, crc32]

theorem nextRecord_bad_crc {cfg : Cfg} (ho : cfg.oversizeIsEof = true) (body rest : Bytes) (c : Nat)
    (hb : body.length < two32) (hc : c < two32) (hne : c ≠ crc32 body) :
    nextRecord cfg (le4 body.length ++ (le4 c ++ (body ++ rest))) = .eof := by
  rw [nextRecord_header cfg hb hc, ho, List.take_left]
  by_cases hm : body.length > cfg.maxLen
  · exact if_pos hm
  · rw [if_neg hm, if_neg (by simp), if_pos (Ne.symm hne)]

/-! ### witnesses of the counterexample theorems and non-vacuity examples of C17 -/

/-- the file a writer produces from scratch (empty if an append fails) -/
def logOf (cfg : Cfg) (rs : List Rec) : Bytes :=
  match appendAll cfg (walOpen []) rs with
  | .ok h => h.file
  | .error _ => []

def witnessTx : List Rec := [.beginTx 1, .createEdge 1 2 3, .commitTx 1]

/-- two committed transactions and an unfinished one -/
def witnessLog : List Rec :=
  [.beginTx 1, .createNode 10 0 0, .setNodeProperty 0 [0x6b] (.list (.cons (.str [0xC3, 0xA9]) (.cons (.float 0x7FF8000000000001) .nil))),
   .commitTx 1, .beginTx 3, .createEdge 0 1 0, .commitTx 3, .beginTx 5, .tombstoneNode 0]

theorem append_pinned_oversize (r : Rec) (body file : Bytes) (he : encodeBody WalRec.Cfg.pinned r = .ok body)
    (hb : body.length < two32) : append Cfg.pinned (walOpen file) r = .ok ⟨file ++ frame body, false⟩ := by
  unfold append
  have : Cfg.pinned.codec = WalRec.Cfg.pinned := rfl
  rw [this, he]
  simp [hb, Cfg.pinned, walOpen]

theorem nextRecord_pinned_oversize (body rest : Bytes) (hbig : 1048576 < body.length) (hb : body.length < two32) :
    nextRecord Cfg.pinned (frame body ++ rest) = .err (.tooLarge body.length) := by
  rw [frame_append, nextRecord_header _ hb (crc32_lt body), if_pos (show body.length > Cfg.pinned.maxLen from hbig)]
  rfl

end Nervus.WalFrame
