/-
  Proofs.F64Bits — the IEEE-754 field decoding `F64.ofBits` is monotone in the sign-magnitude reading of the
  bit pattern: the key `OKey.fkey` of C27's Spec compares non-NaN doubles exactly as the dyadic model does
  (`fkey_cmp`).
-/
import Nervus.Proofs.F64
import Nervus.Spec.OrderedValue
namespace Nervus
open F64

/-- magnitude (scaled by 2^1074) of the finite double whose low 63 bits are `g` -/
def mval (g : Nat) : Nat :=
  if g / 4503599627370496 = 0 then g % 4503599627370496
  else (4503599627370496 + g % 4503599627370496) * 2 ^ (g / 4503599627370496 - 1)

theorem mval_zero : mval 0 = 0 := by decide

theorem mval_lt {g1 g2 : Nat} (h : g1 < g2) : mval g1 < mval g2 := by
  have m1 : g1 % 4503599627370496 < 4503599627370496 := Nat.mod_lt g1 (by decide)
  have m2 : g2 % 4503599627370496 < 4503599627370496 := Nat.mod_lt g2 (by decide)
  have hE : g1 / 4503599627370496 ≤ g2 / 4503599627370496 := Nat.div_le_div_right (Nat.le_of_lt h)
  unfold mval
  by_cases e1 : g1 / 4503599627370496 = 0
  · by_cases e2 : g2 / 4503599627370496 = 0
    · rw [if_pos e1, if_pos e2]; omega
    · rw [if_pos e1, if_neg e2]
      have : 1 ≤ 2 ^ (g2 / 4503599627370496 - 1) := Nat.one_le_two_pow
      calc g1 % 4503599627370496 < 4503599627370496 := m1
        _ ≤ 4503599627370496 + g2 % 4503599627370496 := Nat.le_add_right _ _
        _ = (4503599627370496 + g2 % 4503599627370496) * 1 := (Nat.mul_one _).symm
        _ ≤ (4503599627370496 + g2 % 4503599627370496) * 2 ^ (g2 / 4503599627370496 - 1) :=
            Nat.mul_le_mul_left _ this
  · have e2 : ¬ g2 / 4503599627370496 = 0 := by omega
    rw [if_neg e1, if_neg e2]
    by_cases ee : g1 / 4503599627370496 = g2 / 4503599627370496
    · rw [ee]
      exact Nat.mul_lt_mul_of_pos_right (by omega) (Nat.two_pow_pos _)
    · have p1 : 2 ^ (g1 / 4503599627370496 - 1) * 2 ≤ 2 ^ (g2 / 4503599627370496 - 1) := by
        rw [← Nat.pow_succ]
        exact Nat.pow_le_pow_right (by decide) (by omega)
      calc (4503599627370496 + g1 % 4503599627370496) * 2 ^ (g1 / 4503599627370496 - 1)
          < (4503599627370496 * 2) * 2 ^ (g1 / 4503599627370496 - 1) :=
            Nat.mul_lt_mul_of_pos_right (by omega) (Nat.two_pow_pos _)
        _ = 4503599627370496 * (2 ^ (g1 / 4503599627370496 - 1) * 2) := by
            rw [Nat.mul_assoc, Nat.mul_comm 2]
        _ ≤ 4503599627370496 * 2 ^ (g2 / 4503599627370496 - 1) := Nat.mul_le_mul_left _ p1
        _ ≤ (4503599627370496 + g2 % 4503599627370496) * 2 ^ (g2 / 4503599627370496 - 1) :=
            Nat.mul_le_mul_right _ (Nat.le_add_right _ _)

theorem mval_pos {g : Nat} (h : 0 < g) : 0 < mval g := by
  have := mval_lt h; rw [mval_zero] at this; exact this

/-- the +∞ bit pattern (without sign) -/
def infPat : Nat := 0x7FF0000000000000

/-- decoding of a non-NaN bit pattern in terms of its sign bit and its low 63 bits; `9218868437227405312` is
    `infPat`, the largest magnitude field that is not a NaN (`hn`) -/
theorem ofBits_decode (b : Nat) (hb : b < 18446744073709551616) (hn : b % 9223372036854775808 ≤ 9218868437227405312) :
    tier (ofBits b) = (if b % 9223372036854775808 = 9218868437227405312 then
        (if 9223372036854775808 ≤ b then 0 else 2) else 1) ∧
    skey (ofBits b) = (if b % 9223372036854775808 = 9218868437227405312 then 0
      else if 9223372036854775808 ≤ b then -((mval (b % 9223372036854775808) : Nat) : Int)
      else ((mval (b % 9223372036854775808) : Nat) : Int)) := by
  have hs : (9223372036854775808 ≤ b % 18446744073709551616) = (9223372036854775808 ≤ b) := by
    rw [Nat.mod_eq_of_lt hb]
  have he : (b / 4503599627370496) % 2048 = (b % 9223372036854775808) / 4503599627370496 := by omega
  have hm : b % 4503599627370496 = (b % 9223372036854775808) % 4503599627370496 := by omega
  simp only [ofBits, two52, two63, two64, hs, he, hm]
  generalize hg : b % 9223372036854775808 = g at *
  by_cases hi : g = 9218868437227405312
  · subst hi
    by_cases hsgn : 9223372036854775808 ≤ b <;> simp [hsgn, tier, skey]
  · have e1 : ¬ g / 4503599627370496 = 2047 := by omega
    simp only [e1, hi, if_false]
    by_cases e0 : g / 4503599627370496 = 0
    · simp only [e0, if_true, tier, skey, key, mval, Nat.pow_zero, Nat.mul_one]
      by_cases hsgn : 9223372036854775808 ≤ b <;> simp [hsgn]
    · simp only [e0, if_false, tier, skey, key, mval]
      by_cases hsgn : 9223372036854775808 ≤ b <;> simp [hsgn]

theorem okey_isNaN_iff (b : Nat) : OKey.isNaN b = false ↔ b % 9223372036854775808 ≤ 9218868437227405312 := by
  unfold OKey.isNaN OKey.fmag OKey.two63
  constructor <;> intro h <;> simp at * <;> omega

/-- C27: the sign-magnitude key of the Spec orders non-NaN doubles exactly as the dyadic model does, and
    identifies exactly the IEEE-equal ones (±0.0) -/
theorem fkey_cmp (a b : Nat) (ha : a < 18446744073709551616) (hb : b < 18446744073709551616)
    (na : OKey.isNaN a = false) (nb : OKey.isNaN b = false) :
    cmpTK (ofBits a) (ofBits b) = cmpInt (OKey.fkey a) (OKey.fkey b) := by
  rw [okey_isNaN_iff] at na nb
  obtain ⟨ta, ka⟩ := ofBits_decode a ha na
  obtain ⟨tb, kb⟩ := ofBits_decode b hb nb
  rw [cmpTK_eq, ta, tb, ka, kb]
  simp only [OKey.fkey, OKey.fmag, OKey.two63]
  generalize hga : a % 9223372036854775808 = ga at *
  generalize hgb : b % 9223372036854775808 = gb at *
  have za : ga = 0 → ((mval ga : Nat) : Int) = 0 := fun h => by rw [h, mval_zero]; rfl
  have zb : gb = 0 → ((mval gb : Nat) : Int) = 0 := fun h => by rw [h, mval_zero]; rfl
  have pa : 0 < ga → (0 : Int) < ((mval ga : Nat) : Int) := fun h => Int.ofNat_lt.2 (mval_pos h)
  have pb : 0 < gb → (0 : Int) < ((mval gb : Nat) : Int) := fun h => Int.ofNat_lt.2 (mval_pos h)
  have m1 : ga < gb → ((mval ga : Nat) : Int) < ((mval gb : Nat) : Int) := fun h => Int.ofNat_lt.2 (mval_lt h)
  have m2 : gb < ga → ((mval gb : Nat) : Int) < ((mval ga : Nat) : Int) := fun h => Int.ofNat_lt.2 (mval_lt h)
  have m3 : ga = gb → ((mval ga : Nat) : Int) = ((mval gb : Nat) : Int) := fun h => by rw [h]
  generalize ((mval ga : Nat) : Int) = va at *
  generalize ((mval gb : Nat) : Int) = vb at *
  clear ta tb ka kb hga hgb
  by_cases ia : ga = 9218868437227405312 <;> by_cases ib : gb = 9218868437227405312
  -- an infinity is beyond every finite value of its sign: the magnitudes play no part
  iterate 3
    clear za zb pa pb m1 m2 m3
    by_cases sa : 9223372036854775808 ≤ a <;> by_cases sb : 9223372036854775808 ≤ b <;>
      simp only [ia, ib, sa, sb, if_true, if_false] <;>
      first
        | exact (cmpInt_lt.2 (by omega)).symm
        | exact (cmpInt_gt.2 (by omega)).symm
        | exact (cmpInt_eq.2 (by omega)).symm
  -- two finite values: of one sign they compare as their magnitudes do, of different signs by the sign
  by_cases sa : 9223372036854775808 ≤ a <;> by_cases sb : 9223372036854775808 ≤ b <;>
    simp only [ia, ib, sa, sb, if_true, if_false]
  · clear za zb pa pb ha hb na nb ia ib sa sb; exact cmpInt_congr (by omega) (by omega)
  · clear m1 m2 m3 ha hb na nb ia ib sa sb; exact cmpInt_congr (by omega) (by omega)
  · clear m1 m2 m3 ha hb na nb ia ib sa sb; exact cmpInt_congr (by omega) (by omega)
  · clear za zb pa pb ha hb na nb ia ib sa sb; exact cmpInt_congr (by omega) (by omega)

/-- the Spec's NaN test on bit patterns is the model's, for every bit pattern -/
theorem isNaN_ofBits (b : Nat) : (ofBits b).isNaN = OKey.isNaN b := by
  -- a magnitude beyond that of ∞: the exponent field is all ones and the fraction is not zero
  have e : OKey.isNaN b = decide ((b / 4503599627370496) % 2048 = 2047 ∧ ¬ b % 4503599627370496 = 0) := by
    unfold OKey.isNaN OKey.fmag OKey.two63
    exact decide_eq_decide.2 (by omega)
  rw [e]
  unfold ofBits two52
  by_cases h1 : (b / 4503599627370496) % 2048 = 2047
  · by_cases h2 : b % 4503599627370496 = 0
    · rw [if_pos h1, if_pos h2]; exact (decide_eq_false fun h => h.2 h2).symm
    · rw [if_pos h1, if_neg h2]; exact (decide_eq_true ⟨h1, h2⟩).symm
  · rw [if_neg h1]
    split <;> exact (decide_eq_false fun h => h1 h.1).symm

theorem fkey_lt_iff (a b : Nat) (ha : a < 18446744073709551616) (hb : b < 18446744073709551616)
    (na : OKey.isNaN a = false) (nb : OKey.isNaN b = false) :
    OKey.fkey a < OKey.fkey b ↔ F64.lt (ofBits a) (ofBits b) = true := by
  have h := fkey_cmp a b ha hb na nb
  simp only [F64.lt, F64.cmp, isNaN_ofBits, na, nb, Bool.or_self, Bool.false_eq_true,
    if_false, h]
  rw [← cmpInt_lt]
  cases cmpInt (OKey.fkey a) (OKey.fkey b) <;> simp

theorem fkey_eq_iff (a b : Nat) (ha : a < 18446744073709551616) (hb : b < 18446744073709551616)
    (na : OKey.isNaN a = false) (nb : OKey.isNaN b = false) :
    OKey.fkey a = OKey.fkey b ↔ F64.eqv (ofBits a) (ofBits b) = true := by
  have h := fkey_cmp a b ha hb na nb
  simp only [F64.eqv, F64.cmp, isNaN_ofBits, na, nb, Bool.or_self, Bool.false_eq_true,
    if_false, h]
  rw [← cmpInt_eq]
  cases cmpInt (OKey.fkey a) (OKey.fkey b) <;> simp

end Nervus
