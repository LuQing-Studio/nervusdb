/-
  Proofs.Derived — the derived `PartialOrd` of `Value` (`Value.dcmp`) is a lawful *partial* three-way
  comparison (`PLaws`): antisymmetric (`dcmp_swap`) and transitive on its `some` results (`dcmp_trans`), for all
  values.  Two notions carry this proof and those of `OrderCompare`: the transitivity law read at one triple of
  results (`PTrans`), which is what passes through a lexicographic step (`thenP_trans`, `lexP_trans`), and
  `TagFirst` — values with different tags are ordered by the tags, so the laws have to be shown within one tag only.
-/
import Nervus.Proofs.F64
import Nervus.Proofs.ValueInd
namespace Nervus
open F64 Value

/-- laws of a *partial* three-way comparison (`Option Ordering`, `none` = incomparable) -/
structure PLaws {α : Type} (c : α → α → Option Ordering) : Prop where
  swap : ∀ a b, c a b = (c b a).map Ordering.swap
  trans : ∀ a b d o1 o2, c a b = some o1 → c b d = some o2 → o1 ≠ .gt → o2 ≠ .gt → c a d = some (o1.then o2)

/-- the transitivity law at one triple of results (`x`: a with b, `y`: b with d, `z`: a with d) -/
def PTrans (x y z : Option Ordering) : Prop :=
  ∀ o1 o2, x = some o1 → y = some o2 → o1 ≠ .gt → o2 ≠ .gt → z = some (o1.then o2)

theorem thenP_swap (o r : Option Ordering) :
    (thenP o r).map Ordering.swap = thenP (o.map Ordering.swap) (r.map Ordering.swap) := by
  cases o with
  | none => rfl
  | some v => cases v <;> rfl

theorem thenP_isSome {o r : Option Ordering} (h1 : o.isSome) (h2 : r.isSome) : (thenP o r).isSome := by
  cases o with
  | none => exact h1
  | some v => cases v <;> first | exact h2 | rfl

/-- the transitivity law survives a lexicographic step (`h`: head comparisons, `t`: tail comparisons): a strict
    head decides, an equal one hands over to the tails -/
theorem thenP_trans {h1 h2 h3 t1 t2 t3 : Option Ordering} (hh : PTrans h1 h2 h3) (ht : PTrans t1 t2 t3) :
    PTrans (thenP h1 t1) (thenP h2 t2) (thenP h3 t3) := by
  intro o1 o2 e1 e2 n1 n2
  match h1, h2, hh with
  | some .eq, some .eq, hh => rw [hh _ _ rfl rfl nofun nofun]; exact ht o1 o2 e1 e2 n1 n2
  | some .eq, some .lt, hh =>
    cases e2; rw [hh _ _ rfl rfl nofun nofun]
    cases o1 <;> first | rfl | exact absurd rfl n1
  | some .lt, some .eq, hh => cases e1; rw [hh _ _ rfl rfl nofun nofun]; rfl
  | some .lt, some .lt, hh => cases e1; cases e2; rw [hh _ _ rfl rfl nofun nofun]; rfl
  | some .gt, _, _ => cases e1; exact absurd rfl n1
  | _, some .gt, _ => cases e2; exact absurd rfl n2
  | none, _, _ => cases e1
  | _, none, _ => cases e2

/-- lexicographic lifting of a partial comparison to lists, a proper prefix is smaller (`Vec<T>::partial_cmp`) -/
def lexP {α : Type} (c : α → α → Option Ordering) : List α → List α → Option Ordering
  | [], [] => some .eq
  | [], _ :: _ => some .lt
  | _ :: _, [] => some .gt
  | x :: xs, y :: ys => thenP (c x y) (lexP c xs ys)

section
variable {α : Type} {c : α → α → Option Ordering}

theorem lexP_swap : ∀ {as bs : List α}, (∀ x ∈ as, ∀ y ∈ bs, c x y = (c y x).map Ordering.swap) →
    lexP c as bs = (lexP c bs as).map Ordering.swap
  | [], [], _ | [], _ :: _, _ | _ :: _, [], _ => rfl
  | x :: _, y :: _, h => by
    rw [lexP, lexP, thenP_swap, ← h x (.head _) y (.head _),
      ← lexP_swap fun x hx y hy => h x (.tail _ hx) y (.tail _ hy)]

theorem lexP_isSome : ∀ {as bs : List α}, (∀ x ∈ as, ∀ y ∈ bs, (c x y).isSome) → (lexP c as bs).isSome
  | [], [], _ | [], _ :: _, _ | _ :: _, [], _ => rfl
  | x :: _, y :: _, h =>
    thenP_isSome (h x (.head _) y (.head _)) (lexP_isSome fun x hx y hy => h x (.tail _ hx) y (.tail _ hy))

theorem lexP_trans : ∀ {as bs ds : List α}, (∀ x ∈ as, ∀ y ∈ bs, ∀ z ∈ ds, PTrans (c x y) (c y z) (c x z)) →
    PTrans (lexP c as bs) (lexP c bs ds) (lexP c as ds)
  | [], [], _, _ => fun _ _ h1 h2 _ _ => by cases h1; exact h2
  | [], _ :: _, [], _ => fun _ _ _ h2 _ n2 => by cases h2; exact absurd rfl n2
  | [], _ :: _, _ :: _, _ => fun _ _ h1 _ _ _ => by cases h1; rfl
  | _ :: _, [], _, _ => fun _ _ h1 _ n1 _ => by cases h1; exact absurd rfl n1
  | _ :: _, _ :: _, [], _ => fun _ _ _ h2 _ n2 => by cases h2; exact absurd rfl n2
  | x :: _, y :: _, z :: _, h =>
    thenP_trans (h x (.head _) y (.head _) z (.head _))
      (lexP_trans fun x hx y hy z hz => h x (.tail _ hx) y (.tail _ hy) z (.tail _ hz))
end

theorem PLaws.ofTotal {α : Type} {c : α → α → Ordering} (h : CmpLaws c) : PLaws (fun a b => some (c a b)) where
  swap a b := congrArg some (h.swap a b)
  trans a b d o1 o2 h1 h2 n1 n2 := by
    cases h1; cases h2
    exact congrArg some (h.trans a b d n1 n2)

theorem f64cmp_plaws : PLaws F64.cmp where
  swap a b := by
    unfold F64.cmp
    by_cases h1 : a.isNaN <;> by_cases h2 : b.isNaN <;> simp [h1, h2, cmpTK_laws.swap a b]
  trans a b d o1 o2 h1 h2 n1 n2 := by
    unfold F64.cmp at *
    by_cases ha : a.isNaN <;> by_cases hb : b.isNaN <;> by_cases hd : d.isNaN <;> simp_all
    subst h1 h2
    exact cmpTK_laws.trans a b d n1 n2

/-- values with different tags are ordered by their tags (a derived `PartialOrd` by the variant index,
    `order_compare_non_null` by the rank) -/
def TagFirst {α : Type} (c : α → α → Option Ordering) (tag : α → Nat) : Prop :=
  ∀ a b, tag a ≠ tag b → c a b = some (cmpNat (tag a) (tag b))

namespace TagFirst
variable {α : Type} {c : α → α → Option Ordering} {tag : α → Nat}

/-- antisymmetry, totality and transitivity only have to be shown within one tag class -/
theorem swap (h : TagFirst c tag) {a b : α} (same : tag a = tag b → c a b = (c b a).map Ordering.swap) :
    c a b = (c b a).map Ordering.swap :=
  if hab : tag a = tag b then same hab
  else by rw [h a b hab, h b a (Ne.symm hab), cmpNat_laws.swap]; rfl

theorem isSome (h : TagFirst c tag) {a b : α} (same : tag a = tag b → (c a b).isSome) : (c a b).isSome :=
  if hab : tag a = tag b then same hab else by rw [h a b hab]; rfl

/-- a triple that is not within one tag class: with both steps not descending the tags ascend, and the step
    between different tags is strict -/
theorem trans (h : TagFirst c tag) {a b d : α}
    (same : tag a = tag b → tag b = tag d → PTrans (c a b) (c b d) (c a d)) : PTrans (c a b) (c b d) (c a d) := by
  by_cases hab : tag a = tag b
  · by_cases hbd : tag b = tag d
    · exact same hab hbd
    intro o1 o2 h1 h2 n1 n2
    rw [h b d hbd] at h2; cases h2
    have hlt : tag b < tag d := by have := cmpNat_ne_gt.1 n2; omega
    rw [h a d (by omega), cmpNat_lt.2 hlt, cmpNat_lt.2 (by omega)]
    cases o1 <;> first | rfl | exact absurd rfl n1
  · intro o1 o2 h1 h2 n1 n2
    rw [h a b hab] at h1; cases h1
    have hlt : tag a < tag b := by have := cmpNat_ne_gt.1 n1; omega
    have hle : tag b ≤ tag d := by
      by_cases hbd : tag b = tag d
      · omega
      · rw [h b d hbd] at h2; cases h2; exact cmpNat_ne_gt.1 n2
    rw [h a d (by omega), cmpNat_lt.2 hlt, cmpNat_lt.2 (by omega)]; rfl

end TagFirst

theorem dcmp_tagFirst : TagFirst dcmp vidx := fun a b h => by
  unfold dcmp
  split <;> first | exact absurd rfl h | rfl

/-- the declaration indices are pairwise distinct: refute `vidx x = vidx y` for different constructors -/
macro "vidx_absurd" h:ident : tactic => `(tactic|
  (simp [vidx, Generated.vidxNull, Generated.vidxBool, Generated.vidxInt, Generated.vidxFloat,
    Generated.vidxString, Generated.vidxList, Generated.vidxMap, Generated.vidxNodeId, Generated.vidxExternalId,
    Generated.vidxEdgeKey, Generated.vidxDateTime, Generated.vidxBlob, Generated.vidxPath] at $h:ident))

/-- the declaration indices are pairwise distinct: values with the same index have the same constructor -/
theorem ctor_of_vidx_eq {a b : Value} (h : vidx a = vidx b) :
    match a with
    | .null => b = .null
    | .bool _ => ∃ y, b = .bool y
    | .int _ => ∃ y, b = .int y
    | .float _ => ∃ y, b = .float y
    | .str _ => ∃ y, b = .str y
    | .list _ => ∃ ys, b = .list ys
    | .map _ => ∃ ys, b = .map ys
    | .nodeId _ => ∃ y, b = .nodeId y
    | .externalId _ => ∃ y, b = .externalId y
    | .edgeKey _ => ∃ y, b = .edgeKey y
    | .dateTime _ => ∃ y, b = .dateTime y
    | .blob _ => ∃ y, b = .blob y
    | .path _ _ => ∃ n e, b = .path n e := by
  cases a <;> cases b <;> first | (cases h; done) | rfl | exact ⟨_, rfl⟩ | exact ⟨_, _, rfl⟩

theorem path_cmp_laws : CmpLaws (fun (p q : List Nat × List EKey) => (cmpNatList p.1 q.1).then (cmpEKeyList p.2 q.2)) :=
  CmpLaws.lex cmpNatList_laws cmpEKeyList_laws Prod.fst Prod.snd

/-- `BTreeMap` entries compare by key, then by value -/
def dcmpEntry (p q : Str × Value) : Option Ordering := thenP (some (cmpBytes p.1 q.1)) (dcmp p.2 q.2)

theorem dcmpList_eq_lexP : ∀ a b, dcmpList a b = lexP dcmp a b
  | [], [] | [], _ :: _ | _ :: _, [] => rfl
  | _ :: xs, _ :: ys => by rw [dcmpList, lexP, dcmpList_eq_lexP xs ys]

theorem dcmpMap_eq_lexP : ∀ a b, dcmpMap a b = lexP dcmpEntry a b
  | [], [] | [], _ :: _ | _ :: _, [] => rfl
  | (_, _) :: xs, (_, _) :: ys => by rw [dcmpMap, lexP, dcmpMap_eq_lexP xs ys]; rfl

theorem PLaws.at {α : Type} {c : α → α → Option Ordering} (h : PLaws c) (a b d : α) :
    c a b = (c b a).map Ordering.swap ∧ PTrans (c a b) (c b d) (c a d) :=
  ⟨h.swap a b, h.trans a b d⟩

/-- the derived order is lawful: within one variant it is a lawful comparison of the payloads, lists and maps
    lexicographically -/
theorem dcmp_laws : ∀ (a b d : Value), dcmp a b = (dcmp b a).map Ordering.swap ∧ PTrans (dcmp a b) (dcmp b d) (dcmp a d) := by
  intro a
  induction a using Value.ind with | step a ih => ?_
  suffices same : ∀ b d, vidx a = vidx b → vidx b = vidx d →
      dcmp a b = (dcmp b a).map Ordering.swap ∧ PTrans (dcmp a b) (dcmp b d) (dcmp a d) from fun b d =>
    ⟨dcmp_tagFirst.swap fun e => (same b b e rfl).1, dcmp_tagFirst.trans fun e1 e2 => (same b d e1 e2).2⟩
  intro b d h1 h2
  have hb := ctor_of_vidx_eq h1
  have hd := ctor_of_vidx_eq (h1.trans h2)
  cases a with
  | null => cases hb; cases hd; exact (PLaws.ofTotal cmpBool_laws).at true true true
  | bool x => obtain ⟨y, rfl⟩ := hb; obtain ⟨z, rfl⟩ := hd; exact (PLaws.ofTotal cmpBool_laws).at x y z
  | int x | dateTime x => obtain ⟨y, rfl⟩ := hb; obtain ⟨z, rfl⟩ := hd; exact (PLaws.ofTotal cmpInt_laws).at x y z
  | float x => obtain ⟨y, rfl⟩ := hb; obtain ⟨z, rfl⟩ := hd; exact f64cmp_plaws.at _ _ _
  | str x | blob x => obtain ⟨y, rfl⟩ := hb; obtain ⟨z, rfl⟩ := hd; exact (PLaws.ofTotal cmpBytes_laws).at x y z
  | list xs =>
    obtain ⟨ys, rfl⟩ := hb; obtain ⟨zs, rfl⟩ := hd
    simp only [dcmp, dcmpList_eq_lexP]
    exact ⟨lexP_swap fun x hx y _ => (ih x hx y y).1, lexP_trans fun x hx y _ z _ => (ih x hx y z).2⟩
  | map xs =>
    obtain ⟨ys, rfl⟩ := hb; obtain ⟨zs, rfl⟩ := hd
    simp only [dcmp, dcmpMap_eq_lexP]
    refine ⟨lexP_swap fun p hp q _ => ?_, lexP_trans fun p hp q _ r _ =>
      thenP_trans ((PLaws.ofTotal cmpBytes_laws).trans p.1 q.1 r.1) (ih p.2 (List.mem_map_of_mem hp) q.2 r.2).2⟩
    rw [dcmpEntry, dcmpEntry, thenP_swap, ← (ih p.2 (List.mem_map_of_mem hp) q.2 q.2).1, Option.map, ← cmpBytes_laws.swap]
  | nodeId x | externalId x => obtain ⟨y, rfl⟩ := hb; obtain ⟨z, rfl⟩ := hd; exact (PLaws.ofTotal cmpNat_laws).at x y z
  | edgeKey x => obtain ⟨y, rfl⟩ := hb; obtain ⟨z, rfl⟩ := hd; exact (PLaws.ofTotal cmpEKey_laws).at x y z
  | path n e =>
    obtain ⟨n', e', rfl⟩ := hb; obtain ⟨n'', e'', rfl⟩ := hd
    exact (PLaws.ofTotal path_cmp_laws).at (n, e) (n', e') (n'', e'')

theorem dcmp_swap : ∀ (a b : Value), dcmp a b = (dcmp b a).map Ordering.swap :=
  fun a b => (dcmp_laws a b b).1

theorem dcmpList_swap : ∀ (a b : List Value), dcmpList a b = (dcmpList b a).map Ordering.swap := by
  intro a b
  rw [dcmpList_eq_lexP, dcmpList_eq_lexP]
  exact lexP_swap fun x _ y _ => dcmp_swap x y

theorem dcmp_trans : ∀ (a b d : Value) (o1 o2 : Ordering), dcmp a b = some o1 → dcmp b d = some o2 →
    o1 ≠ .gt → o2 ≠ .gt → dcmp a d = some (o1.then o2) :=
  fun a b d => (dcmp_laws a b d).2

theorem dcmpList_trans : ∀ (a b d : List Value) (o1 o2 : Ordering), dcmpList a b = some o1 → dcmpList b d = some o2 →
    o1 ≠ .gt → o2 ≠ .gt → dcmpList a d = some (o1.then o2) := by
  intro a b d
  rw [dcmpList_eq_lexP, dcmpList_eq_lexP, dcmpList_eq_lexP]
  exact lexP_trans fun x _ y _ z _ => dcmp_trans x y z

end Nervus
