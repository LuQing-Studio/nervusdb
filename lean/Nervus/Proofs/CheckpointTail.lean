/-
  Proofs/CheckpointTail.lean — after the last compaction / log rewrite (C04): transactions WITH label
  operations, reopens, and closes that find unflushed runs (so `close` does not rewrite the log).  The part
  of the pair invariant that does not speak about future checkpoints (`PairD`) is enough for them.
-/
import Nervus.Proofs.CheckpointHist
namespace Nervus.Storage
open Nervus.GraphSpec (Graph TxOp Op txWF wfFrom anyCommitted txDeletesRelWithProps
  txLabelReAdd txEdgeAndEndpointDelete txExtZero)

/-- the decidable side conditions of the tail: no removal over a store value; reopens; closes only while
    runs are unflushed (then `checkpoint_on_close` is a flush and the log stays); compactions only when there
    is nothing to compact -/
def tailSafe (c : Cfg) : Engine → List Op → Bool
  | _, [] => true
  | s, .tx ops b :: h => removalsClear (runTx c s ops b) && tailSafe c (runTx c s ops b) h
  | s, .compact :: h => s.runs.isEmpty && tailSafe c s h
  | s, .reopen :: h => match s.reopen with
    | .ok s' => tailSafe c s' h
    | .error _ => false
  | s, .close :: h => !s.runs.isEmpty && (match s.reopen with
    | .ok s' => tailSafe c s' h
    | .error _ => false)

def tailOpSafe (c : Cfg) (s : Engine) : Op → Bool
  | .tx ops b => removalsClear (runTx c s ops b)
  | .compact => s.runs.isEmpty
  | .close => !s.runs.isEmpty
  | .reopen => true

theorem close_noop {s : Engine} (h : s.runs.isEmpty = false) : s.checkpointOnClose = s := by
  unfold Engine.checkpointOnClose
  rw [h]; rfl

theorem tailSafe_cons (c : Cfg) (s : Engine) (op : Op) (h : List Op) :
    tailSafe c s (op :: h) =
      (tailOpSafe c s op && match runOp c s op with
        | .ok s' => tailSafe c s' h
        | .error _ => false) := by
  cases op with
  | tx ops b => rfl
  | reopen => rfl
  | compact =>
    cases he : s.runs.isEmpty with
    | true => simp only [tailSafe, tailOpSafe, runOp, he, compact_noop c s he]
    | false => simp only [tailSafe, tailOpSafe, he, Bool.false_and]
  | close =>
    cases he : s.runs.isEmpty with
    | true => simp only [tailSafe, tailOpSafe, he, Bool.not_true, Bool.false_and]
    | false => simp only [tailSafe, tailOpSafe, runOp, he, close_noop he]

theorem PairD.step {s u : Engine} {g : Graph} (hP : PairD s u g) (op : Op) (hs : tailOpSafe Cfg.current s op = true)
    (ho : OpOK g u.interner.length op) :
    ∃ s', runOp Cfg.current s op = .ok s' ∧ PairD s' (shadowStep Cfg.current u op) (g.opStep op) := by
  cases op with
  | tx ops b =>
    cases b with
    | true =>
      obtain ⟨p1, p2, p3, p4⟩ := ho.2.2 rfl
      exact ⟨_, rfl, hP.commit ops ho.1 ho.2.1 p4 p2 p3 p1 hs⟩
    | false => exact ⟨_, rfl, hP.abort ops ho.2.1 hs⟩
  | compact => exact ⟨_, rfl, by rw [compact_noop _ s hs]; exact hP⟩
  | reopen => exact hP.reopen
  | close =>
    show ∃ s', s.checkpointOnClose.reopen = .ok s' ∧ PairD s' u g
    rw [close_noop (by simpa [tailOpSafe] using hs)]
    exact hP.reopen

theorem hist_tail_shadow : ∀ (h : List Op) (s u : Engine) (g : Graph), PairD s u g →
    tailSafe Cfg.current s h = true → HistOK g u.interner.length h →
    ∃ s', h.foldlM (runOp Cfg.current) s = .ok s' ∧
      PairD s' (h.foldl (shadowStep Cfg.current) u) (h.foldl Graph.opStep g) := by
  intro h
  induction h with
  | nil => intro s u g hP _ _; exact ⟨s, rfl, hP⟩
  | cons op h ih =>
    intro s u g hP hs hk
    obtain ⟨ho, hk'⟩ := HistOK.cons hk
    rw [tailSafe_cons, Bool.and_eq_true] at hs
    obtain ⟨s1, h1, hP1⟩ := hP.step op hs.1 ho
    have hs2 := hs.2
    rw [h1] at hs2
    obtain ⟨s', h2, hP'⟩ := ih s1 _ _ hP1 hs2 (hk' _ (shadowStep_interner_le _ u op))
    exact ⟨s', by rw [List.foldlM_cons, h1]; exact h2, hP'⟩

theorem hist_tail : ∀ (h : List Op) (s u : Engine) (g : Graph), PairD s u g →
    tailSafe Cfg.current s h = true → wfFrom g h = true → u.interner.length + histSize h ≤ labelMax →
    anyCommitted txDeletesRelWithProps g h = false →
    anyCommitted (fun _ => txLabelReAdd) g h = false →
    anyCommitted (fun _ => txEdgeAndEndpointDelete) g h = false →
    anyCommitted (fun _ => txExtZero) g h = false →
    ∃ s' u', h.foldlM (runOp Cfg.current) s = .ok s' ∧ (txPart h).foldlM (runOp Cfg.current) u = .ok u' ∧
      PairD s' u' (h.foldl Graph.opStep g) := by
  intro h s u g hP hs hwf hb t1 t2 t3 t4
  obtain ⟨s', h1, hP'⟩ := hist_tail_shadow h s u g hP hs ⟨hwf, hb, t1, t2, t3, t4⟩
  exact ⟨s', _, h1, txPart_run _ h u, hP'⟩

/-! ### a checkpointed history followed by a tail -/

def ckptTailSafe (h₁ h₂ : List Op) : Bool :=
  ckptHistSafe Cfg.current {} h₁ &&
  (match Storage.run Cfg.current h₁ with
   | .ok s₁ => tailSafe Cfg.current s₁ h₂
   | .error _ => false)

theorem hist_ckpt_tail (h₁ h₂ : List Op) (hs : ckptTailSafe h₁ h₂ = true)
    (hwf : GraphSpec.wellFormed (h₁ ++ h₂) = true) (hsz : histSize (h₁ ++ h₂) ≤ labelMax)
    (k1 : anyCommitted txDeletesRelWithProps {} (h₁ ++ h₂) = false)
    (k2 : anyCommitted (fun _ => txLabelReAdd) {} (h₁ ++ h₂) = false)
    (k3 : anyCommitted (fun _ => txEdgeAndEndpointDelete) {} (h₁ ++ h₂) = false)
    (k4 : anyCommitted (fun _ => txExtZero) {} (h₁ ++ h₂) = false) :
    ∃ s u, Storage.run Cfg.current (h₁ ++ h₂) = .ok s ∧ Storage.run Cfg.current (txPart (h₁ ++ h₂)) = .ok u ∧
      PairD s u (GraphSpec.run (h₁ ++ h₂)) := by
  simp only [ckptTailSafe, Bool.and_eq_true] at hs
  obtain ⟨s1, hr1, hP1, hk⟩ := hist_pair_prefix h₁ h₂ {} {} {} Pair.empty hs.1
    ⟨hwf, by show 0 + _ ≤ _; omega, k1, k2, k3, k4⟩
  have hs2 := hs.2
  rw [show Storage.run Cfg.current h₁ = .ok s1 from hr1] at hs2
  obtain ⟨s, hr2, hP2⟩ := hist_tail_shadow h₂ s1 _ _ hP1.toD hs2 hk
  refine ⟨s, _, ?_, txPart_run _ _ _, ?_⟩
  · show (h₁ ++ h₂).foldlM (runOp Cfg.current) {} = _
    rw [List.foldlM_append]
    show (h₁.foldlM (runOp Cfg.current) {} >>= _) = _
    rw [hr1]; exact hr2
  · show PairD s _ ((h₁ ++ h₂).foldl Graph.opStep {})
    rw [List.foldl_append, List.foldl_append]; exact hP2

end Nervus.Storage
