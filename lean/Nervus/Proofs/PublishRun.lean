/-
  Proofs/PublishRun.lean — what publishing one more run on top of an engine state does to every read,
  expressed through the reads of the state below (segments and store included).  Used for the
  history-level C05 statement: two engines whose reads agree still agree after the same commit.
  The two neighbour iterators are one algorithm read in two directions (`Dir`); what is said about
  them is proved once, for a `Dir`.
-/
import Nervus.Proofs.WholeMapReads
import Nervus.Proofs.IterFlush
namespace Nervus.Storage

theorem contains_append_of_not_mem {bn a : List Nat} {x : Nat} (h : x ∉ bn) :
    (bn ++ a).contains x = a.contains x := by
  simp [h]

namespace Dir
variable (d : Dir)

theorem blocked_nil (e : Edge) : d.blocked [] [] e = false := by simp [blocked]

theorem blocked_append (bn a : List Nat) (be b : List Edge) (e : Edge) :
    d.blocked (bn ++ a) (be ++ b) e = (d.blocked bn be e || d.blocked a b e) := by
  unfold blocked
  rw [List.contains_append, List.contains_append]
  cases bn.contains (d.far e) <;> cases a.contains (d.far e) <;> cases be.contains e <;> cases b.contains e <;> rfl

/-- blocked sets an iterator starts with only filter what it yields and are handed on to the segment phase,
    unless they hold the node itself and stop it at once (`hs`, `runs_blocked`) -/
theorem runs_shift (n : Nat) (rel : Option Nat) (bn : List Nat) (be : List Edge) (hs : n ∉ bn)
    (rs : List Run) : ∀ (a : List Nat) (b : List Edge),
    d.runs n rel rs (bn ++ a) (be ++ b) =
      ((d.runs n rel rs a b).1.filter (fun e => !d.blocked bn be e),
       (d.runs n rel rs a b).2.map (fun f => (bn ++ f.1, be ++ f.2))) := by
  induction rs with
  | nil =>
    intro a b
    simp only [runs, contains_append_of_not_mem hs]
    split <;> simp
  | cons r rs ih =>
    intro a b
    simp only [runs, contains_append_of_not_mem hs]
    by_cases ha : a.contains n = true
    · have hm : n ∈ a := by simpa using ha
      simp [hm]
    · simp only [ha, Bool.false_eq_true, if_false]
      rw [List.append_assoc, List.append_assoc, ih]
      simp only [List.filter_append]
      congr 2
      by_cases ht : r.tombNodes.contains n = true
      · have hm : n ∈ r.tombNodes := by simpa using ht
        simp [hm]
      · simp only [ht, Bool.false_eq_true, if_false, List.filter_filter]
        apply List.filter_congr
        intro e _
        rw [blocked_append]
        cases d.blocked bn be e <;> cases d.blocked a b e <;> cases relOk rel e <;> cases (d.near e == n) <;> rfl

theorem runs_blocked (n : Nat) (rel : Option Nat) (rs : List Run) (bn : List Nat) (be : List Edge)
    (h : bn.contains n = true) : d.runs n rel rs bn be = ([], none) := by
  have hm : n ∈ bn := by simpa using h
  cases rs <;> simp [runs, hm]

end Dir

theorem mapM_filter_comp {σ} (f : σ → Option (List Edge)) (p q : Edge → Bool) (l : List σ) :
    l.mapM (fun g => (f g).map (·.filter (fun e => p e && q e))) =
      (l.mapM (fun g => (f g).map (·.filter q))).map (·.map (·.filter p)) := by
  induction l with
  | nil => rfl
  | cons g gs ih =>
    rw [mapM_cons_some, mapM_cons_some, ih]
    cases f g with
    | none => rfl
    | some x =>
      simp only [Option.map_some, Option.bind_some]
      cases gs.mapM (fun g => (f g).map (·.filter q)) with
      | none => rfl
      | some ls =>
        show some (_ :: _) = some (List.map _ (_ :: _))
        rw [List.map_cons, List.filter_filter]

/-- the answer of the iterator after one more run `r` was published on top -/
def Dir.push (d : Dir) (r : Run) (n : Nat) (rel : Option Nat) (o : Option (List Edge)) : Option (List Edge) :=
  if r.tombNodes.contains n then some []
  else o.map (fun l => (r.edges.filter (d.near · == n)).filter (relOk rel) ++
                        l.filter (fun e => !d.blocked r.tombNodes r.tombEdges e))

theorem Dir.read_cons (d : Dir) (x x' : Engine) (r : Run) (hr : x'.runs = r :: x.runs) (hs : x'.segs = x.segs)
    (n : Nat) (rel : Option Nat) : d.read x' n rel = d.push r n rel (d.read x n rel) := by
  unfold Dir.read Dir.push
  rw [hr, hs]
  simp only [Dir.runs, List.contains_nil, Bool.false_eq_true, if_false, List.nil_append]
  by_cases ht : r.tombNodes.contains n = true
  · have hm : n ∈ r.tombNodes := by simpa using ht
    simp [hm, d.runs_blocked n rel x.runs r.tombNodes r.tombEdges ht]
  · have hnm : n ∉ r.tombNodes := by simpa using ht
    simp only [ht, Bool.false_eq_true, if_false]
    have hsh := d.runs_shift n rel r.tombNodes r.tombEdges hnm x.runs [] []
    simp only [List.append_nil] at hsh
    rw [hsh]
    have hcur : (r.edges.filter (d.near · == n)).filter (fun e => relOk rel e && !d.blocked [] [] e) =
        (r.edges.filter (d.near · == n)).filter (relOk rel) := by
      apply List.filter_congr; intro e _; rw [d.blocked_nil]; simp
    rw [hcur]
    cases hfin : (d.runs n rel x.runs [] []).2 with
    | none =>
      have : d.runs n rel x.runs [] [] = ((d.runs n rel x.runs [] []).1, none) := by rw [← hfin]
      rw [this]; simp
    | some f =>
      have : d.runs n rel x.runs [] [] = ((d.runs n rel x.runs [] []).1, some (f.1, f.2)) := by rw [← hfin]
      rw [this]
      simp only [Option.map_some]
      have hm := mapM_filter_comp (fun (g : Seg) => d.seg g n rel)
        (fun e => !d.blocked r.tombNodes r.tombEdges e) (fun e => !d.blocked f.1 f.2 e) x.segs
      have hfun : (fun (g : Seg) => (d.seg g n rel).map (·.filter (fun e => !d.blocked (r.tombNodes ++ f.1) (r.tombEdges ++ f.2) e))) =
          (fun (g : Seg) => (d.seg g n rel).map (·.filter (fun e => (!d.blocked r.tombNodes r.tombEdges e) && (!d.blocked f.1 f.2 e)))) := by
        funext g; congr 1; funext l; apply List.filter_congr; intro e _; rw [d.blocked_append]; simp
      rw [hfun, hm]
      cases x.segs.mapM (fun (g : Seg) => (d.seg g n rel).map (·.filter (fun e => !d.blocked f.1 f.2 e))) with
      | none => rfl
      | some ls =>
        show some _ = some _
        dsimp only
        rw [← List.filter_flatten, List.filter_append, List.append_assoc]

theorem neighbors_cons (x x' : Engine) (r : Run) (hr : x'.runs = r :: x.runs) (hs : x'.segs = x.segs)
    (n : Nat) (rel : Option Nat) : x'.neighbors n rel = Dir.out.push r n rel (x.neighbors n rel) := by
  rw [neighbors_eq_dir, neighbors_eq_dir]; exact Dir.read_cons _ x x' r hr hs n rel

theorem incoming_cons (c : Cfg) (x x' : Engine) (r : Run) (hr : x'.runs = r :: x.runs) (hs : x'.segs = x.segs)
    (n : Nat) (rel : Option Nat) :
    x'.incoming c n rel = (Dir.inc c.csrGuard).push r n rel (x.incoming c n rel) := by
  rw [incoming_eq_dir, incoming_eq_dir]; exact Dir.read_cons _ x x' r hr hs n rel

end Nervus.Storage
