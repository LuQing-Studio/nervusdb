/-
  Per-operator lemmas for C22: every operator of the repaired tree answers an `Err` input item
  with an `Err` first (`ErrFwd`), the guard does too; what `parkT` does step by step, that a failure it
  holds back comes out next (`Owes`), and that rows handed out mean no failure was parked.  `Quirks.forwardsErr` says which trees these are; they are
  the records `Quirks.forwarding b`, over which the inductions over the plan run (`Bounded`, `Limits`).
-/
import Nervus.Proofs.Trans
namespace Nervus.PlanOps

section
variable {χ ρ ν ε κ α : Type} [DecidableEq κ]

/-! ### the trees whose operators forward `Err` items -/

/-- the operators of `Q` are the repaired ones as far as `Err` items are concerned -/
def Quirks.forwardsErr (Q : Quirks) : Prop :=
  Q.distinctDropsErr = false ∧ Q.unionDropsErr = false ∧ Q.skipDropsErr = false ∧
  Q.orderByKeepsErr = false ∧ Q.existsSwallowsErr = false ∧ Q.guardDropsFailureAtEnd = false ∧
  Q.drops = []

instance (Q : Quirks) : Decidable Q.forwardsErr := by unfold Quirks.forwardsErr; infer_instance

/-- the working tree has every repair that concerns `Err` items: DISTINCT / UNION / SKIP / ORDER BY /
    EXISTS pass them on, the guard takes a parked failure at the end of the stream too, and none of the
    16 forwarding arms is missing (flags regenerated from the source by tools/extract.py) -/
theorem Quirks.current_forwardsErr : Quirks.current.forwardsErr := by decide

/-- the records with `forwardsErr`: the repaired tree, up to what Filter does with a non-boolean predicate -/
abbrev Quirks.forwarding (b : Bool) : Quirks := ⟨false, false, false, false, b, false, false, []⟩

/-- the theorems over the plan tree are proved for `Quirks.forwarding b`, where every flag an operator
    asks for reduces to `false`; this carries them over -/
theorem Quirks.eq_of_forwardsErr {Q : Quirks} (h : Q.forwardsErr) : Q = .forwarding Q.filterNonBoolDrops := by
  obtain ⟨h1, h2, h3, h4, h5, h6, h7⟩ := h
  cases Q
  simp only at h1 h2 h3 h4 h5 h6 h7
  subst h1 h2 h3 h4 h5 h6 h7
  rfl

/-! ### `ErrFwd` for every operator -/

theorem guardT_errFwd (L : LimEnv ε) (site : Site) : ErrFwd (guardT (ρ := ρ) L site) := by
  intro st e _
  simp only [guardT]
  cases L.time site (st.calls + 1) <;> exact ⟨_, _, rfl⟩

theorem mapT_errFwd (f : ρ → Stream ε ρ) : ErrFwd (mapT f) :=
  fun _ e _ => ⟨e, [], rfl⟩

theorem distinctT_errFwd (S : Sem χ ρ ν ε κ α) : ErrFwd (distinctT (ρ := ρ) S false) :=
  fun _ e _ => ⟨e, [], rfl⟩

theorem skipT_errFwd : ErrFwd (skipT (ε := ε) (ρ := ρ) false) :=
  fun _ e _ => ⟨e, [], rfl⟩

theorem limitT_errFwd : ErrFwd (limitT (ε := ε) (ρ := ρ)) :=
  fun _ e _ => ⟨e, [], rfl⟩

theorem flatMapT_errFwd (g : Nat → ρ → Stream ε ρ) : ErrFwd (flatMapT g) :=
  fun _ e _ => ⟨e, [], rfl⟩

omit [DecidableEq κ] in
theorem orderByT_errFwd (S : Sem χ ρ ν ε κ α) (Q : Quirks) (hq : Q.orderByKeepsErr = false) (L : LimEnv ε)
    (site : Site) (env : ρ) (keys : List (χ × Bool)) : ErrFwd (orderByT S Q L site env keys) := by
  intro st e _
  simp only [orderByT, hq]
  cases L.time (.inner site) st.n <;> exact ⟨_, _, rfl⟩

theorem aggregateT_errFwd (S : Sem χ ρ ν ε κ α) (L : LimEnv ε) (site : Site) (env : ρ)
    (groupBy : List String) (aggs : List (α × String)) : ErrFwd (aggregateT S L site env groupBy aggs) := by
  intro st e _
  simp only [aggregateT]
  cases L.time (.inner site) st.n <;> exact ⟨_, _, rfl⟩

theorem loopT_errFwd (L : LimEnv ε) (timeSite : Site) (stage : String) :
    ErrFwd (loopT (ρ := ρ) L timeSite stage) := by
  intro st e _
  simp only [loopT]
  cases L.time timeSite st.n <;> exact ⟨_, _, rfl⟩

omit [DecidableEq κ] in
theorem dropErrT_false {σ : Type} (t : Trans σ ε ρ) : dropErrT false t = t := by
  cases t with
  | mk step done flush =>
    simp only [dropErrT, Trans.mk.injEq, and_true]
    funext st x
    cases x <;> rfl

omit [DecidableEq κ] in
theorem StepRelCore.dropErr {σ : Type} {isLimit : ε → Bool} {tL tU : Trans σ ε ρ} (h : StepRelCore isLimit tL tU) :
    StepRelCore isLimit (dropErrT false tL) (dropErrT false tU) := by
  rw [dropErrT_false, dropErrT_false]; exact h

omit [DecidableEq κ] in
theorem StepRel.dropErr {σ : Type} {isLimit : ε → Bool} {tL tU : Trans σ ε ρ} (h : StepRel isLimit tL tU) :
    StepRel isLimit (dropErrT false tL) (dropErrT false tU) := by
  rw [dropErrT_false, dropErrT_false]; exact h

omit [DecidableEq κ] in
theorem dropErrT_errFwd {σ : Type} {t : Trans σ ε ρ} (hf : ErrFwd t) : ErrFwd (dropErrT false t) := by
  rwa [dropErrT_false]

omit [DecidableEq κ] in
theorem dropErrs_false (s : Stream ε ρ) : dropErrs false s = s := rfl

theorem Quirks.dropsErr_of_nil (Q : Quirks) (h : Q.drops = []) (k : OpKind) : Q.dropsErr k = false := by
  simp [Quirks.dropsErr, h]

/-! ### batches of a per-row expansion -/

theorem flatMapT_run_ok (g : Nat → ρ → Stream ε ρ) (k : Nat) (r : ρ) (xs : Stream ε ρ) :
    (flatMapT g).run k (.ok r :: xs) = g k r ++ (flatMapT g).run (k + 1) xs := rfl

theorem flatMapT_run_err (g : Nat → ρ → Stream ε ρ) (k : Nat) (e : ε) (xs : Stream ε ρ) :
    (flatMapT g).run k (.error e :: xs) = .error e :: (flatMapT g).run (k + 1) xs := rfl

theorem batches_ok (g : Nat → ρ → Stream ε ρ) (k : Nat) (c : Stream ε ρ) (d : Nat)
    (h : allOk (((flatMapT g).run k c).take d) = true) :
    ∀ b ∈ batches g k c d, b.2.2 ≠ 0 ∧ allOk ((g b.1 b.2.1).take b.2.2) = true := by
  induction c generalizing k d with
  | nil => simp [batches]
  | cons x xs ih =>
    cases d with
    | zero => simp [batches]
    | succ d =>
      cases x with
      | error e => simp [flatMapT_run_err] at h
      | ok r =>
        rw [flatMapT_run_ok, allOk_take_append, Bool.and_eq_true] at h
        simp only [batches, Nat.succ_ne_zero, if_false, List.mem_cons, forall_eq_or_imp]
        exact ⟨⟨Nat.succ_ne_zero d, h.1⟩, ih _ _ h.2⟩

omit [DecidableEq κ] in
theorem joinItem_isOk (S : Sem χ ρ ν ε κ α) (l : ρ) (x : Except ε ρ) :
    Item.isOk (joinItem S l x) = Item.isOk x := by
  cases x <;> rfl

omit [DecidableEq κ] in
theorem existsRow_head_ok (Q : Quirks) (hq : Q.existsSwallowsErr = false) (r : ρ) (ss : Stream ε ρ) (n : Nat)
    (hn : n ≠ 0) (h : allOk ((existsRow Q r ss).take n) = true) : allOk (ss.take 1) = true := by
  obtain ⟨n', rfl⟩ := Nat.exists_eq_succ_of_ne_zero hn
  cases ss with
  | nil => rfl
  | cons y ys =>
    cases y with
    | ok r' => rfl
    | error e => simp [existsRow, hq] at h

omit [DecidableEq κ] in
theorem applyRow_ok (S : Sem χ ρ ν ε κ α) (L : LimEnv ε) (site : Site) (k : Nat) (r : ρ) (ss : Stream ε ρ) (n : Nat)
    (hn : n ≠ 0) (h : allOk ((applyRow S L site k r ss).take n) = true) : allOk ss = true := by
  obtain ⟨n', rfl⟩ := Nat.exists_eq_succ_of_ne_zero hn
  cases hs : allOk ss with
  | true => rfl
  | false =>
    obtain ⟨e, he⟩ := collect_error_of_not_allOk ss hs
    simp [applyRow, he] at h

end

/-! ### ORDER BY: the sort keys of EVERY collected row are checked, whatever the number of rows -/

section orderkeys
variable {χ ρ ν ε κ α : Type}

theorem orderByT_run_ok (S : Sem χ ρ ν ε κ α) (Q : Quirks) (site : Site) (env : ρ) (keys : List (χ × Bool))
    (rows : List ρ) (acc : Stream ε ρ) (n : Nat) :
    (orderByT S Q LimEnv.unlimited site env keys).run ⟨acc, n, false⟩ (rows.map .ok) =
      orderByFinish S Q LimEnv.unlimited env keys (acc.reverse ++ rows.map .ok) := by
  induction rows generalizing acc n with
  | nil => simp [Trans.run, orderByT]
  | cons r rs ih =>
    simp only [List.map_cons, Trans.run_cons]
    have hstep : (orderByT S Q LimEnv.unlimited site env keys).step ⟨acc, n, false⟩ (.ok r) =
        (⟨.ok r :: acc, n + 1, false⟩, []) := by
      cases h : Q.orderByKeepsErr <;> simp [orderByT, LimEnv.unlimited, h]
    have hdone : (orderByT S Q LimEnv.unlimited site env keys).done ⟨acc, n, false⟩ = false := rfl
    rw [hdone, hstep]
    simp only [Bool.false_eq_true, if_false, List.nil_append]
    rw [ih]
    simp

theorem mapM_first_error {β γ : Type} (f : β → Except ε γ) (pre : List β) (x : β) (post : List β) (e : ε)
    (hpre : ∀ y ∈ pre, ∃ z, f y = .ok z) (hx : f x = .error e) :
    (pre ++ x :: post).mapM f = .error e := by
  induction pre with
  | nil => simp [List.mapM_cons, hx, bind, Except.bind]
  | cons y ys ih =>
    obtain ⟨z, hz⟩ := hpre y List.mem_cons_self
    simp only [List.cons_append, List.mapM_cons, hz, bind, Except.bind]
    rw [ih (fun w hw => hpre w (List.mem_cons_of_mem _ hw))]

end orderkeys

/-! ### parked failures (`parkT`) -/

section park
variable {σ ε ρ : Type}

theorem parkT_errFwd (t : Trans σ ε ρ) (hf : ErrFwd t) (parks : σ → Except ε ρ → Option ε)
    (fp : σ → Option ε) (drop : Bool) : ErrFwd (parkT t parks fp drop) := by
  intro st e hd
  simp only [parkT]
  cases st.2 with
  | some e2 => exact hf st.1 e2 hd
  | none =>
    obtain ⟨e', rest, he⟩ := hf st.1 e hd
    simp only
    cases parks st.1 (.error e) with
    | none => exact ⟨e', rest, he⟩
    | some e2 => rw [he]; exact ⟨e2, rest, rfl⟩

theorem parkT_step_pending (t : Trans σ ε ρ) (parks : σ → Except ε ρ → Option ε) (fp : σ → Option ε) (drop : Bool)
    (a : σ) (e : ε) (x : Except ε ρ) :
    (parkT t parks fp drop).step (a, some e) x = (((t.step a (.error e)).1, none), (t.step a (.error e)).2) := rfl

theorem parkT_step_none (t : Trans σ ε ρ) (parks : σ → Except ε ρ → Option ε) (fp : σ → Option ε) (drop : Bool)
    (a : σ) (x : Except ε ρ) (h : parks a x = none) :
    (parkT t parks fp drop).step (a, none) x = (((t.step a x).1, none), (t.step a x).2) := by
  simp only [parkT, h]

theorem parkT_step_some_nil (t : Trans σ ε ρ) (parks : σ → Except ε ρ → Option ε) (fp : σ → Option ε) (drop : Bool)
    (a : σ) (x : Except ε ρ) (e : ε) (h : parks a x = some e) (ho : (t.step a x).2 = []) :
    (parkT t parks fp drop).step (a, none) x = (((t.step a x).1, some e), []) := by
  simp only [parkT, h, ho]

theorem parkT_step_some_cons (t : Trans σ ε ρ) (parks : σ → Except ε ρ → Option ε) (fp : σ → Option ε) (drop : Bool)
    (a : σ) (x : Except ε ρ) (e : ε) (y : Except ε ρ) (ys : Stream ε ρ)
    (h : parks a x = some e) (ho : (t.step a x).2 = y :: ys) :
    (parkT t parks fp drop).step (a, none) x = (((t.step a x).1, none), .error e :: ys) := by
  simp only [parkT, h, ho]

theorem parkT_flush_pending (t : Trans σ ε ρ) (parks : σ → Except ε ρ → Option ε) (fp : σ → Option ε)
    (a : σ) (e : ε) :
    (parkT t parks fp false).flush (a, some e) = (t.step a (.error e)).2 ++ t.flush (t.step a (.error e)).1 := rfl

theorem parkT_flush_some (t : Trans σ ε ρ) (parks : σ → Except ε ρ → Option ε) (fp : σ → Option ε)
    (a : σ) (e : ε) (h : fp a = some e) :
    (parkT t parks fp false).flush (a, none) = .error e :: (t.flush a).tail := by
  simp only [parkT, h]
  cases t.flush a <;> rfl

theorem parkEvents_stop (t : Trans σ ε ρ) (parks : σ → Except ε ρ → Option ε) (fp : σ → Option ε)
    {st : σ} {d : Nat} (h : d = 0 ∨ t.done st = true) (s : Stream ε ρ) : parkEvents t parks fp st s d = [] := by
  cases s <;> exact if_pos h

theorem parkEvents_nil (t : Trans σ ε ρ) (parks : σ → Except ε ρ → Option ε) (fp : σ → Option ε)
    {st : σ} (h : t.done st = false) (d : Nat) : parkEvents t parks fp st [] (d + 1) = (fp st).toList :=
  if_neg (by simp [h])

theorem parkEvents_cons (t : Trans σ ε ρ) (parks : σ → Except ε ρ → Option ε) (fp : σ → Option ε)
    {st : σ} (h : t.done st = false) (x : Except ε ρ) (xs : Stream ε ρ) (d : Nat) :
    parkEvents t parks fp st (x :: xs) (d + 1) =
      match parks st x with
      | some e => [e]
      | none =>
        if d + 1 ≤ (t.step st x).2.length then []
        else parkEvents t parks fp (t.step st x).1 xs (d + 1 - (t.step st x).2.length) :=
  if_neg (by simp [h])

/-- an operator that never says `done` answers a pending failure as it answers an `Err` input item,
    whatever input follows -/
theorem parkT_run_pending (t : Trans σ ε ρ) (hnd : ∀ st, t.done st = false)
    (parks : σ → Except ε ρ → Option ε) (fp : σ → Option ε) (st : σ) (e : ε) (s : Stream ε ρ) :
    ∃ tl, (parkT t parks fp false).run (st, some e) s = (t.step st (.error e)).2 ++ tl := by
  cases s with
  | nil => exact ⟨_, by rw [(parkT t parks fp false).run_nil_go (st := (st, some e)) (hnd st), parkT_flush_pending]⟩
  | cons x xs =>
    exact ⟨_, by rw [(parkT t parks fp false).run_cons_go (st := (st, some e)) (hnd st), parkT_step_pending]⟩

theorem parkT_pending (t : Trans σ ε ρ) (hf : ErrFwd t) (hnd : ∀ st, t.done st = false)
    (parks : σ → Except ε ρ → Option ε) (fp : σ → Option ε) (st : σ) (e : ε) (s : Stream ε ρ) :
    ∃ e' tl, (parkT t parks fp false).run (st, some e) s = .error e' :: tl := by
  obtain ⟨e', rest, he⟩ := hf st e (hnd st)
  obtain ⟨tl, h⟩ := parkT_run_pending t hnd parks fp st e s
  exact ⟨e', rest ++ tl, by rw [h, he]; rfl⟩

/-- a failure parked by an item that yields nothing is the very next item handed out, whatever follows -/
def Owes (t : Trans σ ε ρ) (parks : σ → Except ε ρ → Option ε) (fp : σ → Option ε) : Prop :=
  ∀ st x e, parks st x = some e → ∀ xs,
    ∃ tl, (parkT t parks fp false).run ((t.step st x).1, some e) xs = .error e :: tl

/-- the operators that never say `done` and hand an `Err` item on as it is (Project, Unwind, ProcedureCall) -/
theorem Owes.of_fwd (t : Trans σ ε ρ) (hnd : ∀ st, t.done st = false)
    (hfwd : ∀ st e, ∃ rest, (t.step st (.error e)).2 = .error e :: rest)
    (parks : σ → Except ε ρ → Option ε) (fp : σ → Option ε) : Owes t parks fp := by
  intro st x e _ xs
  obtain ⟨rest, he⟩ := hfwd (t.step st x).1 e
  obtain ⟨tl, h⟩ := parkT_run_pending t hnd parks fp (t.step st x).1 e xs
  exact ⟨rest ++ tl, by rw [h, he]; rfl⟩

/-- the blocking operators park nothing before the end of their input -/
theorem Owes.of_none (t : Trans σ ε ρ) (fp : σ → Option ε) : Owes t (fun _ _ => none) fp :=
  fun _ _ _ h => nomatch h

theorem Owes.pend {t : Trans σ ε ρ} {parks : σ → Except ε ρ → Option ε} {fp : σ → Option ε} (h : Owes t parks fp)
    (st : σ) (x : Except ε ρ) (e : ε) (hp : parks st x = some e) (xs : Stream ε ρ) :
    ∃ e' tl, (parkT t parks fp false).run ((t.step st x).1, some e) xs = .error e' :: tl :=
  (h st x e hp xs).elim fun tl h => ⟨e, tl, h⟩

/-- `hpend` asks only that SOME `Err` comes out next (`Owes.pend`; `parkT_pending` for any operator with `ErrFwd`
    that is never `done`) -/
theorem parkEvents_eq_nil (t : Trans σ ε ρ) (parks : σ → Except ε ρ → Option ε) (fp : σ → Option ε)
    (hpend : ∀ st x e, parks st x = some e → ∀ xs,
      ∃ e' tl, (parkT t parks fp false).run ((t.step st x).1, some e) xs = .error e' :: tl)
    (s : Stream ε ρ) (st : σ) (d : Nat)
    (h : allOk (((parkT t parks fp false).run (st, none) s).take d) = true) :
    parkEvents t parks fp st s d = [] := by
  induction st, s, d using t.need_induct with
  | stop st s d hs => exact parkEvents_stop _ _ _ hs s
  | nil st d hd =>
    rw [parkEvents_nil _ _ _ hd]
    cases hfp : fp st with
    | none => rfl
    | some e =>
      simp [(parkT t parks fp false).run_nil_go (st := (st, none)) hd, parkT_flush_some _ _ _ _ e hfp] at h
  | cons st x xs d hd ih =>
    rw [(parkT t parks fp false).run_cons_go (st := (st, none)) hd] at h
    rw [parkEvents_cons _ _ _ hd]
    cases hp : parks st x with
    | some e =>
      cases hout : (t.step st x).2 with
      | nil =>
        obtain ⟨e', tl, hp'⟩ := hpend st x e hp xs
        rw [parkT_step_some_nil _ _ _ _ _ _ e hp hout, List.nil_append, hp'] at h; cases h
      | cons y ys =>
        simp [parkT_step_some_cons _ _ _ _ _ _ e y ys hp hout] at h
    | none =>
      rw [parkT_step_none _ _ _ _ _ _ hp, allOk_take_append, Bool.and_eq_true] at h
      simp only
      split
      · rfl
      · exact ih (by omega) h.2

end park

/-! ### two nodes with a body of their own -/

section
variable {χ ρ ν ε κ α : Type} [DecidableEq κ]

omit [DecidableEq κ] in
theorem fixupBody_head_ok (S : Sem χ ρ ν ε κ α) (Q : Quirks) (L : LimEnv ε) (site : Site) (nulls : List String)
    (o f : Stream ε ρ) (n : Nat) (hn : n ≠ 0) (h : allOk ((fixupBody S Q L site nulls o f).take n) = true) :
    allOk ((dropErrT (Q.dropsErr .fixupOuter) (loopT L (.inner site) "OptionalWhereFixup.outer")).run
      ⟨0, 0, false⟩ o) = true ∧
    allOk ((dropErrT (Q.dropsErr .fixupFiltered) (loopT L (.inner (.inner site)) "OptionalWhereFixup.filtered")).run
      ⟨0, 0, false⟩ f) = true := by
  obtain ⟨n', rfl⟩ := Nat.exists_eq_succ_of_ne_zero hn
  unfold fixupBody at h
  split at h
  · simp at h
  · rename_i hco
    split at h
    · simp at h
    · rename_i hcf
      exact ⟨(collect_ok_iff _).1 ⟨_, hco⟩, (collect_ok_iff _).1 ⟨_, hcf⟩⟩

theorem parkHead_take_ok (p : Option ε) (s : Stream ε ρ) (n : Nat)
    (h : allOk ((parkHead p false s).take n) = true) : (n = 0 ∨ p = none) ∧ allOk (s.take n) = true := by
  cases p with
  | none => exact ⟨.inr rfl, h⟩
  | some e =>
    cases n with
    | zero => exact ⟨.inl rfl, rfl⟩
    | succ n => cases s <;> simp [parkHead] at h

end

end Nervus.PlanOps
