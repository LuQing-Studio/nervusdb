/-
  Proofs/EngineCompact.lean — compaction against the read path (C05): `PermOpt`, in which the neighbour reads of
  two engines are compared (equal as multisets, or both panic), and what `compact` does to the fields of the
  engine.
-/
import Nervus.Model.Engine
namespace Nervus.Storage

def NoTombs (runs : List Run) : Prop := ∀ r ∈ runs, r.tombNodes = [] ∧ r.tombEdges = []

/-- `none`: the read panics (Model/Csr: a slice out of bounds) -/
def PermOpt (a b : Option (List Edge)) : Prop :=
  (a = none ∧ b = none) ∨ ∃ l l', a = some l ∧ b = some l' ∧ l.Perm l'

theorem PermOpt.refl (o : Option (List Edge)) : PermOpt o o := by
  cases o with
  | none => exact Or.inl ⟨rfl, rfl⟩
  | some l => exact Or.inr ⟨l, l, rfl, rfl, List.Perm.refl _⟩

theorem PermOpt.symm {a b : Option (List Edge)} (h : PermOpt a b) : PermOpt b a := by
  rcases h with ⟨h1, h2⟩ | ⟨l, l', h1, h2, hp⟩
  · exact Or.inl ⟨h2, h1⟩
  · exact Or.inr ⟨l', l, h2, h1, hp.symm⟩

theorem PermOpt.trans {a b c : Option (List Edge)} (h1 : PermOpt a b) (h2 : PermOpt b c) : PermOpt a c := by
  rcases h1 with ⟨ha, hb⟩ | ⟨l, l', ha, hb, hp⟩
  · rcases h2 with ⟨_, hc⟩ | ⟨m, m', hb', _, _⟩
    · exact Or.inl ⟨ha, hc⟩
    · rw [hb] at hb'; cases hb'
  · rcases h2 with ⟨hb', _⟩ | ⟨m, m', hb', hc, hq⟩
    · rw [hb] at hb'; cases hb'
    · rw [hb] at hb'; cases hb'
      exact Or.inr ⟨l, m', ha, hc, hp.trans hq⟩

theorem blockedOut_nil (e : Edge) : blockedOut [] [] e = false := by simp [blockedOut]
theorem blockedIn_nil (e : Edge) : blockedIn [] [] e = false := by simp [blockedIn]

theorem compact_fields (c : Cfg) (s : Engine) (h : s.runs.isEmpty = false) :
    (s.compact c).runs = [] ∧ (s.compact c).idmap = s.idmap ∧ (s.compact c).interner = s.interner ∧
    (s.compact c).segs =
      (buildForward s.nextSegId (collectRunEdges (!c.compactOwnLast) s.runs [] [])).persist :: s.segs := by
  unfold Engine.compact
  rw [h]
  exact ⟨rfl, rfl, rfl, rfl⟩

theorem compact_keeps (c : Cfg) (s : Engine) :
    (s.compact c).idmap = s.idmap ∧ (s.compact c).interner = s.interner ∧ (s.compact c).vecs = s.vecs := by
  unfold Engine.compact
  cases s.runs.isEmpty <;> exact ⟨rfl, rfl, rfl⟩

theorem mapM_cons_some {α β} (f : α → Option β) (a : α) (as : List α) :
    (a :: as).mapM f = (f a).bind (fun b => (as.mapM f).map (fun bs => b :: bs)) := by
  simp only [List.mapM_cons]
  cases f a <;> cases as.mapM f <;> rfl

end Nervus.Storage
