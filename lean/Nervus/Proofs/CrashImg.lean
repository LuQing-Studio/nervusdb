/-
  Proofs.CrashImg — generic facts about program execution and crash images:
  * a program stopped at I/O step k has performed exactly the first k I/O steps; an error injected
    at step k adds the error path of that call site (`onFailAt`) and leaves the memory updates
    issued before it (`memBefore`);
  * the power-loss images of the page file are generated from the durable image by the unsynced
    operations one at a time (lost / persisted / torn), so a class of images that contains the
    durable image and is closed under every unsynced operation contains all of them.
-/
import Nervus.Model.IOSteps
namespace Nervus.Crash

/-! ### execution -/

def memUpds : List Action → List MemUpd
  | [] => []
  | .mem u :: rest => u :: memUpds rest
  | .fail _ :: _ => []
  | _ :: rest => memUpds rest

def failOf : List Action → Option Err
  | [] => none
  | .fail e :: _ => some e
  | _ :: rest => failOf rest

theorem ioSteps_append_noFail (a b : List Action) (h : failOf a = none) :
    ioSteps (a ++ b) = ioSteps a ++ ioSteps b := by
  induction a with
  | nil => rfl
  | cons x a ih =>
    cases x <;> simp [failOf] at h <;> simp [ioSteps, ih h]

theorem failOf_append (a b : List Action) :
    failOf (a ++ b) = (failOf a).orElse (fun _ => failOf b) := by
  induction a with
  | nil => simp [failOf]
  | cons x a ih => cases x <;> simp [failOf, ih]

theorem memUpds_append_noFail (a b : List Action) (h : failOf a = none) :
    memUpds (a ++ b) = memUpds a ++ memUpds b := by
  induction a with
  | nil => rfl
  | cons x a ih =>
    cases x <;> simp [failOf] at h <;> simp [memUpds, ih h]

theorem runActs_none (acts : List Action) (n : Nat) (fs : FS) (m : Mem) (log : List Step) :
    runActs acts .none n fs m log =
      { fs := fs.steps (ioSteps acts), mem := (memUpds acts).foldl applyUpd m, err := failOf acts,
        steps := log.reverse ++ ioSteps acts, fired := false, dead := false } := by
  induction acts generalizing n fs m log with
  | nil => simp [runActs, ioSteps, memUpds, failOf, FS.steps]
  | cons a acts ih =>
    cases a with
    | io s f => simp [runActs, ioSteps, memUpds, failOf, FS.steps, ih]
    | mem u => simp [runActs, ioSteps, memUpds, failOf, ih]
    | fail e => simp [runActs, ioSteps, memUpds, failOf, FS.steps]

theorem runActs_crash (acts : List Action) (k n : Nat) (fs : FS) (m : Mem) (log : List Step)
    (hk : n ≤ k) (hlt : k - n < (ioSteps acts).length) :
    (runActs acts (.crashAt k) n fs m log).dead = true ∧
    (runActs acts (.crashAt k) n fs m log).fs = fs.steps ((ioSteps acts).take (k - n)) := by
  induction acts generalizing n fs m log with
  | nil => simp [ioSteps] at hlt
  | cons a acts ih =>
    cases a with
    | io s f =>
      simp only [runActs]
      by_cases hnk : n = k
      · subst hnk; simp [FS.steps]
      · simp only [hnk, if_false]
        have h1 : k - n = (k - (n + 1)) + 1 := by omega
        have := ih (n + 1) (fs.step s) m (s :: log) (by omega) (by simp [ioSteps] at hlt; omega)
        rw [h1]; simpa [ioSteps, FS.steps] using this
    | mem u => simpa [runActs, ioSteps] using ih n fs (applyUpd m u) log hk (by simpa [ioSteps] using hlt)
    | fail e => simp [ioSteps] at hlt

theorem runActs_crash_late (acts : List Action) (k n : Nat) (fs : FS) (m : Mem) (log : List Step)
    (hk : n ≤ k) (hge : (ioSteps acts).length ≤ k - n) :
    (runActs acts (.crashAt k) n fs m log).dead = false ∧
    (runActs acts (.crashAt k) n fs m log).fs = fs.steps (ioSteps acts) ∧
    (runActs acts (.crashAt k) n fs m log).err = failOf acts ∧
    (runActs acts (.crashAt k) n fs m log).mem = (memUpds acts).foldl applyUpd m := by
  induction acts generalizing n fs m log with
  | nil => simp [runActs, ioSteps, FS.steps, failOf, memUpds]
  | cons a acts ih =>
    cases a with
    | io s f =>
      have hnk : n ≠ k := by simp [ioSteps] at hge; omega
      simp only [runActs, hnk, if_false]
      simpa [ioSteps, FS.steps, failOf, memUpds] using
        ih (n + 1) (fs.step s) m (s :: log) (by omega) (by simp [ioSteps] at hge; omega)
    | mem u => simpa [runActs, ioSteps, failOf, memUpds] using ih n fs (applyUpd m u) log hk (by simpa [ioSteps] using hge)
    | fail e => simp [runActs, ioSteps, FS.steps, failOf, memUpds]

theorem run_crash_fs (acts : List Action) (k : Nat) (fs : FS) (m : Mem) :
    (run acts (.crashAt k) fs m).fs = fs.steps ((ioSteps acts).take k) := by
  unfold run
  by_cases h : k < (ioSteps acts).length
  · have := (runActs_crash acts k 0 fs m [] (Nat.zero_le _) (by simpa using h)).2
    simpa using this
  · have := (runActs_crash_late acts k 0 fs m [] (Nat.zero_le _) (by simpa using Nat.le_of_not_lt h)).2.1
    rw [this, List.take_of_length_le (Nat.le_of_not_lt h)]

theorem run_none_eq (acts : List Action) (fs : FS) (m : Mem) :
    (run acts .none fs m).fs = fs.steps (ioSteps acts) ∧
    (run acts .none fs m).mem = (memUpds acts).foldl applyUpd m ∧
    (run acts .none fs m).err = failOf acts := by
  unfold run
  rw [runActs_none]
  exact ⟨rfl, rfl, rfl⟩

theorem steps_append (fs : FS) (a b : List Step) : fs.steps (a ++ b) = (fs.steps a).steps b := by
  simp [FS.steps, List.foldl_append]

/-! ### power-loss images of the page file -/

def IsImg (pj : List PEff) (p p' : PImg) : Prop := ∃ sel, p' = applySel (zipSel pj sel) p

theorem zipSel_nil_sel (es : List PEff) : zipSel es [] = es.map (fun e => (e, Sel.drop)) := by
  induction es with
  | nil => rfl
  | cons e es ih => simp [zipSel, ih]

theorem applySel_drop (es : List PEff) (p : PImg) : applySel (es.map (fun e => (e, Sel.drop))) p = p := by
  induction es generalizing p with
  | nil => rfl
  | cons e es ih => simp [applySel, ih]

theorem zipSel_snoc : ∀ (pj : List PEff) (e : PEff) (sel : List Sel),
    zipSel (pj ++ [e]) sel = zipSel pj sel ++ [(e, sel.getD pj.length .drop)]
  | [], _, [] => rfl
  | [], _, _ :: _ => rfl
  | _ :: pj, e, [] => by simpa [zipSel] using zipSel_snoc pj e []
  | _ :: pj, e, _ :: ss => by simpa [zipSel] using zipSel_snoc pj e ss

theorem applySel_append : ∀ (a b : List (PEff × Sel)) (p : PImg), applySel (a ++ b) p = applySel b (applySel a p)
  | [], _, _ => rfl
  | (_, .keep) :: a, b, _ => applySel_append a b _
  | (_, .drop) :: a, b, _ => applySel_append a b _
  | (_, .torn) :: a, b, _ => by
    simp only [List.cons_append, applySel]
    split <;> exact applySel_append a b _

theorem isImg_snoc (pj : List PEff) (e : PEff) (p p'' : PImg) (h : IsImg (pj ++ [e]) p p'') :
    ∃ p', IsImg pj p p' ∧
      (p'' = p' ∨ p'' = applyEff e p' ∨ ∃ e', tornEff p' e = some e' ∧ p'' = applyEff e' p') := by
  obtain ⟨sel, rfl⟩ := h
  refine ⟨_, ⟨sel, rfl⟩, ?_⟩
  rw [zipSel_snoc, applySel_append]
  cases sel.getD pj.length .drop
  · exact Or.inl rfl
  · exact Or.inr (Or.inl rfl)
  · simp only [applySel]
    split
    · exact Or.inr (Or.inr ⟨_, ‹_›, rfl⟩)
    · exact Or.inl rfl

theorem isImg_nil (p p' : PImg) (h : IsImg [] p p') : p' = p := by
  obtain ⟨sel, rfl⟩ := h
  cases sel <;> rfl

theorem applySel_keep : ∀ (pj : List PEff) (p : PImg), applyEffs pj p = applySel (zipSel pj (pj.map fun _ => Sel.keep)) p
  | [], _ => rfl
  | e :: pj, p => applySel_keep pj (applyEff e p)

theorem isImg_pv (pj : List PEff) (p : PImg) : IsImg pj p (applyEffs pj p) := ⟨_, applySel_keep pj p⟩

theorem isImg_pd (pj : List PEff) (p : PImg) : IsImg pj p p :=
  ⟨[], by rw [zipSel_nil_sel, applySel_drop]⟩

def AllImgs (fs : FS) (C : PImg → Prop) : Prop := ∀ p', IsImg fs.pj fs.pd p' → C p'

theorem allImgs_pg (fs : FS) (C : PImg → Prop) (e : PEff) (pid : Nat) (h : AllImgs fs C)
    (hc : ∀ p, C p → C (applyEff e p) ∧ ∀ e', tornEff p e = some e' → C (applyEff e' p)) :
    AllImgs (fs.step (.pg e pid)) C := by
  intro p'' himg
  obtain ⟨p', hp', hcase⟩ := isImg_snoc fs.pj e fs.pd p'' himg
  have hC := h p' hp'
  rcases hcase with rfl | rfl | ⟨e', ht, rfl⟩
  · exact hC
  · exact (hc p' hC).1
  · exact (hc p' hC).2 e' ht

theorem allImgs_ps (fs : FS) (C : PImg → Prop) (h : C fs.pv) : AllImgs (fs.step .ps) C := by
  intro p' himg
  have := isImg_nil _ _ himg
  rw [this]
  exact h

theorem allImgs_pv (fs : FS) (C : PImg → Prop) (h : AllImgs fs C) : C fs.pv := h _ (isImg_pv _ _)

theorem allImgs_mono (fs : FS) (C C' : PImg → Prop) (h : AllImgs fs C) (hcc : ∀ p, C p → C' p) : AllImgs fs C' :=
  fun p' hp' => hcc _ (h p' hp')

theorem pv_step_pg (fs : FS) (e : PEff) (pid : Nat) : (fs.step (.pg e pid)).pv = applyEff e fs.pv := by
  simp [FS.step, FS.pv, applyEffs, List.foldl_append]

theorem pv_step_ps (fs : FS) : (fs.step .ps).pv = fs.pv := by
  simp [FS.step, FS.pv, applyEffs]

theorem allImgs_wal (fs fs' : FS) (C : PImg → Prop) (h : AllImgs fs C) (hpd : fs'.pd = fs.pd) (hpj : fs'.pj = fs.pj) :
    AllImgs fs' C := by
  intro p' himg
  rw [hpd, hpj] at himg
  exact h p' himg

theorem crashP_isImg (fs : FS) (mode : CrashMode) : IsImg fs.pj fs.pd (fs.crashP mode) := by
  cases mode with
  | proc => exact isImg_pv _ _
  | power sel wk lose => exact ⟨sel, rfl⟩

/-- unsynced page operations that cannot matter: statistics blob writes -/
def Inert (pj : List PEff) : Prop := ∀ e ∈ pj, e = PEff.stats

theorem inert_nil : Inert [] := by intro e he; simp at he

theorem isImg_inert (pj : List PEff) (h : Inert pj) (p p' : PImg) (hi : IsImg pj p p') : p' = p := by
  obtain ⟨sel, rfl⟩ := hi
  induction pj generalizing sel p with
  | nil => cases sel <;> rfl
  | cons e pj ih =>
    have he : e = PEff.stats := h e (by simp)
    have hr : Inert pj := fun x hx => h x (by simp [hx])
    subst he
    cases sel with
    | nil => simpa [zipSel, applySel] using ih hr p []
    | cons s ss =>
      cases s <;> simpa [zipSel, applySel, applyEff, tornEff] using ih hr p ss

theorem pv_inert (fs : FS) (h : Inert fs.pj) : fs.pv = fs.pd :=
  isImg_inert fs.pj h fs.pd fs.pv (isImg_pv _ _)

theorem crashP_inert (fs : FS) (h : Inert fs.pj) (mode : CrashMode) : fs.crashP mode = fs.pd :=
  isImg_inert fs.pj h fs.pd _ (crashP_isImg fs mode)

theorem inert_of_nil {pj : List PEff} (h : pj = []) : Inert pj := h ▸ inert_nil

theorem pv_of_pj_nil {fs : FS} (h : fs.pj = []) : fs.pv = fs.pd := pv_inert fs (inert_of_nil h)

/-- with nothing that matters unsynced the durable image is the only image -/
theorem allImgs_of_inert (fs : FS) (C : PImg → Prop) (hi : Inert fs.pj) (h : C fs.pd) : AllImgs fs C :=
  fun _ hp' => isImg_inert _ hi _ _ hp' ▸ h

/-! ### an injected I/O error at step k -/

def onFailAt : List Action → Nat → List Step
  | [], _ => []
  | .io _ f :: _, 0 => f
  | .io _ _ :: rest, k + 1 => onFailAt rest k
  | .fail _ :: _, _ => []
  | .mem _ :: rest, k => onFailAt rest k

def memBefore : List Action → Nat → List MemUpd
  | [], _ => []
  | .io _ _ :: _, 0 => []
  | .io _ _ :: rest, k + 1 => memBefore rest k
  | .fail _ :: _, _ => []
  | .mem u :: rest, k => u :: memBefore rest k

theorem runActs_fault (acts : List Action) (k n : Nat) (fs : FS) (m : Mem) (log : List Step)
    (hk : n ≤ k) (hlt : k - n < (ioSteps acts).length) :
    (runActs acts (.faultAt k) n fs m log).err = some .io ∧
    (runActs acts (.faultAt k) n fs m log).dead = false ∧
    (runActs acts (.faultAt k) n fs m log).fs = (fs.steps ((ioSteps acts).take (k - n))).steps (onFailAt acts (k - n)) ∧
    (runActs acts (.faultAt k) n fs m log).mem = (memBefore acts (k - n)).foldl applyUpd m := by
  induction acts generalizing n fs m log with
  | nil => simp [ioSteps] at hlt
  | cons a acts ih =>
    cases a with
    | io s f =>
      simp only [runActs]
      by_cases hnk : n = k
      · subst hnk; simp [FS.steps, onFailAt, memBefore, ioSteps]
      · simp only [hnk, if_false]
        have h1 : k - n = (k - (n + 1)) + 1 := by omega
        have := ih (n + 1) (fs.step s) m (s :: log) (by omega) (by simp [ioSteps] at hlt; omega)
        rw [h1]
        simpa [ioSteps, FS.steps, onFailAt, memBefore] using this
    | mem u =>
      have := ih n fs (applyUpd m u) log hk (by simpa [ioSteps] using hlt)
      simpa [runActs, ioSteps, onFailAt, memBefore] using this
    | fail e => simp [ioSteps] at hlt

theorem run_fault_eq (acts : List Action) (k : Nat) (fs : FS) (m : Mem) (hlt : k < (ioSteps acts).length) :
    (run acts (.faultAt k) fs m).err = some .io ∧
    (run acts (.faultAt k) fs m).fs = (fs.steps ((ioSteps acts).take k)).steps (onFailAt acts k) ∧
    (run acts (.faultAt k) fs m).mem = (memBefore acts k).foldl applyUpd m := by
  have := runActs_fault acts k 0 fs m [] (Nat.zero_le _) (by simpa using hlt)
  simpa [run] using ⟨this.1, this.2.2.1, this.2.2.2⟩

theorem onFailAt_append_left (a b : List Action) (k : Nat) (h : k < (ioSteps a).length) :
    onFailAt (a ++ b) k = onFailAt a k := by
  induction a generalizing k with
  | nil => simp [ioSteps] at h
  | cons x a ih =>
    cases x with
    | io s f =>
      cases k with
      | zero => rfl
      | succ k => simpa [onFailAt] using ih k (by simpa [ioSteps] using h)
    | mem u => simpa [onFailAt] using ih k (by simpa [ioSteps] using h)
    | fail e => simp [ioSteps] at h

theorem onFailAt_append_right (a b : List Action) (k : Nat) (hf : failOf a = none) :
    onFailAt (a ++ b) ((ioSteps a).length + k) = onFailAt b k := by
  induction a with
  | nil => simp [ioSteps]
  | cons x a ih =>
    cases x with
    | io s f =>
      have := ih (by simpa [failOf] using hf)
      simp only [List.cons_append, ioSteps, List.length_cons]
      rw [show (ioSteps a).length + 1 + k = ((ioSteps a).length + k) + 1 by omega]
      simpa [onFailAt] using this
    | mem u => simpa [onFailAt, ioSteps] using ih (by simpa [failOf] using hf)
    | fail e => simp [failOf] at hf

theorem memBefore_append_left (a b : List Action) (k : Nat) (h : k < (ioSteps a).length) :
    memBefore (a ++ b) k = memBefore a k := by
  induction a generalizing k with
  | nil => simp [ioSteps] at h
  | cons x a ih =>
    cases x with
    | io s f =>
      cases k with
      | zero => rfl
      | succ k => simpa [memBefore] using ih k (by simpa [ioSteps] using h)
    | mem u => simpa [memBefore] using ih k (by simpa [ioSteps] using h)
    | fail e => simp [ioSteps] at h

theorem memBefore_append_right (a b : List Action) (k : Nat) (hf : failOf a = none) :
    memBefore (a ++ b) ((ioSteps a).length + k) = memUpds a ++ memBefore b k := by
  induction a with
  | nil => simp [ioSteps, memUpds]
  | cons x a ih =>
    cases x with
    | io s f =>
      have := ih (by simpa [failOf] using hf)
      simp only [List.cons_append, ioSteps, List.length_cons, memUpds]
      rw [show (ioSteps a).length + 1 + k = ((ioSteps a).length + k) + 1 by omega]
      simpa [memBefore] using this
    | mem u => simpa [memBefore, ioSteps, memUpds] using ih (by simpa [failOf] using hf)
    | fail e => simp [failOf] at hf

/-! ### `SafeAlong P fs S`: `P` after every prefix of the steps `S` -/

def SafeAlong (P : FS → Prop) (fs : FS) (S : List Step) : Prop := ∀ n, P (fs.steps (S.take n))

theorem safeAlong_nil {P : FS → Prop} {fs : FS} (h : P fs) : SafeAlong P fs [] := by
  intro n; simpa [FS.steps] using h

theorem safeAlong_cons {P : FS → Prop} {fs : FS} {s : Step} {S : List Step} (h : P fs)
    (hr : SafeAlong P (fs.step s) S) : SafeAlong P fs (s :: S) := by
  intro n
  cases n with
  | zero => simpa [FS.steps] using h
  | succ n => simpa [FS.steps] using hr n

theorem safeAlong_append {P : FS → Prop} {fs : FS} {A B : List Step} (ha : SafeAlong P fs A)
    (hb : SafeAlong P (fs.steps A) B) : SafeAlong P fs (A ++ B) := by
  intro n
  by_cases h : n ≤ A.length
  · have := ha n
    rwa [List.take_append_of_le_length h]
  · have := hb (n - A.length)
    rw [List.take_append, List.take_of_length_le (by omega), steps_append]
    exact this

theorem safeAlong_head {P : FS → Prop} {fs : FS} {S : List Step} (h : SafeAlong P fs S) : P fs := by
  simpa [FS.steps] using h 0

theorem safeAlong_last {P : FS → Prop} {fs : FS} {S : List Step} (h : SafeAlong P fs S) : P (fs.steps S) := by
  simpa using h S.length

theorem safeAlong_single {P : FS → Prop} {fs : FS} {s : Step} (h0 : P fs) (h1 : P (fs.step s)) : SafeAlong P fs [s] :=
  safeAlong_cons h0 (safeAlong_nil h1)

theorem safeAlong_mono {P Q : FS → Prop} {fs : FS} {S : List Step} (h : SafeAlong P fs S)
    (hpq : ∀ fs, P fs → Q fs) : SafeAlong Q fs S := fun n => hpq _ (h n)

end Nervus.Crash
