/-
  Proofs/CsrForward.lean — the CSR construction lemma, forward index: for EVERY edge list the segment
  built by `buildForward` (engine.rs build_segment_from_runs / bulkload.rs build_segments) and persisted
  answers `neighbors(src, rel)` with exactly the edges of that source (as a multiset), and never panics.
  Shared by C05 and C30.
-/
import Nervus.Proofs.EngineReads
namespace Nervus.Storage

theorem prefixSums_head (ls : List Nat) (c : Nat) : (prefixSums ls c)[0]? = some c := by
  cases ls <;> rfl

theorem prefixSums_slices {α} (gs : List (List α)) :
    ∀ (pre : List α) (i : Nat) (g : List α), gs[i]? = some g →
      ∃ a, (prefixSums (gs.map List.length) pre.length)[i]? = some a ∧
        (prefixSums (gs.map List.length) pre.length)[i + 1]? = some (a + g.length) ∧
        ((pre ++ gs.flatten).drop a).take g.length = g ∧ a + g.length ≤ (pre ++ gs.flatten).length := by
  induction gs with
  | nil => intro pre i g h; simp at h
  | cons h t ih =>
    intro pre i g hg
    cases i with
    | zero =>
      simp only [List.getElem?_cons_zero, Option.some.injEq] at hg
      subst hg
      refine ⟨pre.length, ?_, ?_, ?_, ?_⟩
      · simp [prefixSums]
      · simp only [List.map_cons, prefixSums, Nat.zero_add, List.getElem?_cons_succ]
        exact prefixSums_head _ _
      · simp [List.flatten_cons]
      · simp [List.flatten_cons]
    | succ j =>
      simp only [List.getElem?_cons_succ] at hg
      obtain ⟨a, h1, h2, h3, h4⟩ := ih (pre ++ h) j g hg
      refine ⟨a, ?_, ?_, ?_, ?_⟩
      · simpa [prefixSums, List.length_append] using h1
      · simpa [prefixSums, List.length_append] using h2
      · simpa [List.flatten_cons, List.append_assoc] using h3
      · simpa [List.flatten_cons, List.append_assoc] using h4

theorem slice_of_group {α} (gs : List (List α)) (i : Nat) (g : List α) (hg : gs[i]? = some g) :
    ∃ a b, (prefixSums (gs.map List.length) 0)[i]? = some a ∧
      (prefixSums (gs.map List.length) 0)[i + 1]? = some b ∧ slice gs.flatten a b = some g := by
  obtain ⟨a, h1, h2, h3, h4⟩ := prefixSums_slices gs [] i g hg
  simp only [List.length_nil, List.nil_append] at h1 h2 h3 h4
  refine ⟨a, a + g.length, h1, h2, ?_⟩
  unfold slice
  rw [if_pos ⟨Nat.le_add_right _ _, h4⟩]
  simp [h3]

/-! ### the slot lookup both directions share -/

/-- what `CsrSegment::neighbors` and `incoming_neighbors` do with their index: slot `n - lo` of the offsets
    delimits the records of node `n`; a node outside `lo ..= hi` has none -/
def csrRead (lo hi : Nat) (offs : List Nat) (recs : List (Nat × Nat)) (n : Nat) : Option (List (Nat × Nat)) :=
  if n < lo || n > hi then some []
  else match offs[n - lo]?, offs[n - lo + 1]? with
    | some s, some e => slice recs s e
    | _, _ => none

theorem neighbors_eq_csrRead (g : Seg) (src : Nat) (rel : Option Nat) :
    g.neighbors src rel = (csrRead g.minSrc g.maxSrc g.offsets g.edges src).map
      (fun es => (es.filter (recOk rel)).map (fun r => ⟨src, r.1, r.2⟩)) := by
  unfold Seg.neighbors csrRead
  split
  · rfl
  · simp only
    cases g.offsets[src - g.minSrc]? <;> cases g.offsets[src - g.minSrc + 1]? <;> rfl

theorem incomingG_eq_csrRead (guard : Bool) (g : Seg) (dst : Nat) (rel : Option Nat) :
    g.incomingG guard dst rel = if (guard && g.inOffsets.isEmpty) = true then some [] else
      (csrRead g.minDst g.maxDst g.inOffsets g.inEdges dst).map
        (fun es => (es.filter (recOk rel)).map (fun r => ⟨r.2, r.1, dst⟩)) := by
  unfold Seg.incomingG csrRead
  cases (guard && g.inOffsets.isEmpty)
  · simp only [Bool.false_or, Bool.false_eq_true, if_false]
    split
    · rfl
    · cases g.inOffsets[dst - g.minDst]? <;> cases g.inOffsets[dst - g.minDst + 1]? <;> rfl
  · rfl

theorem csrRead_built (grp : Nat → List (Nat × Nat)) (lo hi n : Nat)
    (hout : n < lo ∨ hi < n → grp n = []) :
    csrRead lo hi (prefixSums (((List.range (hi - lo + 1)).map (fun i => grp (lo + i))).map List.length) 0)
      ((List.range (hi - lo + 1)).map (fun i => grp (lo + i))).flatten n = some (grp n) := by
  unfold csrRead
  split
  · next h =>
    simp only [Bool.or_eq_true, decide_eq_true_eq] at h
    rw [hout (by omega)]
  · next h =>
    simp only [Bool.or_eq_true, decide_eq_true_eq, not_or, Nat.not_lt] at h
    have hg : ((List.range (hi - lo + 1)).map (fun i => grp (lo + i)))[n - lo]? = some (grp n) := by
      rw [List.getElem?_map, List.getElem?_range (by omega), Option.map_some, show lo + (n - lo) = n by omega]
    obtain ⟨a, b, ha, hb, hs⟩ := slice_of_group _ _ _ hg
    rw [ha, hb]; exact hs

theorem foldl_min_le (es : List Edge) (m : Nat) :
    es.foldl (fun m e => min m e.src) m ≤ m ∧ ∀ e ∈ es, es.foldl (fun m e => min m e.src) m ≤ e.src := by
  induction es generalizing m with
  | nil => simp
  | cons a as ih =>
    simp only [List.foldl_cons, List.mem_cons, forall_eq_or_imp]
    obtain ⟨h1, h2⟩ := ih (min m a.src)
    refine ⟨by omega, by omega, h2⟩

/-! ### one group, read back -/

/-- `key` picks the end of an edge the index is over, `proj` the record stored for it, `back` restores the
    edge from the node and the record -/
theorem records_readback (key : Edge → Nat) (proj : Edge → Nat × Nat) (back : Nat → Nat × Nat → Edge)
    (hback : ∀ e, back (key e) (proj e) = e) (hrel : ∀ e, (proj e).1 = e.rel) (l : List Edge) (n : Nat)
    (rel : Option Nat) :
    ((((l.filter (key · == n)).map proj).filter (recOk rel)).map (back n)) =
      l.filter (fun e => key e == n && relOk rel e) := by
  rw [List.filter_map, List.map_map, List.filter_filter]
  have h2 : ∀ e ∈ l.filter (fun e => (recOk rel ∘ proj) e && (key e == n)), (back n ∘ proj) e = e := by
    intro e he
    have := (List.mem_filter.mp he).2
    simp only [Bool.and_eq_true, beq_iff_eq] at this
    rw [Function.comp, ← this.2]; exact hback e
  rw [List.map_congr_left h2, List.map_id']
  apply List.filter_congr
  intro e _
  cases rel <;> simp [recOk, relOk, Bool.and_comm, hrel]

theorem group_readback (es : List Edge) (src : Nat) (rel : Option Nat) :
    (((srcGroup es src).filter (recOk rel)).map (fun r => (⟨src, r.1, r.2⟩ : Edge))).Perm
      (es.filter (fun e => e.src == src && relOk rel e)) :=
  (((isort_perm _ _).filter _).map _).trans (List.Perm.of_eq
    (records_readback (·.src) (fun e => (e.rel, e.dst)) (fun s r => ⟨s, r.1, r.2⟩) (fun _ => rfl) (fun _ => rfl) es src rel))

theorem buildForward_of_ne_nil (id : Nat) (es : List Edge) (hne : es ≠ []) :
    ∃ es' mn mx, es'.Perm es ∧ (∀ e ∈ es', mn ≤ e.src ∧ e.src ≤ mx) ∧
      buildForward id es =
        { id, minSrc := mn, maxSrc := mx, minDst := 0, maxDst := 0,
          offsets := prefixSums (((List.range (mx - mn + 1)).map (fun i => srcGroup es' (mn + i))).map List.length) 0,
          edges := ((List.range (mx - mn + 1)).map (fun i => srcGroup es' (mn + i))).flatten,
          inOffsets := [], inEdges := [] } := by
  have hperm := isort_perm Edge.le es
  have hemp : (isort Edge.le es).isEmpty = false := by
    cases h : isort Edge.le es with
    | nil => rw [h] at hperm; exact absurd hperm.symm.eq_nil hne
    | cons a as => rfl
  exact ⟨isort Edge.le es, _, _, hperm,
    fun e he => ⟨(foldl_min_le _ 4294967295).2 e he, (le_foldl_max_key (·.src) _ 0).2 e he⟩, by
      unfold buildForward; simp only [hemp, Bool.false_eq_true, if_false]⟩

theorem buildForward_id (id : Nat) (es : List Edge) : (buildForward id es).id = id := by
  unfold buildForward
  simp only
  split <;> rfl

/-! ### `persist` adds the reverse index and keeps the rest -/

theorem persist_forward (g : Seg) :
    g.persist.minSrc = g.minSrc ∧ g.persist.maxSrc = g.maxSrc ∧ g.persist.offsets = g.offsets ∧
    g.persist.edges = g.edges := by
  unfold Seg.persist
  split
  · simp only
    split <;> exact ⟨rfl, rfl, rfl, rfl⟩
  · exact ⟨rfl, rfl, rfl, rfl⟩

theorem persist_id (g : Seg) : g.persist.id = g.id := by
  unfold Seg.persist
  split
  · simp only
    split <;> rfl
  · rfl

theorem persist_neighbors (g : Seg) (src : Nat) (rel : Option Nat) :
    g.persist.neighbors src rel = g.neighbors src rel := by
  obtain ⟨h1, h2, h3, h4⟩ := persist_forward g
  unfold Seg.neighbors
  rw [h1, h2, h3, h4]

theorem buildForward_neighbors (id : Nat) (es : List Edge) (src : Nat) (rel : Option Nat) :
    ∃ l, ((buildForward id es).persist).neighbors src rel = some l ∧
      l.Perm (es.filter (fun e => e.src == src && relOk rel e)) := by
  rw [persist_neighbors]
  by_cases hes : es = []
  · subst hes
    refine ⟨[], ?_, by simp⟩
    show (emptySeg id).neighbors src rel = some []
    unfold Seg.neighbors emptySeg
    by_cases h0 : src = 0
    · subst h0; simp [slice]
    · simp [Nat.pos_of_ne_zero h0]
  · obtain ⟨es', mn, mx, hperm, hrange, hb⟩ := buildForward_of_ne_nil id es hes
    rw [hb, neighbors_eq_csrRead]
    simp only
    rw [csrRead_built (srcGroup es') mn mx src fun h => ?_]
    · exact ⟨_, rfl, (group_readback es' src rel).trans (hperm.filter _)⟩
    · -- no edge has a source outside the range
      unfold srcGroup
      rw [List.filter_eq_nil_iff.mpr fun e he hs => by have := hrange e he; simp only [beq_iff_eq] at hs; omega]
      rfl

end Nervus.Storage
