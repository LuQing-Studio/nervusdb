/-
  Proofs.CrashCG — the class of page-file images during the page phase of a compaction: node
  table, catalog, the segments of the durable manifest and its live property tree are as they were
  (the live tree may have grown by sorted in-place leaf rewrites), everything new has a page id
  that was allocated — and whose allocation was synced — after the compaction started: `lo` is the
  allocation frontier of the durable image at the start (segments below it are untouched), `nd`
  the frontier the last synced flush has reached (every key is below it).
-/
import Nervus.Proofs.ListBasics
import Nervus.Proofs.CrashImgL
import Nervus.Proofs.CrashRep
import Nervus.Proofs.CrashPager
namespace Nervus.Crash

/-! ### lookups under the list operations of `applyEff` -/

theorem find?_map_congr {α : Type} (P : α → Bool) (f : α → α) (l : List α)
    (h : ∀ s ∈ l, P (f s) = P s ∧ (P s = true → f s = s)) : (l.map f).find? P = l.find? P := by
  rw [List.find?_map, find?_congr_mem (p := P ∘ f) (q := P) fun s hs => (h s hs).1]
  cases hf : l.find? P with
  | none => rfl
  | some s => exact congrArg some ((h s (List.mem_of_find?_eq_some hf)).2 (List.find?_some hf))

theorem segFind_updSeg_ne (segs : List SegImg) (k j need : Nat) (es : List Nat) (k' : Nat) (hne : k' ≠ k) :
    (updSeg segs k j need es).find? (fun s => s.key == k' && s.complete) = segs.find? (fun s => s.key == k' && s.complete) := by
  unfold updSeg
  split
  · apply find?_map_congr
    intro s _
    by_cases hk : s.key = k
    · have h1 : (s.key == k') = false := by
        rw [hk]; exact beq_false_of_ne (fun h' => hne h'.symm)
      have h2 : ((if (s.key == k) = true then { s with got := j :: s.got } else s).key == k') = false := by
        simp only [hk, beq_self_eq_true, if_true]
        exact beq_false_of_ne (fun h' => hne h'.symm)
      simp only [h1, h2, Bool.false_and]
      exact ⟨trivial, fun h' => absurd h' (by simp)⟩
    · have hkb : (s.key == k) = false := beq_false_of_ne hk
      simp [hkb]
  · have : (k == k') = false := beq_false_of_ne (fun h' => hne h'.symm)
    simp [this]

theorem keys_updSeg (segs : List SegImg) (k j need : Nat) (es : List Nat) (B : Nat) (hk : k < B)
    (h : ∀ s ∈ segs, s.key < B) : ∀ s ∈ updSeg segs k j need es, s.key < B := by
  unfold updSeg
  split
  · intro s hs
    obtain ⟨s0, hs0, rfl⟩ := List.mem_map.mp hs
    by_cases hk0 : s0.key = k <;> simp [hk0] <;> first | exact hk | exact h s0 hs0
  · intro s hs
    rcases List.mem_cons.mp hs with rfl | hs
    · exact hk
    · exact h s hs

theorem keys_updTree (trees : List TreeImg) (k : Nat) (f : TreeImg → TreeImg) (hf : ∀ t, (f t).key = t.key) (B : Nat)
    (h : ∀ t ∈ trees, t.key < B) : ∀ t ∈ updTree trees k f, t.key < B := by
  intro t ht
  obtain ⟨t0, ht0, rfl⟩ := List.mem_map.mp ht
  by_cases hk : t0.key = k <;> simp [hk, hf] <;> exact (by first | exact h t0 ht0 | (rw [← hk]; exact h t0 ht0))

theorem find_updTree (trees : List TreeImg) (k : Nat) (f : TreeImg → TreeImg) (hf : ∀ t, (f t).key = t.key) (k' : Nat) :
    (updTree trees k f).find? (fun t => t.key == k') =
      (trees.find? (fun t => t.key == k')).map (fun t => if t.key == k then f t else t) := by
  induction trees with
  | nil => rfl
  | cons x trees ih =>
    simp only [updTree, List.map_cons, List.find?_cons] at ih ⊢
    by_cases hx : x.key = k
    · simp only [hx, beq_self_eq_true, if_true, hf]
      by_cases hk' : k = k'
      · simp [hk', hx]
      · have : (k == k') = false := by simpa using hk'
        simp only [this]
        exact ih
    · have hxb : (x.key == k) = false := by simpa using hx
      simp only [hxb, Bool.false_eq_true, if_false]
      by_cases hk' : x.key = k'
      · simp [hk']
        intro h; exact absurd (hk' ▸ h) hx
      · have : (x.key == k') = false := by simpa using hk'
        simp only [this]
        exact ih

theorem treeFind_updTree {p : PImg} {k k' : Nat} {t : TreeImg} (f : TreeImg → TreeImg) (hf : ∀ t, (f t).key = t.key)
    (h : treeFind p k' = some t) :
    treeFind { p with trees := updTree p.trees k f } k' = some (if k' = k then f t else t) := by
  have hk : t.key = k' := by simpa using List.find?_some h
  have := find_updTree p.trees k f hf k'
  simp only [treeFind] at h ⊢
  rw [h] at this
  simpa [hk] using this

theorem treeFind_congr {p p' : PImg} (h : p.trees = p'.trees) (k : Nat) : treeFind p k = treeFind p' k := by
  simp [treeFind, h]

def emptyTree (r : Nat) : TreeImg := { key := r, leaves := [⟨[], false, r⟩], inode := none, blobs := [] }

def effT : PEff → TreeImg → TreeImg
  | .blob _ q, t => { t with blobs := q :: t.blobs }
  | .leaf _ i es sib pid, t => { t with leaves := setLeaf t.leaves i ⟨es, sib, pid⟩ }
  | .inode _ seps pid, t => { t with inode := some seps, inodePid := pid }
  | _, t => t

def OnTree (k : Nat) : PEff → Prop
  | .blob k' _ => k' = k
  | .leaf k' _ _ _ _ => k' = k
  | .inode k' _ _ => k' = k
  | _ => False

theorem treeFind_effT {k : Nat} {e : PEff} {p : PImg} {t : TreeImg} (he : OnTree k e) (h : treeFind p k = some t) :
    treeFind (applyEff e p) k = some (effT e t) := by
  cases e
  case blob k' q => cases he; exact (treeFind_updTree (effT (.blob k q)) (fun _ => rfl) h).trans (by rw [if_pos rfl])
  case leaf k' i es sib pid => cases he; exact (treeFind_updTree (effT (.leaf k i es sib pid)) (fun _ => rfl) h).trans (by rw [if_pos rfl])
  case inode k' seps pid => cases he; exact (treeFind_updTree (effT (.inode k seps pid)) (fun _ => rfl) h).trans (by rw [if_pos rfl])
  all_goals exact he.elim

theorem treeFind_effsT {k : Nat} : ∀ (E : List PEff) (p : PImg) (t : TreeImg), (∀ e ∈ E, OnTree k e) → treeFind p k = some t →
    treeFind (applyEffs E p) k = some (E.foldl (fun t e => effT e t) t)
  | [], _, _, _, h => h
  | e :: E, p, t, hE, h =>
    treeFind_effsT E (applyEff e p) (effT e t) (fun x hx => hE x (List.mem_cons_of_mem _ hx)) (treeFind_effT (hE e List.mem_cons_self) h)

theorem effT_key (e : PEff) (t : TreeImg) : (effT e t).key = t.key := by cases e <;> rfl

theorem effsT_key : ∀ (E : List PEff) (t : TreeImg), (E.foldl (fun t e => effT e t) t).key = t.key
  | [], _ => rfl
  | e :: E, t => (effsT_key E (effT e t)).trans (effT_key e t)

/-! ### the class -/

structure CG (p0 : PImg) (live : Nat) (allowed covered : List Nat) (lv : LiveP) (lo nd : Nat) (p : PImg) : Prop where
  i2e : p.i2e = p0.i2e
  cat : p.cat = p0.cat
  idx : p.idx = p0.idx
  hdr : SameKey p0.hdr p.hdr
  lond : lo ≤ nd
  np : nd ≤ p.hdr.nextPage
  bmlo : nd ≤ p.bm
  len : p0.len ≤ p.len
  segOld : ∀ k, k < lo → segFind p k = segFind p0 k
  segKeys : ∀ s ∈ p.segs, s.key < nd
  treeKeys : ∀ t ∈ p.trees, t.key < nd
  treeLive : live ≠ 0 → ∃ t last, treeFind p live = some t ∧ LiveOK allowed covered lv t last

structure LastOK (allowed covered : List Nat) (lv : LiveP) (ys : List Nat) : Prop where
  sorted : SortedNat (lv.Xi ++ [ys]).flatten
  hd : lv.Xi ≠ [] → ys ≠ [] ∧ ys.headD 0 = lv.hd
  allowed : ∀ q ∈ ys, q ∈ allowed
  covered : ∀ q ∈ covered, q ∈ (lv.Xi ++ [ys]).flatten

def CEff (p0 : PImg) (live : Nat) (allowed covered : List Nat) (lv : LiveP) (lo nd : Nat) : PEff → Prop
  | .setLen _ => True
  | .bitmap top => nd ≤ top
  | .stats => True
  | .hdr pm => SameKey p0.hdr pm ∧ nd ≤ pm.nextPage
  | .segPart k _ _ _ => lo ≤ k ∧ k < nd
  | .treeNew k => k ≠ live ∧ k < nd
  | .blob _ _ => True
  | .leaf k i es sib _ => k ≠ live ∨ (i = lv.Xi.length ∧ sib = false ∧ ∃ ys, es = ys.map some ∧ LastOK allowed covered lv ys)
  | .inode k _ _ => k ≠ live
  | _ => False

theorem liveOK_blob {allowed covered : List Nat} {lv : LiveP} {t : TreeImg} {last : List Nat} (h : LiveOK allowed covered lv t last) (q : Nat) :
    LiveOK allowed covered lv { t with blobs := q :: t.blobs } last :=
  ⟨⟨h.shape.ne, h.shape.leaves, h.shape.sorted, h.shape.tail, h.shape.inode⟩, h.hd, h.allowed,
    fun q' hq' => ⟨(h.covered q' hq').1, List.mem_cons_of_mem _ (h.covered q' hq').2⟩⟩

/-- the last leaf rewritten with `ys`; `cov'` may differ from `cov` (sinking adds the sunk key) -/
theorem LiveOK.setLast {allowed cov cov' : List Nat} {lv : LiveP} {t t' : TreeImg} {last ys : List Nat}
    (h : LiveOK allowed cov lv t last) (p : Nat) (hl : t'.leaves = setLeaf t.leaves lv.Xi.length ⟨ys.map some, false, p⟩)
    (hi : t'.inode = t.inode) (hys : LastOK allowed cov' lv ys) (hb : ∀ c ∈ cov', c ∈ t'.blobs) : LiveOK allowed cov' lv t' ys :=
  ⟨treeShape_setLast h.shape p hl hi hys.sorted fun hX => ⟨(hys.hd hX).1, (hys.hd hX).2.trans (h.hd hX).symm⟩,
    fun hX => (hys.hd hX).2,
    fun q hq => by
      rw [List.flatten_append, List.flatten_singleton] at hq
      rcases List.mem_append.mp hq with hq | hq
      · exact h.allowed q (by rw [List.flatten_append]; exact List.mem_append_left _ hq)
      · exact hys.allowed q hq,
    fun c hc => ⟨hys.covered c hc, hb c hc⟩⟩

theorem treeOK_blob {allowed covered : List Nat} {top : Bool} {t : TreeImg} (h : TreeOK allowed covered top t) (q : Nat) :
    TreeOK allowed covered top { t with blobs := q :: t.blobs } := by
  obtain ⟨lv, last, rfl, hl⟩ := h.live
  exact (liveOK_blob hl q).treeOK

theorem CG.updTree {p0 : PImg} {live lo nd : Nat} {allowed covered : List Nat} {lv : LiveP} {p : PImg}
    (h : CG p0 live allowed covered lv lo nd p) (k : Nat) (f : TreeImg → TreeImg) (hf : ∀ t, (f t).key = t.key)
    (hl : live = k → ∀ t last, LiveOK allowed covered lv t last → ∃ last', LiveOK allowed covered lv (f t) last') :
    CG p0 live allowed covered lv lo nd { p with trees := updTree p.trees k f } := by
  refine { h with treeKeys := keys_updTree p.trees k f hf _ h.treeKeys, treeLive := fun hne => ?_ }
  obtain ⟨t, last, hfd, hok⟩ := h.treeLive hne
  have := treeFind_updTree (k := k) f hf hfd
  by_cases hk : live = k
  · obtain ⟨last', hok'⟩ := hl hk t last hok
    exact ⟨_, last', by rw [if_pos hk] at this; exact this, hok'⟩
  · exact ⟨t, last, by rw [if_neg hk] at this; exact this, hok⟩

theorem cg_applyEff {p0 : PImg} {live lo nd : Nat} {allowed covered : List Nat} {lv : LiveP} {p : PImg} {e : PEff}
    (h : CG p0 live allowed covered lv lo nd p) (he : CEff p0 live allowed covered lv lo nd e) :
    CG p0 live allowed covered lv lo nd (applyEff e p) := by
  cases e <;> simp only [CEff] at he
  case setLen n => exact { h with len := Nat.le_trans h.len (Nat.le_max_left _ _) }
  case bitmap top => exact { h with bmlo := he }
  case stats => exact h
  case hdr pm => exact { h with hdr := he.1, np := he.2 }
  case segPart k j need es =>
    refine { h with segOld := ?_, segKeys := ?_ }
    · intro k' hk'
      rw [← h.segOld k' hk']
      exact segFind_updSeg_ne p.segs k j need es k' (by omega)
    · exact keys_updSeg p.segs k j need es nd he.2 h.segKeys
  case treeNew k =>
    refine { h with treeKeys := ?_, treeLive := ?_ }
    · intro t ht
      rcases List.mem_cons.mp ht with rfl | ht
      · exact he.2
      · exact h.treeKeys t ht
    · intro hl
      obtain ⟨t, last, hf, hok⟩ := h.treeLive hl
      refine ⟨t, last, ?_, hok⟩
      have : (k == live) = false := by simpa using he.1
      simpa [treeFind, applyEff, List.find?_cons, this] using hf
  case blob k q => exact h.updTree k _ (fun _ => rfl) fun _ t last hok => ⟨last, liveOK_blob hok q⟩
  case leaf k i es sib pid =>
    refine h.updTree k _ (fun _ => rfl) fun hk t last hok => ?_
    rcases he with hne | ⟨rfl, rfl, ys, rfl, hys⟩
    · exact absurd hk.symm hne
    · exact ⟨ys, hok.setLast pid rfl rfl hys fun c hc => (hok.covered c hc).2⟩
  case inode k seps pid => exact h.updTree k _ (fun _ => rfl) fun hk => absurd hk.symm he

theorem ceff_torn {p0 : PImg} {live lo nd : Nat} {allowed covered : List Nat} {lv : LiveP} {p : PImg} {e e' : PEff}
    (he : CEff p0 live allowed covered lv lo nd e) (hl : isLiveLeaf live e = false) (ht : tornEff p e = some e') :
    CEff p0 live allowed covered lv lo nd e' := by
  cases e <;> simp only [CEff] at he <;> simp only [tornEff, Option.some.injEq] at ht <;> try (subst ht; simpa [CEff] using he)
  case leaf k i es sib pid =>
    have hne : k ≠ live := by simpa [isLiveLeaf] using hl
    split at ht <;> (try split at ht) <;> simp only [Option.some.injEq] at ht <;> subst ht <;> exact Or.inl hne
  case inode k seps pid =>
    split at ht <;> simp only [Option.some.injEq] at ht <;> subst ht <;> exact he

def CStepOK (p0 : PImg) (live : Nat) (allowed covered : List Nat) (lv : LiveP) (lo nd : Nat) : Step → Prop
  | .pg e _ => CEff p0 live allowed covered lv lo nd e
  | .ps => True
  | _ => False

theorem allImgsL_cstep {p0 : PImg} {live lo nd : Nat} {allowed covered : List Nat} {lv : LiveP} (fs : FS) (s : Step)
    (h : AllImgsL live fs (CG p0 live allowed covered lv lo nd)) (hs : CStepOK p0 live allowed covered lv lo nd s) :
    AllImgsL live (fs.step s) (CG p0 live allowed covered lv lo nd) := by
  cases s <;> simp only [CStepOK] at hs
  case pg e pid =>
    apply allImgsL_pg live fs _ e pid h
    intro p hp
    exact ⟨cg_applyEff hp hs, fun hl e' ht => cg_applyEff hp (ceff_torn hs hl ht)⟩
  case ps => exact allImgsL_ps live fs _ (allImgsL_pv live fs _ h)

theorem cstep_block {p0 : PImg} {live lo nd : Nat} {allowed covered : List Nat} {lv : LiveP} (S : List Step) :
    ∀ (fs : FS), AllImgsL live fs (CG p0 live allowed covered lv lo nd) → (∀ s ∈ S, CStepOK p0 live allowed covered lv lo nd s) →
      SafeAlong (fun fs => AllImgsL live fs (CG p0 live allowed covered lv lo nd)) fs S := by
  induction S with
  | nil => intro fs h _; exact safeAlong_nil h
  | cons s S ih =>
    intro fs h hs
    exact safeAlong_cons h (ih _ (allImgsL_cstep fs s h (hs s (by simp))) (fun s' hs' => hs s' (by simp [hs'])))

theorem cstep_pagerStep {p0 : PImg} {live lo nd : Nat} {allowed covered : List Nat} {lv : LiveP} {s : Step}
    (h : CStepOK p0 live allowed covered lv lo nd s) : PagerStep s := by
  cases s <;> simp [CStepOK] at h <;> trivial

theorem CG.raise {p0 : PImg} {live lo nd nd' : Nat} {allowed covered : List Nat} {lv : LiveP} {p : PImg}
    (h : CG p0 live allowed covered lv lo nd p) (h1 : nd ≤ nd') (h2 : nd' ≤ p.hdr.nextPage) (h3 : nd' ≤ p.bm) :
    CG p0 live allowed covered lv lo nd' p :=
  { h with lond := Nat.le_trans h.lond h1, np := h2, bmlo := h3, segKeys := fun s hs => Nat.lt_of_lt_of_le (h.segKeys s hs) h1,
           treeKeys := fun t ht => Nat.lt_of_lt_of_le (h.treeKeys t ht) h1 }

/-! ### what the class guarantees -/

theorem CG.pagerOK {p0 : PImg} {live lo nd : Nat} {allowed covered : List Nat} {lv : LiveP} {p : PImg} {N : List Nat} {c : Nat}
    (h : CG p0 live allowed covered lv lo nd p) (h0 : PagerOK N c p0) (h2 : 2 ≤ lo) : PagerOK N c p where
  booted :=
    { init := by rw [h.hdr.init]; exact h0.booted.init
      len := Nat.le_trans h0.booted.len h.len
      nextPage := Nat.le_trans h0.booted.nextPage h.hdr.np
      bm := Nat.le_trans h2 (Nat.le_trans h.lond h.bmlo)
      catRoot := by rw [h.hdr.catRoot]; exact h0.booted.catRoot
      cat := by rw [h.cat, h.idx]; exact h0.booted.cat }
  start := by rw [h.hdr.start, h.hdr.len]; exact h0.start
  lo := by rw [h.hdr.len]; exact h0.lo
  hi := by rw [h.hdr.len]; exact h0.hi
  slots := by rw [h.hdr.len, h.i2e]; exact h0.slots

theorem segFind_key {p : PImg} {k : Nat} {s : SegImg} (h : segFind p k = some s) : s ∈ p.segs ∧ s.key = k := by
  have h1 := List.mem_of_find?_eq_some h
  have h2 := List.find?_some h
  simp only [Bool.and_eq_true, beq_iff_eq] at h2
  exact ⟨h1, h2.1⟩

theorem treeFind_key {p : PImg} {k : Nat} {t : TreeImg} (h : treeFind p k = some t) : t ∈ p.trees ∧ t.key = k := by
  have h1 := List.mem_of_find?_eq_some h
  have h2 := List.find?_some h
  exact ⟨h1, by simpa using h2⟩

theorem StoreOK.segLt {T : List Tx} {cs : List CTx} {p : PImg} (h : StoreOK T cs p) :
    ∀ k ∈ (scan cs).segs, k < p.hdr.nextPage ∧ k < p.bm := by
  intro k hk
  have := h.segs k hk
  obtain ⟨s, hs⟩ := Option.isSome_iff_exists.mp this
  obtain ⟨h1, h2⟩ := segFind_key hs
  rw [← h2]
  exact h.segKeys s h1

theorem CG.storeOK {p0 : PImg} {lo nd : Nat} {covered : List Nat} {lv : LiveP} {p : PImg} {T : List Tx} {cs : List CTx}
    (h : CG p0 (scan cs).proot (allProps T) covered lv lo nd p) (hlv : lv.top = (scan cs).ptop) (h0 : StoreOK T cs p0) (hlo : min p0.bm p0.hdr.nextPage ≤ lo)
    (h1 : ∀ q ∈ allProps T, q ∈ (logRuns (scan cs).ckpt cs).flatMap (·.props) ∨ q ∈ covered)
    (h2 : (scan cs).proot = 0 → covered = []) : StoreOK T cs p where
  segs := by
    intro k hk
    rw [h.segOld k (by have := h0.segLt k hk; omega)]
    exact h0.segs k hk
  segKeys := fun s hs => ⟨Nat.lt_of_lt_of_le (h.segKeys s hs) h.np, Nat.lt_of_lt_of_le (h.segKeys s hs) h.bmlo⟩
  treeKeys := fun t ht => ⟨Nat.lt_of_lt_of_le (h.treeKeys t ht) h.np, Nat.lt_of_lt_of_le (h.treeKeys t ht) h.bmlo⟩
  edges := by
    have : (scan cs).segs.flatMap (segEdges p) = (scan cs).segs.flatMap (segEdges p0) := by
      apply flatMap_congr_mem
      intro k hk
      simp only [segEdges, h.segOld k (by have := h0.segLt k hk; omega)]
    intro e; rw [this]; exact h0.edges e
  runProps := h0.runProps
  props := ⟨covered, h1, h2, fun hne => by
    obtain ⟨t, last, hf, hok⟩ := h.treeLive hne
    exact ⟨t, hf, by rw [← hlv]; exact hok.treeOK⟩⟩

end Nervus.Crash
