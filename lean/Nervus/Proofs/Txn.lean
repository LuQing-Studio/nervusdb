/-
  Statements in transactions (`Model.Txn`), for C13, C24 and the auto-commit part of C34.  The regenerated switches fix
  `codeStep = step true false`.  C13: `step false false` (the pinned tree) is the atomic step wherever no statement fails
  after it has staged something.  C24: a statement's result depends on the graph only through the scan of the one label
  it reads (`exec_frame`) and everything it stages carries the label it writes (`exec_writes`); so along a history whose
  tracker (`Tracks`) never reports a read of a written label, reading the committed state is reading
  committed ⊕ staged (`ryw_run_eq`).
-/
import Nervus.Model.Txn
namespace Nervus.Txn

/-! ### what the regenerated table says about the source (re-checked on every build) -/

theorem code_atomic : Generated.capiTxnStmtAtomic = true := by decide
theorem code_reads_committed : Generated.capiTxnReadsStaged = false := by decide
theorem create_node_first : Generated.createStagesNodeBeforeProps = true := by decide
theorem autocommit_drops : Generated.capiAutoCommitDropsTxnOnError = true := by decide
theorem autocommit_unconditional : Generated.capiAutoCommitUnconditional = true := by decide

theorem codeStep_def : codeStep = step true false := by
  unfold codeStep; rw [code_atomic, code_reads_committed]
theorem codeRun_def : codeRun = run true false := by
  unfold codeRun; rw [code_atomic, code_reads_committed]

/-! ### C13: without a partial effect the pinned tree's step (`step false false`) is the atomic step -/

theorem step_atomic_eq (σ : State) (op : Op) (h : ∀ s, op = .tq s → partialEffect σ s = false) :
    step false false σ op = step true false σ op := by
  cases op with
  | tq s =>
    have h := h s rfl
    simp only [step, partialEffect, Bool.false_eq_true, if_false, if_true] at h ⊢
    cases hst : σ.staged with
    | none => rfl
    | some ps =>
      simp only [hst] at h ⊢
      cases hf : (exec σ.committed (σ.allocated + adds ps) s).failed with
      | false => rfl
      | true =>
        rw [hf, Bool.true_and, Bool.not_eq_false', List.isEmpty_iff] at h
        simp [h]
  | auto _ | begin | commit | rollback => rfl

/-! ### C24: frame lemmas -/

theorem scan_applyPrim (g : Graph) (p : Prim) (l : Nat) (h : p.lbl ≠ l) : scan (applyPrim g p) l = scan g l := by
  cases p with
  | add n =>
    simp only [Prim.lbl] at h
    simp [applyPrim, scan, List.filter_append, h]
  | setQ id l' q | setP id l' q =>
    simp only [Prim.lbl] at h
    simp only [applyPrim, scan]
    induction g with
    | nil => rfl
    | cons n ns ih =>
      simp only [List.map_cons, List.filter_cons]
      by_cases hc : n.id = id ∧ n.lbl = l'
      · have hn : n.lbl ≠ l := by rw [hc.2]; exact h
        simp [hc, h, ih]
      · simp only [if_neg hc]
        rw [ih]
  | del id l' =>
    simp only [Prim.lbl] at h
    simp only [applyPrim, scan, List.filter_filter]
    apply List.filter_congr
    intro n _
    by_cases hl : n.lbl = l
    · simp only [hl, decide_true, Bool.true_and]
      simp
      exact Or.inr (fun e => h e.symm)
    · simp [hl]

theorem scan_applyAll (ps : List Prim) : ∀ (g : Graph) (l : Nat), (∀ p ∈ ps, p.lbl ≠ l) →
    scan (applyAll g ps) l = scan g l := by
  induction ps with
  | nil => intro g l _; rfl
  | cons p ps ih =>
    intro g l h
    simp only [applyAll, List.foldl_cons]
    have := ih (applyPrim g p) l (fun q hq => h q (List.mem_cons_of_mem _ hq))
    simp only [applyAll] at this
    rw [this, scan_applyPrim g p l (h p (List.mem_cons_self ..))]

/-- a statement's result depends on the graph only through the scan of the label it reads -/
theorem exec_frame (g : Graph) (ps : List Prim) (n : Nat) (s : Stmt)
    (h : ∀ l, s.reads = some l → ∀ p ∈ ps, p.lbl ≠ l) : exec (applyAll g ps) n s = exec g n s := by
  cases s with
  | create _ _ _ | refused => rfl
  | setp l | setw l _ _ | del l | merge l _ | setrep l _ | mergeset l _ _ =>
    simp only [exec]; rw [scan_applyAll ps g l (h l rfl)]

theorem execCreate_lbl (l : Nat) (w : Bool) (rows : List (Nat × Q)) : ∀ id, ∀ p ∈ (execCreate l w id rows).prims, p.lbl = l := by
  induction rows with
  | nil => intro id p hp; simp [execCreate] at hp
  | cons r rows ih =>
    intro id p hp
    obtain ⟨k, q⟩ := r
    simp only [execCreate] at hp
    split at hp
    · split at hp
      · simp only [create_node_first, if_true, List.mem_singleton] at hp; subst hp; rfl
      · simp only [List.mem_cons] at hp
        rcases hp with hp | hp
        · subst hp; rfl
        · exact ih _ p hp
      · simp only [List.mem_cons] at hp
        rcases hp with hp | hp | hp
        · subst hp; rfl
        · subst hp; rfl
        · exact ih _ p hp
    · simp only [List.mem_cons] at hp
      rcases hp with hp | hp
      · subst hp; rfl
      · exact ih _ p hp

theorem execSetp_lbl (l : Nat) (ns : List Node) : ∀ p ∈ (execSetp l ns).prims, p.lbl = l := by
  induction ns with
  | nil => intro p hp; simp [execSetp] at hp
  | cons n ns ih =>
    intro p hp
    simp only [execSetp] at hp
    split at hp
    · simp at hp
    · simp only [List.mem_cons] at hp
      rcases hp with hp | hp
      · subst hp; rfl
      · exact ih p hp

theorem execSetRepRow_lbl (l : Nat) (d : Q) (ns : List Node) : ∀ p ∈ (execSetRepRow l d ns).prims, p.lbl = l := by
  induction ns with
  | nil => intro p hp; simp [execSetRepRow] at hp
  | cons n ns ih =>
    intro p hp
    simp only [execSetRepRow] at hp
    split at hp
    · simp only [List.mem_singleton] at hp; subst hp; rfl
    · simp only [List.mem_cons] at hp
      rcases hp with hp | hp | hp
      · subst hp; rfl
      · subst hp; rfl
      · exact ih p hp

theorem execSetRep_lbl (l : Nat) (ns : List Node) (ds : List Q) : ∀ p ∈ (execSetRep l ns ds).prims, p.lbl = l := by
  induction ds with
  | nil => intro p hp; simp [execSetRep] at hp
  | cons d ds ih =>
    intro p hp
    simp only [execSetRep] at hp
    split at hp
    · exact execSetRepRow_lbl l d ns p hp
    · simp only [List.mem_append] at hp
      rcases hp with hp | hp
      · exact execSetRepRow_lbl l d ns p hp
      · exact ih p hp

theorem exec_writes (g : Graph) (n : Nat) (s : Stmt) : ∀ p ∈ (exec g n s).prims, s.writes = some p.lbl := by
  intro p hp
  cases s with
  | create l rows w => simp only [exec] at hp; simp [Stmt.writes, execCreate_lbl l w rows n p hp]
  | refused => simp [exec] at hp
  | setp l => simp only [exec] at hp; simp [Stmt.writes, execSetp_lbl l _ p hp]
  | setw l _ _ | del l =>
    simp only [exec, List.mem_map] at hp
    obtain ⟨a, _, rfl⟩ := hp
    rfl
  | merge l k =>
    simp only [exec] at hp
    split at hp
    · simp at hp
    · simp only [List.mem_singleton] at hp; subst hp; rfl
  | setrep l ds => simp only [exec] at hp; simp [Stmt.writes, execSetRep_lbl l _ ds p hp]
  | mergeset l k w =>
    simp only [exec] at hp
    split at hp
    · simp only [List.mem_singleton] at hp; subst hp; rfl
    · simp only [List.mem_map] at hp
      obtain ⟨a, _, rfl⟩ := hp
      rfl

/-- the tracker follows the transaction: open exactly when a transaction is open, and the labels of the staged
    writes are among the recorded ones -/
structure Tracks (σ : State) (w : Option (List Nat)) : Prop where
  open_iff : σ.staged = none ↔ w = none
  labels : ∀ ps ws, σ.staged = some ps → w = some ws → ∀ p ∈ ps, p.lbl ∈ ws

theorem Tracks.of_none {σ : State} (h : σ.staged = none) : Tracks σ none :=
  ⟨⟨fun _ => rfl, fun _ => h⟩, fun _ _ _ => nofun⟩

theorem Tracks.of_some {σ : State} {ps : List Prim} {ws : List Nat} (h : σ.staged = some ps) (hl : ∀ p ∈ ps, p.lbl ∈ ws) :
    Tracks σ (some ws) := by
  refine ⟨⟨fun h' => ?_, nofun⟩, fun ps' ws' hp hw => ?_⟩
  · rw [h] at h'; cases h'
  · rw [h] at hp; cases hp; cases hw; exact hl

theorem Tracks.cases {σ : State} {w : Option (List Nat)} (h : Tracks σ w) :
    (σ.staged = none ∧ w = none) ∨ ∃ ps ws, σ.staged = some ps ∧ w = some ws ∧ ∀ p ∈ ps, p.lbl ∈ ws := by
  cases hs : σ.staged with
  | none => exact Or.inl ⟨rfl, h.open_iff.1 hs⟩
  | some ps =>
    cases hw : w with
    | none => exact absurd (h.open_iff.2 hw) (by rw [hs]; nofun)
    | some ws => exact Or.inr ⟨ps, ws, rfl, rfl, h.labels ps ws hs hw⟩

theorem Tracks.init : Tracks State.init none := .of_none rfl

/-- without the trigger `hit`, a step that reads the committed state is the step that reads committed ⊕ staged -/
theorem step_ryw_eq (atomic : Bool) {σ : State} {w : Option (List Nat)} (op : Op) (ht : Tracks σ w)
    (hno : hit w op = false) : step atomic false σ op = step atomic true σ op := by
  cases op with
  | tq s =>
    simp only [step]
    rcases ht.cases with ⟨hs, -⟩ | ⟨ps, ws, hs, rfl, hl⟩
    · rw [hs]
    · simp only [hs, Bool.false_eq_true, if_false, if_true]
      -- the staged writes carry recorded labels, and the statement reads none of those
      rw [exec_frame σ.committed ps _ s fun l hr p hp e => by simp [hit, hr, ← e, hl p hp] at hno]
  | auto _ | begin | commit | rollback => rfl

theorem tracks_step (atomic : Bool) (σ : State) (w : Option (List Nat)) (op : Op) (h : Tracks σ w) :
    Tracks (step atomic false σ op).1 (track w op) := by
  rcases h.cases with ⟨hs, rfl⟩ | ⟨ps, ws, hs, rfl, hl⟩
  · cases op with
    | auto s =>
      simp only [step, hs, track]
      split
      · exact .of_none hs
      · split
        · exact .of_none rfl
        · exact .of_none hs
    | begin => simp only [step, hs, track]; exact .of_some rfl nofun
    | tq _ | commit | rollback => simp only [step, hs, track]; exact .of_none hs
  · cases op with
    | auto _ | begin => simp only [step, hs, track]; exact .of_some hs hl
    | commit | rollback => simp only [step, hs, track]; exact .of_none rfl
    | tq s =>
      -- the staged writes grow by (part of) what the statement stages, all under the label it writes
      have hw := exec_writes σ.committed (σ.allocated + adds ps) s
      have hl' : ∀ p ∈ ps ++ (exec σ.committed (σ.allocated + adds ps) s).prims,
          p.lbl ∈ (match s.writes with | some l => l :: ws | none => ws) := fun p hp => by
        rcases List.mem_append.1 hp with hp | hp
        · have := hl p hp
          cases s.writes <;> simp [this]
        · rw [hw p hp]; exact List.mem_cons_self
      simp only [step, hs, track, Bool.false_eq_true, if_false]
      split
      · cases atomic
        · exact .of_some rfl hl'
        · exact .of_some rfl fun p hp => hl' p (List.mem_append_left _ hp)
      · exact .of_some rfl hl'

theorem ryw_run_eq (atomic : Bool) (ops : List Op) : ∀ (σ : State) (w : Option (List Nat)), Tracks σ w →
    readsOwnWrites w ops = false → run atomic false σ ops = run atomic true σ ops := by
  induction ops with
  | nil => intro σ w _ _; rfl
  | cons op ops ih =>
    intro σ w ht hno
    simp only [readsOwnWrites, Bool.or_eq_false_iff] at hno
    simp only [run]
    rw [← step_ryw_eq atomic op ht hno.1]
    exact ih _ _ (tracks_step atomic σ w op ht) hno.2

end Nervus.Txn
