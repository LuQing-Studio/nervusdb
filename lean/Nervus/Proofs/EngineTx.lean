/-
  Proofs/EngineTx.lean — one staged write, then all staged writes of a transaction: the staged
  relation is preserved by `stepTx` (the per-operation simulation lemmas put together) and by the fold
  over a well-formed transaction that triggers no finding.
-/
import Nervus.Proofs.EngineCommitL
import Nervus.Proofs.Staging
namespace Nervus.Storage
open Nervus.GraphSpec (Graph TxOp Op Rel opWF txWF wfFrom txOnly anyCommitted txDeletesRelWithProps
  txLabelReAdd txEdgeAndEndpointDelete txExtZero)

structure StagedTx (s0 : Engine) (g0 : Graph) (s : Engine) (t : Txn) (g : Graph) : Prop where
  G : Staged s0 g0 s t g
  L : StagedL s0 g0 s t g

theorem live_iff (g : Graph) (n : Nat) : g.live n = true ↔ (n < g.next ∧ n ∉ g.dead) := by
  simp [Graph.live]

theorem step_sim (c : Cfg) {s0 g0 s t g} (hL0 : SimL s0 g0) (h : StagedTx s0 g0 s t g) (op : TxOp)
    (hwf : opWF g op = true) (hroom : s.interner.length < labelMax)
    (hx0 : ∀ lab, op ≠ .node 0 lab)
    (hnd : ∀ n nm, op = .labelAdd n nm → ∀ lid, (n, lid) ∈ t.delL → s.interner[lid]? ≠ some nm)
    (hte : ∀ n, op = .tombNode n → ∀ e ∈ t.mt.edges, e.src ≠ n ∧ e.dst ≠ n)
    (hnp : ∀ a nm b, op = .tombEdge a nm b → ∀ p ∈ g.eprops, p.1.1 ≠ ⟨a, nm, b⟩) :
    StagedTx s0 g0 (stepTx c (s, t) op).1 (stepTx c (s, t) op).2 (g.step op) := by
  have hnod := h.G.ext.nodup
  have hint : ∀ nm, StagedTx s0 g0 (s.getOrCreateLabel nm).1 t g ∧
      (s.getOrCreateLabel nm).1.interner[(s.getOrCreateLabel nm).2]? = some nm := fun nm =>
    ⟨⟨h.G.intern nm, h.L.intern hnod (fun p hp => h.G.ext.pre.subset (hL0.labelsInt p hp)) nm hroom⟩,
      getOrCreateLabel_get s nm hnod⟩
  cases op with
  | node x lab =>
    have hfresh : ∀ p ∈ g.ext, p.2 ≠ x := by
      simp only [opWF, Bool.not_eq_true', List.any_eq_false, beq_iff_eq] at hwf
      exact hwf
    -- the engine after interning the label (if any), and the id `create_node` gets
    have hI : StagedTx s0 g0 (internLabel s lab).1 t g ∧
        (∀ l, lab = some l → (internLabel s lab).1.interner[(internLabel s lab).2]? = some l) ∧
        (lab = none → (internLabel s lab).2 = labelMax) := by
      cases lab with
      | none => exact ⟨h, fun _ h => (by cases h), fun _ => rfl⟩
      | some l => exact ⟨(hint l).1, fun _ h => Option.some.inj h ▸ (hint l).2, fun h => by cases h⟩
    obtain ⟨hcreate, hLn⟩ := hI.1.L.node hL0 hI.1.G.ext.idmap hI.1.G.ext.nodup hI.2.1 hI.2.2 hfresh
      fun hx => hx0 lab (by rw [hx])
    rw [show stepTx c (s, t) (.node x lab) = ((internLabel s lab).1,
      { t with created := t.created ++ [(x, (internLabel s lab).2, g.next)] }) by simp only [stepTx, hcreate]]
    refine ⟨?_, hLn⟩
    rw [step_node_eq g x lab hfresh]
    exact { hI.1.G with }
  | labelAdd n nm =>
    obtain ⟨⟨hG', hL'⟩, hr⟩ := hint nm
    refine ⟨?_, hL'.labelAdd hG'.ext.nodup hr ((live_iff g n).mp hwf).1 fun hm =>
      hnd n nm rfl _ hm (old_of_lt (getOrCreateLabel_prefix s nm) hr (h.L.delOK _ hm).2)⟩
    obtain ⟨L, hg, _⟩ := step_labelAdd_eq g n nm
    rw [hg]
    exact { hG' with }
  | labelDel n nm =>
    obtain ⟨⟨hG', hL'⟩, hr⟩ := hint nm
    exact ⟨{ hG' with }, hL'.labelDel hG'.ext.nodup hr ((live_iff g n).mp hwf).1⟩
  | edge a nm b =>
    obtain ⟨⟨hG', hL'⟩, hr⟩ := hint nm
    simp only [opWF, Bool.and_eq_true, live_iff] at hwf
    exact ⟨hG'.edge hr hwf.1.2 hwf.2.2, { hL' with }⟩
  | tombNode n => exact ⟨h.G.tombNode (hte n rfl), h.L.tombNode ((live_iff g n).mp hwf).1⟩
  | tombEdge a nm b =>
    obtain ⟨⟨hG', hL'⟩, hr⟩ := hint nm
    exact ⟨hG'.tombEdge hr (hnp a nm b rfl), { hL' with }⟩
  | nprop n k v => exact ⟨h.G.nprop n k v, { h.L with }⟩
  | npropDel n k => exact ⟨h.G.npropDel n k, { h.L with }⟩
  | eprop a nm b k v =>
    obtain ⟨⟨hG', hL'⟩, hr⟩ := hint nm
    exact ⟨hG'.eprop k v hr, { hL' with }⟩
  | epropDel a nm b k =>
    obtain ⟨⟨hG', hL'⟩, hr⟩ := hint nm
    exact ⟨hG'.epropDel k hr, { hL' with }⟩
  | vec n v =>
    show StagedTx s0 g0 (t.setVector c s n v).1 (t.setVector c s n v).2 _
    unfold Txn.setVector
    split
    · exact ⟨{ h.G with }, { h.L with }⟩
    · exact ⟨{ h.G with ext := ⟨h.G.ext.runs, h.G.ext.idmap, h.G.ext.segs, h.G.ext.root, h.G.ext.pre, hnod⟩ },
        { h.L with }⟩

/-! ### what a staged write does to the engine frame and to the pending lists -/

theorem stepTx_ext (c : Cfg) (s0 s : Engine) (t : Txn) (op : TxOp) (he : Ext s0 s) :
    Ext s0 (stepTx c (s, t) op).1 := by
  rcases stepTx_engine c s t op with h | ⟨nm, h⟩ | ⟨n, v, _, h⟩ <;> rw [h]
  · exact he
  · exact he.intern nm
  · exact ⟨he.runs, he.idmap, he.segs, he.root, he.pre, he.nodup⟩

theorem stepTx_names (c : Cfg) (s : Engine) (t : Txn) (op : TxOp) :
    (stepTx c (s, t) op).1.interner.length ≤ s.interner.length + 1 ∧
    s.interner <+: (stepTx c (s, t) op).1.interner := by
  rcases stepTx_engine c s t op with h | ⟨nm, h⟩ | ⟨n, v, _, h⟩ <;> rw [h]
  · exact ⟨Nat.le_succ _, List.prefix_refl _⟩
  · exact ⟨getOrCreateLabel_length_le s nm, getOrCreateLabel_prefix s nm⟩
  · exact ⟨Nat.le_succ _, List.prefix_refl _⟩

theorem stepTx_delL (c : Cfg) (s : Engine) (t : Txn) (op : TxOp) :
    ∀ p ∈ (stepTx c (s, t) op).2.delL, p ∈ t.delL ∨
      (∃ n nm, op = .labelDel n nm ∧ p = (n, (s.getOrCreateLabel nm).2)) := by
  intro p hp
  cases op with
  | node x lab =>
    simp only [stepTx] at hp
    split at hp
    · next r hr => rw [(createNode_fields _ _ _ _ _ hr).2.1] at hp; exact Or.inl hp
    · exact Or.inl hp
  | labelDel n nm => exact (List.mem_append.mp hp).imp id fun h => ⟨n, nm, rfl, List.mem_singleton.mp h⟩
  | vec n v =>
    have hp' : p ∈ (t.setVector c s n v).2.delL := hp
    unfold Txn.setVector at hp'
    split at hp' <;> exact Or.inl hp'
  | _ => exact Or.inl hp

theorem stepTx_edges (c : Cfg) (s : Engine) (t : Txn) (op : TxOp) :
    ∀ e ∈ (stepTx c (s, t) op).2.mt.edges, e ∈ t.mt.edges ∨
      (∃ a nm b, op = .edge a nm b ∧ e = ⟨a, (s.getOrCreateLabel nm).2, b⟩) := by
  intro e he
  cases op with
  | node x lab =>
    simp only [stepTx] at he
    split at he
    · next r hr => rw [(createNode_fields _ _ _ _ _ hr).1] at he; exact Or.inl he
    · exact Or.inl he
  | edge a nm b => exact (List.mem_append.mp he).imp id fun h => ⟨a, nm, b, rfl, List.mem_singleton.mp h⟩
  | tombEdge a nm b => exact Or.inl (List.mem_filter.mp he).1
  | vec n v =>
    have he' : e ∈ (t.setVector c s n v).2.mt.edges := he
    unfold Txn.setVector at he'
    split at he' <;> exact Or.inl he'
  | _ => exact Or.inl he

/-! ### a whole transaction -/

theorem StagedTx.init {s0 g0} (hS : SimG s0 g0) (hL : SimL s0 g0) :
    StagedTx s0 g0 s0.beginWrite.1 s0.beginWrite.2 g0 := by
  have hpt : ∀ n, g0.extOf n = if n < g0.next then g0.extOf n else
      (([] : List (Nat × Nat × Nat))[n - g0.next]?).map (·.1) := fun n => by
    split
    · rfl
    · next hlt => rw [hL.extPt n, List.getElem?_eq_none (by rw [hL.lenE]; omega)]; rfl
  exact ⟨{ ext := Ext.begin hS.nodup,
           dead := fun n => by simp [Engine.beginWrite],
           edges := fun r nm a b _ => by simp [Engine.beginWrite], mtOK := fun e he => (nomatch he),
           relsInt := hS.relsInt, rels0 := hS.relsInt, nprops := fun n k _ => by simp [Engine.beginWrite],
           mtN := fun key hk => (nomatch hk), eprops := fun r nm a b k _ _ _ => by simp [Engine.beginWrite],
           mtE := fun key hk => (nomatch hk), mtERel := fun p hp => (nomatch hp), epropsInt := hS.epropsInt,
           eprops0 := hS.epropsInt },
         { next := rfl, extEq := rfl, ids := fun i c hc => by simp [Engine.beginWrite] at hc, extPt := hpt,
           extLt := hL.extLt, extNZ := hL.extNZ, extND := hL.extND, extIdND := hL.extIdND,
           labels := fun n lid nm _ _ _ => by simp [Engine.beginWrite],
           labelsInt := hL.labelsInt, labelsLt := hL.labelsLt, addOK := fun p hp => (nomatch hp),
           delOK := fun p hp => (nomatch hp), createdLid := fun c hc => (nomatch hc), deadLt := hL.deadLt,
           small := hL.small }⟩

theorem txExtZero_cons (op : TxOp) (ops : List TxOp) (h : txExtZero (op :: ops) = false) :
    (∀ lab, op ≠ .node 0 lab) ∧ txExtZero ops = false := by
  unfold txExtZero at h ⊢
  rw [List.any_cons, Bool.or_eq_false_iff] at h
  exact ⟨fun lab hop => by subst hop; simp at h, h.2⟩

/-- the last two hypotheses are `txLabelReAdd` and `txEdgeAndEndpointDelete` across the cut between what is
    staged (`t.delL`, `t.mt.edges`) and what is still to come (`ops`); both are vacuous at `begin_write` -/
theorem stage_ops (c : Cfg) {s0 g0} (hL0 : SimL s0 g0) (ops : List TxOp) :
    ∀ s t g, StagedTx s0 g0 s t g → txWF g ops = true → s.interner.length + ops.length ≤ labelMax →
      txExtZero ops = false → txLabelReAdd ops = false → txEdgeAndEndpointDelete ops = false →
      txDeletesRelWithProps g ops = false →
      (∀ p ∈ t.delL, ∀ nm, s.interner[p.2]? = some nm → TxOp.labelAdd p.1 nm ∉ ops) →
      (∀ e ∈ t.mt.edges, TxOp.tombNode e.src ∉ ops ∧ TxOp.tombNode e.dst ∉ ops) →
      StagedTx s0 g0 (ops.foldl (stepTx c) (s, t)).1 (ops.foldl (stepTx c) (s, t)).2 (g.apply ops) := by
  induction ops with
  | nil => intro s t g h _ _ _ _ _ _ _ _; exact h
  | cons op ops ih =>
    intro s t g h hwf hb hz hra hed hrp H1 H2
    simp only [txWF, Bool.and_eq_true] at hwf
    simp only [List.length_cons] at hb
    obtain ⟨hz1, hz2⟩ := txExtZero_cons op ops hz
    rw [txDeletesRelWithProps, Bool.or_eq_false_iff] at hrp
    have hstep := step_sim c hL0 h op hwf.1 (by omega) hz1
      (fun n nm hop lid hm hname => H1 (n, lid) hm nm hname (hop ▸ List.mem_cons_self))
      (fun n hop e he => ⟨fun h => (H2 e he).1 (hop ▸ h ▸ List.mem_cons_self),
        fun h => (H2 e he).2 (hop ▸ h ▸ List.mem_cons_self)⟩)
      (fun a nm b hop p hp => by
        have := hrp.1; rw [hop] at this
        simp only [GraphSpec.opDeletesRelWithProps, List.any_eq_false, beq_iff_eq] at this
        exact this p hp)
    obtain ⟨hlen', hpre'⟩ := stepTx_names c s t op
    show StagedTx s0 g0 (ops.foldl (stepTx c) (stepTx c (s, t) op)).1 (ops.foldl (stepTx c) (stepTx c (s, t) op)).2
      ((g.step op).apply ops)
    refine ih (stepTx c (s, t) op).1 (stepTx c (s, t) op).2 (g.step op) hstep hwf.2 (by omega) hz2 ?_ ?_ hrp.2 ?_ ?_
    · cases op <;> first | exact hra | (rw [txLabelReAdd, Bool.or_eq_false_iff] at hra; exact hra.2)
    · cases op <;> first | exact hed |
        (simp only [txEdgeAndEndpointDelete, Bool.or_eq_false_iff] at hed; exact hed.2)
    · intro p hp nm hname
      rcases stepTx_delL c s t op p hp with hold | ⟨n, nm0, rfl, rfl⟩
      · exact fun hm => H1 p hold nm (old_of_lt hpre' hname (h.L.delOK p hold).2) (List.mem_cons_of_mem _ hm)
      · -- the removal staged just now: the same label is not added back later
        have hnm : nm0 = nm := Option.some.inj ((getOrCreateLabel_get s nm0 h.G.ext.nodup).symm.trans hname)
        rw [txLabelReAdd, Bool.or_eq_false_iff] at hra
        simpa [hnm] using hra.1
    · intro e he
      rcases stepTx_edges c s t op e he with hold | ⟨a, nm, b, rfl, rfl⟩
      · exact ⟨fun hm => (H2 e hold).1 (List.mem_cons_of_mem _ hm), fun hm => (H2 e hold).2 (List.mem_cons_of_mem _ hm)⟩
      · simp only [txEdgeAndEndpointDelete, Bool.or_eq_false_iff] at hed
        exact ⟨by simpa using hed.1.1, by simpa using hed.1.2⟩

end Nervus.Storage
