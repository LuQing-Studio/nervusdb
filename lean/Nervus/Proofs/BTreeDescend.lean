/-
  C26: the root-to-leaf descent reaches the leaf responsible for the key, and the read operations
  (cursor_lower_bound + scan loop, lookup) agree with the multimap spec on the tree's contents.
-/
import Nervus.Proofs.BTreeChain
set_option linter.unusedSectionVars false
namespace Nervus.BTree
open Nervus KO

variable {κ : Type} [KeyOrd κ] [LawfulKeyOrd κ]

/-- the path handed to insert_into_parent: every (page, child_pos) really is the parent of the page
    below it, at that position, one level up; the last one is the root -/
def PathOK (pg : Pg κ) (g : Ghost κ) (root : Nat) : Nat → Nat → List (Nat × Nat) → Prop
  | child, lvl, [] => child = root ∧ lvl = g.H
  | child, lvl, (pid, pos) :: rest =>
    (∃ lo hi lm cells b, g.G pid = some (lvl + 1, lo, hi) ∧ pg pid = some (.internal lm cells b) ∧
      pos ≤ cells.length ∧ (endSt lo lm (cells.take pos)).2 = child) ∧ PathOK pg g root pid (lvl + 1) rest

structure Found (pg : Pg κ) (g : Ghost κ) (root : Nat) (k : κ) (p : Nat) (es : List (κ × Nat)) (b r : Nat)
    (lo hi : Option κ) (path : List (Nat × Nat)) : Prop where
  ghost : g.G p = some (0, lo, hi)
  page : pg p = some (.leaf es b r)
  sorted : SSorted es
  inRange : ∀ e ∈ es, bLo lo e.1 ∧ bHi e.1 hi
  lo : bLo lo k
  hi : bHi k hi
  path : PathOK pg g root p 0 path

theorem descend_spec (c : Cfg) (hc : c.Std) (pages : PageMap (Node κ)) (root next : Nat) (g : Ghost κ)
    (wf : WF pages.get root next g) (k : κ) :
    ∀ (fuel cur l : Nat) (lo hi : Option κ) (path : List (Nat × Nat)),
      g.G cur = some (l, lo, hi) → bLo lo k → bHi k hi → l < fuel → PathOK pages.get g root cur l path →
      ∃ p es b r lo' hi' path', descend c pages k fuel cur path = .leaf p es b r path' ∧
        Found pages.get g root k p es b r lo' hi' path' := by
  intro fuel
  induction fuel with
  | zero => intro cur l lo hi path _ _ _ hl; exact absurd hl (Nat.not_lt_zero _)
  | succ f ih =>
    intro cur l lo hi path hG hlo hhi hl hpath
    cases l with
    | zero =>
      obtain ⟨es, b, r, hp, hs, hin⟩ := wf.leaf cur lo hi hG
      exact ⟨cur, es, b, r, lo, hi, path, by simp [descend, hp], ⟨hG, hp, hs, hin, hlo, hhi, hpath⟩⟩
    | succ l' =>
      obtain ⟨lm, cells, b, hp, hkids, hnd⟩ := wf.int cur l' lo hi hG
      have hsorted : WSorted cells := And.left <| kidsR_bounds lo hi lm cells (fun x hx =>
        (wf.rng x.1 l' x.2.1 x.2.2 (hkids x hx)).2.2)
      obtain ⟨pos, clo, chi, hpos, hchild, hmem, hlo', hhi'⟩ := childForKey_spec c hc lo hi lm cells hsorted k hlo hhi
      obtain ⟨p, es, b', r, lo', hi', path', hd, hfound⟩ :=
        ih _ l' clo chi ((cur, pos) :: path) (hkids _ hmem) hlo' hhi' (Nat.lt_of_succ_lt_succ hl)
          ⟨⟨lo, hi, lm, cells, b, hG, hp, hpos, rfl⟩, hpath⟩
      refine ⟨p, es, b', r, lo', hi', path', ?_, hfound⟩
      simp only [descend, hp, hchild]
      exact hd

theorem descend_root (c : Cfg) (hc : c.Std) (t : Tree κ) (g : Ghost κ)
    (wf : WF t.pages.get t.root t.next g) (k : κ) :
    ∃ p es b r lo hi path, descend c t.pages k t.next t.root [] = .leaf p es b r path ∧
      Found t.pages.get g t.root k p es b r lo hi path := by
  have hL : 1 ≤ g.L.length := by
    obtain ⟨p0, rest, hL, _⟩ := wf.seg
    rw [hL]; simp
  exact descend_spec c hc t.pages t.root t.next g wf k t.next t.root g.H none none [] wf.root trivial trivial
    (Nat.lt_of_lt_of_le (Nat.lt_add_of_pos_left hL) wf.fuel) ⟨rfl, rfl⟩

/-! ### where the found leaf sits in the chain -/

theorem WF.mem_split {pg : Pg κ} {root next : Nat} {g : Ghost κ} (wf : WF pg root next g)
    {p : Nat} {lo hi : Option κ} (hG : g.G p = some (0, lo, hi)) : ∃ A B, g.L = A ++ p :: B :=
  List.append_of_mem ((wf.lmem p).mpr ⟨lo, hi, hG⟩)

theorem WF.notin_of_split {pg : Pg κ} {root next : Nat} {g : Ghost κ} (wf : WF pg root next g)
    {p : Nat} {A B : List Nat} (hL : g.L = A ++ p :: B) : p ∉ A ∧ p ∉ B := by
  have hnd := wf.lnodup
  rw [hL] at hnd
  obtain ⟨_, h2, h3⟩ := List.nodup_append.mp hnd
  exact ⟨fun h => h3 p h p (List.mem_cons_self ..) rfl, (List.nodup_cons.mp h2).1⟩

theorem chain_split {pg : Pg κ} {root next : Nat} {g : Ghost κ} (wf : WF pg root next g)
    {p : Nat} {lo hi : Option κ} (hG : g.G p = some (0, lo, hi)) {A B : List Nat} (hL : g.L = A ++ p :: B) :
    ∃ p0 r, Seg pg g.G p0 none A p lo ∧ rightOf pg p = some r ∧ (hi = none → r = 0) ∧
      Seg pg g.G r hi B 0 none ∧ 0 < p := by
  obtain ⟨p0, rest, _, hseg⟩ := wf.seg
  rw [hL] at hseg
  obtain ⟨m, mlo, h1, h2⟩ := (Seg_append pg g.G A (p :: B) p0 none 0 none).mp hseg
  obtain ⟨hpm, hpos, hi', r, hG', hr, hn, hrest⟩ := h2
  subst hpm
  rw [hG] at hG'
  cases hG'
  exact ⟨p0, r, h1, hr, hn, hrest, hpos⟩

theorem Found.around {pg : Pg κ} {root next : Nat} {g : Ghost κ} (wf : WF pg root next g)
    {k : κ} {p : Nat} {es : List (κ × Nat)} {b r : Nat} {lo hi : Option κ} {path : List (Nat × Nat)}
    (hf : Found pg g root k p es b r lo hi path) {A B : List Nat} (hL : g.L = A ++ p :: B) :
    contents pg g.L = contents pg A ++ es ++ contents pg B ∧
      (∀ e ∈ contents pg A, Lt e.1 k) ∧ (∀ e ∈ contents pg B, Lt k e.1) ∧
      Seg pg g.G r hi B 0 none ∧ (hi = none → r = 0) := by
  obtain ⟨p0, r', hsegA, hr, hn, hsegB, hpos⟩ := chain_split wf hf.ghost hL
  rw [rightOf, hf.page] at hr
  cases hr
  refine ⟨?_, ?_, ?_, hsegB, hn⟩
  · rw [hL, contents_append, contents_cons, entriesOf_leaf hf.page, List.append_assoc]
  · exact ((Seg_order wf A p0 none p lo hsegA).2 hpos k hf.lo).2
  · intro e he; exact Seg_after_hi wf B r hi hn hsegB e he k hf.hi

/-! ### the reads against the spec -/

/-- `A ++ B` cut at the slot of `k` (smaller keys before, none smaller right after): the spec's lower bound is `B`,
    and its insert puts the pair at the cut -/
theorem mm_at_slot (k : κ) (A B : List (κ × Nat)) (hA : ∀ e ∈ A, Lt e.1 k) (hB : ∀ e ∈ B.head?, Le k e.1) :
    Multimap.lowerBound k (A ++ B) = B ∧ ∀ v, Multimap.insert k v (A ++ B) = A ++ (k, v) :: B := by
  induction A with
  | nil =>
    cases B with
    | nil => exact ⟨rfl, fun _ => rfl⟩
    | cons b bs =>
      have : KeyOrd.lt b.1 k = false := hB b (by simp)
      exact ⟨by simp [Multimap.lowerBound, this], fun v => by simp [Multimap.insert, this]⟩
  | cons a as ih =>
    have h1 : KeyOrd.lt a.1 k = true := hA a (List.mem_cons_self ..)
    obtain ⟨ih1, ih2⟩ := ih (fun e he => hA e (List.mem_cons_of_mem _ he))
    simp only [List.cons_append, Multimap.lowerBound, Multimap.insert, h1, if_true]
    exact ⟨ih1, fun v => by rw [ih2 v]⟩

/-- the same around a leaf `es` cut at a slot `i` that separates the smaller keys from the others, between pairs with
    smaller keys (`CA`) and pairs with larger keys (`CB`) -/
theorem mm_around (k : κ) (CA es CB : List (κ × Nat)) (i : Nat) (hi : i ≤ es.length)
    (hA : ∀ e ∈ CA, Lt e.1 k) (hB : ∀ e ∈ CB, Lt k e.1)
    (hb : ∀ e ∈ es.take i, Lt e.1 k) (ha : ∀ e ∈ es.drop i, Le k e.1) :
    Multimap.lowerBound k (CA ++ es ++ CB) = es.drop i ++ CB ∧
      ∀ v, Multimap.insert k v (CA ++ es ++ CB) = CA ++ es.insertIdx i (k, v) ++ CB := by
  have : CA ++ es ++ CB = (CA ++ es.take i) ++ (es.drop i ++ CB) := by
    simp only [List.append_assoc]
    rw [← List.append_assoc (es.take i), List.take_append_drop]
  obtain ⟨h1, h2⟩ := mm_at_slot k (CA ++ es.take i) (es.drop i ++ CB)
    (fun e he => (List.mem_append.mp he).elim (hA e) (hb e)) (fun e he => by
      by_cases hd : es.drop i = []
      · rw [hd, List.nil_append] at he
        exact le_of_lt (hB e (List.mem_of_mem_head? he))
      · rw [head?_append_of_ne_nil _ hd] at he
        exact ha e (List.mem_of_mem_head? he))
  rw [this]
  exact ⟨h1, fun v => by rw [h2 v, insertIdx_eq_take_drop _ _ _ hi]; simp [List.append_assoc]⟩

theorem cursor_spec (c : Cfg) (hc : c.Std) (t : Tree κ) (g : Ghost κ)
    (wf : WF t.pages.get t.root t.next g) (k : κ) :
    ∃ cur, cursorLowerBound c t k = .ok cur ∧
      collect c t.pages t.next cur = .ok (Multimap.lowerBound k (contents t.pages.get g.L)) ∧
      cur.es[cur.slot]? = (Multimap.lowerBound k (contents t.pages.get g.L)).head? := by
  obtain ⟨p, es, b, r, lo, hi, path, hd, hf⟩ := descend_root c hc t g wf k
  obtain ⟨idx, hidx, hle, hbefore, hafter⟩ := leafLowerBound_spec c hc es hf.sorted.weak k
  obtain ⟨A, B, hL⟩ := wf.mem_split hf.ghost
  obtain ⟨hcont, hA, hB, hsegB, hn⟩ := hf.around wf hL
  have hlen : B.length < t.next := by
    have := wf.fuel; rw [hL] at this; simp at this; omega
  obtain ⟨cur, h1, h2, h3⟩ := settle_collect_spec c hc t.pages g.G B p es r idx hi t.next t.next
    hsegB hlen hlen
  have hspec : Multimap.lowerBound k (contents t.pages.get g.L) = es.drop idx ++ contents t.pages.get B := by
    rw [hcont]; exact (mm_around k _ es _ idx hle hA hB hbefore hafter).1
  refine ⟨cur, ?_, ?_, ?_⟩
  · simp only [cursorLowerBound, hd, hidx]; exact h1
  · rw [hspec]; exact h2
  · rw [hspec]; exact h3

theorem scanFrom_spec (c : Cfg) (hc : c.Std) (t : Tree κ) (g : Ghost κ)
    (wf : WF t.pages.get t.root t.next g) (k : κ) :
    scanFrom c t k = .ok (Multimap.lowerBound k (contents t.pages.get g.L)) := by
  obtain ⟨cur, h1, h2, _⟩ := cursor_spec c hc t g wf k
  simp only [scanFrom, h1, h2]

theorem mm_lowerBound_min (m : List (κ × Nat)) : Multimap.lowerBound (KeyOrd.min : κ) m = m := by
  cases m with
  | nil => rfl
  | cons e es => simp [Multimap.lowerBound, LawfulKeyOrd.min_le]

theorem scan_spec (c : Cfg) (hc : c.Std) (t : Tree κ) (g : Ghost κ)
    (wf : WF t.pages.get t.root t.next g) :
    scan c t = .ok (contents t.pages.get g.L) := by
  rw [scan, scanFrom_spec c hc t g wf, mm_lowerBound_min]

theorem lookup_spec (c : Cfg) (hc : c.Std) (t : Tree κ) (g : Ghost κ)
    (wf : WF t.pages.get t.root t.next g) (k : κ) :
    lookup c t k = .ok (Multimap.lookup k (contents t.pages.get g.L)) := by
  obtain ⟨cur, h1, _, h3⟩ := cursor_spec c hc t g wf k
  simp only [lookup, h1, h3, Multimap.lookup]
  cases Multimap.lowerBound k (contents t.pages.get g.L) with
  | nil => rfl
  | cons e es => rfl

end Nervus.BTree
