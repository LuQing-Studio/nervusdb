/-
  The binary searches of the B-tree model (C26).  `bsLoop` (leaf_lower_bound / internal_child_for_key), run on a
  predicate that is `true` on a prefix and `false` afterwards, returns the length of that prefix;
  `rustBinarySearch` (core::slice::binary_search_by) is correct on sequences of the shape `lt* eq? gt*` (`Pat`).
-/
import Nervus.Model.BTree
import Nervus.Proofs.KeyOrd
set_option linter.unusedSectionVars false
namespace Nervus.BTree
open Nervus

theorem insertIdx_eq_take_drop {α : Type} (a : α) : ∀ (l : List α) (i : Nat), i ≤ l.length →
    l.insertIdx i a = l.take i ++ a :: l.drop i
  | l, 0, _ => by simp
  | [], i+1, h => by simp at h
  | x :: xs, i+1, h => by
    simp only [List.insertIdx_succ_cons, List.take_succ_cons, List.drop_succ_cons, List.cons_append]
    rw [insertIdx_eq_take_drop a xs i (by simpa using h)]

theorem perm_insert_after {α : Type} (A B : List α) (x y : α) :
    (A ++ x :: y :: B).Perm (y :: (A ++ x :: B)) := by
  have := @List.perm_middle _ y (A ++ [x]) B
  simpa only [List.append_assoc, List.singleton_append] using this

theorem bsLoop_spec (g : Nat → Option Bool) (n : Nat) (P : Nat → Bool)
    (hg : ∀ i, i < n → g i = some (P i))
    (mono : ∀ i j, i ≤ j → j < n → P j = true → P i = true) :
    ∀ (fuel lo hi : Nat), lo ≤ hi → hi ≤ n → hi - lo ≤ fuel →
      (∀ i, i < lo → P i = true) → (∀ i, hi ≤ i → i < n → P i = false) →
      ∃ r, bsLoop g fuel lo hi = some r ∧ r ≤ n ∧ (∀ i, i < r → P i = true) ∧
        (∀ i, r ≤ i → i < n → P i = false) := by
  intro fuel
  induction fuel with
  | zero =>
    intro lo hi h1 h2 h3 hl hh
    have : lo = hi := Nat.le_antisymm h1 (Nat.le_of_sub_eq_zero (Nat.le_zero.mp h3))
    subst this
    exact ⟨lo, rfl, h2, hl, hh⟩
  | succ f ih =>
    intro lo hi h1 h2 h3 hl hh
    unfold bsLoop
    by_cases hlt : lo < hi
    · rw [if_pos hlt]
      obtain ⟨mid, hm⟩ : ∃ mid, mid = (lo + hi) / 2 := ⟨_, rfl⟩
      have hm1 : lo ≤ mid ∧ mid < hi := by omega
      have hmid : mid < n := Nat.lt_of_lt_of_le hm1.2 h2
      simp only [← hm]
      rw [hg _ hmid]
      cases hp : P mid with
      | true =>
        exact ih (mid + 1) hi hm1.2 h2 (by omega)
          (fun i hi' => mono i mid (Nat.le_of_lt_succ hi') hmid hp) hh
      | false =>
        refine ih lo mid hm1.1 (Nat.le_of_lt hmid) (by omega) hl fun i hi1 hi2 => ?_
        cases hpi : P i with
        | false => rfl
        | true => rw [mono _ _ hi1 hi2 hpi] at hp; cases hp
    · rw [if_neg hlt]
      have : lo = hi := Nat.le_antisymm h1 (Nat.le_of_not_lt hlt)
      subst this
      exact ⟨lo, rfl, h2, hl, hh⟩

theorem boundary_unique (n : Nat) (P : Nat → Bool) (r s : Nat) (hr : r ≤ n) (hs : s ≤ n)
    (h1 : ∀ i, i < r → P i = true) (h2 : ∀ i, r ≤ i → i < n → P i = false)
    (h3 : ∀ i, i < s → P i = true) (h4 : ∀ i, s ≤ i → i < n → P i = false) : r = s := by
  rcases Nat.lt_trichotomy r s with h | h | h
  · have a := h3 r h; have b := h2 r (Nat.le_refl _) (by omega); rw [a] at b; cases b
  · exact h
  · have a := h1 s h; have b := h4 s (Nat.le_refl _) (by omega); rw [a] at b; cases b

/-! ### core::slice::binary_search_by -/

/-- the shape `lt* eq? gt*` -/
def Pat {α : Type} (f : α → Ordering) (xs : List α) : Prop :=
  ∀ (i j : Nat) (x y : α), i < j → xs[i]? = some x → xs[j]? = some y → f y ≠ .gt → f x = .lt

theorem rustBSLoop_spec {α : Type} (f : α → Ordering) (xs : List α) (hp : Pat f xs) :
    ∀ (fuel size base : Nat), 1 ≤ size → base + size ≤ xs.length → size ≤ fuel + 1 →
      (base = 0 ∨ ∃ x, xs[base]? = some x ∧ f x ≠ .gt) →
      (∀ j y, base + size ≤ j → xs[j]? = some y → f y = .gt) →
      ∃ b, rustBSLoop f xs fuel size base = some b ∧ b < xs.length ∧
        (b = 0 ∨ ∃ x, xs[b]? = some x ∧ f x ≠ .gt) ∧
        (∀ j y, b + 1 ≤ j → xs[j]? = some y → f y = .gt) := by
  intro fuel
  induction fuel with
  | zero =>
    intro size base h1 h2 h3 hb hg
    have : size = 1 := Nat.le_antisymm h3 h1
    subst this
    exact ⟨base, rfl, h2, hb, hg⟩
  | succ fu ih =>
    intro size base h1 h2 h3 hb hg
    unfold rustBSLoop
    by_cases hs : 1 < size
    · rw [if_pos hs]
      obtain ⟨half, hh⟩ : ∃ half, half = size / 2 := ⟨_, rfl⟩
      have hh1 : 0 < half ∧ half < size ∧ half ≤ size - half := by omega
      have hmid : base + half < xs.length := Nat.lt_of_lt_of_le (Nat.add_lt_add_left hh1.2.1 base) h2
      have hsum : base + half + (size - half) = base + size := by
        rw [Nat.add_assoc, Nat.add_sub_cancel' (Nat.le_of_lt hh1.2.1)]
      have hfu : size - half ≤ fu + 1 :=
        Nat.sub_le_of_le_add (Nat.le_trans h3 (Nat.add_le_add_left hh1.1 _))
      simp only [← hh]
      rw [List.getElem?_eq_getElem hmid]
      simp only
      by_cases hgt : f xs[base + half] = .gt
      · rw [if_pos hgt]
        refine ih (size - half) base (Nat.sub_pos_of_lt hh1.2.1)
          (Nat.le_trans (Nat.add_le_add_left (Nat.sub_le _ _) _) h2) hfu hb fun j y hj hy => ?_
        -- from the midpoint on everything is `gt`: an element that is not would make the midpoint `lt`
        have hmj : base + half ≤ j := Nat.le_trans (Nat.add_le_add_left hh1.2.2 base) hj
        by_cases hjm : j = base + half
        · subst hjm
          rw [List.getElem?_eq_getElem hmid] at hy
          cases hy; exact hgt
        · apply Classical.byContradiction
          intro hne
          have := hp (base + half) j _ y (Nat.lt_of_le_of_ne hmj (Ne.symm hjm))
            (List.getElem?_eq_getElem hmid) hy hne
          rw [hgt] at this; cases this
      · rw [if_neg hgt]
        exact ih (size - half) (base + half) (Nat.sub_pos_of_lt hh1.2.1) (hsum ▸ h2) hfu
          (Or.inr ⟨_, List.getElem?_eq_getElem hmid, hgt⟩) fun j y hj hy => hg j y (hsum ▸ hj) hy
    · rw [if_neg hs]
      have : size = 1 := Nat.le_antisymm (Nat.le_of_not_lt hs) h1
      subst this
      exact ⟨base, rfl, h2, hb, hg⟩

theorem rustBinarySearch_spec {α : Type} (f : α → Ordering) (xs : List α) (hp : Pat f xs) :
    ∃ r, rustBinarySearch f xs = some r ∧
      match r with
      | .found i => ∃ x, xs[i]? = some x ∧ f x = .eq
      | .missing i => i ≤ xs.length ∧ (∀ j x, j < i → xs[j]? = some x → f x = .lt) ∧
                      (∀ j x, i ≤ j → xs[j]? = some x → f x = .gt) := by
  unfold rustBinarySearch
  by_cases h0 : xs.length = 0
  · simp only [h0, if_true]
    refine ⟨_, rfl, Nat.le_refl _, ?_, ?_⟩
    · intro j x hj; exact absurd hj (Nat.not_lt_zero _)
    · intro j x _ hx
      have : xs = [] := List.eq_nil_of_length_eq_zero h0
      subst this; simp at hx
  · simp only [h0, if_false]
    obtain ⟨b, hb, hlt, hbase, hgt⟩ := rustBSLoop_spec f xs hp xs.length xs.length 0
      (Nat.pos_of_ne_zero h0) (Nat.le_of_eq (Nat.zero_add _)) (Nat.le_succ _) (Or.inl rfl) (by
        intro j y hj hy
        rw [List.getElem?_eq_none (Nat.zero_add xs.length ▸ hj)] at hy; cases hy)
    rw [hb]
    simp only
    rw [List.getElem?_eq_getElem hlt]
    simp only
    cases hfb : f xs[b] with
    | eq => exact ⟨_, rfl, _, List.getElem?_eq_getElem hlt, hfb⟩
    | lt =>
      refine ⟨_, rfl, hlt, ?_, ?_⟩
      · intro j x hj hx
        by_cases hjb : j = b
        · subst hjb
          rw [List.getElem?_eq_getElem hlt] at hx; cases hx; exact hfb
        · exact hp j b x _ (Nat.lt_of_le_of_ne (Nat.le_of_lt_succ hj) hjb) hx (List.getElem?_eq_getElem hlt) (by simp [hfb])
      · intro j x hj hx
        exact hgt j x hj hx
    | gt =>
      refine ⟨_, rfl, Nat.le_of_lt hlt, ?_, ?_⟩
      · intro j x hj hx
        rcases hbase with hb0 | ⟨x', hx', hne⟩
        · exact absurd (hb0 ▸ hj) (Nat.not_lt_zero _)
        · rw [List.getElem?_eq_getElem hlt] at hx'; cases hx'; exact absurd hfb hne
      · intro j x hj hx
        by_cases hjb : j = b
        · subst hjb
          rw [List.getElem?_eq_getElem hlt] at hx; cases hx; exact hfb
        · exact hgt j x (Nat.lt_of_le_of_ne hj (Ne.symm hjb)) hx

end Nervus.BTree
