/-
  Two invariants of the auto-commit system `Model.SchedCapi`.  `InvProg` (every configuration): a thread's committed
  statements followed by its remaining ones are its program.  `InvLock` (only `safeCfg`: lock before snapshot, guard
  released after publication): the lock has one owner, and whatever a lock holder has read or staged was computed from
  the current committed state, so each commit extends the serial run `runSeq hist`.  All steps of `InvLock` go through
  `InvLock.update`.  Also: the forced schedules of the model's scheduler are reachable (`reach_forced`).
-/
import Nervus.Model.SchedCapi
namespace Nervus.SchedCapi

variable {σ : Type}

/-- the thread owns `write_lock` at this program point -/
def Pc.holds : Pc σ → Prop
  | .locked | .ready _ | .staged _ | .finished => True
  | .idle | .snapped _ | .released _ => False

/-- program points that do not exist under lock-first / release-after-publication -/
def Pc.odd : Pc σ → Prop
  | .snapped _ | .released _ => True
  | _ => False

/-- what `Props.C09.source_is_safe` reads off the regenerated tables -/
def safeCfg : Cfg := { lockFirst := true, earlyLabel := false, earlyPlain := false }

@[simp] theorem safe_lockFirst : safeCfg.lockFirst = true := rfl

@[simp] theorem early_safe (st : Stmt σ) : safeCfg.early st = false := by
  simp only [Cfg.early, safeCfg]; split <;> rfl

@[simp] theorem setThread_threads (s : State σ) (i j : Nat) (t : Thread σ) :
    (setThread s i t).threads j = if j = i then t else s.threads j := rfl
@[simp] theorem setThread_db (s : State σ) (i : Nat) (t : Thread σ) : (setThread s i t).db = s.db := rfl
@[simp] theorem setThread_lock (s : State σ) (i : Nat) (t : Thread σ) : (setThread s i t).lock = s.lock := rfl
@[simp] theorem setThread_hist (s : State σ) (i : Nat) (t : Thread σ) : (setThread s i t).hist = s.hist := rfl

theorem runSeq_append (l : List (Stmt σ)) (st : Stmt σ) (d : σ) :
    runSeq (l ++ [st]) d = st.seq (runSeq l d) := by
  simp [runSeq, List.foldl_append]

theorem doneOf_append {s s' : State σ} {i : Nat} {st : Stmt σ} (hs : s'.hist = s.hist ++ [(i, st)]) (j : Nat) :
    doneOf s' j = if j = i then doneOf s j ++ [st] else doneOf s j := by
  unfold doneOf
  rw [hs, List.filter_append]
  by_cases hj : i = j
  · simp [hj]
  · simp [hj, Ne.symm hj]

theorem setThread_todo (s : State σ) (i : Nat) (t : Thread σ) (h : t.todo = (s.threads i).todo) (j : Nat) :
    ((setThread s i t).threads j).todo = (s.threads j).todo := by
  rw [setThread_threads]
  split
  · subst_vars; exact h
  · rfl

/-- program-order bookkeeping: holds for BOTH call orders -/
structure InvProg (prog : Nat → List (Stmt σ)) (s : State σ) : Prop where
  order : ∀ i, doneOf s i ++ (s.threads i).todo = prog i

/-- the invariant behind linearizability of the lock-then-snapshot order:
    "no snapshot is older than the lock holder's" -/
structure InvLock (d0 : σ) (s : State σ) : Prop where
  owner : ∀ i, (s.threads i).pc.holds → s.lock = some i
  noSnapped : ∀ i, ¬ (s.threads i).pc.odd
  fresh : ∀ i v, (s.threads i).pc = .ready v → v = s.db
  staged : ∀ i r, (s.threads i).pc = .staged r → ∃ st rest, (s.threads i).todo = st :: rest ∧ r = st.run s.db
  lin : s.db = runSeq (s.hist.map (·.2)) d0

theorem invProg_init (prog : Nat → List (Stmt σ)) (d0 : σ) : InvProg prog (init prog d0) :=
  ⟨fun i => by simp [doneOf, init]⟩

theorem invLock_init (prog : Nat → List (Stmt σ)) (d0 : σ) : InvLock d0 (init prog d0) :=
  ⟨fun i h => by simp [init, Pc.holds] at h, fun i => by simp [init, Pc.odd],
   fun i v h => by simp [init] at h, fun i r h => by simp [init] at h, by simp [init, runSeq]⟩

theorem InvProg.of_same {prog : Nat → List (Stmt σ)} {s s' : State σ} (hi : InvProg prog s)
    (hh : s'.hist = s.hist) (ht : ∀ j, (s'.threads j).todo = (s.threads j).todo) : InvProg prog s' :=
  ⟨fun j => by unfold doneOf; rw [hh, ht]; exact hi.order j⟩

theorem InvProg.commit {prog : Nat → List (Stmt σ)} {s s' : State σ} {i : Nat} {st : Stmt σ} {rest : List (Stmt σ)}
    (hi : InvProg prog s) (htodo : (s.threads i).todo = st :: rest) (hh : s'.hist = s.hist ++ [(i, st)])
    (ht : ∀ j, (s'.threads j).todo = if j = i then rest else (s.threads j).todo) : InvProg prog s' :=
  ⟨fun j => by
    rw [doneOf_append hh, ht, ← hi.order j]
    split
    · subst_vars; rw [htodo, List.append_assoc]; rfl
    · rfl⟩

theorem invProg_step {prog : Nat → List (Stmt σ)} {cfg : Cfg} {s s' : State σ} {l : Label}
    (hi : InvProg prog s) (hs : step cfg s l = some s') : InvProg prog s' := by
  cases l with
  | commit i =>
    simp only [step] at hs
    repeat' split at hs
    all_goals cases hs
    all_goals exact hi.commit ‹_› rfl (fun j => by rw [setThread_threads]; split <;> rfl)
  | _ i =>
    simp only [step] at hs
    repeat' split at hs
    all_goals cases hs
    all_goals exact hi.of_same rfl (setThread_todo _ _ _ rfl)

theorem InvLock.unique {d0 : σ} {s : State σ} (hi : InvLock d0 s) {i j : Nat}
    (hi' : (s.threads i).pc.holds) (hj : (s.threads j).pc.holds) : j = i :=
  Option.some.inj ((hi.owner j hj).symm.trans (hi.owner i hi'))

/-- Thread `i` moves to `t` while lock, committed state and history are set anew: the invariant survives when `t`
    satisfies its clauses against the new values and no other thread holds the lock — under `safeCfg` a thread steps
    only while it holds the lock or takes the free lock. -/
theorem InvLock.update {d0 : σ} {s : State σ} (hi : InvLock d0 s) (i : Nat) (t : Thread σ) (db : σ)
    (lock : Option Nat) (hist : List (Nat × Stmt σ))
    (hown : t.pc.holds → lock = some i) (hodd : ¬ t.pc.odd) (hfresh : ∀ v, t.pc = .ready v → v = db)
    (hstaged : ∀ r, t.pc = .staged r → ∃ st rest, t.todo = st :: rest ∧ r = st.run db)
    (hothers : ∀ j, j ≠ i → ¬ (s.threads j).pc.holds) (hlin : db = runSeq (hist.map (·.2)) d0) :
    InvLock d0 { setThread s i t with db := db, lock := lock, hist := hist } := by
  refine ⟨fun j hj => ?_, fun j => ?_, fun j v hj => ?_, fun j r hj => ?_, hlin⟩ <;>
    by_cases hji : j = i
  · subst hji; exact hown (by simpa using hj)
  · exact absurd (by simpa [hji] using hj) (hothers j hji)
  · subst hji; simpa using hodd
  · simpa [hji] using hi.noSnapped j
  · subst hji; exact hfresh v (by simpa using hj)
  · have hj' : (s.threads j).pc = .ready v := by simpa [hji] using hj
    exact absurd (by rw [hj']; trivial) (hothers j hji)
  · subst hji; simpa using hstaged r (by simpa using hj)
  · have hj' : (s.threads j).pc = .staged r := by simpa [hji] using hj
    exact absurd (by rw [hj']; trivial) (hothers j hji)

/-- the lock holder is the only thread that holds -/
theorem InvLock.alone {d0 : σ} {s : State σ} (hi : InvLock d0 s) {i : Nat} (h : (s.threads i).pc.holds) :
    ∀ j, j ≠ i → ¬ (s.threads j).pc.holds := fun _ hji hj => hji (hi.unique h hj)

/-- what `commit` publishes is the statement run on the committed state -/
theorem InvLock.lin_commit {d0 : σ} {s : State σ} (hi : InvLock d0 s) {i : Nat} {r : Option (σ → σ)} {st : Stmt σ}
    {rest : List (Stmt σ)} (hpc : (s.threads i).pc = .staged r) (htodo : (s.threads i).todo = st :: rest) :
    (r.elim s.db fun w => w s.db) = runSeq ((s.hist ++ [(i, st)]).map (·.2)) d0 := by
  obtain ⟨st', rest', htodo', hw⟩ := hi.staged i r hpc
  rw [htodo] at htodo'; cases htodo'
  subst hw
  rw [List.map_append, List.map_cons, List.map_nil, runSeq_append, ← hi.lin, Stmt.seq]
  show _ = match st.run s.db with | some w => w s.db | none => s.db
  cases st.run s.db <;> rfl

theorem invLock_step {d0 : σ} {s s' : State σ} {l : Label}
    (hi : InvLock d0 s) (hs : step safeCfg s l = some s') : InvLock d0 s' := by
  cases l with
  | snap i =>
    simp only [step, safe_lockFirst, if_true] at hs
    split at hs
    · cases hs
    · rename_i hpc
      cases hs
      exact hi.update i _ s.db s.lock s.hist (fun _ => hi.owner i (by rw [hpc]; trivial)) id
        (fun v h => (Pc.ready.inj h).symm) nofun (hi.alone (by rw [hpc]; trivial)) hi.lin
    · cases hs
  | lock i =>
    simp only [step, safe_lockFirst, if_true] at hs
    split at hs
    · cases hs
    · rename_i hnone
      split at hs
      · cases hs
        exact hi.update i _ s.db (some i) s.hist (fun _ => rfl) id nofun nofun
          (fun j _ hj => absurd (hi.owner j hj) (by rw [hnone]; nofun)) hi.lin
      · rename_i v hpc; exact absurd (by rw [hpc]; trivial) (hi.noSnapped i)
      · cases hs
  | exec i =>
    simp only [step] at hs
    split at hs
    · rename_i v st rest hpc htodo
      cases hs
      exact hi.update i _ s.db s.lock s.hist (fun _ => hi.owner i (by rw [hpc]; trivial)) id nofun
        (fun r h => ⟨st, rest, htodo, hi.fresh i v hpc ▸ (Pc.staged.inj h).symm⟩) (hi.alone (by rw [hpc]; trivial)) hi.lin
    · cases hs
  | commit i =>
    simp only [step, early_safe, Bool.false_eq_true, if_false] at hs
    split at hs
    · rename_i w st rest hpc htodo
      cases hs
      exact hi.update i _ _ s.lock _ (fun _ => hi.owner i (by rw [hpc]; trivial)) id nofun nofun
        (hi.alone (by rw [hpc]; trivial)) (hi.lin_commit hpc htodo)
    · rename_i st rest hpc htodo
      cases hs
      exact hi.update i _ s.db s.lock _ (fun _ => hi.owner i (by rw [hpc]; trivial)) id nofun nofun
        (hi.alone (by rw [hpc]; trivial)) (hi.lin_commit hpc htodo)
    · rename_i hpc _; exact absurd (by rw [hpc]; trivial) (hi.noSnapped i)
    · rename_i hpc _; exact absurd (by rw [hpc]; trivial) (hi.noSnapped i)
    · cases hs
  | unlock i =>
    simp only [step, early_safe, Bool.false_eq_true, if_false] at hs
    split at hs
    · rename_i hpc
      cases hs
      exact hi.update i _ s.db none s.hist False.elim id nofun nofun
        (hi.alone (by rw [hpc]; trivial)) hi.lin
    · cases hs
    · cases hs

theorem reach_invProg {prog : Nat → List (Stmt σ)} {d0 : σ} {cfg : Cfg} {s : State σ}
    (h : Reach cfg (init prog d0) s) : InvProg prog s := by
  induction h with
  | refl => exact invProg_init prog d0
  | step l _ hs ih => exact invProg_step ih hs

theorem reach_invLock {prog : Nat → List (Stmt σ)} {d0 : σ} {s : State σ}
    (h : Reach safeCfg (init prog d0) s) : InvLock d0 s := by
  induction h with
  | refl => exact invLock_init prog d0
  | step l _ hs ih => exact invLock_step ih hs

theorem reach_of_runTrace {cfg : Cfg} {s0 s s' : State σ} (tr : List Label)
    (h0 : Reach cfg s0 s) (h : runTrace cfg s tr = some s') : Reach cfg s0 s' := by
  induction tr generalizing s with
  | nil => simp [runTrace] at h; subst h; exact h0
  | cons l ls ih =>
    simp only [runTrace] at h
    split at h
    · rename_i s1 hs1; exact ih (Reach.step l h0 hs1) h
    · cases h

theorem reach_runUntil {cfg : Cfg} {s0 : State σ} (stop : Pc σ → Bool) (fuel : Nat) (i : Nat) :
    ∀ s, Reach cfg s0 s → Reach cfg s0 (runUntil cfg stop fuel s i) := by
  induction fuel with
  | zero => intro s h; exact h
  | succ n ih =>
    intro s h
    simp only [runUntil]
    split
    · exact h
    · split
      · exact h
      · split
        · rename_i l _ s' hs'; exact ih s' (Reach.step _ h hs')
        · exact h

theorem reach_forced {cfg : Cfg} {s0 : State σ} (park : Park) :
    Reach cfg s0 (forced cfg park s0).1 := by
  simp only [forced, runToEnd]
  exact reach_runUntil _ _ _ _ (reach_runUntil _ _ _ _ (reach_runUntil _ _ _ _ (reach_runUntil _ _ _ _ .refl)))

end Nervus.SchedCapi
