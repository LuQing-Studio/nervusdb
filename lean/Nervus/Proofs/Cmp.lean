/-
  Proofs.Cmp — the laws `CmpLaws` (`Spec/Order`: swap, and transitivity in the form
  `cmp a c = (cmp a b).then (cmp b c)`) for the leaf comparisons of the value model: `cmpInt`, `cmpNat`, `cmpBytes`
  from what `lt` / `eq` / `gt` mean (`CmpLaws.of_iff`), the composed ones (`cmpEKey`, lists) because the laws are
  closed under lexicographic composition (`CmpLaws.lex`, `lexList_laws`; the one case analysis is
  `Ordering.then_trans`).
-/
import Nervus.Model.Value
import Nervus.Spec.Order
import Nervus.Proofs.BytesOrder
namespace Nervus
open Value F64


namespace CmpLawsOn
variable {α : Type} {cmp : α → α → Ordering} {P : α → Prop}

theorem mono (h : CmpLawsOn cmp P) {Q : α → Prop} (hq : ∀ a, Q a → P a) : CmpLawsOn cmp Q :=
  ⟨fun a b ha hb => h.swap a b (hq a ha) (hq b hb),
   fun a b c ha hb hc => h.trans a b c (hq a ha) (hq b hb) (hq c hc)⟩

theorem le_trans (h : CmpLawsOn cmp P) {a b c : α} (ha : P a) (hb : P b) (hc : P c)
    (h1 : cmp a b ≠ .gt) (h2 : cmp b c ≠ .gt) : cmp a c ≠ .gt := by
  rw [h.trans a b c ha hb hc h1 h2]
  cases h3 : cmp a b <;> cases h4 : cmp b c <;> simp_all [Ordering.then]

theorem le_of_gt (h : CmpLawsOn cmp P) {a b : α} (ha : P a) (hb : P b) (h1 : cmp a b = .gt) : cmp b a ≠ .gt := by
  rw [h.swap a b ha hb] at h1
  cases h2 : cmp b a <;> simp_all [Ordering.swap]

theorem refl (h : CmpLawsOn cmp P) {a : α} (ha : P a) : cmp a a = .eq := by
  have := h.swap a a ha ha
  cases hc : cmp a a <;> simp_all [Ordering.swap]

theorem ofLaws (h : CmpLaws cmp) : CmpLawsOn cmp P := ⟨fun a b _ _ => h.swap a b, fun a b c _ _ _ => h.trans a b c⟩
end CmpLawsOn

namespace CmpLaws
variable {α : Type} {cmp : α → α → Ordering}

theorem refl (h : CmpLaws cmp) (a : α) : cmp a a = .eq := (CmpLawsOn.ofLaws h (P := fun _ => True)).refl trivial

theorem le_trans (h : CmpLaws cmp) {a b c : α} (h1 : cmp a b ≠ .gt) (h2 : cmp b c ≠ .gt) : cmp a c ≠ .gt :=
  (CmpLawsOn.ofLaws h (P := fun _ => True)).le_trans trivial trivial trivial h1 h2

theorem eq_trans (h : CmpLaws cmp) {a b c : α} (h1 : cmp a b = .eq) (h2 : cmp b c = .eq) : cmp a c = .eq := by
  rw [h.trans a b c (by simp [h1]) (by simp [h2]), h1, h2]; rfl

theorem gt_iff_lt (h : CmpLaws cmp) (a b : α) : cmp a b = .gt ↔ cmp b a = .lt := by
  rw [h.swap a b]; cases cmp b a <;> simp [Ordering.swap]

theorem eq_comm (h : CmpLaws cmp) (a b : α) : cmp a b = .eq ↔ cmp b a = .eq := by
  rw [h.swap a b]; cases cmp b a <;> simp [Ordering.swap]

end CmpLaws

theorem Ordering.then_eq_eq {a b : Ordering} : a.then b = .eq ↔ a = .eq ∧ b = .eq :=
  _root_.Ordering.then_eq_eq

theorem Ordering.then_comm_of_le {a b : Ordering} (ha : a ≠ .gt) (hb : b ≠ .gt) : a.then b = b.then a := by
  cases a <;> cases b <;> first | rfl | exact absurd rfl ha | exact absurd rfl hb

theorem CmpLawsOn.reverse {α : Type} {c : α → α → Ordering} {P : α → Prop} (h : CmpLawsOn c P) :
    CmpLawsOn (fun a b => (c a b).swap) P where
  swap a b ha hb := congrArg Ordering.swap (h.swap a b ha hb)
  trans a b d ha hb hd n1 n2 := by
    have e : ∀ x y, P x → P y → (c x y).swap = c y x := fun x y hx hy => (h.swap y x hy hx).symm
    simp only [e _ _ ha hb, e _ _ hb hd, e _ _ ha hd] at n1 n2 ⊢
    rw [h.trans d b a hd hb ha n2 n1]
    exact Ordering.then_comm_of_le n2 n1

theorem CmpLaws.reverse {α : Type} {cmp : α → α → Ordering} (h : CmpLaws cmp) : CmpLaws fun a b => (cmp a b).swap :=
  have r := (CmpLawsOn.ofLaws h (P := fun _ => True)).reverse
  ⟨fun a b => r.swap a b trivial trivial, fun a b c => r.trans a b c trivial trivial trivial⟩

/-- the transitivity law survives lexicographic composition (`a`: first components, `b`: second components):
    a strict first step decides, an equal one hands over to the second components -/
theorem Ordering.then_trans {a1 a2 a3 b1 b2 b3 : Ordering}
    (ha : a1 ≠ .gt → a2 ≠ .gt → a3 = a1.then a2) (hb : b1 ≠ .gt → b2 ≠ .gt → b3 = b1.then b2)
    (n1 : a1.then b1 ≠ .gt) (n2 : a2.then b2 ≠ .gt) : a3.then b3 = (a1.then b1).then (a2.then b2) := by
  cases a1 <;> cases a2 <;> first | exact absurd rfl n1 | exact absurd rfl n2 | rw [ha nofun nofun]
  · rfl
  · rfl
  · cases b1 <;> first | rfl | exact absurd rfl n1
  · exact hb n1 n2

theorem CmpLaws.of_iff {α : Type} {c : α → α → Ordering} {lt : α → α → Prop}
    (hlt : ∀ a b, c a b = .lt ↔ lt a b) (heq : ∀ a b, c a b = .eq ↔ a = b) (hgt : ∀ a b, c a b = .gt ↔ lt b a)
    (tr : ∀ a b d, lt a b → lt b d → lt a d) : CmpLaws c where
  swap a b := by
    cases h : c b a
    · exact (hgt a b).2 ((hlt b a).1 h)
    · exact (heq a b).2 ((heq b a).1 h).symm
    · exact (hlt a b).2 ((hgt b a).1 h)
  trans a b d n1 n2 := by
    cases e1 : c a b <;> cases e2 : c b d <;> first | exact absurd e1 n1 | exact absurd e2 n2 | skip
    · exact (hlt a d).2 (tr a b d ((hlt a b).1 e1) ((hlt b d).1 e2))
    · rw [← (heq b d).1 e2]; exact e1
    · rw [(heq a b).1 e1]; exact e2
    · rw [(heq a b).1 e1]; exact e2

/-! `cmpInt` and `cmpNat` are core's `compare` -/

theorem cmpInt_lt {a b : Int} : cmpInt a b = .lt ↔ a < b := Int.compare_eq_lt
theorem cmpInt_eq {a b : Int} : cmpInt a b = .eq ↔ a = b := Int.compare_eq_eq
theorem cmpInt_gt {a b : Int} : cmpInt a b = .gt ↔ b < a := Int.compare_eq_gt
theorem cmpInt_congr {x y x' y' : Int} (h1 : x < y ↔ x' < y') (h2 : x = y ↔ x' = y') :
    cmpInt x y = cmpInt x' y' := by
  unfold cmpInt
  by_cases a : x < y
  · rw [if_pos a, if_pos (h1.1 a)]
  · have a' : ¬ x' < y' := fun c => a (h1.2 c)
    rw [if_neg a, if_neg a']
    by_cases b : x = y
    · rw [if_pos b, if_pos (h2.1 b)]
    · have b' : ¬ x' = y' := fun c => b (h2.2 c)
      rw [if_neg b, if_neg b']

theorem cmpInt_laws : CmpLaws cmpInt :=
  .of_iff (fun _ _ => cmpInt_lt) (fun _ _ => cmpInt_eq) (fun _ _ => cmpInt_gt) (fun _ _ _ => Int.lt_trans)

theorem cmpNat_lt {a b : Nat} : cmpNat a b = .lt ↔ a < b := Nat.compare_eq_lt
theorem cmpNat_eq {a b : Nat} : cmpNat a b = .eq ↔ a = b := Nat.compare_eq_eq
theorem cmpNat_gt {a b : Nat} : cmpNat a b = .gt ↔ b < a := Nat.compare_eq_gt
theorem cmpNat_ne_gt {a b : Nat} : cmpNat a b ≠ .gt ↔ a ≤ b := Nat.compare_ne_gt

theorem cmpNat_laws : CmpLaws cmpNat :=
  .of_iff (fun _ _ => cmpNat_lt) (fun _ _ => cmpNat_eq) (fun _ _ => cmpNat_gt) (fun _ _ _ => Nat.lt_trans)

theorem cmpBool_laws : CmpLaws cmpBool where
  swap a b := by cases a <;> cases b <;> rfl
  trans a b c := by cases a <;> cases b <;> cases c <;> simp [cmpBool, Ordering.then]

theorem cmpBool_eq {a b : Bool} : cmpBool a b = .eq ↔ a = b := by
  cases a <;> cases b <;> simp [cmpBool]

theorem cmpBytes_lt {a b : Bytes} : cmpBytes a b = .lt ↔ bytesLt a b = true := by
  unfold cmpBytes
  by_cases h1 : bytesLt a b = true <;> by_cases h2 : bytesLt b a = true <;> simp [h1, h2]

theorem cmpBytes_eq {a b : Bytes} : cmpBytes a b = .eq ↔ a = b := by
  unfold cmpBytes
  constructor
  · intro h
    by_cases h1 : bytesLt a b = true <;> by_cases h2 : bytesLt b a = true <;> simp [h1, h2] at h
    rcases bytesLt_total a b with h3 | h3 | h3 <;> simp_all
  · intro h; subst h; simp [bytesLt_irrefl]

theorem cmpBytes_gt {a b : Bytes} : cmpBytes a b = .gt ↔ bytesLt b a = true := by
  unfold cmpBytes
  constructor
  · intro h
    by_cases h1 : bytesLt a b = true <;> by_cases h2 : bytesLt b a = true <;> simp [h1, h2] at h
    exact h2
  · intro h
    have := bytesLt_asymm b a h
    simp [this, h]

theorem cmpBytes_laws : CmpLaws cmpBytes :=
  .of_iff (fun _ _ => cmpBytes_lt) (fun _ _ => cmpBytes_eq) (fun _ _ => cmpBytes_gt) bytesLt_trans

theorem CmpLaws.lex {α β γ : Type} {c1 : β → β → Ordering} {c2 : γ → γ → Ordering}
    (h1 : CmpLaws c1) (h2 : CmpLaws c2) (f : α → β) (g : α → γ) :
    CmpLaws (fun x y => (c1 (f x) (f y)).then (c2 (g x) (g y))) where
  swap a b := by
    show _ = ((c1 (f b) (f a)).then (c2 (g b) (g a))).swap
    rw [Ordering.swap_then, ← h1.swap, ← h2.swap]
  trans a b c := Ordering.then_trans (h1.trans (f a) (f b) (f c)) (h2.trans (g a) (g b) (g c))

theorem cmpEKey_laws : CmpLaws cmpEKey := by
  have h := CmpLaws.lex (α := EKey) cmpNat_laws
    (CmpLaws.lex (α := EKey) cmpNat_laws cmpNat_laws (fun k => k.2.1) (fun k => k.2.2)) (fun k => k.1) id
  exact h

theorem cmpEKey_eq {a b : EKey} : cmpEKey a b = .eq ↔ a = b := by
  obtain ⟨a1, a2, a3⟩ := a
  obtain ⟨b1, b2, b3⟩ := b
  simp [cmpEKey, cmpNat_eq]

/-- lexicographic comparison of lists, a proper prefix is smaller (`Vec<T>::cmp`) -/
def lexList {α : Type} (c : α → α → Ordering) : List α → List α → Ordering
  | [], [] => .eq
  | [], _ :: _ => .lt
  | _ :: _, [] => .gt
  | a :: as, b :: bs => (c a b).then (lexList c as bs)

theorem lexList_laws {α : Type} {c : α → α → Ordering} (h : CmpLaws c) : CmpLaws (lexList c) where
  swap := by
    intro a
    induction a with
    | nil => intro b; cases b <;> rfl
    | cons x xs ih =>
      intro b
      cases b with
      | nil => rfl
      | cons y ys => simp only [lexList]; rw [Ordering.swap_then, ← h.swap, ← ih]
  trans := by
    intro a
    induction a with
    | nil => intro b c; cases b <;> cases c <;> simp [lexList, Ordering.then]
    | cons x xs ih =>
      intro b c
      cases b with
      | nil => simp [lexList]
      | cons y ys =>
        cases c with
        | nil => simp [lexList]
        | cons z zs =>
          exact Ordering.then_trans (h.trans x y z) (ih ys zs)

theorem lexList_eq {α : Type} {c : α → α → Ordering} (hc : ∀ a b, c a b = .eq ↔ a = b) :
    ∀ (a b : List α), lexList c a b = .eq ↔ a = b
  | [], [] => by simp [lexList]
  | [], _ :: _ => by simp [lexList]
  | _ :: _, [] => by simp [lexList]
  | x :: xs, y :: ys => by simp [lexList, hc, lexList_eq hc xs ys]

theorem cmpNatList_eq_lex : ∀ a b, cmpNatList a b = lexList cmpNat a b
  | [], [] => rfl
  | [], _ :: _ => rfl
  | _ :: _, [] => rfl
  | x :: xs, y :: ys => by simp [cmpNatList, lexList, cmpNatList_eq_lex xs ys]

theorem cmpEKeyList_eq_lex : ∀ a b, cmpEKeyList a b = lexList cmpEKey a b
  | [], [] => rfl
  | [], _ :: _ => rfl
  | _ :: _, [] => rfl
  | x :: xs, y :: ys => by simp [cmpEKeyList, lexList, cmpEKeyList_eq_lex xs ys]

theorem cmpNatList_laws : CmpLaws cmpNatList := by
  have : cmpNatList = lexList cmpNat := by funext a b; exact cmpNatList_eq_lex a b
  rw [this]; exact lexList_laws cmpNat_laws

theorem cmpEKeyList_laws : CmpLaws cmpEKeyList := by
  have : cmpEKeyList = lexList cmpEKey := by funext a b; exact cmpEKeyList_eq_lex a b
  rw [this]; exact lexList_laws cmpEKey_laws

theorem cmpNatList_eq {a b : List Nat} : cmpNatList a b = .eq ↔ a = b := by
  rw [cmpNatList_eq_lex]; exact lexList_eq (fun _ _ => cmpNat_eq) a b

theorem cmpEKeyList_eq {a b : List EKey} : cmpEKeyList a b = .eq ↔ a = b := by
  rw [cmpEKeyList_eq_lex]; exact lexList_eq (fun _ _ => cmpEKey_eq) a b

end Nervus
