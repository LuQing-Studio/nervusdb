/-
  Proofs.CrashPhase — the node-table phase shared by commit and recovery, lifted from page-file
  images to crash images of the whole database (`Rep`), and from there to a block.  This is where
  the two judgements meet: `nodes_phase` (CrashNodes) is a `Hoare` fact — a class of page-file
  images is kept along the steps; steps of the page file leave the log alone, so with a durable
  log it becomes the `Safe` component of a `Blk` (`NodePhase.safeFS`, `blk_nodes`), whose end
  state carries the end class and the memory.
-/
import Nervus.Proofs.CrashBlk
import Nervus.Proofs.CrashNodes
import Nervus.Proofs.CrashInv
namespace Nervus.Crash

theorem NodePhase.safeFS {T : List Tx} {cs : List CTx} {c k' : Nat} {p0 : PImg} {fs : FS} {ps : PS} {id : IdSt}
    {xs : List Nat} {r : List Action × PS × IdSt} (h : NodePhase (allNodes T) c p0 k' fs ps id xs r)
    (hq : WalQuiet fs) (hcom : committed (readAll fs.wf) = .ok cs) (hlog : LogOK T cs c) (hstore : StoreOK T cs p0) :
    SafeAlong (SafeFS [T]) fs (ioSteps r.1) := by
  intro n mode
  obtain ⟨hw, hd, hr⟩ := take_pager_wal _ h.pager.facts.2 fs n
  have hq' : WalQuiet (fs.steps ((ioSteps r.1).take n)) := ⟨by rw [hd, hw]; exact hq.wdur, by rw [hr]; exact hq.ren⟩
  have hi := h.safe n _ (crashP_isImg _ mode)
  refine ⟨T, by simp, cs, c, ?_, hlog, hi.1, hi.2.store hstore⟩
  rw [hq'.crashW, hw]; exact hcom

/-- where the node-table phase ends when it has applied all nodes that were missing, in the terms of
    the handle invariant: log untouched and durable, the page file represents `T` with the full
    node table, pager memory and node-table memory agree with it, segments as on `p0` -/
structure NodesEnd (T : List Tx) (cs : List CTx) (c : Nat) (p0 : PImg) (fs : FS) (m : Mem) (xs : List Nat) (g : FS) (mm : Mem) :
    Prop where
  wf : g.wf = fs.wf
  quiet : WalQuiet g
  pj : Inert g.pj
  pager : PagerOK (allNodes T) c g.pd
  store : StoreOK T cs g.pd
  full : g.pd.hdr.i2eLen = (allNodes T).length
  mpm : SameKey g.pd.hdr mm.pm
  mbm : g.pd.bm ≤ mm.bm
  mstart : mm.idStart = g.pd.hdr.i2eStart
  segs : segEdges g.pd = segEdges p0
  mem : ∃ pm bm st, mm = { m with pm := pm, bm := bm, idStart := st, idLen := m.idLen + xs.length, exts := m.exts ++ xs }

/-- `hsync`: the class can step from `NG … k` to `NG … (k+1)` only at the sync `nodeA` issues
    between the slot write and the `i2e_len` that counts it (`Cfg.syncSlot`, fix bab8655).  `Fail`
    is `True`: nothing is claimed about an injected error in this phase (known finding
    C08-node-table-apply-failure). -/
theorem blk_nodes {cfg : Cfg} {T : List Tx} {cs : List CTx} {c k : Nat} {p0 : PImg} {fs : FS} {ps : PS} {id : IdSt}
    {xs : List Nat} (b0 : Booted p0) (hsync : xs ≠ [] → cfg.syncSlot = true) (m : Mem)
    (hq : WalQuiet fs) (hcom : committed (readAll fs.wf) = .ok cs) (hlog : LogOK T cs c) (hstore : StoreOK T cs p0)
    (hdrop : (allNodes T).drop k = xs) (hB : AllImgs fs (NG (allNodes T) c p0 k)) (hS : SyncedI fs ps)
    (st : NodeSt c p0 k ps id) (hck : c ≤ k) (hkN : k ≤ (allNodes T).length)
    (hpm : m.pm = ps.pm) (hbm : m.bm = ps.bm) (hst : m.idStart = id.start) :
    Blk (SafeFS [T]) (fun _ _ => True) (nodesA cfg ps id xs).1 fs m (NodesEnd T cs c p0 fs m xs) := by
  have np := nodes_phase (N := allNodes T) b0 xs hsync k fs ps id hdrop hB st hck hkN
  obtain ⟨nf, hpg⟩ := np.pager.facts
  obtain ⟨hw, hd, hr⟩ := steps_pager_wal _ hpg fs
  have hlenN : k + xs.length = (allNodes T).length := by rw [← hdrop, List.length_drop]; omega
  have hNG := np.imgs _ (isImg_pd _ _)
  obtain ⟨hpj, hkey, hbmF⟩ := np.synced hS
  refine ⟨nf, np.safeFS hq hcom hlog hstore, fun _ _ => trivial, ?_⟩
  rw [foldl_idUpd _ np.mem.idupd, hpm, hbm, hst, np.mem.pm, np.mem.bm, np.mem.start, np.mem.inc, np.mem.push]
  exact
    { wf := hw, quiet := ⟨by rw [hd, hw]; exact hq.wdur, hr.trans hq.ren⟩, pj := hpj
      pager := hNG.pagerOK b0 (Nat.le_of_eq hlenN), store := hNG.frame.store hstore
      full := by rw [← hkey.len, np.st.len, hlenN]
      mpm := hkey, mbm := hbmF, mstart := np.st.ids.trans hkey.start
      segs := by funext j; simp [segEdges, segFind, hNG.frame.segs]
      mem := ⟨_, _, _, rfl⟩ }

end Nervus.Crash
