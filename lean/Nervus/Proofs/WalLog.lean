/-
  Transactions over the record sequence (C17): how `replay_committed` groups records into transactions.  Commits
  appended to any record list that replays are recovered; the committed transactions of a prefix stay a prefix; a
  complete block is handed out with exactly its operations wherever it stands.  All of it comes from `commitGo_split`
  (behind a prefix the replay loop has failed or is in one state, whatever follows).  Nothing here looks at bytes.
-/
import Nervus.Spec.TxLog
namespace Nervus.WalFrame
open Nervus Nervus.PropVal Nervus.WalRec

theorem Rec.marker_or_op (r : Rec) : (∃ t, r = .beginTx t) ∨ (∃ t, r = .commitTx t) ∨ Rec.isOp r = true := by
  cases r <;> simp [Rec.isOp]

/-- every record that is not a transaction marker takes the same branch of the loop -/
theorem commitGo_op {r : Rec} (h : Rec.isOp r = true) (c : Option Nat) (p : List Rec) (o : List Tx) (rs : List Rec) :
    commitGo c p o (r :: rs) = if c = none then .error .opOutsideTx else commitGo c (p ++ [r]) o rs := by
  cases r <;> first | rfl | cases h

theorem specGo_op {r : Rec} (h : Rec.isOp r = true) (c : Option Nat) (p : List Rec) (o : List Tx) (rs : List Rec) :
    specGo c p o (r :: rs) = if c = none then specGo c p o rs else specGo c (p ++ [r]) o rs := by
  cases r <;> first | rfl | cases h

theorem protoGo_op {r : Rec} (h : Rec.isOp r = true) (c : Option Nat) (rs : List Rec) :
    protoGo c (r :: rs) = (decide (c ≠ none) && protoGo c rs) := by
  cases r <;> first | rfl | cases h

theorem commitGo_ops (x : Nat) : ∀ (ops : List Rec) (p : List Rec) (o : List Tx) (rest : List Rec),
    (∀ r ∈ ops, Rec.isOp r = true) →
    commitGo (some x) p o (ops ++ rest) = commitGo (some x) (p ++ ops) o rest
  | [], p, o, rest, _ => by simp
  | r :: ops, p, o, rest, h => by
    have ih := commitGo_ops x ops (p ++ [r]) o rest (fun q hq => h q (by simp [hq]))
    rw [List.cons_append, commitGo_op (h r (by simp)), if_neg nofun, ih, List.append_assoc]; rfl

/-- behind `xs` the loop has failed or is in one state, whatever follows: a statement about records appended
    to a log is this plus what the loop does on the appended part from any state -/
theorem commitGo_split : ∀ (xs : List Rec) (c : Option Nat) (p : List Rec) (o : List Tx),
    (∃ e, ∀ zs, commitGo c p o (xs ++ zs) = .error e) ∨
    ∃ c' p' o', ∀ zs, commitGo c p o (xs ++ zs) = commitGo c' p' o' zs
  | [], c, p, o => .inr ⟨c, p, o, fun _ => rfl⟩
  | r :: xs, c, p, o => by
    rcases Rec.marker_or_op r with ⟨t, rfl⟩ | ⟨t, rfl⟩ | hop
    · exact commitGo_split xs (some t) [] o
    · by_cases hc : c ≠ some t
      · exact .inl ⟨_, fun zs => if_pos hc⟩
      · simp only [List.cons_append, commitGo, if_neg hc]
        exact commitGo_split xs none [] _
    · by_cases hc : c = none
      · exact .inl ⟨_, fun zs => by rw [List.cons_append, commitGo_op hop, if_pos hc]⟩
      · simp only [List.cons_append, commitGo_op hop, if_neg hc]
        exact commitGo_split xs c _ o

/-- a prefix that replays leaves the loop in a state with that output -/
theorem commitGo_ok_append {xs : List Rec} {c : Option Nat} {p : List Rec} {o txs : List Tx}
    (h : commitGo c p o xs = .ok txs) : ∃ c' p', ∀ zs, commitGo c p o (xs ++ zs) = commitGo c' p' txs zs := by
  rcases commitGo_split xs c p o with ⟨e, he⟩ | ⟨c', p', o', he⟩ <;> have h0 := he []
    <;> rw [List.append_nil, h] at h0
  · cases h0
  · cases h0; exact ⟨c', p', he⟩

/-- `BeginTx` forgets the state it is reached in (`pending.clear()`): behind `BeginTx x, ops…` the loop is in the
    state `(some x, ops, o)` whatever `c` and `p` were -/
theorem commitGo_begin_ops (x : Nat) (ops : List Rec) (hops : ∀ r ∈ ops, Rec.isOp r = true) (c : Option Nat)
    (p : List Rec) (o : List Tx) (rest : List Rec) :
    commitGo c p o (.beginTx x :: (ops ++ rest)) = commitGo (some x) ops o rest :=
  commitGo_ops x ops [] o rest hops

/-- the state the loop is in does not matter: a whole transaction block appended to a log that replays
    is committed, with exactly its operations -/
theorem commitGo_durable (x : Nat) (ops : List Rec) (hops : ∀ r ∈ ops, Rec.isOp r = true)
    (xs : List Rec) (c : Option Nat) (p : List Rec) (o txs : List Tx) (h : commitGo c p o xs = .ok txs) :
    commitGo c p o (xs ++ (.beginTx x :: (ops ++ [.commitTx x]))) = .ok (txs ++ [⟨x, ops⟩]) := by
  obtain ⟨c', p', e⟩ := commitGo_ok_append h
  rw [e, commitGo_begin_ops x ops hops]
  simp [commitGo]

/-- the loop only adds to `out`, and only where it passes a `CommitTx` -/
theorem commitGo_out : ∀ (ys : List Rec) (c : Option Nat) (p : List Rec) (o t : List Tx),
    commitGo c p o ys = .ok t → ∃ b, t = o ++ b ∧ ((∀ r ∈ ys, ∀ z, r ≠ .commitTx z) → b = [])
  | [], c, p, o, t, h => by
    simp only [commitGo] at h; injection h with h; subst h; exact ⟨[], by simp, fun _ => rfl⟩
  | r :: ys, c, p, o, t, h => by
    rcases Rec.marker_or_op r with ⟨x, rfl⟩ | ⟨x, rfl⟩ | hop
    · simp only [commitGo] at h
      obtain ⟨b, hb, hn⟩ := commitGo_out ys _ _ _ t h
      exact ⟨b, hb, fun hy => hn fun q hq => hy q (by simp [hq])⟩
    · simp only [commitGo] at h
      split at h
      · cases h
      · obtain ⟨b, hb, -⟩ := commitGo_out ys _ _ _ t h
        exact ⟨⟨x, p⟩ :: b, by rw [hb]; simp, fun hy => absurd rfl (hy _ (by simp) x)⟩
    · simp only [commitGo_op hop] at h
      split at h
      · cases h
      · obtain ⟨b, hb, hn⟩ := commitGo_out ys _ _ _ t h
        exact ⟨b, hb, fun hy => hn fun q hq => hy q (by simp [hq])⟩

theorem commitGo_prefix (xs ys : List Rec) (c : Option Nat) (p : List Rec) (o txs txs' : List Tx)
    (h : commitGo c p o xs = .ok txs) (h' : commitGo c p o (xs ++ ys) = .ok txs') : txs <+: txs' := by
  obtain ⟨c', p', e⟩ := commitGo_ok_append h
  obtain ⟨b, hb, -⟩ := commitGo_out ys c' p' txs txs' (e ys ▸ h')
  exact ⟨b, hb.symm⟩

/-- on protocol-conforming sequences `replay_committed` never fails and yields the spec's transactions -/
theorem commitGo_of_proto : ∀ (rs : List Rec) (c : Option Nat) (p : List Rec) (o : List Tx),
    protoGo c rs = true → commitGo c p o rs = .ok (specGo c p o rs)
  | [], c, p, o, _ => rfl
  | r :: rs, c, p, o, h => by
    rcases Rec.marker_or_op r with ⟨x, rfl⟩ | ⟨x, rfl⟩ | hop
    · simp only [protoGo] at h; simp only [commitGo, specGo]; exact commitGo_of_proto rs _ _ _ h
    · simp only [protoGo, Bool.and_eq_true, decide_eq_true_eq] at h
      simp only [commitGo, specGo, h.1, ne_eq, not_true_eq_false, if_false, if_true]
      exact commitGo_of_proto rs _ _ _ h.2
    · simp only [protoGo_op hop, Bool.and_eq_true, decide_eq_true_eq] at h
      simp only [commitGo_op hop, specGo_op hop, h.1, if_false]
      exact commitGo_of_proto rs _ _ _ h.2

theorem protoGo_append_left : ∀ (xs ys : List Rec) (c : Option Nat), protoGo c (xs ++ ys) = true → protoGo c xs = true
  | [], _, _, _ => rfl
  | r :: xs, ys, c, h => by
    rcases Rec.marker_or_op r with ⟨x, rfl⟩ | ⟨x, rfl⟩ | hop
    · simp only [List.cons_append, protoGo] at h ⊢; exact protoGo_append_left xs ys _ h
    · simp only [List.cons_append, protoGo, Bool.and_eq_true] at h ⊢
      exact ⟨h.1, protoGo_append_left xs ys _ h.2⟩
    · simp only [List.cons_append, protoGo_op hop, Bool.and_eq_true] at h ⊢
      exact ⟨h.1, protoGo_append_left xs ys _ h.2⟩

/-- replay is positional (C17 `replay_positional`): a complete block `BeginTx x, ops…, CommitTx x` anywhere in a
    record list that replays is handed out with exactly `ops` — whatever precedes it (unfinished fragments under
    the same txid or any other) and whatever follows it -/
theorem commitGo_block (x : Nat) (ops : List Rec) (hops : ∀ r ∈ ops, Rec.isOp r = true)
    (pre post : List Rec) (c : Option Nat) (p : List Rec) (o txs : List Tx)
    (h : commitGo c p o (pre ++ (.beginTx x :: (ops ++ [.commitTx x])) ++ post) = .ok txs) :
    ∃ a b, commitGo c p o pre = .ok a ∧ txs = a ++ ⟨x, ops⟩ :: b := by
  rw [List.append_assoc] at h
  rcases commitGo_split pre c p o with ⟨e, he⟩ | ⟨c', p', o', he⟩ <;> rw [he] at h
  · cases h
  · rw [List.cons_append, List.append_assoc, commitGo_begin_ops x ops hops] at h
    simp only [List.cons_append, List.nil_append, commitGo, ne_eq, not_true_eq_false, if_false] at h
    obtain ⟨b, hb, -⟩ := commitGo_out post none [] _ txs h
    exact ⟨o', b, by have := he []; rwa [List.append_nil] at this, by rw [hb]; simp⟩

theorem commitGo_append_eq : ∀ (xs ys : List Rec) (c : Option Nat) (p : List Rec) (o a t : List Tx),
    commitGo c p o xs = .ok a → commitGo c p o (xs ++ ys) = .ok t → (∀ r ∈ ys, ∀ z, r ≠ .commitTx z) → t = a
  | _, ys, _, _, _, a, t, h, h', hn => by
    obtain ⟨c', p', e⟩ := commitGo_ok_append h
    obtain ⟨b, hb, hb'⟩ := commitGo_out ys c' p' a t (e ys ▸ h')
    rw [hb, hb' hn, List.append_nil]

theorem commitGo_fragment (x : Nat) (ops₀ : List Rec) (h0 : ∀ r ∈ ops₀, Rec.isOp r = true)
    (xs : List Rec) (c : Option Nat) (p : List Rec) (o a : List Tx) (h : commitGo c p o xs = .ok a) :
    commitGo c p o (xs ++ (.beginTx x :: ops₀)) = .ok a := by
  obtain ⟨c', p', e⟩ := commitGo_ok_append h
  have := commitGo_begin_ops x ops₀ h0 c' p' a []
  rw [List.append_nil] at this
  rw [e, this]; rfl

theorem committedCfg_eq {cfg : Cfg} (h : cfg.beginResetsPending = true) (rs : List Rec) :
    committedCfg cfg rs = committed rs := by
  simp [committedCfg, h]

theorem committed_of_proto (rs : List Rec) (h : ProtoOk rs = true) : committed rs = .ok (specTxs rs) :=
  commitGo_of_proto rs none [] [] h

end Nervus.WalFrame
