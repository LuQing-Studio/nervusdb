/-
  Proofs/ShadowEngine.lean — the engine that runs only the transactions of a history (the shadow engine of the
  C04 / C05 history theorems): maintenance operations and reopens are no-ops on it.  The side conditions
  the history theorems carry (`HistOK`) are in Proofs/EngineC06.
-/
import Nervus.Proofs.EngineC06
namespace Nervus.Storage
open Nervus.GraphSpec (Graph TxOp Op txWF wfFrom anyCommitted txDeletesRelWithProps txLabelReAdd
  txEdgeAndEndpointDelete txExtZero)

def isTxOp : Op → Bool
  | .tx _ _ => true
  | _ => false

def txPart (h : List Op) : List Op := h.filter isTxOp

def shadowStep (c : Cfg) (u : Engine) : Op → Engine
  | .tx ops b => runTx c u ops b
  | _ => u

theorem txPart_run (c : Cfg) (h : List Op) : ∀ u, (txPart h).foldlM (runOp c) u = .ok (h.foldl (shadowStep c) u) := by
  induction h with
  | nil => intro u; rfl
  | cons op h ih => intro u; cases op <;> exact ih _

theorem shadowStep_interner_le (c : Cfg) (u : Engine) (op : Op) :
    (shadowStep c u op).interner.length ≤ u.interner.length + opSize op := by
  cases op with
  | tx ops b => exact runTx_interner_le c u ops b
  | _ => exact Nat.le_refl _

end Nervus.Storage
