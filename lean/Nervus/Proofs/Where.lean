/-
  C19: `keep` (what `… WHERE p` answers over a list of rows) one row at a time, by the truth class of the
  predicate's value on that row; and, for the statement over `Plan::Filter`, that without limits the
  guard hands everything through and the stream of a node does not depend on its `Site`.
-/
import Nervus.Proofs.Trans
namespace Nervus.PlanOps

section
variable {χ ρ ν ε κ α : Type}

theorem keep_nil (S : Sem χ ρ ν ε κ α) (Q : Quirks) (env : ρ) (p : χ) : keep S Q env p [] = .ok [] := rfl

theorem keep_cons (S : Sem χ ρ ν ε κ α) (Q : Quirks) (env : ρ) (p : χ) (r : ρ) (rows : List ρ) :
    keep S Q env p (r :: rows) =
      collect (filterRow S Q LimEnv.unlimited env p r ++
        (filterT S Q LimEnv.unlimited env p).run () (rows.map .ok)) := by
  simp [keep, filterT, Trans.run_cons, mapT]

theorem keep_cons_of_truth (S : Sem χ ρ ν ε κ α) (Q : Quirks) (env : ρ) (p : χ) (r : ρ) (rows : List ρ)
    (v : ν) (hv : S.eval LimEnv.unlimited.coll p env r = .ok v)
    (hp : S.park LimEnv.unlimited.coll p env r = none) :
    keep S Q env p (r :: rows) =
      (match S.truth v with
       | .tt => (keep S Q env p rows).map (r :: ·)
       | .ff => keep S Q env p rows
       | .null => keep S Q env p rows
       | .other => if Q.filterNonBoolDrops then keep S Q env p rows else .error S.nonBool) := by
  rw [keep_cons, collect_append]
  simp only [filterRow, hp, hv]
  cases S.truth v with
  | tt => simp only [collect]; unfold keep; cases collect _ <;> rfl
  | ff => simp only [collect]; unfold keep; cases collect _ <;> rfl
  | null => simp only [collect]; unfold keep; cases collect _ <;> rfl
  | other =>
    cases Q.filterNonBoolDrops with
    | true => simp only [if_true, collect]; unfold keep; cases collect _ <;> rfl
    | false => simp [collect]

theorem keep_cons_of_park (S : Sem χ ρ ν ε κ α) (Q : Quirks) (env : ρ) (p : χ) (r : ρ) (rows : List ρ)
    (e : ε) (hp : S.park LimEnv.unlimited.coll p env r = some e) :
    keep S Q env p (r :: rows) = .error e := by
  rw [keep_cons, collect_append]
  simp [filterRow, hp, collect]

theorem keep_cons_of_error (S : Sem χ ρ ν ε κ α) (Q : Quirks) (env : ρ) (p : χ) (r : ρ) (rows : List ρ)
    (e : ε) (hv : S.eval LimEnv.unlimited.coll p env r = .error e) :
    ∃ e', keep S Q env p (r :: rows) = .error e' := by
  cases hp : S.park LimEnv.unlimited.coll p env r with
  | some e' => exact ⟨e', keep_cons_of_park S Q env p r rows e' hp⟩
  | none =>
    refine ⟨e, ?_⟩
    rw [keep_cons, collect_append]
    simp [filterRow, hv, hp, collect]

theorem dropErrT_run_ok {σ : Type} (b : Bool) (t : Trans σ ε ρ) (rows : List ρ) (st : σ) :
    (dropErrT b t).run st (rows.map .ok) = t.run st (rows.map .ok) := by
  induction rows generalizing st with
  | nil => rfl
  | cons r rs ih =>
    show (if t.done st then [] else (t.step st (.ok r)).2 ++ (dropErrT b t).run (t.step st (.ok r)).1 (rs.map .ok)) = _
    rw [ih]; rfl

theorem guardT_unlimited_step (site : Site) (st : GuardSt) (x : Except ε ρ) :
    (guardT LimEnv.unlimited site).step st x = (⟨st.calls + 1, false⟩, [x]) := by
  cases x <;> rfl

theorem guard_unlimited (site : Site) (s : Stream ε ρ) : guard LimEnv.unlimited site s = s := by
  have h : ∀ (n : Nat) (s : Stream ε ρ), (guardT LimEnv.unlimited site).run ⟨n, false⟩ s = s := by
    intro n s
    induction s generalizing n with
    | nil => rfl
    | cons x xs ih =>
      rw [Trans.run_cons, guardT_unlimited_step]
      have hd : (guardT (ρ := ρ) (LimEnv.unlimited (ε := ε)) site).done ⟨n, false⟩ = false := rfl
      rw [hd]
      simp [ih]
  show (match (LimEnv.unlimited (ε := ε)).time site 0 with
    | some e => [.error e]
    | none => (guardT LimEnv.unlimited site).run ⟨0, false⟩ s) = s
  exact h 0 s

end

theorem fixupMerge_unlimited_site {χ ρ ν ε κ α : Type} (S : Sem χ ρ ν ε κ α) (site site' : Site)
    (nulls : List String) (filtered : List ρ) (os : List ρ) : ∀ (i n : Nat),
    fixupMerge S LimEnv.unlimited site nulls filtered i n os =
      fixupMerge S LimEnv.unlimited site' nulls filtered i n os := by
  induction os with
  | nil => intro i n; rfl
  | cons o os ih =>
    intro i n
    show (fixupMerge S LimEnv.unlimited site nulls filtered (i + 1) _ os).map _ =
      (fixupMerge S LimEnv.unlimited site' nulls filtered (i + 1) _ os).map _
    rw [ih]

theorem runL_unlimited_site {χ ρ ν ε κ α : Type} [DecidableEq κ] (S : Sem χ ρ ν ε κ α) (Q : Quirks)
    (p : Plan χ ρ ε α) : ∀ (site site' : Site) (env : ρ),
    runL S Q LimEnv.unlimited site env p = runL S Q LimEnv.unlimited site' env p := by
  induction p with
  | scan rows => intro site site' env; unfold runL; simp only [guard_unlimited]
  | fail e => intro site site' env; unfold runL; simp only [guard_unlimited]
  | arg => intro site site' env; unfold runL; simp only [guard_unlimited]
  | indexSeek key value fb ih =>
    intro site site' env; unfold runL; simp only [guard_unlimited]; rw [ih (.left site) (.left site')]
  | procedureCall name args inp ih =>
    intro site site' env; unfold runL; simp only [guard_unlimited]; rw [ih (.left site) (.left site')]
  | fixup nulls outer filtered iho ihf =>
    intro site site' env; unfold runL; simp only [guard_unlimited]
    rw [iho (.left site) (.left site'), ihf (.right site) (.right site')]
    simp only [fixupBody]
    have : ∀ fr os, fixupMerge S LimEnv.unlimited site nulls fr 0 0 os =
        fixupMerge S LimEnv.unlimited site' nulls fr 0 0 os :=
      fun fr os => fixupMerge_unlimited_site S site site' nulls fr os 0 0
    simp only [this]
    rfl
  | filter pred inp ih =>
    intro site site' env; unfold runL; simp only [guard_unlimited]; rw [ih (.left site) (.left site')]
  | project projs inp ih =>
    intro site site' env; unfold runL; simp only [guard_unlimited]; rw [ih (.left site) (.left site')]
  | distinct inp ih =>
    intro site site' env; unfold runL; simp only [guard_unlimited]; rw [ih (.left site) (.left site')]
  | unwind e alias inp ih =>
    intro site site' env; unfold runL; simp only [guard_unlimited]; rw [ih (.left site) (.left site')]; rfl
  | expand kind g inp ih =>
    intro site site' env; unfold runL; simp only [guard_unlimited]; rw [ih (.left site) (.left site')]
  | skip n inp ih =>
    intro site site' env; unfold runL; simp only [guard_unlimited]; rw [ih (.left site) (.left site')]
  | limit n inp ih =>
    intro site site' env; unfold runL; simp only [guard_unlimited]; rw [ih (.left site) (.left site')]
  | orderBy keys inp ih =>
    intro site site' env; unfold runL; simp only [guard_unlimited]; rw [ih (.left site) (.left site')]; rfl
  | aggregate groupBy aggs inp ih =>
    intro site site' env; unfold runL; simp only [guard_unlimited]; rw [ih (.left site) (.left site')]; rfl
  | union all l r ihl ihr =>
    intro site site' env; unfold runL; simp only [guard_unlimited]
    rw [ihl (.left site) (.left site'), ihr (.right site) (.right site')]
  | filterExists sub inp ihs ihi =>
    intro site site' env; unfold runL; simp only [guard_unlimited]
    rw [ihi (.left site) (.left site')]
    have : (fun k r => existsRow Q r (runL S Q LimEnv.unlimited (.exec k site) (S.bind env r) sub)) =
        (fun k r => existsRow Q r (runL S Q LimEnv.unlimited (.exec k site') (S.bind env r) sub)) := by
      funext k r; rw [ihs (.exec k site) (.exec k site')]
    rw [this]
  | cartesian l r ihl ihr =>
    intro site site' env; unfold runL; simp only [guard_unlimited]
    rw [ihl (.left site) (.left site')]
    have : (fun k lrow => (dropErrs (Q.dropsErr .cartesianRight) (runL S Q LimEnv.unlimited (.exec k site) env r)).map (joinItem S lrow)) =
        (fun k lrow => (dropErrs (Q.dropsErr .cartesianRight) (runL S Q LimEnv.unlimited (.exec k site') env r)).map (joinItem S lrow)) := by
      funext k lrow; rw [ihr (.exec k site) (.exec k site')]
    rw [this]
  | apply inp sub ihi ihs =>
    intro site site' env; unfold runL; simp only [guard_unlimited]
    rw [ihi (.left site) (.left site')]
    have : (fun k r => applyRow S LimEnv.unlimited site k r (dropErrs (Q.dropsErr .applySub) (runL S Q LimEnv.unlimited (.exec k site) (S.bind env r) sub))) =
        (fun k r => applyRow S LimEnv.unlimited site' k r (dropErrs (Q.dropsErr .applySub) (runL S Q LimEnv.unlimited (.exec k site') (S.bind env r) sub))) := by
      funext k r; rw [ihs (.exec k site) (.exec k site')]; rfl
    show (dropErrT _ (flatMapT _)).run 0 _ = (dropErrT _ (flatMapT _)).run 0 _
    rw [this]

end Nervus.PlanOps
