/-
  Proofs.OrderTotal — `order_compare` is the comparison of list elements `ocElem` (`null` last, else
  `order_compare_non_null`) with `None` read as `Equal` (`orderCompare_eq_ocElem`), so the laws of `OrderCompare`
  carry over: antisymmetric on all values (`orderCompare_swap`), total (never the `None ⇒ Equal` fallback) on
  values without NaN inside maps (`ocElem_eq_some`), transitive there when the strings are compared transitively
  (`orderCompare_trans`); bundled for the users: a total preorder on every set of values outside the C20 triggers
  (`orderCompare_lawsOn`).
-/
import Nervus.Proofs.OrderCompare
namespace Nervus
open F64 Value Eval Spec

theorem f64cmp_isSome {a b : F64} (ha : a.isNaN = false) (hb : b.isNaN = false) : (F64.cmp a b).isSome := by
  simp [F64.cmp, ha, hb]

theorem dcmp_some : ∀ (a b : Value), mapsNaNFree.noNaN a = true → mapsNaNFree.noNaN b = true → (dcmp a b).isSome := by
  intro a
  induction a using Value.ind with | step a ih => ?_
  intro b ha hb
  refine dcmp_tagFirst.isSome fun h => ?_
  have hk := ctor_of_vidx_eq h
  cases a with
  | float x =>
    obtain ⟨y, rfl⟩ := hk
    exact f64cmp_isSome (by simpa [mapsNaNFree.noNaN] using ha) (by simpa [mapsNaNFree.noNaN] using hb)
  | list xs =>
    obtain ⟨ys, rfl⟩ := hk
    simp only [dcmp, dcmpList_eq_lexP]
    exact lexP_isSome fun x hx y hy => ih x hx y (noNaN_kids ha x hx) (noNaN_kids hb y hy)
  | map xs =>
    obtain ⟨ys, rfl⟩ := hk
    simp only [dcmp, dcmpMap_eq_lexP]
    exact lexP_isSome fun p hp q hq => thenP_isSome rfl
      (ih p.2 (List.mem_map_of_mem hp) q.2 (noNaN_kids ha _ (List.mem_map_of_mem hp))
        (noNaN_kids hb _ (List.mem_map_of_mem hq)))
  | null => cases hk; rfl
  | bool x | int x | str x | nodeId x | externalId x | edgeKey x | dateTime x | blob x =>
    obtain ⟨y, rfl⟩ := hk; rfl
  | path n e => obtain ⟨n', e', rfl⟩ := hk; rfl

theorem dcmpList_some : ∀ (a b : List Value), mapsNaNFree.noNaNList a = true → mapsNaNFree.noNaNList b = true →
    (dcmpList a b).isSome :=
  fun a b => dcmp_some (.list a) (.list b)

section
variable (E : Env)

theorem ocElem_isSome {x y : Value} (h : x ≠ .null → y ≠ .null → (orderCompareNonNull E x y).isSome) :
    (ocElem E x y).isSome := by
  refine (ocElem_tagFirst E).isSome fun ht => ?_
  obtain ⟨rfl, rfl⟩ | ⟨hx, hy⟩ := nullTag_eq ht
  · rfl
  · rw [ocElem_nonnull E hx hy]; exact h hx hy

theorem ocnn_some : ∀ (a b : Value), mapsNaNFree a = true → mapsNaNFree b = true →
    (orderCompareNonNull E a b).isSome := by
  intro a
  induction a using Value.ind with | step a ih => ?_
  intro b ha hb
  refine (ocnn_tagFirst E).isSome fun h => ?_
  have hk := kind_of_rank_eq h
  cases a with
  | list xs =>
    obtain ⟨ys, rfl⟩ := hk
    simp only [orderCompareNonNull, clo_eq_lexP]
    exact lexP_isSome fun x hx y hy => ocElem_isSome E fun _ _ =>
      ih x hx y (mnfList_iff.1 ha x hx) (mnfList_iff.1 hb y hy)
  | map xs => obtain ⟨ys, rfl⟩ := hk; exact dcmp_some (.map xs) (.map ys) ha hb
  | null => cases hk; rfl
  | bool x | str x | edgeKey x | dateTime x | blob x => obtain ⟨y, rfl⟩ := hk; rfl
  | int x | float x => rw [ocnn_num E _ b rfl hk]; rfl
  | nodeId x | externalId x => rw [ocnn_node E _ b rfl hk]; rfl
  | path n e => obtain ⟨n', e', rfl⟩ := hk; rw [ocnn_path]; rfl

theorem clo_some : ∀ (a b : List Value), mapsNaNFree.mnfList a = true → mapsNaNFree.mnfList b = true →
    (compareListsOrdering E a b).isSome :=
  fun a b => ocnn_some E (.list a) (.list b)

/-- `order_compare` and the comparison of list elements treat `null` alike -/
theorem orderCompare_eq_ocElem (a b : Value) : orderCompare E a b = (ocElem E a b).getD .eq := by
  unfold orderCompare ocElem listElemOrdering
  split <;> rfl

theorem orderCompare_of_rank_ne {a b : Value} (ha : a ≠ .null) (hb : b ≠ .null) (h : rank a ≠ rank b) :
    orderCompare E a b = cmpNat (rank a) (rank b) := by
  rw [orderCompare_eq_ocElem, ocElem_nonnull E ha hb, ocnn_tagFirst E a b h]; rfl

theorem orderCompare_num (a b : Value) (ha : isNum a = true) (hb : isNum b = true) :
    orderCompare E a b = numCmpNanLast a b := by
  obtain ⟨x, rfl⟩ | ⟨x, rfl⟩ := isNum_cases ha <;> obtain ⟨y, rfl⟩ | ⟨y, rfl⟩ := isNum_cases hb <;> rfl

theorem orderCompare_swap (a b : Value) : orderCompare E a b = (orderCompare E b a).swap := by
  rw [orderCompare_eq_ocElem, orderCompare_eq_ocElem, ocElem_swap E (ocnn_swap E a b)]
  cases ocElem E b a <;> rfl

/-- on values without NaN inside maps `order_compare` never falls back to `Equal` -/
theorem ocElem_eq_some (a b : Value) (ma : mapsNaNFree a = true) (mb : mapsNaNFree b = true) :
    ocElem E a b = some (orderCompare E a b) := by
  have h := ocElem_isSome E (fun _ _ => ocnn_some E a b ma mb)
  rw [orderCompare_eq_ocElem]
  cases h' : ocElem E a b <;> first | rfl | (rw [h'] at h; cases h)

theorem orderCompare_trans (a b d : Value) (wa : a.wf = true) (wb : b.wf = true) (wd : d.wf = true)
    (ma : mapsNaNFree a = true) (mb : mapsNaNFree b = true) (md : mapsNaNFree d = true)
    (hS : StrHyp E (stringsOf a) (stringsOf b) (stringsOf d))
    (n1 : orderCompare E a b ≠ .gt) (n2 : orderCompare E b d ≠ .gt) :
    orderCompare E a d = (orderCompare E a b).then (orderCompare E b d) := by
  have h := ocElem_trans E (ocnn_trans E a b d wa wb wd hS) _ _ (ocElem_eq_some E a b ma mb)
    (ocElem_eq_some E b d mb md) n1 n2
  rw [ocElem_eq_some E a d ma md] at h
  exact Option.some.inj h

/-- the domain of C20: the sort keys are well-formed, have no NaN inside maps, and the engine's string
    comparison is transitive on their strings (no known-finding trigger of C20 holds) -/
def ordOK (vs : List Value) : Bool :=
  vs.all (fun v => v.wf && mapsNaNFree v) && strTransOn E (vs.flatMap stringsOf)

theorem strHyp_of_strTransOn (ss : List Str) (h : strTransOn E ss = true) : StrHyp E ss ss ss := by
  intro x hx y hy z hz
  simp only [strTransOn, List.all_eq_true] at h
  exact h x hx y hy z hz

theorem orderCompare_lawsOn (vs : List Value) (h : ordOK E vs = true) :
    CmpLawsOn (orderCompare E) (fun v => v ∈ vs) where
  swap a b _ _ := orderCompare_swap E a b
  trans a b d ha hb hd n1 n2 := by
    simp only [ordOK, Bool.and_eq_true, List.all_eq_true] at h
    have sub : ∀ v ∈ vs, ∀ x ∈ stringsOf v, x ∈ vs.flatMap stringsOf :=
      fun v hv x hx => List.mem_flatMap.2 ⟨v, hv, hx⟩
    exact orderCompare_trans E a b d (h.1 a ha).1 (h.1 b hb).1 (h.1 d hd).1 (h.1 a ha).2 (h.1 b hb).2 (h.1 d hd).2
      ((strHyp_of_strTransOn E _ h.2).mono E (sub a ha) (sub b hb) (sub d hd)) n1 n2
end
end Nervus
