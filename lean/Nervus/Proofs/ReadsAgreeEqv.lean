/-
  Proofs/ReadsAgreeEqv.lean — agreement with the Spec graph carries over along `Eqv` (C06 with
  compaction): the compacting engine reads like the transaction-only shadow engine, which refines the Spec.
-/
import Nervus.Proofs.CompactHist
import Nervus.Proofs.EngineReadsAgree
namespace Nervus.Storage
open Nervus.GraphSpec (Graph TxOp Op wfFrom anyCommitted txOnly)

theorem ReadsAgree.of_eqv {c : Cfg} {s u : Engine} {g : Graph} (hE : Eqv c s u) (hr : ReadsAgree c u g) :
    ReadsAgree c s g := by
  obtain ⟨rnodes, rsnap, _, rout, rinc, rnp, rep, rnps, reps, _, rnames, rext, rlk, rint, _⟩ := hE.reads
  have hrm : ∀ rel t, RelMatch s rel t → RelMatch u rel t := by
    intro rel t h
    rcases h with h | ⟨r, nm, h1, h2, h3⟩
    · exact Or.inl h
    · exact Or.inr ⟨r, nm, h1, h2, by rw [← rint]; exact h3⟩
  refine { nodes := rnodes.trans hr.nodes, nodesSnap := rsnap.trans hr.nodesSnap,
           ext := fun n hn => by rw [rext]; exact hr.ext n hn,
           labels := fun n l hn => by rw [rnames]; exact hr.labels n l hn,
           nprop := fun n k hn => (rnp n k).trans (hr.nprop n k hn),
           nprops := fun n k hn => (rnps n k).trans (hr.nprops n k hn),
           out := ?_, inc := ?_,
           eprop := fun r nm a b k h1 h2 h3 => (rep _ k).trans (hr.eprop r nm a b k (by rw [← rint]; exact h1) h2 h3),
           eprops := fun r nm a b k h1 h2 h3 => (reps _ k).trans (hr.eprops r nm a b k (by rw [← rint]; exact h1) h2 h3),
           extLookup := fun x hx => by rw [rlk]; exact hr.extLookup x hx }
  · intro n rel t hn hm
    obtain ⟨es, h1, h2, h3⟩ := hr.out n rel t hn (hrm rel t hm)
    rcases rout n rel with ⟨_, hb⟩ | ⟨l, l', ha, hb, hp⟩
    · rw [h1] at hb; cases hb
    · rw [h1] at hb; cases hb
      refine ⟨l, ha, fun e he => by rw [rint]; exact h2 e (hp.mem_iff.mp he), ?_⟩
      intro r nm a b hnm
      rw [hp.count_eq]; exact h3 r nm a b (by rw [← rint]; exact hnm)
  · intro n rel t hn hm
    obtain ⟨es, h1, h2, h3⟩ := hr.inc n rel t hn (hrm rel t hm)
    rcases rinc n rel with ⟨_, hb⟩ | ⟨l, l', ha, hb, hp⟩
    · rw [h1] at hb; cases hb
    · rw [h1] at hb; cases hb
      refine ⟨l, ha, fun e he => by rw [rint]; exact h2 e (hp.mem_iff.mp he), ?_⟩
      intro r nm a b hnm
      rw [hp.count_eq]; exact h3 r nm a b (by rw [← rint]; exact hnm)

/-- the converse direction: two engines that agree with ONE graph and number the names alike answer with the same
    (src, type id, dst) triples — the bulk-loaded and the transactionally loaded engine of C30 (`bulk_eq_tx_edges`) -/
theorem ReadsAgree.neighbors_perm {c : Cfg} {b t : Engine} {g : Graph} (rb : ReadsAgree c b g) (rt : ReadsAgree c t g)
    (hint : b.interner = t.interner) (n : Nat) (hl : g.live n = true) (rel : Option Nat)
    (hrel : rel = none ∨ ∃ r nm, rel = some r ∧ b.interner[r]? = some nm) :
    (∃ l l', b.neighbors n rel = some l ∧ t.neighbors n rel = some l' ∧ l.Perm l') ∧
    (∃ l l', b.incoming c n rel = some l ∧ t.incoming c n rel = some l' ∧ l.Perm l') := by
  -- the Spec-side name of the filter
  obtain ⟨tt, hmb, hmt⟩ : ∃ tt, RelMatch b rel tt ∧ RelMatch t rel tt := by
    rcases hrel with rfl | ⟨r, nm, rfl, hr⟩
    · exact ⟨none, Or.inl ⟨rfl, rfl⟩, Or.inl ⟨rfl, rfl⟩⟩
    · exact ⟨some nm, Or.inr ⟨r, nm, rfl, rfl, hr⟩, Or.inr ⟨r, nm, rfl, rfl, by rw [← hint]; exact hr⟩⟩
  -- two lists of edges with interned types and the same count of every such edge
  have key : ∀ (l l' : List Edge) (cnt : Nat → Nat → Nat → Nat → Nat),
      (∀ e ∈ l, ∃ nm, b.interner[e.rel]? = some nm) → (∀ e ∈ l', ∃ nm, t.interner[e.rel]? = some nm) →
      (∀ r nm a c, b.interner[r]? = some nm → l.count ⟨a, r, c⟩ = cnt r nm a c) →
      (∀ r nm a c, t.interner[r]? = some nm → l'.count ⟨a, r, c⟩ = cnt r nm a c) → l.Perm l' := by
    intro l l' cnt m1 m2 c1 c2
    rw [List.perm_iff_count]
    intro e
    cases hq : b.interner[e.rel]? with
    | some nm =>
      have e1 := c1 e.rel nm e.src e.dst hq
      have e2 := c2 e.rel nm e.src e.dst (by rw [← hint]; exact hq)
      show l.count e = l'.count e
      have : (⟨e.src, e.rel, e.dst⟩ : Edge) = e := rfl
      rw [this] at e1 e2
      rw [e1, e2]
    | none =>
      have n1 : l.count e = 0 := List.count_eq_zero.mpr (fun hm => by obtain ⟨nm, h⟩ := m1 e hm; rw [hq] at h; cases h)
      have n2 : l'.count e = 0 := List.count_eq_zero.mpr (fun hm => by
        obtain ⟨nm, h⟩ := m2 e hm; rw [← hint, hq] at h; cases h)
      rw [n1, n2]
  constructor
  · obtain ⟨l, a1, a2, a3⟩ := rb.out n rel tt hl hmb
    obtain ⟨l', b1, b2, b3⟩ := rt.out n rel tt hl hmt
    exact ⟨l, l', a1, b1, key l l' (fun r nm a c => (g.out n tt).count ⟨a, nm, c⟩) a2 b2 a3 b3⟩
  · obtain ⟨l, a1, a2, a3⟩ := rb.inc n rel tt hl hmb
    obtain ⟨l', b1, b2, b3⟩ := rt.inc n rel tt hl hmt
    exact ⟨l, l', a1, b1, key l l' (fun r nm a c => (g.inc n tt).count ⟨a, nm, c⟩) a2 b2 a3 b3⟩

/-! ### histories of transactions and compactions against the Spec -/

theorem hist_eqv_sim (c : Cfg) (hg : c.csrGuard = true) (hown : c.compactOwnLast = true)
    (hflag : c.rootAfterInserts = true) : ∀ (h : List Op) (s u : Engine) (g : Graph), Eqv c s u → RootOK s → Sim u g →
    compactHistSafe c s h = true → HistOK g u.interner.length h →
    ∃ s' u', h.foldlM (runOp c) s = .ok s' ∧ Eqv c s' u' ∧ Sim u' (h.foldl Graph.opStep g) ∧ RootOK s' := by
  intro h
  induction h with
  | nil => intro s u g hE hR hS _ _; exact ⟨s, u, rfl, hE, hS, hR⟩
  | cons op h ih =>
    intro s u g hE hR hS hs hk
    obtain ⟨ho, hk'⟩ := hk.cons
    cases op with
    | tx ops b =>
      simp only [compactHistSafe, Bool.and_eq_true] at hs
      obtain ⟨s', u', h1, r⟩ := ih _ _ _ (tx_eqv c hE hS.G.root ops b hs.1).1 (runTx_rootOK c hR ops b) (hS.runTx c ho) hs.2
        (hk' _ (runTx_interner_le c u ops b))
      exact ⟨s', u', by rw [List.foldlM_cons]; exact h1, r⟩
    | compact =>
      simp only [compactHistSafe, Bool.and_eq_true] at hs
      obtain ⟨s', u', h1, r⟩ := ih _ u g (compact_eqv c hg hown hflag hE hR hs.1) (hR.compact c hflag) hS hs.2
        (hk' _ (Nat.le_refl _))
      exact ⟨s', u', by rw [List.foldlM_cons]; exact h1, r⟩
    | close => cases hs
    | reopen => cases hs

/-- C06 for histories with compactions (label operations included), invariant form: the engine reads like an
    engine that refines the Spec graph of the history; `Props/C06` reads it off through `ReadsAgree.of_eqv` -/
theorem run_sim_compact (c : Cfg) (hg : c.csrGuard = true) (hown : c.compactOwnLast = true)
    (hflag : c.rootAfterInserts = true) (h : List Op)
    (hs : compactHistSafe c {} h = true) (hwf : GraphSpec.wellFormed h = true)
    (hsz : histSize h ≤ labelMax)
    (k1 : anyCommitted GraphSpec.txDeletesRelWithProps {} h = false)
    (k2 : anyCommitted (fun _ => GraphSpec.txLabelReAdd) {} h = false)
    (k3 : anyCommitted (fun _ => GraphSpec.txEdgeAndEndpointDelete) {} h = false)
    (k4 : anyCommitted (fun _ => GraphSpec.txExtZero) {} h = false) :
    ∃ s u, Storage.run c h = .ok s ∧ Eqv c s u ∧ Sim u (GraphSpec.run h) ∧ RootOK s := by
  obtain ⟨s, u, h1, hE, hS, hR⟩ := hist_eqv_sim c hg hown hflag h {} {} {} (Eqv.refl _ _) RootOK.empty' Sim.empty hs
    ⟨hwf, by show 0 + _ ≤ _; omega, k1, k2, k3, k4⟩
  exact ⟨s, u, h1, hE, hS, hR⟩

end Nervus.Storage
