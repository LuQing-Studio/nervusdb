/-
  Proofs.CrashImgL — power-loss images of the page file in which no write of a leaf page of the
  LIVE property tree is torn (the tree the durable manifest points to is updated in place by
  compaction; a torn in-place leaf write is the known finding `C01-live-tree-in-place`).  Same
  closure principle as `CrashImg`, with the torn case excluded for those writes.
-/
import Nervus.Proofs.CrashImg
namespace Nervus.Crash

def isLiveLeaf (live : Nat) : PEff → Bool
  | .leaf k _ _ _ _ => k == live
  | _ => false

def tearsLive (live : Nat) (l : List (PEff × Sel)) : Bool :=
  l.any (fun x => x.2 == Sel.torn && isLiveLeaf live x.1)

def CrashMode.tearsLive (live : Nat) (pj : List PEff) : CrashMode → Bool
  | .proc => false
  | .power sel _ _ => Crash.tearsLive live (zipSel pj sel)

def IsImgL (live : Nat) (pj : List PEff) (p p' : PImg) : Prop :=
  ∃ sel, tearsLive live (zipSel pj sel) = false ∧ p' = applySel (zipSel pj sel) p

theorem IsImgL.isImg {live : Nat} {pj : List PEff} {p p' : PImg} (h : IsImgL live pj p p') : IsImg pj p p' := by
  obtain ⟨sel, _, h⟩ := h
  exact ⟨sel, h⟩

theorem isImgL_snoc (live : Nat) (pj : List PEff) (e : PEff) (p p'' : PImg) (h : IsImgL live (pj ++ [e]) p p'') :
    ∃ p', IsImgL live pj p p' ∧
      (p'' = p' ∨ p'' = applyEff e p' ∨ (isLiveLeaf live e = false ∧ ∃ e', tornEff p' e = some e' ∧ p'' = applyEff e' p')) := by
  obtain ⟨sel, hsel, rfl⟩ := h
  rw [zipSel_snoc, tearsLive, List.any_append, Bool.or_eq_false_iff] at hsel
  refine ⟨_, ⟨sel, hsel.1, rfl⟩, ?_⟩
  rw [zipSel_snoc, applySel_append]
  generalize sel.getD pj.length .drop = s at hsel
  cases s
  · exact Or.inl rfl
  · exact Or.inr (Or.inl rfl)
  · simp only [applySel]
    split
    · exact Or.inr (Or.inr ⟨by simpa using hsel.2, _, ‹_›, rfl⟩)
    · exact Or.inl rfl

theorem isImgL_nil (live : Nat) (p p' : PImg) (h : IsImgL live [] p p') : p' = p := isImg_nil p p' h.isImg

theorem isImgL_pv (live : Nat) (pj : List PEff) (p : PImg) : IsImgL live pj p (applyEffs pj p) := by
  refine ⟨pj.map (fun _ => Sel.keep), ?_, applySel_keep pj p⟩
  induction pj with
  | nil => rfl
  | cons e pj ih => simpa [zipSel, tearsLive] using ih

theorem isImgL_pd (live : Nat) (pj : List PEff) (p : PImg) : IsImgL live pj p p := by
  refine ⟨[], ?_, by rw [zipSel_nil_sel, applySel_drop]⟩
  rw [zipSel_nil_sel]
  cases pj with
  | nil => rfl
  | cons _ _ => simp [tearsLive]

def AllImgsL (live : Nat) (fs : FS) (C : PImg → Prop) : Prop := ∀ p', IsImgL live fs.pj fs.pd p' → C p'

theorem AllImgs.toL {live : Nat} {fs : FS} {C : PImg → Prop} (h : AllImgs fs C) : AllImgsL live fs C :=
  fun p' hp' => h p' hp'.isImg

theorem allImgsL_pg (live : Nat) (fs : FS) (C : PImg → Prop) (e : PEff) (pid : Nat) (h : AllImgsL live fs C)
    (hc : ∀ p, C p → C (applyEff e p) ∧ (isLiveLeaf live e = false → ∀ e', tornEff p e = some e' → C (applyEff e' p))) :
    AllImgsL live (fs.step (.pg e pid)) C := by
  intro p'' himg
  obtain ⟨p', hp', hcase⟩ := isImgL_snoc live fs.pj e fs.pd p'' himg
  have hC := h p' hp'
  rcases hcase with rfl | rfl | ⟨hl, e', ht, rfl⟩
  · exact hC
  · exact (hc p' hC).1
  · exact (hc p' hC).2 hl e' ht

theorem allImgsL_ps (live : Nat) (fs : FS) (C : PImg → Prop) (h : C fs.pv) : AllImgsL live (fs.step .ps) C := by
  intro p' himg
  have := isImgL_nil _ _ _ himg
  rw [this]
  exact h

theorem allImgsL_pv (live : Nat) (fs : FS) (C : PImg → Prop) (h : AllImgsL live fs C) : C fs.pv := h _ (isImgL_pv _ _ _)

theorem allImgsL_pd (live : Nat) (fs : FS) (C : PImg → Prop) (h : AllImgsL live fs C) : C fs.pd := h _ (isImgL_pd _ _ _)

theorem allImgsL_mono (live : Nat) (fs : FS) (C C' : PImg → Prop) (h : AllImgsL live fs C) (hcc : ∀ p, C p → C' p) :
    AllImgsL live fs C' := fun p' hp' => hcc _ (h p' hp')

theorem allImgsL_wal (live : Nat) (fs fs' : FS) (C : PImg → Prop) (h : AllImgsL live fs C) (hpd : fs'.pd = fs.pd)
    (hpj : fs'.pj = fs.pj) : AllImgsL live fs' C := by
  intro p' himg
  rw [hpd, hpj] at himg
  exact h p' himg

theorem crashP_isImgL (live : Nat) (fs : FS) (mode : CrashMode) (h : mode.tearsLive live fs.pj = false) :
    IsImgL live fs.pj fs.pd (fs.crashP mode) := by
  cases mode with
  | proc => exact isImgL_pv _ _ _
  | power sel wk lose => exact ⟨sel, h, rfl⟩

theorem allImgsL_of_inert (live : Nat) (fs : FS) (C : PImg → Prop) (hi : Inert fs.pj) (h : C fs.pd) : AllImgsL live fs C :=
  (allImgs_of_inert fs C hi h).toL

end Nervus.Crash
