/-
  Proofs/CheckpointRec.lean — the recovery invariant through compaction / checkpoint (C04 with
  compactions): which logged transactions the checkpoint skip may leave in the replay (`Quiet`),
  label vectors that are exactly the persisted first labels (`LabelsBase`), segment bookkeeping
  (`SegsOK`); `Rec` after `compact` and after the log rewrite of `checkpoint_on_close` (`closedView`), both
  through `rec_of_checkpointed`.
-/
import Nervus.Proofs.ReopenHist
import Nervus.Proofs.CompactHist
namespace Nervus.Storage
open Nervus.GraphSpec (TxOp Op)

def Covers (im m : IdMap) : Prop := ∀ x iid, im.lookup x = some iid → m.lookup x = some iid

/-- `Covers`: replay starts from the node table as loaded, which holds the nodes of every later transaction too -/
def IdleTx (im : IdMap) (tx : Nat × List WalRec) : Prop :=
  ∀ k m acc, Covers im m → replayStep k (m, acc) tx = .ok (m, acc)

/-- what lets `Rec.compact` move the checkpoint up to the newest run: above the old checkpoint only the transactions
    of the published runs do anything in replay -/
structure Quiet (s : Engine) : Prop where
  inv : ∃ txs, Blocks s.wal txs ∧
    ∀ tx ∈ txs, tx.1 ≤ s.ckptTxid ∨ (∃ r ∈ s.runs, r.txid = tx.1) ∨ IdleTx s.idmap tx

theorem Blocks.unique {w : List WalRec} {a b : List (Nat × List WalRec)} (h1 : Blocks w a) (h2 : Blocks w b) :
    a = b := by
  have e1 := h1.parse
  have e2 := h2.parse
  rw [e1] at e2; cases e2; rfl

theorem Quiet.empty : Quiet {} := ⟨⟨[], Blocks.nil, fun tx h => by cases h⟩⟩

theorem Quiet.congr {s s' : Engine} (h : Quiet s) (h1 : s'.wal = s.wal) (h2 : s'.idmap = s.idmap)
    (h3 : s'.runs = s.runs) (h4 : s'.ckptTxid = s.ckptTxid) : Quiet s' := by
  obtain ⟨txs, hb, hq⟩ := h.inv
  exact ⟨⟨txs, by rw [h1]; exact hb, by rw [h2, h3, h4]; exact hq⟩⟩

/-- a transaction whose records are neither node / label nor memtable records is idle -/
def WalRec.isInert : WalRec → Bool
  | .createLabel _ _ => true
  | .manifestSwitch _ _ _ => true
  | .checkpoint _ _ _ => true
  | _ => false

theorem replay_inert (recs : List WalRec) (a : IdMap × MemTable) (h : ∀ r ∈ recs, r.isInert = true) :
    recs.foldlM replayOp a = .ok a :=
  foldlM_ignored _ _ (fun r hr _ => by
    have hr := h r hr
    cases r <;> simp only [WalRec.isInert] at hr <;> first | rfl | cases hr) a

theorem idle_of_inert (im : IdMap) (tx : Nat × List WalRec) (h : ∀ r ∈ tx.2, r.isInert = true) : IdleTx im tx := by
  intro k m acc _
  unfold replayStep
  split
  · rfl
  · rw [replay_inert tx.2 (m, {}) h]
    rfl

theorem Quiet.intern {s : Engine} (h : Quiet s) (nm : Nat) : Quiet (s.getOrCreateLabel nm).1 := by
  unfold Engine.getOrCreateLabel
  cases hq : s.interner.getId nm with
  | some id => exact h
  | none =>
    simp only
    obtain ⟨txs, hb, hq⟩ := h.inv
    refine ⟨⟨txs ++ [(s.nextTxid, [WalRec.createLabel nm s.interner.length])], ?_, ?_⟩⟩
    · exact hb.append s.nextTxid [WalRec.createLabel nm s.interner.length]
        (by intro r hr; simp only [List.mem_singleton] at hr; subst hr; rfl)
    · intro tx htx
      rcases List.mem_append.mp htx with h' | h'
      · exact hq tx h'
      · simp only [List.mem_singleton] at h'
        subst h'
        exact Or.inr (Or.inr (idle_of_inert _ _ (by
          intro r hr; simp only [List.mem_singleton] at hr; subst hr; rfl)))

theorem Quiet.stepTx (c : Cfg) (st : Engine × Txn) (op : TxOp) : Quiet st.1 → Quiet (stepTx c st op).1 :=
  stepTx_engine_rel (R := fun s s' => Quiet s → Quiet s') (fun _ h => h) (fun _ l h => Quiet.intern h l)
    (fun _ _ _ h => Quiet.congr h rfl rfl rfl rfl) c st op

theorem Quiet.fold (c : Cfg) (ops : List TxOp) (st : Engine × Txn) (h : Quiet st.1) :
    Quiet (ops.foldl (Storage.stepTx c) st).1 :=
  fold_engine_rel (R := fun s s' => Quiet s → Quiet s') (fun _ h => h) (fun f g h => g (f h))
    (Quiet.stepTx c) ops st h

/-- `hadd`, `hdel`: a transaction of label operations only publishes no run and is not idle; once a checkpoint
    passes it, its records are skipped (finding C04-label-change-lost-after-checkpoint) -/
theorem Quiet.commit {s : Engine} {t : Txn} (h : Quiet s) (hwf : t.mt.WF)
    (hfresh : ∀ c ∈ t.created, s.idmap.lookup c.1 = none) (hnd : (t.created.map (·.1)).Nodup)
    (hadd : t.addL = []) (hdel : t.delL = []) :
    Quiet (committed Cfg.current s t (idmapAfter s.idmap t)) := by
  obtain ⟨txs, hb, hq⟩ := h.inv
  refine ⟨⟨txs ++ [(t.txid, graphRecords t (t.mt.freeze t.txid))], hb.commit t _, fun tx htx => ?_⟩⟩
  show tx.1 ≤ s.ckptTxid ∨ (∃ r ∈ (if (t.mt.freeze t.txid).isEmpty then s.runs else t.mt.freeze t.txid :: s.runs),
    r.txid = tx.1) ∨ IdleTx (idmapAfter s.idmap t) tx
  rcases List.mem_append.mp htx with h' | h'
  · rcases hq tx h' with h1 | ⟨r, hr, he⟩ | h3
    · exact Or.inl h1
    · refine Or.inr (Or.inl ⟨r, ?_, he⟩)
      split
      · exact hr
      · exact List.mem_cons_of_mem _ hr
    · exact Or.inr (Or.inr fun k m acc hc => h3 k m acc fun x iid hx => hc x iid (idmapAfter_lookup_old _ t hfresh hx))
  · simp only [List.mem_singleton] at h'
    subst h'
    by_cases he : (t.mt.freeze t.txid).isEmpty = true
    · -- nothing published: the transaction is idle
      refine Or.inr (Or.inr fun k m acc hc => ?_)
      by_cases hk : t.txid ≤ k
      · simp only [replayStep, hk, if_true]
      · obtain ⟨r, _, hstep⟩ := replayStep_commit t hwf k (Nat.lt_of_not_le hk) m [] m.i2l rfl
          (fun c hcm => hc _ _ (idmapAfter_lookup_created _ t hnd hcm))
          (fun p hp => by rw [hadd] at hp; cases hp) (fun p hp => by rw [hdel] at hp; cases hp) acc
        rw [hstep, hadd, hdel, he]; rfl
    · refine Or.inr (Or.inl ⟨t.mt.freeze t.txid, ?_, rfl⟩)
      simp [he]

/-! ### label vectors = the persisted first labels -/

def LabelsBase (m : IdMap) : Prop := m.i2l = m.i2e.map (fun r => [r.label])

theorem LabelsBase.after {m : IdMap} (h : LabelsBase m) (t : Txn) (hadd : t.addL = []) (hdel : t.delL = []) :
    LabelsBase (idmapAfter m t) := by
  unfold LabelsBase idmapAfter
  simp only [hadd, hdel, addAll, delAll, List.foldl_nil]
  rw [h, List.map_append, List.map_map]
  rfl

/-! ### segments -/

structure SegsOK (s : Engine) : Prop where
  store : s.segStore = s.segs
  lt : ∀ g ∈ s.segs, g.id < s.nextSegId
  nodup : (s.segs.map (·.id)).Nodup

theorem SegsOK.find {s : Engine} (h : SegsOK s) : ∀ g ∈ s.segs, s.segStore.find? (·.id == g.id) = some g := by
  rw [h.store]; exact fun _ hg => find?_key_of_mem (·.id) h.nodup hg

theorem SegsOK.congr {s s' : Engine} (h : SegsOK s) (h1 : s'.segStore = s.segStore) (h2 : s'.segs = s.segs)
    (h3 : s'.nextSegId = s.nextSegId) : SegsOK s' :=
  ⟨by rw [h1, h2]; exact h.store, by rw [h2, h3]; exact h.lt, by rw [h2]; exact h.nodup⟩

theorem SegsOK.compact (c : Cfg) {s : Engine} (h : SegsOK s) : SegsOK (s.compact c) := by
  cases he : s.runs.isEmpty with
  | true =>
    rw [compact_noop c s he]; exact h
  | false =>
    unfold Engine.compact
    rw [he]
    simp only [Bool.false_eq_true, if_false]
    have hid : ((buildForward s.nextSegId (collectRunEdges (!c.compactOwnLast) s.runs [] [])).persist).id = s.nextSegId := by
      rw [persist_id, buildForward_id]
    refine ⟨by show _ :: s.segStore = _ :: s.segs; rw [h.store], ?_, ?_⟩
    · intro g hg
      show g.id < s.nextSegId + 1
      rcases List.mem_cons.mp hg with rfl | h'
      · rw [hid]; exact Nat.lt_succ_self _
      · exact Nat.lt_succ_of_lt (h.lt g h')
    · show ((_ :: s.segs).map (·.id)).Nodup
      rw [List.map_cons, List.nodup_cons, hid]
      refine ⟨?_, h.nodup⟩
      intro hm
      obtain ⟨g, hg, he'⟩ := List.mem_map.mp hm
      have := h.lt g hg
      omega

/-! ### compaction -/

theorem replay_all_idle (im : IdMap) (k : Nat) (txs : List (Nat × List WalRec))
    (h : ∀ tx ∈ txs, tx.1 ≤ k ∨ IdleTx im tx) (m : IdMap) (acc : List Run) (hc : Covers im m) :
    txs.foldlM (replayStep k) (m, acc) = .ok (m, acc) := by
  induction txs with
  | nil => rfl
  | cons tx txs ih =>
    rw [List.foldlM_cons]
    have : replayStep k (m, acc) tx = .ok (m, acc) := by
      rcases h tx List.mem_cons_self with h1 | h1
      · unfold replayStep; rw [if_pos h1]
      · exact h1 k m acc hc
    rw [this]
    exact ih (fun t ht => h t (List.mem_cons_of_mem _ ht))

/-- one more transaction in the log that ends in a manifest switch to an epoch not below the current one and a
    checkpoint of that epoch (`compact`, `checkpoint_on_close`, the bulk loader): the scan reads exactly these two -/
theorem scan_snoc_meta (txs : List (Nat × List WalRec)) (tx : Nat) (pre : List WalRec)
    (hpre : ∀ r ∈ pre, r.isMeta = false) (ep : Nat) (ids : List Nat) (upTo root : Nat)
    (hep : (scanRecovery txs).epoch ≤ ep) :
    ScanIs ep ids upTo root (txs ++ [(tx, pre ++ [.manifestSwitch ep ids root, .checkpoint upTo ep root])]) := by
  unfold ScanIs
  rw [scanRecovery_snoc, List.foldl_append, scanOps_skip _ _ hpre]
  simp only [List.foldl_cons, List.foldl_nil, scanOp, ge_iff_le, hep, if_true, beq_self_eq_true, Nat.zero_max, and_self]

theorem rec_of_checkpointed {s : Engine} {txs : List (Nat × List WalRec)} (hb : Blocks s.wal txs)
    (hl : replayLabels txs = .ok s.interner) (hs : ScanIs s.epoch (s.segs.map (·.id)) s.ckptTxid s.propsRoot txs)
    (he : s.runs = []) (hB : LabelsBase s.idmap) (hidle : ∀ tx ∈ txs, tx.1 ≤ s.ckptTxid ∨ IdleTx s.idmap tx)
    (b1 : s.ckptTxid ≤ (scanRecovery txs).maxTxid) (b3 : (scanRecovery txs).maxTxid < s.nextTxid) :
    Rec s ∧ Quiet s := by
  constructor
  · refine ⟨⟨txs, hb, hl, hs, ?_, b1, (by rw [he]; intro r hr; cases hr), b3⟩, Nat.succ_le_of_lt (Nat.lt_of_le_of_lt (Nat.zero_le _) b3),
      (by rw [he]; intro r hr; cases hr)⟩
    intro m0 T hc hi
    refine ⟨[], ?_, by rw [he]; exact RunsEq.nil⟩
    have : ({ m0 with i2l := s.idmap.i2l ++ T } : IdMap) = m0 := by
      cases m0; simp only at hi ⊢; rw [hi, hB]
    rw [this, replayGraph_eq]
    exact replay_all_idle s.idmap _ _ hidle m0 [] hc
  · exact ⟨⟨txs, hb, fun tx htx => (hidle tx htx).imp_right Or.inr⟩⟩

/-- `hB`: behind the new checkpoint no label record is replayed, and IdMap::load has the first labels only -/
theorem Rec.compact (c : Cfg) {s : Engine} (hR : Rec s) (hQ : Quiet s) (hB : LabelsBase s.idmap) :
    Rec (s.compact c) ∧ Quiet (s.compact c) := by
  cases he : s.runs.isEmpty with
  | true => rw [compact_noop c s he]; exact ⟨hR, hQ⟩
  | false =>
  rw [compact_eq c s he]
  generalize (if (sunkOf s).isEmpty then s.propsRoot else _) = root
  have hck := hR.ckptLt
  obtain ⟨⟨txs, hb, hl, hs, hg, b1, b2, b3⟩, hp, ha⟩ := hR
  obtain ⟨txs', hb', hq⟩ := hQ.inv
  have hEq := Blocks.unique hb' hb
  rw [hEq] at hq
  obtain ⟨sc1, sc2, sc3, sc4⟩ := hs
  obtain ⟨r0, rs0, hr0⟩ : ∃ r rs, s.runs = r :: rs := by
    cases hrr : s.runs with
    | nil => rw [hrr] at he; cases he
    | cons r rs => exact ⟨r, rs, rfl⟩
  -- the checkpoint moves up
  have hge := (le_foldl_max_key (·.txid) s.runs 0).2
  have hupck : s.ckptTxid ≤ s.runs.foldl (fun m r => max m r.txid) 0 := by
    have h1 := hge r0 (by rw [hr0]; exact List.mem_cons_self)
    have h2 := ha r0 (by rw [hr0]; exact List.mem_cons_self)
    omega
  have hupmax : s.runs.foldl (fun m r => max m r.txid) 0 ≤ (scanRecovery txs).maxTxid :=
    foldl_max_key_le (·.txid) s.runs (Nat.zero_le _) b2
  generalize (buildForward s.nextSegId (collectRunEdges (!c.compactOwnLast) s.runs [] [])).persist = seg
  generalize ((Engine.sinkProps (·.nprops) s.runs).map (fun p => (SKey.node p.1.1 p.1.2, p.2)) ++
      (Engine.sinkProps (·.eprops) s.runs).map (fun p => (SKey.edge p.1.1 p.1.2, p.2)) : Store) = sunk
  generalize s.runs.foldl (fun m r => max m r.txid) 0 = upTo at hupck hupmax hge ⊢
  let metaTx : Nat × List WalRec := (s.nextTxid, [.manifestSwitch (s.epoch + 1) ((seg :: s.segs).map (·.id)) root,
    .checkpoint upTo (s.epoch + 1) root])
  have hinert : ∀ r ∈ metaTx.2, r.isInert = true := by
    intro r hr
    simp only [metaTx, List.mem_cons, List.mem_nil_iff, or_false] at hr
    rcases hr with rfl | rfl <;> rfl
  have hblocks : Blocks (s.wal ++ [.beginTx s.nextTxid, .manifestSwitch (s.epoch + 1) ((seg :: s.segs).map (·.id)) root,
      .checkpoint upTo (s.epoch + 1) root, .commitTx s.nextTxid]) (txs ++ [metaTx]) :=
    hb.append s.nextTxid metaTx.2 (by
      intro r hr
      simp only [metaTx, List.mem_cons, List.mem_nil_iff, or_false] at hr
      rcases hr with rfl | rfl <;> rfl)
  have hmax := scan_maxTxid_append txs metaTx
  have hidle : ∀ tx ∈ txs ++ [metaTx], tx.1 ≤ upTo ∨ IdleTx s.idmap tx := by
    intro tx htx
    rcases List.mem_append.mp htx with h' | h'
    · rcases hq tx h' with h1 | ⟨r, hr, hre⟩ | h3
      · exact Or.inl (Nat.le_trans h1 hupck)
      · exact Or.inl (hre ▸ hge r hr)
      · exact Or.inr h3
    · simp only [List.mem_singleton] at h'
      subst h'
      exact Or.inr (idle_of_inert _ _ hinert)
  refine rec_of_checkpointed (txs := txs ++ [metaTx]) hblocks ?_ ?_ rfl hB hidle ?_ ?_
  · exact replayLabels_append_noDef txs _ hl metaTx (by
      intro r hr
      simp only [metaTx, List.mem_cons, List.mem_nil_iff, or_false] at hr
      rcases hr with rfl | rfl <;> rfl)
  · exact scan_snoc_meta txs s.nextTxid [] (fun _ h => nomatch h) (s.epoch + 1) _ upTo root (by rw [sc1]; exact Nat.le_succ _)
  · show upTo ≤ _
    rw [hmax]; exact Nat.le_trans hupmax (Nat.le_max_left _ _)
  · rw [hmax]; show max _ s.nextTxid < s.nextTxid + 1; omega

/-! ### a log of one transaction: label table, manifest, checkpoint (`checkpoint_on_close`, bulk loader) -/

theorem labels_roundtrip (q : Interner) : ∀ p : Interner, (p ++ q).Nodup →
    ((q.zipIdx p.length).map (fun x => WalRec.createLabel x.1 x.2)).foldlM labelOp p = .ok (p ++ q) := by
  induction q with
  | nil => intro p _; simp only [List.zipIdx_nil, List.map_nil, List.foldlM_nil, List.append_nil]; rfl
  | cons nm q ih =>
    intro p hn
    have hnm : nm ∉ p := by
      intro hm
      have := (List.nodup_append.mp hn).2.2 nm hm nm List.mem_cons_self
      exact this rfl
    rw [List.zipIdx_cons, List.map_cons, List.foldlM_cons]
    have : labelOp p (WalRec.createLabel nm p.length) = .ok (p ++ [nm]) := by
      simp only [labelOp, (getId_none_iff p nm).mpr hnm, Nat.sub_self, List.range_zero, List.map_nil, List.append_nil]
    rw [this]
    have := ih (p ++ [nm]) (by rw [List.append_assoc]; exact hn)
    rw [List.length_append, List.length_singleton] at this
    show (List.map (fun x => WalRec.createLabel x.1 x.2) (q.zipIdx (p.length + 1))).foldlM labelOp (p ++ [nm]) = _
    rw [this, List.append_assoc]
    rfl

def metaBody (t : Interner) (ep : Nat) (ids : List Nat) (upTo root : Nat) : List WalRec :=
  t.zipIdx.map (fun p => WalRec.createLabel p.1 p.2) ++ [.manifestSwitch ep ids root, .checkpoint upTo ep root]

theorem metaBody_mem {t : Interner} {ep : Nat} {ids : List Nat} {upTo root : Nat} {r : WalRec}
    (h : r ∈ metaBody t ep ids upTo root) : r.isBody = true ∧ r.isInert = true := by
  simp only [metaBody, List.mem_append, List.mem_map, List.mem_cons, List.mem_nil_iff, or_false] at h
  rcases h with ⟨_, _, rfl⟩ | rfl | rfl <;> exact ⟨rfl, rfl⟩

theorem metaLog (tx : Nat) (t : Interner) (hn : t.Nodup) (ep : Nat) (ids : List Nat) (upTo root : Nat) :
    Blocks (WalRec.beginTx tx :: (metaBody t ep ids upTo root ++ [WalRec.commitTx tx]))
      [(tx, metaBody t ep ids upTo root)] ∧
    replayLabels [(tx, metaBody t ep ids upTo root)] = .ok t ∧
    ScanIs ep ids upTo root [(tx, metaBody t ep ids upTo root)] ∧
    (scanRecovery [(tx, metaBody t ep ids upTo root)]).maxTxid = tx := by
  refine ⟨?_, ?_, ?_, ?_⟩
  · simpa using Blocks.nil.append tx _ (fun r hr => (metaBody_mem hr).1)
  · have h1 := labels_roundtrip t [] (by simpa using hn)
    simp only [List.length_nil, List.nil_append] at h1
    rw [replayLabels_eq, List.foldlM_cons]
    show ((metaBody t ep ids upTo root).foldlM labelOp [] >>= fun init => List.foldlM labelTx init []) = _
    unfold metaBody
    rw [List.foldlM_append, h1]
    rfl
  · exact scan_snoc_meta [] tx _ (fun r hr => by obtain ⟨_, _, rfl⟩ := List.mem_map.mp hr; rfl) ep ids upTo root (Nat.zero_le _)
  · have := scan_maxTxid_append [] (tx, metaBody t ep ids upTo root)
    rw [List.nil_append] at this
    rw [this]; exact Nat.zero_max _

/-! ### close: the log is replaced by such a transaction -/

/-- the engine `open` sees after `checkpoint_on_close` rewrote the log (same files; `ckptTxid` is the
    value the rewritten log carries) -/
def closedView (s : Engine) : Engine := { s.checkpointOnClose with ckptTxid := s.nextTxid - 1 }

theorem closedView_reopen (s : Engine) : (closedView s).reopen = s.checkpointOnClose.reopen :=
  have h : ∀ (x : Engine) (k : Nat), ({ x with ckptTxid := k } : Engine).disk = x.disk := fun _ _ => rfl
  congrArg Engine.open (h s.checkpointOnClose _)

theorem closedView_eq {s : Engine} (he : s.runs = []) :
    closedView s =
      { s with
        wal := WalRec.beginTx s.nextTxid ::
          (metaBody s.interner s.epoch (s.segs.map (·.id)) (s.nextTxid - 1) s.propsRoot ++ [WalRec.commitTx s.nextTxid])
        nextTxid := s.nextTxid + 1
        ckptTxid := s.nextTxid - 1 } := by
  unfold closedView Engine.checkpointOnClose metaBody
  rw [he]
  simp only [List.isEmpty_nil, Bool.not_true, Bool.false_eq_true, if_false, List.append_assoc, List.cons_append,
    List.nil_append]

theorem close_rec {s : Engine} (hR : Rec s) (hB : LabelsBase s.idmap) (hn : s.interner.Nodup)
    (he : s.runs = []) : Rec (closedView s) ∧ Quiet (closedView s) := by
  obtain ⟨hblocks, hlabels, hscan, hmax⟩ :=
    metaLog s.nextTxid s.interner hn s.epoch (s.segs.map (·.id)) (s.nextTxid - 1) s.propsRoot
  have hidle : ∀ tx ∈ [(s.nextTxid, metaBody s.interner s.epoch (s.segs.map (·.id)) (s.nextTxid - 1) s.propsRoot)],
      tx.1 ≤ s.nextTxid - 1 ∨ IdleTx s.idmap tx := by
    intro tx htx
    rw [List.mem_singleton] at htx
    subst htx
    exact Or.inr (idle_of_inert _ _ (fun r hr => (metaBody_mem hr).2))
  rw [closedView_eq he]
  exact rec_of_checkpointed hblocks hlabels hscan he hB hidle (by rw [hmax]; exact Nat.sub_le _ _)
    (by rw [hmax]; exact Nat.lt_succ_self _)

end Nervus.Storage
