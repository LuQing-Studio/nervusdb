/-
  Proofs.KeyEq — the engine's derived `==` implies the grouping / DISTINCT equivalence `keyEq` on all
  well-formed values (`keyEq_of_deq`): IEEE-equal doubles have the same normalised bit pattern
  (`norm_float_of_eqv`, via the bit-level decoding lemmas of Proofs.F64Bits).
-/
import Nervus.Proofs.F64Bits
import Nervus.Proofs.Agg
import Nervus.Proofs.Equality
namespace Nervus
open F64 Value

/-- doubles with the same sign-magnitude key are the two zeros or one bit pattern -/
theorem fkey_inj {x y : Nat} (hx : x < 18446744073709551616) (hy : y < 18446744073709551616)
    (h : OKey.fkey x = OKey.fkey y) : x % 9223372036854775808 = 0 ∧ y % 9223372036854775808 = 0 ∨ x = y := by
  simp only [OKey.fkey, OKey.fmag, OKey.two63] at h
  by_cases cx : 9223372036854775808 ≤ x <;> by_cases cy : 9223372036854775808 ≤ y <;>
    simp only [cx, cy, if_true, if_false] at h <;> omega

theorem norm_float_of_eqv (x y : Nat) (hx : x < 18446744073709551616) (hy : y < 18446744073709551616)
    (h : F64.eqv (ofBits x) (ofBits y) = true) : norm (.float x) = norm (.float y) := by
  have nx : (ofBits x).isNaN = false := by
    cases hh : (ofBits x).isNaN <;> simp [F64.eqv, F64.cmp, hh] at h ⊢
  have ny : (ofBits y).isNaN = false := by
    cases hh : (ofBits y).isNaN <;> simp [F64.eqv, F64.cmp, hh, nx] at h ⊢
  have ox := isNaN_ofBits x ▸ nx
  have oy := isNaN_ofBits y ▸ ny
  simp only [norm, nx, ny, Bool.false_eq_true, if_false]
  rcases fkey_inj hx hy ((fkey_eq_iff x y hx hy ox oy).2 h) with ⟨gx, gy⟩ | rfl
  · -- both are zeros: each is IEEE-equal to `+0.0`
    have z : ∀ v, v < 18446744073709551616 → OKey.isNaN v = false → v % 9223372036854775808 = 0 →
        F64.eqv (ofBits v) (ofBits 0) = true := fun v hv ov g =>
      (fkey_eq_iff v 0 hv (by decide) ov (by decide)).1 (by
        simp only [OKey.fkey, OKey.fmag, OKey.two63, g]
        split <;> rfl)
    rw [if_pos (z x hx ox gx), if_pos (z y hy oy gy)]
  · rfl

mutual
theorem norm_eq_of_deq : ∀ (a b : Value), a.wf = true → b.wf = true → deq a b = true → norm a = norm b
  | a, b, wa, wb, h => by
    have hk := ctor_of_vidx_eq (vidx_eq_of_deq h)
    cases a with
    | list xs => obtain ⟨ys, rfl⟩ := hk; simp only [norm]; rw [normList_eq_of_deq xs ys wa wb h]
    | map xs =>
      obtain ⟨ys, rfl⟩ := hk
      simp only [wf, Bool.and_eq_true] at wa wb
      simp only [norm]; rw [normMap_eq_of_deq xs ys wa.2 wb.2 h]
    | float x =>
      obtain ⟨y, rfl⟩ := hk
      exact norm_float_of_eqv x y (of_decide_eq_true wa) (of_decide_eq_true wb) h
    | null => cases hk; rfl
    | int x => obtain ⟨y, rfl⟩ := hk; rw [eq_of_beq h]
    | _ => cases eq_of_deq_other rfl h; rfl
termination_by structural a => a
theorem normList_eq_of_deq : ∀ (a b : List Value), wfList a = true → wfList b = true → deqList a b = true →
    norm.normList a = norm.normList b
  | [], b, _, _, h => by cases b <;> simp_all [deqList]
  | x :: xs, b, wa, wb, h => by
    cases b with
    | nil => simp [deqList] at h
    | cons y ys =>
      simp only [deqList, wfList, Bool.and_eq_true] at h wa wb
      simp only [norm.normList]
      rw [norm_eq_of_deq x y wa.1 wb.1 h.1, normList_eq_of_deq xs ys wa.2 wb.2 h.2]
theorem normMap_eq_of_deq : ∀ (a b : List (Str × Value)), wfMap a = true → wfMap b = true → deqMap a b = true →
    norm.normMap a = norm.normMap b
  | [], b, _, _, h => by cases b <;> simp_all [deqMap]
  | (k, x) :: xs, b, wa, wb, h => by
    cases b with
    | nil => simp [deqMap] at h
    | cons y ys =>
      obtain ⟨k', y⟩ := y
      simp only [deqMap, wfMap, Bool.and_eq_true, beq_iff_eq] at h wa wb
      simp only [norm.normMap]
      rw [h.1.1, norm_eq_of_deq x y wa.1 wb.1 h.1.2, normMap_eq_of_deq xs ys wa.2 wb.2 h.2]
end

theorem keyEq_of_deq (a b : Value) (wa : a.wf = true) (wb : b.wf = true) (h : deq a b = true) : keyEq a b = true :=
  (keyEq_iff a b).2 (norm_eq_of_deq a b wa wb h)
end Nervus
