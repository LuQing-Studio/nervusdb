/-
  Proofs/WholeMapReads.lean — the WHOLE-MAP property reads (C05): in every engine state `node_properties` /
  `edge_properties` answer, key by key, what the single-key reads answer (`readAll_lookup`), given that the
  whole-map scan keeps the newest tree entry of a key (regenerated flag `extendKeepsNewest`; the pinned tree kept
  the oldest).  What is proved of the single-key reads — compaction, publication of a run — so holds of the maps.
-/
import Nervus.Proofs.EngineCompactProps
namespace Nervus.Storage

/-- regenerated fact -/
theorem extend_keeps_newest : Generated.extendKeepsNewest = true := by decide

theorem lookup_fold_orInsert_first (l : List (Nat × PV)) (acc : List (Nat × PV)) (k : Nat) :
    (l.foldl (fun m kv => if true && m.any (·.1 == kv.1) then m else upsert kv.1 kv.2 m) acc).lookup k =
      (acc.lookup k).or (l.lookup k) :=
  lookup_foldl_orInsert (fun m k => true && m.any (·.1 == k)) (fun m p => upsert p.1 p.2 m)
    (fun m k => by rw [Bool.true_and]; exact any_key_iff m k) (fun m p k _ => by
      rw [lookup_upsert]
      by_cases hk : k = p.1
      · simp [hk]
      · rw [if_neg hk, if_neg (by simpa using hk)]) l acc k

theorem lookup_reverse_eq_of_nodup {κ ν} [BEq κ] [LawfulBEq κ] (l : List (κ × ν)) (hn : (l.map (·.1)).Nodup) (k : κ) :
    l.reverse.lookup k = l.lookup k := by
  cases hl : l.lookup k with
  | some v => exact lookup_reverse_of_nodup l hn k v (mem_of_lookup_eq_some hl)
  | none =>
    apply lookup_eq_none_of_not_mem_keys
    intro p hp heq
    obtain ⟨v, hv⟩ := lookup_isSome_of_mem (List.mem_reverse.mp hp)
    rw [heq, hl] at hv; cases hv

theorem sink_inner_nodup {κ} [DecidableEq κ] (ps acc : List (κ × PV)) (h : (acc.map (·.1)).Nodup) :
    ((ps.foldl (fun acc p => if acc.any (fun q => @BEq.beq κ instBEqOfDecidableEq q.1 p.1) then acc else acc ++ [p]) acc).map (·.1)).Nodup := by
  induction ps generalizing acc with
  | nil => exact h
  | cons p ps ih =>
    rw [List.foldl_cons]
    apply ih
    split
    · exact h
    · rename_i hany
      rw [List.map_append, List.nodup_append]
      refine ⟨h, by simp, ?_⟩
      intro a ha b hb
      simp only [List.map_cons, List.map_nil, List.mem_singleton] at hb
      subst hb
      intro hab; subst hab
      apply hany
      obtain ⟨q, hq, hqa⟩ := List.mem_map.mp ha
      exact List.any_eq_true.mpr ⟨q, hq, by simp [hqa]⟩

theorem sinkProps_nodup {κ} [DecidableEq κ] (sel : Run → List (κ × PV)) (runs : List Run) :
    ((Engine.sinkProps sel runs).map (·.1)).Nodup := by
  unfold Engine.sinkProps
  suffices h : ∀ acc : List (κ × PV), (acc.map (·.1)).Nodup →
      ((runs.foldl (fun acc r => (sel r).foldl (fun acc p => if acc.any (fun q => @BEq.beq κ instBEqOfDecidableEq q.1 p.1) then acc else acc ++ [p]) acc) acc).map (·.1)).Nodup from
    h [] List.nodup_nil
  induction runs with
  | nil => intro acc h; exact h
  | cons r rs ih => intro acc h; rw [List.foldl_cons]; exact ih _ (sink_inner_nodup _ _ h)

namespace PKind
variable {κ : Type} [BEq κ] [LawfulBEq κ] (p : PKind κ)

/-- extend_*_properties_from_store, per key: the run overlay wins, otherwise the NEWEST entry of the tree
    (what the single-key read returns) -/
theorem extend_lookup (st : Store) (a : κ) (props : List (Nat × PV)) (k : Nat) :
    (Store.extendWith Generated.extendKeepsNewest (p.fetch st a props) props).lookup k =
      (match props.lookup k with | some v => some v | none => st.lookup (p.key a k)) := by
  unfold Store.extendWith
  rw [extend_keeps_newest, lookup_fold_orInsert_first]
  cases hp : props.lookup k with
  | none => exact (Option.none_or ..).trans (p.fetch_lookup st a props k hp)
  | some v => rfl

/-- `node_properties` / `edge_properties`: the whole-map merge of the runs, extended from the tree -/
def readAll (s : Engine) (a : κ) : List (Nat × PV) :=
  let props := overlayMerge p.del p.set a s.runs [] []
  if s.propsRoot != 0 then Store.extendWith Generated.extendKeepsNewest (p.fetch s.visibleStore a props) props else props

theorem readAll_lookup (x : Engine) (a : κ) (k : Nat) : (p.readAll x a).lookup k = p.read x a k := by
  unfold readAll read
  have hm := overlayMerge_lookup p.del p.set a k x.runs [] [] (fun _ => rfl)
  simp only [List.not_mem_nil, if_false] at hm
  by_cases h0 : (x.propsRoot != 0) = true
  · simp only [h0, if_true]
    rw [extend_lookup, hm]
    cases overlayRead p.del p.set a k x.runs <;> rfl
  · have h00 : x.propsRoot = 0 := by simpa using h0
    simp only [h0, Bool.false_eq_true, if_false]
    rw [hm, visibleStore_noRoot h00]
    cases overlayRead p.del p.set a k x.runs <;> rfl

end PKind

theorem nodeProps_lookup (x : Engine) (n k : Nat) : (x.nodeProps n).lookup k = x.nodeProp n k := by
  rw [nodeProp_eq_kind, ← PKind.node.readAll_lookup]
  unfold Engine.nodeProps PKind.readAll Store.extendNode
  rw [mergeNProps_eq_overlay, fetchNode_eq_kind]; rfl

theorem edgeProps_lookup (x : Engine) (e : Edge) (k : Nat) : (x.edgeProps e).lookup k = x.edgeProp e k := by
  rw [edgeProp_eq_kind, ← PKind.edge.readAll_lookup]
  unfold Engine.edgeProps PKind.readAll Store.extendEdge
  rw [mergeEProps_eq_overlay, fetchEdge_eq_kind]; rfl

end Nervus.Storage
