/-
  C15, catalog part: under the policies `always` and `anyMoved` the on-disk roots equal the in-memory
  roots after every event.  For `anyMoved` the point is that a flag still false after the loop means
  that no operation changed a root (`fold_anyMoved`), so the page not written is the page on disk.
-/
import Nervus.Model.IndexCatalog
namespace Nervus.IndexCatalog

theorem setRoot_self (rs : Roots) (i r : Nat) : getRoot rs i = some r → setRoot rs i r = rs := by
  induction rs with
  | nil => intro _; rfl
  | cons e rest ih =>
    obtain ⟨j, x⟩ := e
    intro h
    unfold setRoot
    unfold getRoot at h
    rw [List.lookup_cons] at h
    by_cases hji : j = i
    · rw [if_pos hji]
      rw [hji, beq_self_eq_true] at h
      cases h; rfl
    · rw [if_neg hji]
      rw [beq_eq_false_iff_ne.mpr fun e => hji e.symm] at h
      rw [ih h]

theorem fold_anyMoved (ops : List IOp) (st : Bool × Roots) (mem0 : Roots) (h : st.1 = false → st.2 = mem0) :
    (ops.foldl (opStep .anyMoved) st).1 = false → (ops.foldl (opStep .anyMoved) st).2 = mem0 := by
  refine List.foldlRecOn ops _ (motive := fun st : Bool × Roots => st.1 = false → st.2 = mem0) h ?_
  intro st ih op _
  unfold opStep
  cases hg : getRoot st.2 op.idx with
  | none => exact ih
  | some before =>
    intro hf
    have hf := Bool.or_eq_false_iff.mp hf
    show setRoot st.2 op.idx op.afterInsert = mem0
    rw [bne_eq_false_iff_eq.mp hf.2, setRoot_self st.2 op.idx before hg]
    exact ih hf.1

theorem commit_synced (f : Flush) (hf : f = .always ∨ f = .anyMoved) (c : Cat) (ops : List IOp)
    (h : c.disk = c.mem) : (commit f c ops).disk = (commit f c ops).mem := by
  unfold commit
  split
  · exact h
  · rcases hf with rfl | rfl
    · rfl
    · simp only []
      cases hfl : (ops.foldl (opStep .anyMoved) (false, c.mem)).1 with
      | true => rfl
      | false =>
        simp only [Bool.false_eq_true, if_false]
        rw [h]
        exact (fold_anyMoved ops (false, c.mem) c.mem (fun _ => rfl) hfl).symm

theorem step_synced (f : Flush) (hf : f = .always ∨ f = .anyMoved) (c : Cat) (ev : Ev)
    (h : c.disk = c.mem) : (step f true c ev).disk = (step f true c ev).mem := by
  cases ev with
  | commit ops => exact commit_synced f hf c ops h
  | createIndex id r r' =>
    simp only [step, createIndex]
    split
    · exact h
    · rfl
  | reopen => rfl

theorem run_synced (f : Flush) (hf : f = .always ∨ f = .anyMoved) (evs : List Ev) (c : Cat) (h : c.disk = c.mem) :
    (evs.foldl (step f true) c).disk = (evs.foldl (step f true) c).mem :=
  List.foldlRecOn evs _ (motive := fun c : Cat => c.disk = c.mem) h fun c ih ev _ => step_synced f hf c ev ih

theorem reopen_of_synced (c : Cat) (h : c.disk = c.mem) : reopen c = c := by
  obtain ⟨m, d⟩ := c
  cases h; rfl

end Nervus.IndexCatalog
