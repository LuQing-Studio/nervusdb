/-
  Proofs.CrashHoare — one block judgement for the page-file phases in which every power-loss image
  counts (`AllImgs`: creation, node table).  A class `X` of page-file images closed under a class `E`
  of operations; a block of pager actions keeps every crash image of every prefix in `Safe`, takes
  the class from `X` to `X'` and what is known of the page cache from `V` to `V'`.  The class can
  change only where the code syncs: there the page cache is the only image.
-/
import Nervus.Proofs.CrashImg
namespace Nervus.Crash

def PagerStep : Step → Prop
  | .pg _ _ => True
  | .ps => True
  | _ => False

def PagerAct : Action → Prop
  | .io s _ => PagerStep s
  | .mem _ => True
  | .fail _ => False

def PagerActs (acts : List Action) : Prop := ∀ a ∈ acts, PagerAct a

theorem PagerActs.append {a b : List Action} (ha : PagerActs a) (hb : PagerActs b) : PagerActs (a ++ b) := by
  intro x hx
  rcases List.mem_append.mp hx with h | h
  · exact ha x h
  · exact hb x h

theorem PagerActs.facts {acts : List Action} (h : PagerActs acts) :
    failOf acts = none ∧ ∀ s ∈ ioSteps acts, PagerStep s := by
  induction acts with
  | nil => simp [failOf, ioSteps]
  | cons a acts ih =>
    have ha := h a (by simp)
    obtain ⟨h1, h2⟩ := ih (fun x hx => h x (by simp [hx]))
    cases a with
    | io s f => exact ⟨h1, List.forall_mem_cons.mpr ⟨ha, h2⟩⟩
    | mem u => exact ⟨h1, h2⟩
    | fail e => exact ha.elim

theorem pagerActs_nil : PagerActs [] := fun _ h => absurd h List.not_mem_nil

theorem pagerActs_single_mem (u : MemUpd) : PagerActs [memA u] := by
  intro a ha; simp at ha; subst ha; trivial

theorem pagerActs_pg (e : PEff) (pid : Nat) : PagerActs [ioA (.pg e pid)] := by
  intro a ha; simp at ha; subst ha; trivial

theorem pagerActs_ps : PagerActs [ioA .ps] := by
  intro a ha; simp at ha; subst ha; trivial

theorem pagerActs_ite {c : Prop} [Decidable c] {l : List Action} (h : PagerActs l) : PagerActs (if c then l else []) := by
  split
  · exact h
  · exact pagerActs_nil

/-! ### the judgement -/

structure ClosedUnder (X : PImg → Prop) (E : PEff → Prop) : Prop where
  apply : ∀ {p e}, X p → E e → X (applyEff e p)
  torn : ∀ {p e e'}, E e → tornEff p e = some e' → E e'

theorem ClosedUnder.pg {X : PImg → Prop} {E : PEff → Prop} (c : ClosedUnder X E) {fs : FS} {e : PEff} (pid : Nat)
    (h : AllImgs fs X) (he : E e) : AllImgs (fs.step (.pg e pid)) X :=
  allImgs_pg fs X e pid h fun _ hp => ⟨c.apply hp he, fun _ ht => c.apply hp (c.torn he ht)⟩

/-- What a block leaves unsynced: anything; nothing if there was nothing before (a block that may be
    empty); nothing.  `nodes_phase` and `bootTail_safe` read off it that cache and durable image agree at
    the end. -/
inductive Sync where
  | dirty | keeps | syncs

def Sync.post : Sync → List PEff → List PEff → Prop
  | .dirty, _, _ => True
  | .keeps, pj, pj' => pj = [] → pj' = []
  | .syncs, _, pj' => pj' = []

def Sync.seq (a : Sync) : Sync → Sync
  | .keeps => a
  | b => b

theorem Sync.post_seq {a b : Sync} {pj pj' pj'' : List PEff} (ha : a.post pj pj') (hb : b.post pj' pj'') :
    (a.seq b).post pj pj'' := by
  cases b
  · trivial
  · cases a
    · trivial
    · exact fun h => hb (ha h)
    · exact hb ha
  · exact hb

structure Hoare (d : Sync) (Safe X V : PImg → Prop) (acts : List Action) (X' V' : PImg → Prop) : Prop where
  pager : PagerActs acts
  run : ∀ fs : FS, AllImgs fs X → V fs.pv →
    SafeAlong (fun g => AllImgs g Safe) fs (ioSteps acts) ∧ AllImgs (fs.steps (ioSteps acts)) X' ∧
      V' (fs.steps (ioSteps acts)).pv ∧ d.post fs.pj (fs.steps (ioSteps acts)).pj

variable {d d' : Sync} {Safe X X' X'' V V' V'' : PImg → Prop} {E : PEff → Prop}

theorem Hoare.seq {a b : List Action} (ha : Hoare d Safe X V a X' V') (hb : Hoare d' Safe X' V' b X'' V'') :
    Hoare (d.seq d') Safe X V (a ++ b) X'' V'' where
  pager := ha.pager.append hb.pager
  run := fun fs hx hv => by
    obtain ⟨s1, x1, v1, p1⟩ := ha.run fs hx hv
    obtain ⟨s2, x2, v2, p2⟩ := hb.run _ x1 v1
    rw [ioSteps_append_noFail _ _ ha.pager.facts.1, steps_append]
    exact ⟨safeAlong_append s1 s2, x2, v2, Sync.post_seq p1 p2⟩

theorem Hoare.toKeeps {a : List Action} (h : Hoare .syncs Safe X V a X' V') : Hoare .keeps Safe X V a X' V' :=
  ⟨h.pager, fun fs hx hv => ⟨(h.run fs hx hv).1, (h.run fs hx hv).2.1, (h.run fs hx hv).2.2.1, fun _ => (h.run fs hx hv).2.2.2⟩⟩

theorem Hoare.nil (hs : ∀ p, X p → Safe p) : Hoare .keeps Safe X V [] X V :=
  ⟨pagerActs_nil, fun fs hx hv => ⟨safeAlong_nil (allImgs_mono fs _ _ hx hs), hx, hv, fun h => h⟩⟩

theorem Hoare.mem (hs : ∀ p, X p → Safe p) (u : MemUpd) : Hoare .keeps Safe X V [memA u] X V :=
  ⟨pagerActs_single_mem u, (Hoare.nil hs).run⟩

theorem Hoare.pg (c : ClosedUnder X E) (hs : ∀ p, X p → Safe p) {e : PEff} (he : E e) (pid : Nat)
    (hv : ∀ p, X p → V p → V' (applyEff e p)) : Hoare .dirty Safe X V [ioA (.pg e pid)] X V' :=
  ⟨pagerActs_pg e pid, fun fs hx hvp =>
    ⟨safeAlong_single (allImgs_mono fs _ _ hx hs) (allImgs_mono _ _ _ (c.pg pid hx he) hs), c.pg pid hx he,
      by rw [show (fs.steps (ioSteps [ioA (.pg e pid)])) = fs.step (.pg e pid) from rfl, pv_step_pg]
         exact hv _ (allImgs_pv fs _ hx) hvp, trivial⟩⟩

theorem Hoare.toDirty {a : List Action} (h : Hoare d Safe X V a X' V') : Hoare .dirty Safe X V a X' V' :=
  ⟨h.pager, fun fs hx hv => ⟨(h.run fs hx hv).1, (h.run fs hx hv).2.1, (h.run fs hx hv).2.2.1, trivial⟩⟩

theorem Hoare.ite {c : Prop} [Decidable c] {a : List Action} (h : Hoare d Safe X V a X V) (hs : ∀ p, X p → Safe p) :
    Hoare .dirty Safe X V (if c then a else []) X V := by
  split
  · exact h.toDirty
  · exact (Hoare.nil hs).toDirty

theorem Hoare.sync (hs : ∀ p, X p → Safe p) (hs' : ∀ p, X' p → Safe p) (h : ∀ p, X p → V p → X' p ∧ V' p) :
    Hoare .syncs Safe X V [ioA .ps] X' V' :=
  ⟨pagerActs_ps, fun fs hx hv => by
    have h' := h _ (allImgs_pv fs _ hx) hv
    have hx' : AllImgs (fs.step .ps) X' := allImgs_ps fs X' h'.1
    exact ⟨safeAlong_single (allImgs_mono fs _ _ hx hs) (allImgs_mono _ _ _ hx' hs'), hx',
      by rw [show (fs.steps (ioSteps [ioA .ps])) = fs.step .ps from rfl, pv_step_ps]; exact h'.2, rfl⟩⟩

end Nervus.Crash
