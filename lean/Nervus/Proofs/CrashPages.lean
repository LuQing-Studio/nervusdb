/-
  Proofs.CrashPages — the page phase of `GraphEngine::compact` (segment persist, property sinking
  into the live or a new tree, statistics blob): every crash image along the way still represents
  the committed list through the OLD manifest; at the end the new segment and the tree are durable.
-/
import Nervus.Proofs.CrashSplit
import Nervus.Proofs.CrashInv
namespace Nervus.Crash

def cEdges (m : Mem) : List Nat := m.runs.flatMap (·.edges)
def cProps (m : Mem) : List Nat := sortNat (m.runs.flatMap (·.props))
def cNData (m : Mem) : Nat := if (cEdges m).isEmpty then 1 else 4
def cUpTo (m : Mem) : Nat := (m.runs.map (·.txid)).foldl max 0

/-- `seg.persist`: offsets page, further data pages, segment meta page, sync -/
def segA (m : Mem) (ps0 : PS) : List Action × PS × Nat :=
  let r0 := allocA ps0
  let r2 := segPartsA r0.2.2 (cNData m + 1) (cEdges m) r0.2.1 ((List.range (cNData m - 1)).map (· + 1))
  let r3 := allocA r2.2
  (r0.1 ++ [ioA (.pg (.segPart r0.2.2 0 (cNData m + 1) (cEdges m)) r0.2.2)] ++ r2.1 ++ r3.1 ++
     [ioA (.pg (.segPart r0.2.2 (cNData m) (cNData m + 1) (cEdges m)) r3.2.2), ioA .ps], r3.2.1, r0.2.2)

def treeStartA (m : Mem) (vol : PImg) (ps : PS) : List Action × PS × TreeImg :=
  if m.proot = 0 then
    ((allocA ps).1 ++ [ioA (.pg (.treeNew (allocA ps).2.2) (allocA ps).2.2)], (allocA ps).2.1, emptyTree (allocA ps).2.2)
  else ([], ps, (vol.trees.find? (fun t => t.key == m.proot)).getD (emptyTree m.proot))

def treeA (cfg : Cfg) (m : Mem) (vol : PImg) (ps : PS) : List Action × PS × Nat × Bool :=
  if (cProps m).isEmpty then ([], ps, m.proot, m.ptop) else
  let r1 := treeStartA m vol ps
  let r2 := sinkA cfg r1.2.1 r1.2.2 (cProps m)
  (r1.1 ++ r2.1, r2.2.1, r2.2.2.key, r2.2.2.inode.isSome)

/-- the page phase of a compaction: actions, pager scratch, segment key, tree root, root-is-internal -/
def pagesA (cfg : Cfg) (m : Mem) (vol : PImg) : List Action × PS × Nat × Nat × Bool :=
  let s := segA m (m.ps vol)
  let t := treeA cfg m vol s.2.1
  let a := allocA t.2.1
  (s.1 ++ t.1 ++ a.1 ++ [ioA (.pg .stats a.2.2)], a.2.1, s.2.2, t.2.2.1, t.2.2.2)

def manifestRecs (m : Mem) (k0 root : Nat) (top : Bool) : List Rec :=
  [.begin m.nextTxid, .manifest (m.epoch + 1) (k0 :: m.segs.map (·.1)) root top,
   .checkpoint (cUpTo m) (m.epoch + 1) root top, .commit m.nextTxid]

theorem compactA_eq (cfg : Cfg) (m : Mem) (vol : PImg) (w : List Frag) (hne : m.runs.isEmpty = false) :
    compactA cfg m vol w =
      (pagesA cfg m vol).1 ++ ([memA .bumpTxid] ++ ((appendsA cfg (m.ws w) (manifestRecs m (pagesA cfg m vol).2.2.1
          (pagesA cfg m vol).2.2.2.1 (pagesA cfg m vol).2.2.2.2)).1 ++
        ((if (appendsA cfg (m.ws w) (manifestRecs m (pagesA cfg m vol).2.2.1
          (pagesA cfg m vol).2.2.2.1 (pagesA cfg m vol).2.2.2.2)).2.isOpen then [ioA .ws] else []) ++
        [memA (.compacted (cUpTo m) (pagesA cfg m vol).2.2.2.1 (pagesA cfg m vol).2.2.2.2 (pagesA cfg m vol).2.2.1
          (cEdges m) (m.epoch + 1))]))) := by
  unfold compactA
  simp only [hne, Bool.false_eq_true, if_false]
  by_cases hp : (cProps m).isEmpty = true
  · simp [pagesA, segA, treeA, treeStartA, manifestRecs, cEdges, cProps, cNData, cUpTo, emptyTree] at hp ⊢
  · by_cases hr : m.proot = 0
    · simp [pagesA, segA, treeA, treeStartA, manifestRecs, cEdges, cProps, cNData, cUpTo, emptyTree, hr] at hp ⊢
    · simp [pagesA, segA, treeA, treeStartA, manifestRecs, cEdges, cProps, cNData, cUpTo, emptyTree, hr] at hp ⊢

theorem sortNat_pairwise (xs : List Nat) : (sortNat xs).Pairwise (· ≤ ·) :=
  List.foldrRecOn xs _ (motive := List.Pairwise (· ≤ ·)) .nil fun acc ih x _ => by
    rw [List.append_assoc, List.pairwise_append]
    refine ⟨ih.sublist List.filter_sublist, ?_, ?_⟩
    · rw [List.pairwise_append]
      refine ⟨by simp, ih.sublist List.filter_sublist, ?_⟩
      intro a ha b hb
      simp at ha hb
      omega
    · intro a ha b hb
      simp only [List.mem_filter, decide_eq_true_eq] at ha
      simp only [List.mem_append, List.mem_singleton, List.mem_filter, decide_eq_true_eq] at hb
      rcases hb with rfl | ⟨_, hb⟩ <;> omega

theorem sortNat_perm (xs : List Nat) : (sortNat xs).Perm xs :=
  foldr_perm_of_insert (fun x acc => by
    rw [List.append_assoc, List.singleton_append]
    refine List.perm_middle.trans (.cons x ?_)
    simpa only [decide_not] using List.filter_append_perm (· < x) acc) xs

theorem mem_sortNat (y : Nat) (xs : List Nat) : y ∈ sortNat xs ↔ y ∈ xs :=
  (sortNat_perm xs).mem_iff

/-- The length of the last leaf of the live tree, read as `sinkOneA` reads that leaf. -/
def liveLeafLen (vol : PImg) (root : Nat) : Nat :=
  if root = 0 then 0 else
    match vol.trees.find? (fun t => t.key == root) with
    | some t => (t.leaves.getD (t.leaves.length - 1) ⟨[], false, 0⟩).entries.length
    | none => 0

def LiveAscends (vol : PImg) (root : Nat) (qs : List Nat) : Prop :=
  match vol.trees.find? (fun t => t.key == root) with
  | some t => ∀ x ∈ t.leaves.flatMap (fun l => l.entries.filterMap id), ∀ q ∈ qs, x < q
  | none => True

instance (vol : PImg) (root : Nat) (qs : List Nat) : Decidable (LiveAscends vol root qs) := by
  unfold LiveAscends
  cases vol.trees.find? (fun t => t.key == root) <;> simp only <;> infer_instance

def NoSplit (cfg : Cfg) (m : Mem) (vol : PImg) : Prop := liveLeafLen vol m.proot + (cProps m).length ≤ cfg.leafCap

instance (cfg : Cfg) (m : Mem) (vol : PImg) : Decidable (NoSplit cfg m vol) :=
  inferInstanceAs (Decidable (_ ≤ _))

/-- the condition on a compaction: the keys to be sunk are distinct; sinking into a NEW tree may
    split leaves at will; sinking into the LIVE tree must not split its last leaf (an in-place split
    of the live tree is finding C01-live-tree-in-place) and, when the tree has an internal root, the
    keys must lie above its keys (keys ascend with time).  A live tree that is one leaf takes keys in
    any order, and keys it already has (left by a compaction that died after an in-place leaf write
    became durable) are replaced as `replace_property_entry` does. -/
def NoLiveSplit (cfg : Cfg) (m : Mem) (vol : PImg) : Prop :=
  (cProps m).Nodup ∧
  (m.proot ≠ 0 → cProps m ≠ [] →
    NoSplit cfg m vol ∧ (m.ptop = true → LiveAscends vol m.proot (cProps m)))

instance (cfg : Cfg) (m : Mem) (vol : PImg) : Decidable (NoLiveSplit cfg m vol) :=
  inferInstanceAs (Decidable (_ ∧ (_ → _ → _ ∧ (_ → _))))

theorem pairwise_lt_of_nodup {l : List Nat} (h : l.Pairwise (· ≤ ·)) (hn : l.Nodup) : l.Pairwise (· < ·) :=
  (h.and hn).imp (fun ⟨h1, h2⟩ => Nat.lt_of_le_of_ne h1 h2)

/-! ### segments and trees of the volatile image -/

theorem foldl_effSegs_onTree {k : Nat} (E : List PEff) (h : ∀ e ∈ E, OnTree k e) : ∀ S, E.foldl (fun S e => effSegs e S) S = S :=
  foldl_ignored _ E fun e he S => by
    cases e
    case segPart => exact (h _ he).elim
    all_goals rfl

theorem foldl_effTrees_segParts (k need : Nat) (es : List Nat) : ∀ (js : List Nat) (T : List TreeImg),
    (js.map (fun j => PEff.segPart k j need es)).foldl (fun T e => effTrees e T) T = T
  | [], _ => rfl
  | _ :: js, T => foldl_effTrees_segParts k need es js T

theorem updSeg_fresh (segs : List SegImg) (k j need : Nat) (es : List Nat) (h : ∀ s ∈ segs, s.key ≠ k) :
    updSeg segs k j need es = ⟨k, es, need, [j]⟩ :: segs := by
  unfold updSeg
  have : segs.any (fun s => s.key == k) = false := by
    rw [List.any_eq_false]
    intro s hs
    simpa using h s hs
  simp [this]

theorem updSeg_head (rest : List SegImg) (k j need need' : Nat) (es es' got : List Nat) (h : ∀ s ∈ rest, s.key ≠ k) :
    updSeg (⟨k, es', need', got⟩ :: rest) k j need es = ⟨k, es', need', j :: got⟩ :: rest := by
  unfold updSeg
  simp only [List.any_cons, beq_self_eq_true, Bool.true_or, if_true, List.map_cons]
  congr 1
  rw [List.map_congr_left (g := id)]
  · simp
  · intro s hs
    have : (s.key == k) = false := beq_false_of_ne (h s hs)
    simp [this]

theorem segs_parts (k need need' : Nat) (es es' : List Nat) : ∀ (js got : List Nat) (rest : List SegImg), (∀ s ∈ rest, s.key ≠ k) →
    (js.map (fun j => PEff.segPart k j need es)).foldl (fun S e => effSegs e S) (⟨k, es', need', got⟩ :: rest) =
      ⟨k, es', need', js.reverse ++ got⟩ :: rest
  | [], _, _, _ => rfl
  | j :: js, got, rest, hr => by
    rw [List.map_cons, List.foldl_cons]
    show List.foldl _ (updSeg _ k j need es) _ = _
    rw [updSeg_head rest k j need need' es es' got hr, segs_parts k need need' es es' js (j :: got) rest hr, List.reverse_cons,
      List.append_assoc, List.singleton_append]

variable {p0 : PImg} {live lo : Nat} {allowed covered : List Nat} {lv : LiveP}

/-! ### block judgements of the three parts -/

def segJs (m : Mem) : List Nat := (List.range (cNData m - 1)).map (· + 1)

theorem pblk_segA (m : Mem) (ps0 : PS) (hsk : SameKey p0.hdr ps0.pm) (hnp : lo ≤ min ps0.bm ps0.pm.nextPage) :
    (segA m ps0).2.2 = min ps0.bm ps0.pm.nextPage ∧
    ∃ nd', PBlk p0 live allowed covered lv lo lo ps0 (segA m ps0).1
      ((0 :: (segJs m ++ [cNData m])).map (fun j => PEff.segPart (min ps0.bm ps0.pm.nextPage) j (cNData m + 1) (cEdges m))) nd'
      (segA m ps0).2.1 := by
  have b0 : PBlk p0 live allowed covered lv lo lo ps0 (allocA ps0).1 [] (min ps0.bm ps0.pm.nextPage + 1) (allocA ps0).2.1 :=
    pblk_alloc ps0 hsk hnp
  have hk0 := (allocA_form ps0).pid
  generalize hmf : min ps0.bm ps0.pm.nextPage = mf at b0 hk0 hnp
  have b2 := (b0.write (.segPart mf 0 (cNData m + 1) (cEdges m)) (allocA ps0).2.2 ⟨hnp, by omega⟩).append
    (pblk_segParts mf (cNData m + 1) (cEdges m) hnp (segJs m) (mf + 1) (allocA ps0).2.1 b0.sk b0.np (by omega))
  have hall := (b2.alloc.write (.segPart mf (cNData m) (cNData m + 1) (cEdges m))
    (allocA (segPartsA mf (cNData m + 1) (cEdges m) (allocA ps0).2.1 (segJs m)).2).2.2 ⟨hnp, by omega⟩).sync
  refine ⟨by simp [segA, hk0], mf + 1 + (segJs m).length + 1, ?_⟩
  have hk : (allocA ps0).2.2 = mf := hk0
  simpa [segA, segJs, hk, List.append_assoc] using hall

theorem steps_flushed_write (fs : FS) {a : List Action} {pm : Meta} {bm : Nat} (hnf : failOf a = none) (hef : EndsFlushed a pm bm)
    (e : PEff) (pid : Nat) :
    (fs.steps (ioSteps (a ++ [ioA (.pg e pid)]))).pj = [e] ∧ (fs.steps (ioSteps (a ++ [ioA (.pg e pid)]))).pd.hdr = pm ∧
      (fs.steps (ioSteps (a ++ [ioA (.pg e pid)]))).pd.bm = bm := by
  obtain ⟨h1, h2, h3⟩ := steps_flushed fs _ pm bm hef
  rw [ioSteps_append_noFail _ _ hnf, steps_append]
  exact ⟨congrArg (· ++ [e]) h1, h2, h3⟩

theorem leaf1_empty (r : Nat) : Leaf1 (emptyTree r) [] r := ⟨rfl, rfl⟩

theorem pblk_treeA (cfg : Cfg) (hcap1 : 1 ≤ cfg.leafCap) (m : Mem) (vol : PImg) (ps : PS) (nd : Nat) (hsk : SameKey p0.hdr ps.pm)
    (hnp : min ps.bm ps.pm.nextPage = nd) (hpos : 0 < nd) (hlive : live = m.proot) (hvol : vol.trees = p0.trees)
    (hnd : (cProps m).Nodup)
    (hns : m.proot ≠ 0 → cProps m ≠ [] →
      NoSplit cfg m vol ∧ (lv.top = true → LiveAscends vol m.proot (cProps m)))
    (hcf : ∀ q ∈ cProps m, q ∉ covered)
    (hprops : ∀ q ∈ cProps m, q ∈ allowed) (hcov0 : live = 0 → covered = [])
    (htree : live ≠ 0 → ∃ t last, treeFind p0 live = some t ∧ LiveOK allowed covered lv t last) :
    ∃ nd' effs, PBlk p0 live allowed covered lv lo nd ps (treeA cfg m vol ps).1 effs nd' (treeA cfg m vol ps).2.1 ∧
      (∀ S, effs.foldl (fun S e => effSegs e S) S = S) ∧
      (cProps m = [] → (treeA cfg m vol ps).2.2 = (m.proot, m.ptop) ∧ effs = []) ∧
      (cProps m ≠ [] → (treeA cfg m vol ps).2.2.1 ≠ 0 ∧
        ∃ t, treeFind (applyEffs effs p0) (treeA cfg m vol ps).2.2.1 = some t ∧
          TreeOK allowed (covered ++ cProps m) (treeA cfg m vol ps).2.2.2 t) := by
  by_cases hp : cProps m = []
  · refine ⟨nd, [], ?_, fun _ => rfl, fun _ => ⟨by simp [treeA, hp], rfl⟩, fun h => absurd hp h⟩
    simpa [treeA, hp] using PBlk.nil (lo := lo) hsk hnp
  · have hpe : (cProps m).isEmpty = false := by
      cases h : cProps m with
      | nil => exact absurd h hp
      | cons _ _ => rfl
    by_cases hr : m.proot = 0
    · -- a new tree: leaf splits allowed
      have hl0 : live = 0 := by rw [hlive, hr]
      have ba : PBlk p0 live allowed covered lv lo nd ps (allocA ps).1 [] (nd + 1) (allocA ps).2.1 := pblk_alloc_eq ps hsk hnp
      have hpid : (allocA ps).2.2 = nd := (allocA_form ps).pid.trans hnp
      have hrne : (allocA ps).2.2 ≠ live := by rw [hpid, hl0]; omega
      have bn := ba.write (.treeNew (allocA ps).2.2) (allocA ps).2.2 ⟨hrne, by rw [hpid]; omega⟩
      obtain ⟨nd2, e2, bs, o2, f2⟩ := pblk_sinkNew (p0 := p0) (lo := lo) (allowed := allowed) (covered := covered) (lv := lv) cfg (cProps m)
        (nd + 1) (allocA ps).2.1 (emptyTree (allocA ps).2.2) ba.sk ba.np hrne
      obtain ⟨Xi2, last2, tp2, hsh2, hflat2, hbl2⟩ := sinkA_shape cfg hcap1 (cProps m) (allocA ps).2.1 (emptyTree (allocA ps).2.2) [] [] false
        (treeShape_single _ [] (allocA ps).2.2 rfl (fun i j _ hj => by simp at hj) rfl) (pairwise_lt_of_nodup (sortNat_pairwise _) hnd)
        (fun x hx => by simp at hx)
      have hta : treeA cfg m vol ps = ((allocA ps).1 ++ [ioA (.pg (.treeNew (allocA ps).2.2) (allocA ps).2.2)] ++
          (sinkA cfg (allocA ps).2.1 (emptyTree (allocA ps).2.2) (cProps m)).1, (sinkA cfg (allocA ps).2.1 (emptyTree (allocA ps).2.2) (cProps m)).2.1,
          (sinkA cfg (allocA ps).2.1 (emptyTree (allocA ps).2.2) (cProps m)).2.2.key,
          (sinkA cfg (allocA ps).2.1 (emptyTree (allocA ps).2.2) (cProps m)).2.2.inode.isSome) := by
        simp only [treeA, hpe, treeStartA, hr, if_true, Bool.false_eq_true, if_false]
      have hkey : (sinkA cfg (allocA ps).2.1 (emptyTree (allocA ps).2.2) (cProps m)).2.2.key = (allocA ps).2.2 := by
        rw [← f2]; exact effsT_key e2 _
      rw [hta]
      dsimp only
      rw [hkey, treeShape_top hsh2]
      refine ⟨_, _, bn.append bs, fun S => foldl_effSegs_onTree e2 o2 S, fun h => absurd h hp, fun _ => ⟨by show (allocA ps).2.2 ≠ 0; rw [hpid]; omega, ?_⟩⟩
      · have h1 : treeFind (applyEff (.treeNew (allocA ps).2.2) p0) (allocA ps).2.2 = some (emptyTree (allocA ps).2.2) := by
          simp [treeFind, applyEff, emptyTree]
        refine ⟨(sinkA cfg (allocA ps).2.1 (emptyTree (allocA ps).2.2) (cProps m)).2.2, by rw [← f2]; exact treeFind_effsT e2 _ _ o2 h1,
          ⟨Xi2 ++ [last2], hsh2, fun q hq => ?_, fun q hq => ?_⟩⟩
        · rw [hflat2] at hq
          exact hprops q (by simpa using hq)
        · rw [hcov0 hl0, List.nil_append] at hq
          exact ⟨by rw [hflat2]; simpa using hq, (hbl2 q).mpr (Or.inl hq)⟩
    · -- the live tree: insertions into its last leaf, with room
      have hl : live ≠ 0 := by rw [hlive]; exact hr
      obtain ⟨hns', hasc⟩ := hns hr hp
      obtain ⟨t0, last, hf0, hok0⟩ := htree hl
      have hk0 : t0.key = live := (treeFind_key hf0).2
      have hfv : vol.trees.find? (fun t => t.key == m.proot) = some t0 := by
        rw [hvol, ← hlive]; exact hf0
      obtain ⟨pids, hlv⟩ := hok0.shape.leaves
      have hcap : last.length + (cProps m).length ≤ cfg.leafCap := by
        have := hns'
        obtain ⟨pl, hpl⟩ := mkLeaves_snoc_get lv.Xi last pids ⟨[], false, 0⟩
        simp only [NoSplit, liveLeafLen, hr, if_false, hfv, hlv, mkLeaves_snoc_len, Nat.add_sub_cancel, hpl] at this
        simpa using this
      have hm : lv.Xi ≠ [] → (cProps m).Pairwise (· < ·) ∧ ∀ x ∈ (lv.Xi ++ [last]).flatten, ∀ q ∈ cProps m, x < q := by
        intro hX
        have htop : lv.top = true := hok0.shape.top_of_ne hX
        have := hasc htop
        simp only [LiveAscends, hfv, hlv, entries_mkLeaves] at this
        exact ⟨pairwise_lt_of_nodup (sortNat_pairwise _) hnd, this⟩
      obtain ⟨effs, last', bs, o, f, hok2⟩ := pblk_sinkLive (p0 := p0) (live := live) (lo := lo) cfg (cProps m) nd ps t0 last covered
        hsk hnp hok0 (fun _ h => h) hprops hcf hcap hm
      have hta : treeA cfg m vol ps = ((sinkA cfg ps t0 (cProps m)).1, (sinkA cfg ps t0 (cProps m)).2.1,
          (sinkA cfg ps t0 (cProps m)).2.2.key, (sinkA cfg ps t0 (cProps m)).2.2.inode.isSome) := by
        simp only [treeA, hpe, treeStartA, hr, if_false, Bool.false_eq_true, hfv, Option.getD_some, List.nil_append]
      have hkey : (sinkA cfg ps t0 (cProps m)).2.2.key = live := by
        rw [← f, effsT_key]; exact hk0
      rw [hta]
      dsimp only
      rw [hkey, treeShape_top hok2.shape]
      have h1 : treeFind p0 t0.key = some t0 := by rw [hk0]; exact hf0
      exact ⟨_, _, bs, foldl_effSegs_onTree effs o, fun h => absurd h hp, fun _ => ⟨hl, (sinkA cfg ps t0 (cProps m)).2.2,
        by rw [← hk0, ← f]; exact treeFind_effsT effs p0 t0 o h1, hok2.treeOK⟩⟩

theorem complete_parts (m : Mem) (k : Nat) (es : List Nat) :
    SegImg.complete ⟨k, es, cNData m + 1, (segJs m ++ [cNData m]).reverse ++ [0]⟩ = true := by
  by_cases h : (cEdges m).isEmpty = true
  · simp [segJs, cNData, h, SegImg.complete]
    decide
  · simp [segJs, cNData, h, SegImg.complete]
    decide

/-- the allocation frontier: every data page below it is marked allocated and counted by the meta page -/
def frontier (p : PImg) : Nat := min p.bm p.hdr.nextPage

structure PagesPost (cfg : Cfg) (T : List Tx) (fs : FS) (m : Mem) (covered : List Nat) (lv : LiveP) : Prop where
  nofail : failOf (pagesA cfg m fs.pv).1 = none
  plain : Plain (pagesA cfg m fs.pv).1
  pager : PagerActs (pagesA cfg m fs.pv).1
  setpm : OnlySetPm (memUpds (pagesA cfg m fs.pv).1)
  lastpm : lastPm (memUpds (pagesA cfg m fs.pv).1) m.pm = (pagesA cfg m fs.pv).2.1.pm
  lastbm : lastBm (memUpds (pagesA cfg m fs.pv).1) m.bm = (pagesA cfg m fs.pv).2.1.bm
  safe : SafeAlong (fun g => AllImgsL m.proot g (fun p => ∃ n, CG fs.pd m.proot (allProps T) covered lv (frontier fs.pd) n p)) fs
    (ioSteps (pagesA cfg m fs.pv).1)
  pj : (fs.steps (ioSteps (pagesA cfg m fs.pv).1)).pj = [PEff.stats]
  hdr : (fs.steps (ioSteps (pagesA cfg m fs.pv).1)).pd.hdr = (pagesA cfg m fs.pv).2.1.pm
  pbm : (fs.steps (ioSteps (pagesA cfg m fs.pv).1)).pd.bm = (pagesA cfg m fs.pv).2.1.bm
  cg : ∃ n, CG fs.pd m.proot (allProps T) covered lv (frontier fs.pd) n (fs.steps (ioSteps (pagesA cfg m fs.pv).1)).pd
  k0 : (pagesA cfg m fs.pv).2.2.1 = min m.bm m.pm.nextPage
  seg : ∃ s, segFind (fs.steps (ioSteps (pagesA cfg m fs.pv).1)).pd (pagesA cfg m fs.pv).2.2.1 = some s ∧ s.edges = cEdges m
  same : cProps m = [] → (pagesA cfg m fs.pv).2.2.2 = (m.proot, m.ptop)
  tree : cProps m ≠ [] → (pagesA cfg m fs.pv).2.2.2.1 ≠ 0 ∧
    ∃ t, treeFind (fs.steps (ioSteps (pagesA cfg m fs.pv).1)).pd (pagesA cfg m fs.pv).2.2.2.1 = some t ∧
      TreeOK (allProps T) (covered ++ cProps m) (pagesA cfg m fs.pv).2.2.2.2 t

theorem PagesPost.cgPv {cfg : Cfg} {T : List Tx} {fs : FS} {m : Mem} {covered : List Nat} {lv : LiveP}
    (pp : PagesPost cfg T fs m covered lv) (k : Nat) :
    ∃ n, CG fs.pd m.proot (allProps T) covered lv (frontier fs.pd) n (fs.steps ((ioSteps (pagesA cfg m fs.pv).1).take k)).pv :=
  allImgsL_pv _ _ _ (pp.safe k)

/-- an injected error in the page phase: no error path of its own; only pager memory has changed -/
theorem PagesPost.fault {cfg : Cfg} {T : List Tx} {fs : FS} {m : Mem} {covered : List Nat} {lv : LiveP}
    (pp : PagesPost cfg T fs m covered lv) (k : Nat) :
    onFailAt (pagesA cfg m fs.pv).1 k = [] ∧ OnlySetPm (memBefore (pagesA cfg m fs.pv).1 k) :=
  ⟨onFailAt_plain _ pp.plain k, onlySetPm_memBefore _ k pp.setpm⟩

theorem pages_post_lv {cfg : Cfg} {T : List Tx} {fs : FS} {m : Mem} {cs : List CTx} {c : Nat}
    (hcap1 : 1 ≤ cfg.leafCap) (h : InvOpen T fs m cs c) (hns : NoLiveSplit cfg m fs.pv) (covered : List Nat) (lv : LiveP)
    (hlv : lv.top = (scan cs).ptop) (hcf : ∀ q ∈ cProps m, q ∉ covered)
    (hc2 : (scan cs).proot = 0 → covered = [])
    (hc3 : (scan cs).proot ≠ 0 → ∃ t last, treeFind fs.pd (scan cs).proot = some t ∧ LiveOK (allProps T) covered lv t last) :
    PagesPost cfg T fs m covered lv := by
  have hpv : fs.pv = fs.pd := h.pv
  have hlive : m.proot = (scan cs).proot := h.mroot
  have hinit : AllImgsL m.proot fs (CG fs.pd m.proot (allProps T) covered lv (frontier fs.pd) (frontier fs.pd)) := by
    refine allImgsL_of_inert _ fs _ h.pj ?_
    exact { i2e := rfl, cat := rfl, idx := rfl, hdr := SameKey.refl _, lond := Nat.le_refl _, np := Nat.min_le_right _ _,
            bmlo := Nat.min_le_left _ _, len := Nat.le_refl _,
            segOld := fun _ _ => rfl,
            segKeys := fun s hs => by have := h.store.segKeys s hs; unfold frontier; omega,
            treeKeys := fun t ht => by have := h.store.treeKeys t ht; unfold frontier; omega,
            treeLive := by rw [hlive]; exact hc3 }
  have hsk0 : SameKey fs.pd.hdr (m.ps fs.pv).pm := h.mpm
  have hnp0 : frontier fs.pd ≤ min (m.ps fs.pv).bm (m.ps fs.pv).pm.nextPage := by
    show frontier fs.pd ≤ min m.bm m.pm.nextPage
    have := h.mbm
    have := h.mpm.np
    unfold frontier; omega
  have hmfe : min (m.ps fs.pv).bm (m.ps fs.pv).pm.nextPage = min m.bm m.pm.nextPage := rfl
  rw [hmfe] at hnp0
  obtain ⟨hk0, nd1, bseg⟩ := pblk_segA (p0 := fs.pd) (live := m.proot) (lo := frontier fs.pd) (allowed := allProps T) (covered := covered) (lv := lv) m (m.ps fs.pv) hsk0 hnp0
  rw [hmfe] at hk0 bseg
  have hprops : ∀ q ∈ cProps m, q ∈ allProps T := by
    intro q hq
    have := (mem_sortNat q _).mp hq
    rw [h.mruns] at this
    exact h.store.runProps q this
  have hpos : 0 < nd1 := by
    have := bseg.mono
    have := h.pager.booted.nextPage
    have := h.pager.booted.bm
    unfold frontier at *
    omega
  obtain ⟨nd2, teffs, btree, hnoseg, hcase1, hcase2⟩ :=
    pblk_treeA (p0 := fs.pd) (live := m.proot) (lo := frontier fs.pd) (allowed := allProps T) (covered := covered) (lv := lv) cfg hcap1 m fs.pv (segA m (m.ps fs.pv)).2.1 nd1
      bseg.sk bseg.np hpos rfl (by rw [hpv]) hns.1 (fun hr hp => by rw [hlv, ← h.mptop]; exact hns.2 hr hp) hcf hprops (by rw [hlive]; exact hc2) (by rw [hlive]; exact hc3)
  have ba := pblk_alloc_eq (p0 := fs.pd) (live := m.proot) (lo := frontier fs.pd) (allowed := allProps T) (covered := covered) (lv := lv)
    (treeA cfg m fs.pv (segA m (m.ps fs.pv)).2.1).2.1 btree.sk btree.np
  obtain ⟨pre, _, hef⟩ := (allocA_form (treeA cfg m fs.pv (segA m (m.ps fs.pv)).2.1).2.1).steps
  have hX := (bseg.append btree).append ba
  have hkey : (pagesA cfg m fs.pv).2.2.1 = (segA m (m.ps fs.pv)).2.2 := rfl
  have hrt : (pagesA cfg m fs.pv).2.2.2 = (treeA cfg m fs.pv (segA m (m.ps fs.pv)).2.1).2.2 := rfl
  have hacts : (pagesA cfg m fs.pv).1 = _ ++ [ioA (.pg .stats _)] := rfl
  have hpsF : (pagesA cfg m fs.pv).2.1 = (allocA (treeA cfg m fs.pv (segA m (m.ps fs.pv)).2.1).2.1).2.1 := rfl
  have hall := hX.write .stats (allocA (treeA cfg m fs.pv (segA m (m.ps fs.pv)).2.1).2.1).2.2 trivial
  have hfin := steps_flushed_write fs hX.nofail (endsFlushed_append (bseg.append btree).nofail ⟨pre, hef⟩) .stats
    (allocA (treeA cfg m fs.pv (segA m (m.ps fs.pv)).2.1).2.1).2.2
  rw [← hacts, ← hpsF] at hall hfin
  obtain ⟨acts, hacts'⟩ : ∃ acts, (pagesA cfg m fs.pv).1 = acts := ⟨_, rfl⟩
  rw [hacts'] at hall hfin
  have hinertF : Inert (fs.steps (ioSteps acts)).pj := by
    rw [hfin.1]; intro e he; simpa using he
  -- segments and trees of the final image: one fold each
  have hST := hall.vol fs
  rw [pv_inert _ hinertF] at hST
  generalize hpdF : (fs.steps (ioSteps acts)).pd = pdF at hST
  rw [hpv, st_applyEffs] at hST
  obtain ⟨hsegs, htrees⟩ := Prod.mk.inj hST
  have hfresh : ∀ s ∈ fs.pd.segs, s.key ≠ (min m.bm m.pm.nextPage) := fun s hs => by
    have := h.store.segKeys s hs; unfold frontier at hnp0; omega
  have hsegF : pdF.segs = ⟨(min m.bm m.pm.nextPage), cEdges m, cNData m + 1, (segJs m ++ [cNData m]).reverse ++ [0]⟩ :: fs.pd.segs := by
    rw [hsegs, List.foldl_append, List.foldl_append, List.foldl_append, hnoseg, List.map_cons, List.foldl_cons]
    show List.foldl _ (updSeg fs.pd.segs _ 0 _ _) _ = _
    rw [updSeg_fresh _ _ _ _ _ hfresh]
    exact segs_parts _ _ _ _ _ _ [0] fs.pd.segs hfresh
  have htreeF : pdF.trees = (applyEffs teffs fs.pd).trees := by
    rw [htrees, List.foldl_append, List.foldl_append, List.foldl_append, foldl_effTrees_segParts]
    exact (Prod.mk.inj (st_applyEffs teffs fs.pd)).2.symm
  have hcg := allImgsL_pd _ _ _ (hall.post fs hinit)
  rw [hpdF] at hcg
  subst hacts'
  refine { nofail := hall.nofail, plain := hall.plain, pager := hall.pager, setpm := hall.setpm, lastpm := hall.lastpm, lastbm := hall.lastbm,
           safe := hall.safe fs hinit, pj := hfin.1, hdr := hfin.2.1, pbm := hfin.2.2, cg := ?_, k0 := by rw [hkey]; exact hk0, seg := ?_, same := ?_, tree := ?_ }
  · rw [hpdF]
    exact ⟨_, hcg⟩
  · rw [hkey, hk0, hpdF]
    refine ⟨⟨(min m.bm m.pm.nextPage), cEdges m, cNData m + 1, (segJs m ++ [cNData m]).reverse ++ [0]⟩, ?_, rfl⟩
    simp only [segFind, hsegF, List.find?_cons, beq_self_eq_true, Bool.true_and, complete_parts]
  · intro hp
    rw [hrt]; exact (hcase1 hp).1
  · intro hp
    obtain ⟨r1, t, ht, hok⟩ := hcase2 hp
    rw [hrt, hpdF]
    exact ⟨r1, t, by rw [treeFind_congr htreeF]; exact ht, hok⟩

theorem pages_post {cfg : Cfg} {T : List Tx} {fs : FS} {m : Mem} {cs : List CTx} {c : Nat}
    (hcap1 : 1 ≤ cfg.leafCap) (h : InvOpen T fs m cs c) (hns : NoLiveSplit cfg m fs.pv) (covered : List Nat)
    (hcf : ∀ q ∈ cProps m, q ∉ covered)
    (hc2 : (scan cs).proot = 0 → covered = [])
    (hc3 : (scan cs).proot ≠ 0 → ∃ t, treeFind fs.pd (scan cs).proot = some t ∧ TreeOK (allProps T) covered (scan cs).ptop t) :
    ∃ lv : LiveP, lv.top = (scan cs).ptop ∧ PagesPost cfg T fs m covered lv := by
  by_cases hr : (scan cs).proot = 0
  · exact ⟨⟨(scan cs).ptop, [], 0⟩, rfl, pages_post_lv hcap1 h hns covered _ rfl hcf hc2 (fun hne => absurd hr hne)⟩
  · obtain ⟨t, hf, hok⟩ := hc3 hr
    obtain ⟨lv, last, hlv, hlo⟩ := hok.live
    exact ⟨lv, hlv, pages_post_lv hcap1 h hns covered lv hlv hcf hc2 (fun _ => ⟨t, last, hf, hlo⟩)⟩

end Nervus.Crash
