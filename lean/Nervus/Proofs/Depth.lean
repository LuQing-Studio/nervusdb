/-
  The observations of `Model.Depth` ordered — parser recursion ≤ AST depth ≤ tokens — and the witness families in closed
  form.
-/
import Nervus.Model.Depth
namespace Nervus.Depth

theorem parserDepth_le_astDepth (e : E) : parserDepth e ≤ astDepth e := by
  induction e with
  | atom => exact Nat.le_refl _
  | group _ ih | «prefix» _ ih | «postfix» _ ih | «infix» _ _ ih ihr => simp only [parserDepth, astDepth]; omega

theorem astDepth_le_tokens (e : E) : astDepth e ≤ tokens e := by
  induction e with
  | atom => exact Nat.le_refl _
  | group _ ih | «prefix» _ ih | «postfix» _ ih | «infix» _ _ ih ihr => simp only [astDepth, tokens]; omega

theorem tokens_pos (e : E) : 0 < tokens e := by
  cases e <;> simp only [tokens] <;> omega

theorem nest_facts (n : Nat) : tokens (nest n) = 2 * n + 1 ∧ parserDepth (nest n) = n + 1 ∧ astDepth (nest n) = n + 1 := by
  induction n with
  | zero => simp [nest, tokens, parserDepth, astDepth]
  | succ n ih => simp only [nest, tokens, parserDepth, astDepth]; omega

theorem prefixes_facts (n : Nat) : tokens (prefixes n) = n + 1 ∧ parserDepth (prefixes n) = n + 1 := by
  induction n with
  | zero => simp [prefixes, tokens, parserDepth]
  | succ n ih => simp only [prefixes, tokens, parserDepth]; omega

theorem chain_facts (n : Nat) : tokens (chain n) = 2 * n + 1 ∧ parserDepth (chain n) ≤ 2 ∧ astDepth (chain n) = n + 1 := by
  induction n with
  | zero => simp [chain, tokens, parserDepth, astDepth]
  | succ n ih => simp only [chain, tokens, parserDepth, astDepth]; omega

theorem accesses_facts (n : Nat) : tokens (accesses n) = 2 * n + 1 ∧ parserDepth (accesses n) = 1 ∧ astDepth (accesses n) = n + 1 := by
  induction n with
  | zero => simp [accesses, tokens, parserDepth, astDepth]
  | succ n ih => simp only [accesses, tokens, parserDepth, astDepth]; omega

end Nervus.Depth
