/-
  Proofs.CrashPagesBlk — the page phase of a compaction as a block.  `PagesPost` (`Proofs/CrashPages`)
  is a fact about classes of page-file images (`CG`); read through the handle invariant it says:
  the page phase is a frame for the old manifest (`CG.inv`) — every crash image that tears no leaf
  write of the live property tree still represents `T`, an injected error leaves such files and a
  handle that shows what it showed —, and the page file it leaves is ready for the new manifest: the
  switch happens on a fixed page file (`StoreOK.compacted`, `NewManifest`, `compact_new`).
-/
import Nervus.Proofs.CrashBlk
import Nervus.Proofs.CrashCkpt
import Nervus.Proofs.CrashPages
namespace Nervus.Crash

theorem cUpTo_bounds {T : List Tx} {cs : List CTx} {c : Nat} {m : Mem} (hlog : LogOK T cs c)
    (mruns : m.runs = logRuns (scan cs).ckpt cs) (hne : m.runs ≠ []) :
    (scan cs).ckpt < cUpTo m ∧ cUpTo m ≤ (scan cs).maxTxid ∧ ∀ r ∈ m.runs, r.txid ≤ cUpTo m := by
  have hle := le_foldl_max_key id (m.runs.map (·.txid)) 0
  have hall : ∀ r ∈ m.runs, r.txid ≤ cUpTo m := fun r hr => hle.2 r.txid (List.mem_map.mpr ⟨r, hr, rfl⟩)
  refine ⟨?_, ?_, hall⟩
  · cases hm : m.runs with
    | nil => exact absurd hm hne
    | cons r rest =>
      have hr : r ∈ m.runs := by rw [hm]; simp
      have h1 := hall r hr
      rw [mruns] at hr
      have := logRuns_gt hr
      omega
  · apply foldl_max_key_le id _ (Nat.zero_le _)
    intro x hx
    obtain ⟨r, hr, rfl⟩ := List.mem_map.mp hx
    rw [mruns] at hr
    obtain ⟨tx, htx, rfl, _⟩ := mem_logRuns hr
    exact hlog.maxle tx htx

/-- the covered set of the invariant can be taken disjoint from the properties of the runs -/
theorem StoreOK.props_disj {T : List Tx} {cs : List CTx} {p : PImg} (h : StoreOK T cs p) :
    ∃ covered, (∀ q ∈ allProps T, q ∈ (logRuns (scan cs).ckpt cs).flatMap (·.props) ∨ q ∈ covered) ∧
      ((scan cs).proot = 0 → covered = []) ∧
      ((scan cs).proot ≠ 0 → ∃ t, treeFind p (scan cs).proot = some t ∧ TreeOK (allProps T) covered (scan cs).ptop t) ∧
      ∀ q ∈ (logRuns (scan cs).ckpt cs).flatMap (·.props), q ∉ covered := by
  obtain ⟨covered, h1, h2, h3⟩ := h.props
  refine ⟨covered.filter (fun q => !((logRuns (scan cs).ckpt cs).flatMap (·.props)).contains q), ?_, ?_, ?_, ?_⟩
  · intro q hq
    by_cases hr : q ∈ (logRuns (scan cs).ckpt cs).flatMap (·.props)
    · exact Or.inl hr
    · rcases h1 q hq with h' | h'
      · exact Or.inl h'
      · right
        rw [List.mem_filter]
        exact ⟨h', by simpa using hr⟩
  · intro hr; rw [h2 hr]; rfl
  · intro hr
    obtain ⟨t, hf, hok⟩ := h3 hr
    obtain ⟨X, hs, ha, hc⟩ := hok.shape
    exact ⟨t, hf, ⟨⟨X, hs, ha, fun q hq => hc q (List.mem_filter.mp hq).1⟩⟩⟩
  · intro q hq hin
    have h4 := (List.mem_filter.mp hin).2
    have h5 : ((logRuns (scan cs).ckpt cs).flatMap (·.props)).contains q = true := List.contains_iff_mem.mpr hq
    rw [h5] at h4
    exact absurd h4 (by decide)

theorem cProps_disj {T : List Tx} {fs : FS} {m : Mem} {cs : List CTx} {c : Nat} (h : InvOpen T fs m cs c) {covered : List Nat}
    (hd : ∀ q ∈ (logRuns (scan cs).ckpt cs).flatMap (·.props), q ∉ covered) : ∀ q ∈ cProps m, q ∉ covered := by
  intro q hq
  have := (mem_sortNat q _).mp hq
  rw [h.mruns] at this
  exact hd q this

theorem frontier_ge2 {N : List Nat} {c : Nat} {p : PImg} (h : PagerOK N c p) : 2 ≤ frontier p := by
  have := h.booted.bm
  have := h.booted.nextPage
  unfold frontier; omega

/-- the manifest switch of a compaction on a fixed page file: the page file holds what the old
    manifest shows together with the runs; a new segment holds the edges of the runs, and — if the
    runs have properties — a tree that holds the covered properties and theirs: the new manifest
    (new segment first, that tree) shows the same without the runs -/
theorem StoreOK.compacted {T : List Tx} {cs cs' : List CTx} {p : PImg} {covered : List Nat} {m : Mem}
    (hst : StoreOK T cs p) (mruns : m.runs = logRuns (scan cs).ckpt cs)
    (h1 : ∀ q ∈ allProps T, q ∈ (logRuns (scan cs).ckpt cs).flatMap (·.props) ∨ q ∈ covered)
    (k0 root : Nat) (top : Bool) (hseg : ∃ s, segFind p k0 = some s ∧ s.edges = cEdges m)
    (hsame : cProps m = [] → root = (scan cs).proot ∧ top = (scan cs).ptop)
    (htree : cProps m ≠ [] → root ≠ 0 ∧ ∃ t, treeFind p root = some t ∧ TreeOK (allProps T) (covered ++ cProps m) top t)
    (hsegs : (scan cs').segs = k0 :: (scan cs).segs) (hroot : (scan cs').proot = root) (htop : (scan cs').ptop = top)
    (hruns : logRuns (scan cs').ckpt cs' = []) : StoreOK T cs' p := by
  obtain ⟨s, hs, hse⟩ := hseg
  refine ⟨?_, hst.segKeys, hst.treeKeys, ?_, by rw [hruns]; intro q hq; simp at hq, ?_⟩
  · intro k hk
    rw [hsegs] at hk
    rcases List.mem_cons.mp hk with rfl | hk
    · rw [hs]; rfl
    · exact hst.segs k hk
  · intro e
    have hk0e : segEdges p k0 = cEdges m := by simp [segEdges, hs, hse]
    rw [hsegs, hruns, List.flatMap_cons, hk0e, List.flatMap_nil, List.append_nil, ← hst.edges e, cEdges, mruns,
      List.mem_append, List.mem_append]
    exact Or.comm
  · rw [hruns, hroot, htop]
    by_cases hp : cProps m = []
    · -- no property in the runs: the old tree, with whatever it covered
      obtain ⟨cov, c1, c2, c3⟩ := hst.props
      obtain ⟨rfl, rfl⟩ := hsame hp
      refine ⟨cov, fun q hq => (c1 q hq).imp_left fun hr => ?_, c2, c3⟩
      have : q ∈ cProps m := (mem_sortNat q _).mpr (by rw [mruns]; exact hr)
      rw [hp] at this; exact absurd this List.not_mem_nil
    · refine ⟨covered ++ cProps m, fun q hq => Or.inr ?_, fun h0 => absurd h0 (htree hp).1, fun _ => (htree hp).2⟩
      rcases h1 q hq with h | h
      · exact List.mem_append_right _ ((mem_sortNat q _).mpr (by rw [mruns]; exact h))
      · exact List.mem_append_left _ h

def SafeFSL (live : Nat) (Ts : List (List Tx)) (fs : FS) : Prop :=
  ∀ mode : CrashMode, mode.tearsLive live fs.pj = false → ∃ T ∈ Ts, Rep T (fs.crashP mode) (fs.crashW mode)

theorem SafeFS.toL {live : Nat} {Ts : List (List Tx)} {fs : FS} (h : SafeFS Ts fs) : SafeFSL live Ts fs :=
  fun mode _ => h mode

/-- the committed list after the system transaction of a compaction -/
def compactCs (cfg : Cfg) (m : Mem) (vol : PImg) (cs : List CTx) : List CTx :=
  cs ++ [⟨m.nextTxid, sysOps (m.epoch + 1) ((pagesA cfg m vol).2.2.1 :: m.segs.map (·.1))
    (pagesA cfg m vol).2.2.2.1 (pagesA cfg m vol).2.2.2.2 (cUpTo m)⟩]

theorem manifestRecs_eq (m : Mem) (k0 root : Nat) (top : Bool) :
    manifestRecs m k0 root top =
      Rec.begin m.nextTxid :: sysOps (m.epoch + 1) (k0 :: m.segs.map (·.1)) root top (cUpTo m) ++ [Rec.commit m.nextTxid] := rfl

/-- any page-file image of the class of the page phase still represents `T` through the old
    manifest, and the segments the handle holds are still what it reads there -/
theorem CG.inv {T : List Tx} {fs : FS} {m : Mem} {cs : List CTx} {c n : Nat} {covered : List Nat} {lv : LiveP} {p : PImg}
    (h : InvOpen T fs m cs c) (hcg : CG fs.pd m.proot (allProps T) covered lv (frontier fs.pd) n p) (hlv : lv.top = (scan cs).ptop)
    (h1 : ∀ q ∈ allProps T, q ∈ (logRuns (scan cs).ckpt cs).flatMap (·.props) ∨ q ∈ covered)
    (h2 : (scan cs).proot = 0 → covered = []) :
    PagerOK (allNodes T) c p ∧ StoreOK T cs p ∧ m.segs = (scan cs).segs.map (fun k => (k, segEdges p k)) := by
  rw [h.mroot] at hcg
  refine ⟨hcg.pagerOK h.pager (frontier_ge2 h.pager), hcg.storeOK hlv h.store (Nat.le_refl _) h1 h2, ?_⟩
  rw [h.msegs]
  apply List.map_congr_left
  intro k hk
  simp only [segEdges, hcg.segOld k (by have := h.store.segLt k hk; unfold frontier; omega)]

theorem inv_after_pages {cfg : Cfg} {T : List Tx} {fs : FS} {m : Mem} {cs : List CTx} {c : Nat} {covered : List Nat} {lv : LiveP}
    (h : InvOpen T fs m cs c) (hlv : lv.top = (scan cs).ptop) (pp : PagesPost cfg T fs m covered lv)
    (h1 : ∀ q ∈ allProps T, q ∈ (logRuns (scan cs).ckpt cs).flatMap (·.props) ∨ q ∈ covered)
    (h2 : (scan cs).proot = 0 → covered = []) :
    InvOpen T (fs.steps (ioSteps (pagesA cfg m fs.pv).1))
      { m with pm := (pagesA cfg m fs.pv).2.1.pm, bm := (pagesA cfg m fs.pv).2.1.bm } cs c := by
  obtain ⟨hw, hd, hr⟩ := steps_pager_wal _ pp.pager.facts.2 fs
  obtain ⟨n, hcg⟩ := pp.cg
  obtain ⟨hp, hst, hsegs⟩ := hcg.inv h hlv h1 h2
  exact
    { pj := by rw [pp.pj]; intro e he; simpa using he
      wal := h.wal.congr hw hd hr
      log := h.log
      pager := hp
      store := hst
      full := by rw [hcg.hdr.len]; exact h.full
      mpm := by show SameKey _ (pagesA cfg m fs.pv).2.1.pm; rw [pp.hdr]; exact SameKey.refl _
      mbm := by show _ ≤ (pagesA cfg m fs.pv).2.1.bm; rw [pp.pbm]; exact Nat.le_refl _
      mlen := h.mlen
      mstart := by rw [hcg.hdr.start]; exact h.mstart
      mexts := h.mexts
      mruns := h.mruns
      msegs := hsegs
      mroot := h.mroot
      mptop := h.mptop
      mepoch := h.mepoch
      mtxid := h.mtxid
      mwal := h.mwal }

/-- the committed list `cs'` carries a new manifest — one more segment `k0`, which on the page
    file `p` holds `edges`; tree `root`; checkpoint `up`, above which no run is left to replay —
    and represents `T` together with `p` -/
structure NewManifest (T : List Tx) (cs cs' : List CTx) (c' : Nat) (p : PImg) (ep k0 up mx root : Nat) (top : Bool)
    (edges : List Nat) : Prop where
  scan : scan cs' = { epoch := ep, segs := k0 :: (scan cs).segs, ckpt := up, maxTxid := mx, proot := root, ptop := top }
  runs : logRuns up cs' = []
  log : LogOK T cs' c'
  pager : PagerOK (allNodes T) c' p
  store : StoreOK T cs' p
  seg : segEdges p k0 = edges

/-- the representation through the NEW manifest, once the system transaction is in the log: on
    the page file the page phase leaves (which still satisfies the invariant through the old one) -/
theorem compact_new {cfg : Cfg} {T : List Tx} {fs : FS} {m mP : Mem} {cs : List CTx} {c : Nat} {covered : List Nat} {lv : LiveP}
    (h : InvOpen T fs m cs c) (hne : m.runs ≠ []) (pp : PagesPost cfg T fs m covered lv)
    (hinvP : InvOpen T (fs.steps (ioSteps (pagesA cfg m fs.pv).1)) mP cs c)
    (h1 : ∀ q ∈ allProps T, q ∈ (logRuns (scan cs).ckpt cs).flatMap (·.props) ∨ q ∈ covered) :
    ∃ c', NewManifest T cs (compactCs cfg m fs.pv cs) c' (fs.steps (ioSteps (pagesA cfg m fs.pv).1)).pd (m.epoch + 1)
      (pagesA cfg m fs.pv).2.2.1 (cUpTo m) (max (scan cs).maxTxid m.nextTxid) (pagesA cfg m fs.pv).2.2.2.1
      (pagesA cfg m fs.pv).2.2.2.2 (cEdges m) := by
  obtain ⟨b1, b2, b3⟩ := cUpTo_bounds h.log h.mruns hne
  have hsc : scan (compactCs cfg m fs.pv cs) =
      { epoch := m.epoch + 1, segs := (pagesA cfg m fs.pv).2.2.1 :: m.segs.map (·.1), ckpt := cUpTo m,
        maxTxid := max (scan cs).maxTxid m.nextTxid, proot := (pagesA cfg m fs.pv).2.2.2.1, ptop := (pagesA cfg m fs.pv).2.2.2.2 } := by
    unfold compactCs sysOps
    exact scan_snoc_manifest cs m.nextTxid (m.epoch + 1) _ _ _ (cUpTo m) (by rw [h.mepoch]; omega)
  rw [msegs_keys h] at hsc
  have hruns : logRuns (cUpTo m) (compactCs cfg m fs.pv cs) = [] := by
    unfold compactCs
    rw [logRuns_append, logRuns_sys, List.append_nil]
    exact logRuns_raise _ _ (Nat.le_of_lt b1) cs (by rw [← h.mruns]; exact b3)
  obtain ⟨c', hc', hlog'⟩ := logOK_ckpt h.log m.nextTxid (m.epoch + 1) ((pagesA cfg m fs.pv).2.2.1 :: m.segs.map (·.1))
    (pagesA cfg m fs.pv).2.2.2.1 (pagesA cfg m fs.pv).2.2.2.2 (cUpTo m) (by rw [h.mepoch]; omega) h.mtxid (Nat.le_of_lt b1) b2
  obtain ⟨sg, hsg, hse⟩ := pp.seg
  refine ⟨c', hsc, hruns, hlog', hinvP.pager.raise (by rw [hinvP.full]; exact hc'), ?_, by simp [segEdges, hsg, hse]⟩
  exact hinvP.store.compacted h.mruns h1 _ _ _ pp.seg
    (fun hp => ⟨(congrArg Prod.fst (pp.same hp)).trans h.mroot, (congrArg Prod.snd (pp.same hp)).trans h.mptop⟩) pp.tree
    (by rw [hsc]) (by rw [hsc]) (by rw [hsc]) (by rw [hsc]; exact hruns)

theorem foldl_onlySetPm : ∀ (l : List MemUpd), OnlySetPm l → ∀ m : Mem,
    l.foldl applyUpd m = { m with pm := lastPm l m.pm, bm := lastBm l m.bm }
  | [], _, m => rfl
  | u :: l, h, m => by
    rcases h u (by simp) with ⟨pm, rfl⟩ | ⟨b, rfl⟩
    all_goals
      simp only [List.foldl, lastPm, lastBm]
      rw [foldl_onlySetPm l (fun u hu => h u (by simp [hu]))]
      rfl

theorem content_onlySetPm (l : List MemUpd) (hl : OnlySetPm l) (m : Mem) (p : PImg) :
    content (l.foldl applyUpd m) p = content m p := by
  rw [foldl_onlySetPm l hl]
  rfl

/-- where the page phase ends: only pager memory has moved on, the log is untouched, the handle
    invariant holds through the old manifest, and the page file is ready for the new one -/
structure PagesEnd (cfg : Cfg) (T : List Tx) (fs : FS) (m : Mem) (cs : List CTx) (c : Nat) (fsP : FS) (mP : Mem) : Prop where
  mem : mP = { m with pm := (pagesA cfg m fs.pv).2.1.pm, bm := (pagesA cfg m fs.pv).2.1.bm }
  wf : fsP.wf = fs.wf
  inv : InvOpen T fsP mP cs c
  manifest : ∃ c', NewManifest T cs (compactCs cfg m fs.pv cs) c' fsP.pd (m.epoch + 1) (pagesA cfg m fs.pv).2.2.1 (cUpTo m)
    (max (scan cs).maxTxid m.nextTxid) (pagesA cfg m fs.pv).2.2.2.1 (pagesA cfg m fs.pv).2.2.2.2 (cEdges m)

/-- the page phase of a compaction as a block: every crash image that tears no live leaf
    represents `T` through the old manifest; an injected error leaves such files and a handle that
    shows what it showed -/
theorem blk_pages {cfg : Cfg} {T : List Tx} {fs : FS} {m : Mem} {cs : List CTx} {c : Nat}
    (hcap1 : 1 ≤ cfg.leafCap) (h : InvOpen T fs m cs c) (hns : NoLiveSplit cfg m fs.pv) (hruns : m.runs ≠ []) :
    Blk (SafeFSL m.proot [T]) (fun g mm => SafeFSL m.proot [T] g ∧ Spec.Content.same (content mm g.pv) (Spec.run T))
      (pagesA cfg m fs.pv).1 fs m (PagesEnd cfg T fs m cs c) := by
  obtain ⟨covered, h1, h2, h3, hdis⟩ := h.store.props_disj
  obtain ⟨lv, hlv, pp⟩ := pages_post hcap1 h hns covered (cProps_disj h hdis) h2 h3
  have sa : SafeAlong (SafeFSL m.proot [T]) fs (ioSteps (pagesA cfg m fs.pv).1) := by
    intro n mode hmode
    obtain ⟨n', hcg⟩ := pp.safe n _ (crashP_isImgL m.proot _ mode hmode)
    obtain ⟨hw, hd, hr⟩ := take_pager_wal _ pp.pager.facts.2 fs n
    obtain ⟨k, hk, hW⟩ := (h.wal.congr hw hd hr).crashW mode
    obtain ⟨hp, hst, _⟩ := hcg.inv h hlv h1 h2
    exact ⟨T, by simp, cs, c, by rw [hW]; exact (h.wal.congr hw hd hr).stable k hk, h.log, hp, hst⟩
  refine ⟨pp.nofail, sa, ?_, ?_⟩
  · -- no error path in the page phase; only pager memory has changed
    intro k _
    rw [(pp.fault k).1]
    refine ⟨sa k, ?_⟩
    show Spec.Content.same (content _ (fs.steps ((ioSteps (pagesA cfg m fs.pv).1).take k)).pv) _
    rw [content_onlySetPm _ (pp.fault k).2]
    obtain ⟨n, hcg⟩ := pp.cgPv k
    obtain ⟨_, hst, hsegs⟩ := hcg.inv h hlv h1 h2
    exact content_of_store hst h.mexts h.mruns hsegs h.mroot h.mptop
  · rw [foldl_onlySetPm _ pp.setpm, pp.lastpm, pp.lastbm]
    have hinvP := inv_after_pages h hlv pp h1 h2
    exact ⟨rfl, (steps_pager_wal _ pp.pager.facts.2 fs).1, hinvP, compact_new h hruns pp hinvP h1⟩

end Nervus.Crash
