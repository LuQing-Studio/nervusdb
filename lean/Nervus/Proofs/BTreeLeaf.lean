/-
  Facts about one page of the B-tree (C26): the code shape `Cfg.Std` that the theorems assume of the regenerated
  flags; leaf_lower_bound / internal_child_for_key on sorted cells, in list form; `kidsR`, the children of an
  internal page each with the key range it is responsible for, under the insertion of a cell and under a split;
  rebuild_leaf / rebuild_internal return the cells they were given.
-/
import Nervus.Proofs.BTreeSearch
set_option linter.unusedSectionVars false
namespace Nervus.BTree
open Nervus KO

/-- the code shape the correctness proof is about: lower-bound search in leaves (`k < target`),
    upper-bound descent (`k <= target`), cursor advance skips empty leaves -/
structure Cfg.Std (c : Cfg) : Prop where
  leaf : c.leafSearchLe = false
  int : c.intSearchLe = true
  adv : c.advSkipsEmpty = true

variable {κ : Type} [KeyOrd κ] [LawfulKeyOrd κ]

def SSorted (es : List (κ × Nat)) : Prop := es.Pairwise (fun a b => Lt a.1 b.1)
def WSorted (es : List (κ × Nat)) : Prop := es.Pairwise (fun a b => Le a.1 b.1)

theorem SSorted.weak {es : List (κ × Nat)} (h : SSorted es) : WSorted es :=
  List.Pairwise.imp (fun h => le_of_lt h) h

theorem bs_list_spec {α : Type} (goes : α → Bool) (xs : List α)
    (mono : xs.Pairwise (fun a b => goes b = true → goes a = true)) :
    ∃ r, bsLoop (fun mid => (xs[mid]?).map goes) xs.length 0 xs.length = some r ∧ r ≤ xs.length ∧
      (∀ e ∈ xs.take r, goes e = true) ∧ (∀ e ∈ xs.drop r, goes e = false) := by
  let P : Nat → Bool := fun i => match xs[i]? with | some e => goes e | none => false
  have hg : ∀ i, i < xs.length → (fun mid => (xs[mid]?).map goes) i = some (P i) := by
    intro i hi
    simp only [P, List.getElem?_eq_getElem hi, Option.map_some]
  have hmono : ∀ i j, i ≤ j → j < xs.length → P j = true → P i = true := by
    intro i j hij hj hpj
    by_cases e : i = j
    · subst e; exact hpj
    · have hi : i < xs.length := Nat.lt_of_le_of_lt hij hj
      simp only [P, List.getElem?_eq_getElem hi, List.getElem?_eq_getElem hj] at hpj ⊢
      exact (List.pairwise_iff_getElem.mp mono) i j hi hj (Nat.lt_of_le_of_ne hij e) hpj
  obtain ⟨r, hr, hle, h1, h2⟩ := bsLoop_spec _ xs.length P hg hmono xs.length 0 xs.length
    (Nat.zero_le _) (Nat.le_refl _) (Nat.le_refl _) (fun i hi => absurd hi (Nat.not_lt_zero _))
    (fun i h1 h2 => absurd h1 (Nat.not_le_of_gt h2))
  refine ⟨r, hr, hle, ?_, ?_⟩
  · intro e he
    obtain ⟨j, hj, rfl⟩ := List.mem_take_iff_getElem.mp he
    have hj' : j < r := (Nat.lt_min.mp hj).1
    have hjl : j < xs.length := Nat.lt_of_lt_of_le hj' hle
    have := h1 j hj'
    simpa only [P, List.getElem?_eq_getElem hjl] using this
  · intro e he
    obtain ⟨j, hj⟩ := List.mem_iff_getElem?.mp he
    rw [List.getElem?_drop] at hj
    have hjl : r + j < xs.length := by
      rcases List.getElem?_eq_some_iff.mp hj with ⟨h, _⟩; exact h
    have := h2 (r + j) (Nat.le_add_right _ _) hjl
    simp only [P, hj] at this
    exact this

theorem leafLowerBound_spec (c : Cfg) (hc : c.Std) (es : List (κ × Nat)) (hs : WSorted es) (k : κ) :
    ∃ idx, leafLowerBound c es k = some idx ∧ idx ≤ es.length ∧
      (∀ e ∈ es.take idx, Lt e.1 k) ∧ (∀ e ∈ es.drop idx, Le k e.1) := by
  unfold leafLowerBound
  have mono : es.Pairwise (fun a b => goesRight c.leafSearchLe b.1 k = true → goesRight c.leafSearchLe a.1 k = true) := by
    apply List.Pairwise.imp _ hs
    intro a b hab h
    simp only [goesRight, hc.leaf, Bool.false_eq_true, if_false] at h ⊢
    exact lt_of_le_of_lt hab h
  obtain ⟨r, hr, hle, h1, h2⟩ := bs_list_spec (fun e : κ × Nat => goesRight c.leafSearchLe e.1 k) es mono
  refine ⟨r, hr, hle, ?_, ?_⟩
  · intro e he
    have := h1 e he
    simp only [goesRight, hc.leaf, Bool.false_eq_true, if_false] at this
    exact this
  · intro e he
    have := h2 e he
    simp only [goesRight, hc.leaf, Bool.false_eq_true, if_false] at this
    exact this

/-! ### children of an internal page with their key ranges -/

/-- lower bound `lo ≼ k` (none = −∞) -/
def bLo : Option κ → κ → Prop
  | none, _ => True
  | some l, k => Le l k
/-- upper bound `k ≺ hi` (none = +∞) -/
def bHi : κ → Option κ → Prop
  | _, none => True
  | k, some h => Lt k h
/-- a key range `[lo, hi)` is not inverted -/
def bLe : Option κ → Option κ → Prop
  | some a, some b => Le a b
  | _, _ => True

theorem bLo_of_bLe {lo : Option κ} {h k : κ} (h1 : bLe lo (some h)) (h2 : Le h k) : bLo lo k := by
  cases lo with
  | none => trivial
  | some l => exact le_trans h1 h2

theorem bLe_of_bLo {lo : Option κ} {k : κ} (h : bLo lo k) : bLe lo (some k) := by
  cases lo with
  | none => trivial
  | some l => exact h

theorem bLe_of_bHi {k : κ} {hi : Option κ} (h : bHi k hi) : bLe (some k) hi := by
  cases hi with
  | none => trivial
  | some h' => exact le_of_lt h

/-- (child, lo, hi) for every child of an internal page responsible for `[lo, hi)` -/
def kidsR (lo hi : Option κ) (lm : Nat) : List (κ × Nat) → List (Nat × Option κ × Option κ)
  | [] => [(lm, lo, hi)]
  | (k, ch) :: rest => (lm, lo, some k) :: kidsR (some k) hi ch rest

/-- the children left of a cell prefix -/
def front (lo : Option κ) (lm : Nat) : List (κ × Nat) → List (Nat × Option κ × Option κ)
  | [] => []
  | (k, ch) :: rest => (lm, lo, some k) :: front (some k) ch rest

/-- (lower bound, child) in force after a cell prefix -/
def endSt (lo : Option κ) (lm : Nat) : List (κ × Nat) → Option κ × Nat
  | [] => (lo, lm)
  | (k, ch) :: rest => endSt (some k) ch rest

/-- page ids of the children: `children = leftmost :: cells.map snd` -/
def kidsOf (lm : Nat) (cells : List (κ × Nat)) : List Nat := lm :: cells.map (·.2)

theorem kidsR_append (lo hi : Option κ) (lm : Nat) (pre post : List (κ × Nat)) :
    kidsR lo hi lm (pre ++ post) =
      front lo lm pre ++ kidsR (endSt lo lm pre).1 hi (endSt lo lm pre).2 post := by
  induction pre generalizing lo lm with
  | nil => rfl
  | cons x xs ih =>
    obtain ⟨k, ch⟩ := x
    simp only [List.cons_append, kidsR, front, endSt, ih]

theorem front_length (lo : Option κ) (lm : Nat) (pre : List (κ × Nat)) :
    (front lo lm pre).length = pre.length := by
  induction pre generalizing lo lm with
  | nil => rfl
  | cons x xs ih => obtain ⟨k, ch⟩ := x; simp [front, ih]

theorem kidsR_map_fst (lo hi : Option κ) (lm : Nat) (cells : List (κ × Nat)) :
    (kidsR lo hi lm cells).map (·.1) = kidsOf lm cells := by
  induction cells generalizing lo lm with
  | nil => rfl
  | cons x xs ih =>
    obtain ⟨k, ch⟩ := x
    simp only [kidsR, List.map_cons, kidsOf] at ih ⊢
    rw [ih]

/-- upper bound of the child found after a cell prefix: the next separator, else the page's bound -/
def hdKey (post : List (κ × Nat)) (hi : Option κ) : Option κ :=
  match post with
  | [] => hi
  | (k, _) :: _ => some k

/-- the child found after the cell prefix `pre`, with its range; inserting a cell `(sep, right)` there splits that
    range into `[a, sep)` (same child) and `[sep, b)` (the new child `right`) -/
theorem kidsR_at_prefix (lo hi : Option κ) (lm : Nat) (pre post : List (κ × Nat)) :
    ∃ tail,
      kidsR lo hi lm (pre ++ post) =
        front lo lm pre ++ ((endSt lo lm pre).2, (endSt lo lm pre).1, hdKey post hi) :: tail ∧
      ∀ (sep : κ) (right : Nat), kidsR lo hi lm (pre ++ (sep, right) :: post) =
        front lo lm pre ++ ((endSt lo lm pre).2, (endSt lo lm pre).1, some sep) :: (right, some sep, hdKey post hi) :: tail := by
  cases post with
  | nil => exact ⟨[], by rw [kidsR_append]; rfl, fun _ _ => by rw [kidsR_append]; rfl⟩
  | cons x xs => exact ⟨kidsR (some x.1) hi x.2 xs, by rw [kidsR_append]; rfl, fun _ _ => by rw [kidsR_append]; rfl⟩

theorem kidsR_split (lo hi : Option κ) (lm : Nat) (l r : List (κ × Nat)) (pk : κ) (rlm : Nat) :
    kidsR lo hi lm (l ++ (pk, rlm) :: r) = kidsR lo (some pk) lm l ++ kidsR (some pk) hi rlm r := by
  induction l generalizing lo lm with
  | nil => rfl
  | cons x xs ih =>
    obtain ⟨k, ch⟩ := x
    simp only [List.cons_append, kidsR, ih]

theorem kidsR_bounds (lo hi : Option κ) (lm : Nat) (cells : List (κ × Nat))
    (h : ∀ x ∈ kidsR lo hi lm cells, bLe x.2.1 x.2.2) :
    WSorted cells ∧ ∀ e ∈ cells, bLo lo e.1 ∧ bLe (some e.1) hi := by
  induction cells generalizing lo lm with
  | nil => exact ⟨List.Pairwise.nil, nofun⟩
  | cons x xs ih =>
    obtain ⟨k2, ch2⟩ := x
    have h0 : bLe lo (some k2) := h (lm, lo, some k2) (by simp [kidsR])
    have hrest : ∀ x ∈ kidsR (some k2) hi ch2 xs, bLe x.2.1 x.2.2 := fun x hx => h x (by simp [kidsR, hx])
    obtain ⟨ih1, ih2⟩ := ih (some k2) ch2 hrest
    refine ⟨List.Pairwise.cons (fun e he => (ih2 e he).1) ih1, fun e he => ?_⟩
    rcases List.mem_cons.mp he with rfl | he
    · refine ⟨bLo_of_bLe h0 (le_refl _), ?_⟩
      -- below the next separator, which is below the upper bound; the last one by its child's range
      cases xs with
      | nil => exact hrest (ch2, some k2, hi) (by simp [kidsR])
      | cons y ys =>
        obtain ⟨h1, h2⟩ := ih2 y (List.mem_cons_self ..)
        cases hi with
        | none => trivial
        | some h' => exact le_trans h1 h2
    · exact ⟨bLo_of_bLe h0 (ih2 e he).1, (ih2 e he).2⟩

theorem endSt_bLo (lo : Option κ) (lm : Nat) (pre : List (κ × Nat)) (k : κ)
    (h0 : bLo lo k) (h : ∀ e ∈ pre, Le e.1 k) : bLo (endSt lo lm pre).1 k := by
  induction pre generalizing lo lm with
  | nil => exact h0
  | cons x xs ih =>
    obtain ⟨k', ch⟩ := x
    simp only [endSt]
    apply ih
    · exact h (k', ch) (List.mem_cons_self ..)
    · intro e he; exact h e (List.mem_cons_of_mem _ he)

/-- endSt's child is the Rust expression: leftmost if the prefix is empty, else the last cell's child -/
theorem endSt_snd (lo : Option κ) (lm : Nat) (pre : List (κ × Nat)) :
    (endSt lo lm pre).2 = match pre.getLast? with | none => lm | some e => e.2 := by
  induction pre generalizing lo lm with
  | nil => rfl
  | cons x xs ih =>
    obtain ⟨k, ch⟩ := x
    simp only [endSt]
    rw [ih]
    cases xs with
    | nil => rfl
    | cons y ys =>
      rw [List.getLast?_cons_cons]
      cases h : (y :: ys).getLast? with
      | none => simp at h
      | some e => rfl

/-- internal_child_for_key on a page responsible for `[lo, hi)`: the child chosen for a key of that range is the kid
    after `pos` cells, and the key lies in that kid's range -/
theorem childForKey_spec (c : Cfg) (hc : c.Std) (lo hi : Option κ) (lm : Nat) (cells : List (κ × Nat))
    (hs : WSorted cells) (k : κ) (hlo : bLo lo k) (hhi : bHi k hi) :
    ∃ pos clo chi, pos ≤ cells.length ∧
      childForKey c lm cells k = some ((endSt lo lm (cells.take pos)).2, pos) ∧
      ((endSt lo lm (cells.take pos)).2, clo, chi) ∈ kidsR lo hi lm cells ∧ bLo clo k ∧ bHi k chi := by
  unfold childForKey
  have mono : cells.Pairwise (fun a b => goesRight c.intSearchLe b.1 k = true → goesRight c.intSearchLe a.1 k = true) := by
    apply List.Pairwise.imp _ hs
    intro a b hab h
    simp only [goesRight, hc.int, if_true, Bool.not_eq_true'] at h ⊢
    exact le_trans hab h
  obtain ⟨r, hr, hle, h1, h2⟩ := bs_list_spec (fun e : κ × Nat => goesRight c.intSearchLe e.1 k) cells mono
  have hpre : ∀ e ∈ cells.take r, Le e.1 k := by
    intro e he
    have := h1 e he
    simpa only [goesRight, hc.int, if_true, Bool.not_eq_true'] using this
  have hpost : ∀ e ∈ cells.drop r, Lt k e.1 := by
    intro e he
    have := h2 e he
    simpa only [goesRight, hc.int, if_true, Bool.not_eq_false'] using this
  obtain ⟨tail, htail, _⟩ := kidsR_at_prefix lo hi lm (cells.take r) (cells.drop r)
  rw [List.take_append_drop] at htail
  refine ⟨r, _, hdKey (cells.drop r) hi, hle, ?_, by rw [htail]; simp, endSt_bLo lo lm _ k hlo hpre, ?_⟩
  · rw [hr]
    cases r with
    | zero => simp [endSt]
    | succ p =>
      simp only
      have hp : p < cells.length := hle
      rw [List.getElem?_eq_getElem hp]
      simp only [Option.map_some]
      rw [endSt_snd]
      have : (cells.take (p+1)).getLast? = some cells[p] := by
        rw [List.getLast?_eq_getElem?]
        simp only [List.length_take, Nat.min_eq_left hle, Nat.add_sub_cancel]
        rw [List.getElem?_take]
        simp [List.getElem?_eq_getElem hp]
      rw [this]
  · cases hd : cells.drop r with
    | nil => exact hhi
    | cons x xs => exact hpost x (hd ▸ List.mem_cons_self ..)

/-! ### cell insertion and page rebuild

`leaf_insert_at` / `internal_insert_at`, and with them the loops of `rebuild_leaf` / `rebuild_internal`,
differ only in the header size and the cell length: their lemmas are stated once, for `cellInsertAt` and
`rebuildGo`. -/

def cellInsertAt (c : Cfg) (hdr cl : Nat) (es : List (κ × Nat)) (b idx : Nat) (e : κ × Nat) :
    Option (List (κ × Nat) × Nat) :=
  if freeSpace c hdr es.length b < cl + c.slack then none
  else if es.length < idx then none
  else if b < cl then none
  else some (es.insertIdx idx e, b - cl)

theorem leafInsertAt_eq_cell (c : Cfg) (es : List (κ × Nat)) (b idx : Nat) (k : κ) (v : Nat) :
    leafInsertAt c es b idx k v = cellInsertAt c c.leafHdr (leafCellLen c k) es b idx (k, v) := rfl

theorem intInsertAt_eq_cell (c : Cfg) (es : List (κ × Nat)) (b idx : Nat) (k : κ) (v : Nat) :
    intInsertAt c es b idx k v = cellInsertAt c c.intHdr (intCellLen c k) es b idx (k, v) := rfl

theorem cellInsertAt_eq_some {c : Cfg} {hdr cl : Nat} {es : List (κ × Nat)} {b idx : Nat} {e : κ × Nat}
    {r : List (κ × Nat) × Nat} :
    cellInsertAt c hdr cl es b idx e = some r ↔
      cl + c.slack ≤ b - (hdr + es.length * c.slotW) ∧ idx ≤ es.length ∧ cl ≤ b ∧
        r = (es.insertIdx idx e, b - cl) := by
  unfold cellInsertAt freeSpace
  constructor
  · intro h
    split at h
    · cases h
    · split at h
      · cases h
      · split at h
        · cases h
        · next h1 h2 h3 => cases h; exact ⟨Nat.le_of_not_lt h1, Nat.le_of_not_lt h2, Nat.le_of_not_lt h3, rfl⟩
  · rintro ⟨h1, h2, h3, rfl⟩
    rw [if_neg (Nat.not_lt.mpr h1), if_neg (Nat.not_lt.mpr h2), if_neg (Nat.not_lt.mpr h3)]

def rebuildGo (c : Cfg) (hdr : Nat) (cl : κ → Nat) :
    List (κ × Nat) → List (κ × Nat) → Nat → Option (List (κ × Nat) × Nat)
  | [], acc, b => some (acc, b)
  | e :: rest, acc, b =>
    match cellInsertAt c hdr (cl e.1) acc b acc.length e with
    | none => none
    | some (acc', b') => rebuildGo c hdr cl rest acc' b'

theorem rebuildLeafGo_eq_go (c : Cfg) : ∀ (xs acc : List (κ × Nat)) (b : Nat),
    rebuildLeafGo c xs acc b = rebuildGo c c.leafHdr (leafCellLen c) xs acc b
  | [], _, _ => rfl
  | (k, v) :: xs, acc, b => by
    simp only [rebuildLeafGo, rebuildGo, leafInsertAt_eq_cell, rebuildLeafGo_eq_go c xs]
    cases cellInsertAt c c.leafHdr (leafCellLen c k) acc b acc.length (k, v) <;> rfl

theorem rebuildIntGo_eq_go (c : Cfg) : ∀ (xs acc : List (κ × Nat)) (b : Nat),
    rebuildIntGo c xs acc b = rebuildGo c c.intHdr (intCellLen c) xs acc b
  | [], _, _ => rfl
  | (k, v) :: xs, acc, b => by
    simp only [rebuildIntGo, rebuildGo, intInsertAt_eq_cell, rebuildIntGo_eq_go c xs]
    cases cellInsertAt c c.intHdr (intCellLen c k) acc b acc.length (k, v) <;> rfl

theorem rebuildGo_cells (c : Cfg) (hdr : Nat) (cl : κ → Nat) : ∀ (xs acc : List (κ × Nat)) (b : Nat)
    (r : List (κ × Nat) × Nat), rebuildGo c hdr cl xs acc b = some r → r.1 = acc ++ xs
  | [], acc, b, r, h => by cases h; simp
  | e :: xs, acc, b, r, h => by
    simp only [rebuildGo] at h
    cases hi : cellInsertAt c hdr (cl e.1) acc b acc.length e with
    | none => simp [hi] at h
    | some p =>
      rw [hi] at h
      rw [rebuildGo_cells c hdr cl xs _ _ r h, (cellInsertAt_eq_some.mp hi).2.2.2]
      simp [List.insertIdx_length_self]

theorem rebuildLeaf_eq (c : Cfg) (entries : List (κ × Nat)) (r : List (κ × Nat) × Nat)
    (h : rebuildLeaf c entries = some r) : r.1 = entries := by
  rw [rebuildLeaf, rebuildLeafGo_eq_go] at h
  exact rebuildGo_cells _ _ _ _ _ _ r h

theorem rebuildInternal_eq (c : Cfg) (cells : List (κ × Nat)) (r : List (κ × Nat) × Nat)
    (h : rebuildInternal c cells = some r) : r.1 = cells := by
  rw [rebuildInternal, rebuildIntGo_eq_go] at h
  exact rebuildGo_cells _ _ _ _ _ _ r h

/-- a successful `leaf_insert_at` / `internal_insert_at` (both are `cellInsertAt` by unfolding) returns the cells with
    the new one at its slot -/
theorem cellInsertAt_cells {c : Cfg} {hdr cl : Nat} {es : List (κ × Nat)} {b idx : Nat} {e : κ × Nat}
    {r : List (κ × Nat) × Nat} (h : cellInsertAt c hdr cl es b idx e = some r) : r.1 = es.insertIdx idx e := by
  rw [(cellInsertAt_eq_some.mp h).2.2.2]

end Nervus.BTree
