/-
  C26: byte accounting of a page, and a purely syntactic "keys fit" condition under which no split overflows.
  `SizedCells` / `Sized`: slots do not run into the cell area and the live cells are inside it — kept by slot insertion,
  removal and a split by count.  If every key's cell length lies in [lcm, lcM] (leaf cells) / [icm, icM] (internal cells) and
      ((H / (m + slot)) + 2) / 2 * (M + slot) ≤ H        (H = page size − header, for both page kinds)
  (`FitCfg`), then a split by COUNT never produces a half that exceeds a page: `rebuild_leaf(..).unwrap()` does not
  panic and `rebuild_internal(..)?` does not fail (`rebuildLeaf_ok`, `rebuildInternal_ok`).  With keys of one size the
  condition is "one cell fits a page" (`fitCfg_uniform`).
-/
import Nervus.Proofs.BTreeInv
set_option linter.unusedSectionVars false
namespace Nervus.BTree
open Nervus KO

variable {κ : Type} [KeyOrd κ] [LawfulKeyOrd κ]

def wsum (f : κ × Nat → Nat) (es : List (κ × Nat)) : Nat := (es.map f).sum

theorem wsum_nil (f : κ × Nat → Nat) : wsum f [] = 0 := rfl
theorem wsum_cons (f : κ × Nat → Nat) (e : κ × Nat) (es : List (κ × Nat)) : wsum f (e :: es) = f e + wsum f es := by
  simp [wsum]
theorem wsum_append (f : κ × Nat → Nat) (a b : List (κ × Nat)) : wsum f (a ++ b) = wsum f a + wsum f b := by
  simp [wsum]
theorem wsum_take_drop (f : κ × Nat → Nat) (es : List (κ × Nat)) (i : Nat) :
    wsum f (es.take i) + wsum f (es.drop i) = wsum f es := by
  rw [← wsum_append, List.take_append_drop]
theorem wsum_insertIdx (f : κ × Nat → Nat) (es : List (κ × Nat)) (i : Nat) (x : κ × Nat) (h : i ≤ es.length) :
    wsum f (es.insertIdx i x) = wsum f es + f x := by
  rw [insertIdx_eq_take_drop _ _ _ h, wsum_append, wsum_cons, ← wsum_take_drop f es i, Nat.add_assoc,
    Nat.add_comm (f x)]
theorem wsum_eraseIdx (f : κ × Nat → Nat) (es : List (κ × Nat)) (i : Nat) : wsum f (es.eraseIdx i) ≤ wsum f es := by
  rw [List.eraseIdx_eq_take_drop_succ, wsum_append, ← wsum_take_drop f es i]
  have : wsum f (es.drop (i + 1)) ≤ wsum f (es.drop i) := by
    rw [← wsum_take_drop f (es.drop i) 1]
    simp only [List.drop_drop]
    rw [Nat.add_comm i 1] 
    omega
  omega
theorem wsum_le (f : κ × Nat → Nat) (M : Nat) : ∀ (es : List (κ × Nat)), (∀ e ∈ es, f e ≤ M) → wsum f es ≤ es.length * M
  | [], _ => by simp [wsum]
  | e :: es, h => by
    rw [wsum_cons, List.length_cons, Nat.succ_mul, Nat.add_comm (f e)]
    exact Nat.add_le_add (wsum_le f M es fun x hx => h x (List.mem_cons_of_mem _ hx)) (h e (List.mem_cons_self ..))
theorem wsum_ge (f : κ × Nat → Nat) (m : Nat) : ∀ (es : List (κ × Nat)), (∀ e ∈ es, m ≤ f e) → es.length * m ≤ wsum f es
  | [], _ => by simp [wsum]
  | e :: es, h => by
    rw [wsum_cons, List.length_cons, Nat.succ_mul, Nat.add_comm (f e)]
    exact Nat.add_le_add (wsum_ge f m es fun x hx => h x (List.mem_cons_of_mem _ hx)) (h e (List.mem_cons_self ..))

def used (c : Cfg) (f : κ × Nat → Nat) (es : List (κ × Nat)) : Nat := wsum (fun e => f e + c.slotW) es

theorem used_eq (c : Cfg) (f : κ × Nat → Nat) : ∀ es : List (κ × Nat), used c f es = wsum f es + es.length * c.slotW
  | [] => by simp [used, wsum]
  | e :: es => by
    have := used_eq c f es
    simp only [used] at this ⊢
    rw [wsum_cons, wsum_cons, this, List.length_cons, Nat.succ_mul]; omega

structure Bounds where
  lcm : Nat
  lcM : Nat
  icm : Nat
  icM : Nat

def Good (c : Cfg) (B : Bounds) (k : κ) : Prop :=
  B.lcm ≤ leafCellLen c k ∧ leafCellLen c k ≤ B.lcM ∧ B.icm ≤ intCellLen c k ∧ intCellLen c k ≤ B.icM

structure FitCfg (c : Cfg) (B : Bounds) : Prop where
  slack : c.slack = c.slotW
  lpos : 0 < B.lcm + c.slotW
  ipos : 0 < B.icm + c.slotW
  hl : c.leafHdr ≤ c.ps
  hi : c.intHdr ≤ c.ps
  leaf : ((c.ps - c.leafHdr) / (B.lcm + c.slotW) + 2) / 2 * (B.lcM + c.slotW) ≤ c.ps - c.leafHdr
  int : ((c.ps - c.intHdr) / (B.icm + c.slotW) + 2) / 2 * (B.icM + c.slotW) ≤ c.ps - c.intHdr

/-! ### byte accounting of one page

Leaf and internal pages differ in the header size `hdr` and the cell length `cl`; the accounting is done once. -/

section cells
variable (c : Cfg) (B : Bounds) (hdr : Nat) (cl : κ → Nat)

/-- byte accounting of the cells of one page with `cell_content_begin = b`: the slots do not run into the
    cell area, the live cells are inside it -/
def SizedCells (es : List (κ × Nat)) (b : Nat) : Prop :=
  hdr + es.length * c.slotW ≤ b ∧ b + wsum (fun e => cl e.1) es ≤ c.ps ∧ ∀ e ∈ es, Good c B e.1

variable {c B hdr cl}

theorem count_le {es : List (κ × Nat)} {b : Nat} (sz : SizedCells c B hdr cl es b) {m : Nat}
    (hpos : 0 < m + c.slotW) (hm : ∀ e ∈ es, m ≤ cl e.1) : es.length ≤ (c.ps - hdr) / (m + c.slotW) := by
  obtain ⟨h1, h2, _⟩ := sz
  rw [Nat.le_div_iff_mul_le hpos, Nat.mul_add]
  have := wsum_ge (fun e => cl e.1) m es hm
  omega

theorem half_fits (c : Cfg) (f : κ × Nat → Nat) (M K H : Nat) (xs : List (κ × Nat)) (hM : ∀ e ∈ xs, f e ≤ M)
    (hK : xs.length ≤ K) (hH : K * (M + c.slotW) ≤ H) : wsum f xs + xs.length * c.slotW ≤ H := by
  have h1 := wsum_le f M xs hM
  have h2 : xs.length * (M + c.slotW) ≤ K * (M + c.slotW) := Nat.mul_le_mul_right _ hK
  rw [Nat.mul_add] at h2
  exact Nat.le_trans (Nat.le_trans (Nat.add_le_add_right h1 _) h2) hH

theorem SizedCells.insert (hs : c.slack = c.slotW) {es es' : List (κ × Nat)} {b b' idx : Nat} {e : κ × Nat}
    (h : cellInsertAt c hdr (cl e.1) es b idx e = some (es', b')) (sz : SizedCells c B hdr cl es b)
    (hk : Good c B e.1) : SizedCells c B hdr cl es' b' := by
  obtain ⟨h1, hidx, h3, hr⟩ := cellInsertAt_eq_some.mp h
  cases hr
  obtain ⟨s1, s2, s3⟩ := sz
  refine ⟨?_, ?_, ?_⟩
  · rw [List.length_insertIdx_of_le_length hidx, Nat.succ_mul]; omega
  · rw [wsum_insertIdx _ _ _ _ hidx]; omega
  · intro x hx
    rcases (List.mem_insertIdx hidx).mp hx with rfl | hx
    · exact hk
    · exact s3 x hx

theorem SizedCells.erase {es : List (κ × Nat)} {b : Nat} (sz : SizedCells c B hdr cl es b) (i : Nat) :
    SizedCells c B hdr cl (es.eraseIdx i) b := by
  obtain ⟨s1, s2, s3⟩ := sz
  have := Nat.mul_le_mul_right c.slotW (List.length_eraseIdx_le es i)
  exact ⟨by omega, Nat.le_trans (Nat.add_le_add_left (wsum_eraseIdx _ es i) b) s2,
    fun e he => s3 e (List.mem_of_mem_eraseIdx he)⟩

theorem rebuildGo_ok (hs : c.slack = c.slotW) : ∀ (xs acc : List (κ × Nat)) (b : Nat),
    hdr + acc.length * c.slotW + (wsum (fun e => cl e.1) xs + xs.length * c.slotW) ≤ b →
    rebuildGo c hdr cl xs acc b = some (acc ++ xs, b - wsum (fun e => cl e.1) xs)
  | [], acc, b, _ => by rw [rebuildGo, wsum_nil, List.append_nil, Nat.sub_zero]
  | e :: xs, acc, b, h => by
    rw [wsum_cons, List.length_cons, Nat.succ_mul] at h
    have hins : cellInsertAt c hdr (cl e.1) acc b acc.length e = some (acc ++ [e], b - cl e.1) :=
      cellInsertAt_eq_some.mpr ⟨by omega, Nat.le_refl _, by omega, by rw [List.insertIdx_length_self]⟩
    have hlen : (acc ++ [e]).length * c.slotW = acc.length * c.slotW + c.slotW := by
      rw [List.length_append, List.length_singleton, Nat.succ_mul]
    rw [rebuildGo, hins]
    show rebuildGo c hdr cl xs (acc ++ [e]) (b - cl e.1) = _
    rw [rebuildGo_ok hs xs (acc ++ [e]) (b - cl e.1) (by omega), wsum_cons, List.append_assoc, Nat.sub_sub]
    rfl

theorem rebuildGo_fresh (hs : c.slack = c.slotW) (hh : hdr ≤ c.ps) (xs : List (κ × Nat))
    (hfit : wsum (fun e => cl e.1) xs + xs.length * c.slotW ≤ c.ps - hdr) (hg : ∀ e ∈ xs, Good c B e.1) :
    rebuildGo c hdr cl xs [] c.ps = some (xs, c.ps - wsum (fun e => cl e.1) xs) ∧
      SizedCells c B hdr cl xs (c.ps - wsum (fun e => cl e.1) xs) :=
  ⟨rebuildGo_ok hs xs [] c.ps (by rw [List.length_nil, Nat.zero_mul, Nat.add_zero]; exact Nat.add_le_of_le_sub' hh hfit),
   by omega, by omega, hg⟩

/-- a split by count of the cells `all` of a sized page that has received one more cell: the right half is not
    empty, and any part of either half (each holds at most half of the cells, rounded up) is rebuilt on a fresh page.
    "Any part", because an internal split rebuilds the right half without its first cell, which is promoted. -/
theorem SizedCells.split (hs : c.slack = c.slotW) (hh : hdr ≤ c.ps) {m M : Nat} (hpos : 0 < m + c.slotW)
    (fit : ((c.ps - hdr) / (m + c.slotW) + 2) / 2 * (M + c.slotW) ≤ c.ps - hdr)
    (hmM : ∀ k, Good c B k → m ≤ cl k ∧ cl k ≤ M)
    {es : List (κ × Nat)} {b : Nat} (sz : SizedCells c B hdr cl es b)
    (all : List (κ × Nat)) (hlen : all.length = es.length + 1) (hg : ∀ e ∈ all, Good c B e.1) :
    all.drop (all.length / 2) ≠ [] ∧
    ∀ xs : List (κ × Nat), xs.Sublist (all.take (all.length / 2)) ∨ xs.Sublist (all.drop (all.length / 2)) →
      rebuildGo c hdr cl xs [] c.ps = some (xs, c.ps - wsum (fun e => cl e.1) xs) ∧
        SizedCells c B hdr cl xs (c.ps - wsum (fun e => cl e.1) xs) := by
  refine ⟨fun h => ?_, fun xs hxs => ?_⟩
  · exact absurd (List.drop_eq_nil_iff.mp h)
      (Nat.not_le_of_gt (Nat.div_lt_self (hlen ▸ Nat.succ_pos _) (by decide)))
  · have hQ := count_le sz hpos (fun e he => (hmM _ (sz.2.2 e he)).1)
    have hxlen : xs.length ≤ all.length / 2 ∨ xs.length ≤ all.length - all.length / 2 :=
      hxs.imp (fun h => Nat.le_trans h.length_le (List.length_take_le ..))
        (fun h => List.length_drop ▸ h.length_le)
    have hxg : ∀ e ∈ xs, Good c B e.1 := fun e he => hg e <|
      hxs.elim (fun h => List.mem_of_mem_take (h.subset he)) (fun h => List.mem_of_mem_drop (h.subset he))
    exact rebuildGo_fresh hs hh xs
      (half_fits c _ M _ _ xs (fun e he => (hmM _ (hxg e he)).2) (by omega) fit) hxg

end cells

def SizedNode (c : Cfg) (B : Bounds) : Node κ → Prop
  | .leaf es b _ => SizedCells c B c.leafHdr (leafCellLen c) es b
  | .internal _ cells b => SizedCells c B c.intHdr (intCellLen c) cells b

def Sized (c : Cfg) (B : Bounds) (pg : Pg κ) : Prop := ∀ p n, pg p = some n → SizedNode c B n

theorem Sized_upd {c : Cfg} {B : Bounds} {pg : Pg κ} (h : Sized c B pg) (p : Nat) (n : Node κ) (hn : SizedNode c B n) :
    Sized c B (upd pg p n) := by
  intro q m hq
  by_cases e : q = p
  · subst e; simp at hq; subst hq; exact hn
  · rw [upd_other _ _ _ _ e] at hq; exact h q m hq

theorem rebuildLeaf_ok {c : Cfg} {B : Bounds} (fc : FitCfg c B) {es : List (κ × Nat)} {b : Nat}
    (sz : SizedCells c B c.leafHdr (leafCellLen c) es b) {i : Nat} (hi : i ≤ es.length) {x : κ × Nat}
    (hx : Good c B x.1) :
    (es.insertIdx i x).drop ((es.insertIdx i x).length / 2) ≠ [] ∧ (∀ e ∈ es.insertIdx i x, Good c B e.1) ∧
    ∀ (xs : List (κ × Nat)) (r : Nat),
      xs.Sublist ((es.insertIdx i x).take ((es.insertIdx i x).length / 2)) ∨
        xs.Sublist ((es.insertIdx i x).drop ((es.insertIdx i x).length / 2)) →
      rebuildLeaf c xs = some (xs, c.ps - wsum (fun e => leafCellLen c e.1) xs) ∧
        SizedNode c B (.leaf xs (c.ps - wsum (fun e => leafCellLen c e.1) xs) r) := by
  have hg : ∀ e ∈ es.insertIdx i x, Good c B e.1 := fun e he =>
    ((List.mem_insertIdx hi).mp he).elim (fun h => h ▸ hx) (sz.2.2 e)
  obtain ⟨h1, h2⟩ := sz.split fc.slack fc.hl fc.lpos fc.leaf (fun k hk => ⟨hk.1, hk.2.1⟩) _
    (List.length_insertIdx_of_le_length hi x) hg
  exact ⟨h1, hg, fun xs r hxs => by rw [rebuildLeaf, rebuildLeafGo_eq_go]; exact h2 xs hxs⟩

theorem rebuildInternal_ok {c : Cfg} {B : Bounds} (fc : FitCfg c B) {es : List (κ × Nat)} {b : Nat}
    (sz : SizedCells c B c.intHdr (intCellLen c) es b) {i : Nat} (hi : i ≤ es.length) {x : κ × Nat}
    (hx : Good c B x.1) :
    (es.insertIdx i x).drop ((es.insertIdx i x).length / 2) ≠ [] ∧ (∀ e ∈ es.insertIdx i x, Good c B e.1) ∧
    ∀ (xs : List (κ × Nat)) (lm : Nat),
      xs.Sublist ((es.insertIdx i x).take ((es.insertIdx i x).length / 2)) ∨
        xs.Sublist ((es.insertIdx i x).drop ((es.insertIdx i x).length / 2)) →
      rebuildInternal c xs = some (xs, c.ps - wsum (fun e => intCellLen c e.1) xs) ∧
        SizedNode c B (.internal lm xs (c.ps - wsum (fun e => intCellLen c e.1) xs)) := by
  have hg : ∀ e ∈ es.insertIdx i x, Good c B e.1 := fun e he =>
    ((List.mem_insertIdx hi).mp he).elim (fun h => h ▸ hx) (sz.2.2 e)
  obtain ⟨h1, h2⟩ := sz.split fc.slack fc.hi fc.ipos fc.int (fun k hk => ⟨hk.2.2.1, hk.2.2.2⟩) _
    (List.length_insertIdx_of_le_length hi x) hg
  exact ⟨h1, hg, fun xs lm hxs => by rw [rebuildInternal, rebuildIntGo_eq_go]; exact h2 xs hxs⟩

/-- the fit condition, read with a half of at least one cell -/
theorem one_int_fits (c : Cfg) (B : Bounds) (fc : FitCfg c B) (k : κ) (hk : Good c B k) :
    intCellLen c k + c.slotW ≤ c.ps - c.intHdr := by
  have h1 : 1 ≤ ((c.ps - c.intHdr) / (B.icm + c.slotW) + 2) / 2 :=
    (Nat.le_div_iff_mul_le (by decide)).mpr (Nat.le_add_left 2 _)
  have h2 := Nat.mul_le_mul_right (B.icM + c.slotW) h1
  rw [Nat.one_mul] at h2
  exact Nat.le_trans (Nat.add_le_add_right hk.2.2.2 _) (Nat.le_trans h2 fc.int)

theorem fitCfg_uniform (c : Cfg) (lm im : Nat) (hs : c.slack = c.slotW) (hl : c.leafHdr ≤ c.ps) (hi : c.intHdr ≤ c.ps)
    (hlp : 0 < lm + c.slotW) (hip : 0 < im + c.slotW)
    (h1 : lm + c.slotW ≤ c.ps - c.leafHdr) (h2 : im + c.slotW ≤ c.ps - c.intHdr) : FitCfg c ⟨lm, lm, im, im⟩ := by
  have key : ∀ H w : Nat, 0 < w → w ≤ H → (H / w + 2) / 2 * w ≤ H := by
    intro H w hw hle
    have hq : 1 ≤ H / w := (Nat.le_div_iff_mul_le hw).mpr (by rw [Nat.one_mul]; exact hle)
    have h3 : (H / w + 2) / 2 ≤ H / w := by
      generalize H / w = q at hq ⊢
      omega
    exact Nat.le_trans (Nat.mul_le_mul_right _ h3) (Nat.div_mul_le_self H w)
  exact ⟨hs, hlp, hip, hl, hi, key _ _ hlp h1, key _ _ hip h2⟩

end Nervus.BTree
