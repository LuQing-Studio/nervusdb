/-
  C26: writes that stay inside one leaf — insert without split, delete.
  `WF` is preserved and the contents change exactly as the multimap spec says.
-/
import Nervus.Proofs.BTreeDescend
import Nervus.Proofs.BTreeSized
set_option linter.unusedSectionVars false
namespace Nervus.BTree
open Nervus KO

variable {κ : Type} [KeyOrd κ] [LawfulKeyOrd κ]

/-! ### the spec's operations on a list split around the key -/

theorem mm_match_iff (e : κ × Nat) (k : κ) (v : Nat) :
    (Multimap.keq e.1 k && e.2 == v) = true ↔ e = (k, v) := by
  rw [Bool.and_eq_true, keq_iff]
  constructor
  · rintro ⟨h1, h2⟩
    have : e.2 = v := by simpa using h2
    cases e; simp_all
  · intro h; subst h; simp

theorem mm_remove_none (k : κ) (v : Nat) (m : List (κ × Nat)) (h : ∀ e ∈ m, e ≠ (k, v)) :
    Multimap.remove k v m = none := by
  induction m with
  | nil => rfl
  | cons e es ih =>
    have h1 : (Multimap.keq e.1 k && e.2 == v) = false := by
      cases hb : (Multimap.keq e.1 k && e.2 == v) with
      | false => rfl
      | true => exact absurd ((mm_match_iff e k v).mp hb) (h e (List.mem_cons_self ..))
    simp only [Multimap.remove, h1]
    rw [ih (fun e he => h e (List.mem_cons_of_mem _ he))]
    rfl

theorem mm_remove_found (k : κ) (v : Nat) (X Y : List (κ × Nat)) (h : ∀ e ∈ X, e ≠ (k, v)) :
    Multimap.remove k v (X ++ (k, v) :: Y) = some (X ++ Y) := by
  induction X with
  | nil =>
    have : (Multimap.keq k k && v == v) = true := (mm_match_iff (k, v) k v).mpr rfl
    simp only [List.nil_append, Multimap.remove, this, if_true]
  | cons e es ih =>
    have h1 : (Multimap.keq e.1 k && e.2 == v) = false := by
      cases hb : (Multimap.keq e.1 k && e.2 == v) with
      | false => rfl
      | true => exact absurd ((mm_match_iff e k v).mp hb) (h e (List.mem_cons_self ..))
    simp only [List.cons_append, Multimap.remove, h1]
    rw [ih (fun e he => h e (List.mem_cons_of_mem _ he))]
    rfl

theorem mm_hasKey_false (k : κ) (m : List (κ × Nat)) (h : Multimap.hasKey k m = false) :
    ∀ e ∈ m, e.1 ≠ k := by
  intro e he hk
  have : Multimap.hasKey k m = true := by
    simp only [Multimap.hasKey, List.any_eq_true]
    exact ⟨e, he, (keq_iff e.1 k).mpr hk⟩
  rw [h] at this; cases this

/-! ### one sorted leaf: the slot of an insert, the two `binary_search_by` comparisons -/

theorem SSorted_insert (es : List (κ × Nat)) (idx : Nat) (k : κ) (v : Nat) (hs : SSorted es)
    (hle : idx ≤ es.length) (hb : ∀ e ∈ es.take idx, Lt e.1 k) (ha : ∀ e ∈ es.drop idx, Lt k e.1) :
    SSorted (es.insertIdx idx (k, v)) := by
  rw [insertIdx_eq_take_drop _ _ _ hle]
  have hs' : SSorted (es.take idx ++ es.drop idx) := by rw [List.take_append_drop]; exact hs
  obtain ⟨h1, h2, h3⟩ := List.pairwise_append.mp hs'
  apply List.pairwise_append.mpr
  refine ⟨h1, ?_, ?_⟩
  · exact List.Pairwise.cons (fun e he => ha e he) h2
  · intro a ha' b hb'
    rcases List.mem_cons.mp hb' with rfl | hb'
    · exact hb a ha'
    · exact h3 a ha' b hb'

theorem pat_of_key (f : κ × Nat → Ordering) (k : κ) (hlt : ∀ e, Lt e.1 k → f e = .lt)
    (hle : ∀ e, f e ≠ .gt → Le e.1 k) (es : List (κ × Nat)) (hs : SSorted es) : Pat f es := by
  intro i j x y hij hx hy hne
  obtain ⟨hi, rfl⟩ := List.getElem?_eq_some_iff.mp hx
  obtain ⟨hj, rfl⟩ := List.getElem?_eq_some_iff.mp hy
  exact hlt _ (lt_of_lt_of_le ((List.pairwise_iff_getElem.mp hs) i j hi hj hij) (hle _ hne))

theorem kcmp_lt {a b : κ} (h : kcmp a b = .lt) : Lt a b := by
  unfold kcmp at h
  by_cases h1 : KeyOrd.lt a b = true
  · exact h1
  · by_cases h2 : KeyOrd.lt b a = true <;> simp [h1, h2] at h

theorem kcmp_gt {a b : κ} (h : kcmp a b = .gt) : Lt b a := by
  unfold kcmp at h
  by_cases h1 : KeyOrd.lt a b = true
  · simp [h1] at h
  · by_cases h2 : KeyOrd.lt b a = true
    · exact h2
    · simp [h1, h2] at h

theorem kcmp_eq {a b : κ} (h : kcmp a b = .eq) : a = b := by
  unfold kcmp at h
  by_cases h1 : KeyOrd.lt a b = true
  · simp [h1] at h
  · by_cases h2 : KeyOrd.lt b a = true
    · simp [h1, h2] at h
    · exact eq_of_le_of_le (by simpa using h2) (by simpa using h1)

theorem kcmp_pat (es : List (κ × Nat)) (k : κ) (hs : SSorted es) : Pat (fun e : κ × Nat => kcmp e.1 k) es := by
  refine pat_of_key _ k (fun e h => by simp [kcmp, show KeyOrd.lt e.1 k = true from h]) (fun e hne => ?_) es hs
  cases h : KeyOrd.lt k e.1 with
  | false => exact h
  | true => simp [kcmp, h, show KeyOrd.lt e.1 k = false from le_of_lt h] at hne

theorem kcmp_search (es : List (κ × Nat)) (k : κ) (hs : SSorted es) (hno : ∀ e ∈ es, e.1 ≠ k) :
    ∃ i, rustBinarySearch (fun e : κ × Nat => kcmp e.1 k) es = some (.missing i) ∧ i ≤ es.length ∧
      (∀ e ∈ es.take i, Lt e.1 k) ∧ (∀ e ∈ es.drop i, Lt k e.1) := by
  obtain ⟨bs, hbs, hspec⟩ := rustBinarySearch_spec (fun e : κ × Nat => kcmp e.1 k) es (kcmp_pat es k hs)
  cases bs with
  | found i =>
    obtain ⟨x, hx, hxe⟩ := hspec
    exact absurd (kcmp_eq hxe) (hno x (List.mem_of_getElem? hx))
  | missing i =>
    obtain ⟨hile, hlt, hgt⟩ := hspec
    refine ⟨i, hbs, hile, ?_, ?_⟩
    · intro e he
      obtain ⟨j, hj, rfl⟩ := List.mem_take_iff_getElem.mp he
      have hji : j < i := (Nat.lt_min.mp hj).1
      exact kcmp_lt (hlt j _ hji (List.getElem?_eq_getElem (Nat.lt_of_lt_of_le hji hile)))
    · intro e he
      obtain ⟨j, hj⟩ := List.mem_iff_getElem?.mp he
      rw [List.getElem?_drop] at hj
      exact kcmp_gt (hgt (i + j) e (Nat.le_add_right _ _) hj)

theorem pairCmp_pat (es : List (κ × Nat)) (k : κ) (v : Nat) (hs : SSorted es) :
    Pat (fun e : κ × Nat => pairCmp e k v) es := by
  refine pat_of_key _ k (fun e h => by simp [pairCmp, kcmp, show KeyOrd.lt e.1 k = true from h]) (fun e hne => ?_) es hs
  cases h : KeyOrd.lt k e.1 with
  | false => exact h
  | true => simp [pairCmp, kcmp, h, show KeyOrd.lt e.1 k = false from le_of_lt h] at hne

theorem pairCmp_eq_iff (e : κ × Nat) (k : κ) (v : Nat) : pairCmp e k v = .eq ↔ e = (k, v) := by
  unfold pairCmp kcmp
  constructor
  · intro h
    by_cases h1 : KeyOrd.lt e.1 k = true
    · simp [h1] at h
    · by_cases h2 : KeyOrd.lt k e.1 = true
      · simp [h1, h2] at h
      · simp only [h1, h2] at h
        have hk : e.1 = k := eq_of_le_of_le (by simpa using h2) (by simpa using h1)
        have hv : e.2 = v := by
          have := Nat.compare_eq_eq.mp h
          exact this
        cases e; simp_all
  · intro h; subst h
    simp [LawfulKeyOrd.irrefl]

/-! ### frame lemmas for a leaf update -/

theorem kidsOfPage_upd_leaf (pg : Pg κ) (p : Nat) (es es' : List (κ × Nat)) (b b' r r' : Nat)
    (hp : pg p = some (.leaf es b r)) (q : Nat) :
    kidsOfPage (upd pg p (.leaf es' b' r')) q = kidsOfPage pg q := by
  by_cases h : q = p
  · subst h; simp [kidsOfPage, hp]
  · simp [kidsOfPage, upd_other _ _ _ _ h]

theorem WF_upd_leaf {pg : Pg κ} {root next : Nat} {g : Ghost κ} (wf : WF pg root next g)
    (p : Nat) (lo hi : Option κ) (es es' : List (κ × Nat)) (b b' r : Nat)
    (hG : g.G p = some (0, lo, hi)) (hp : pg p = some (.leaf es b r))
    (hs : SSorted es') (hin : ∀ e ∈ es', bLo lo e.1 ∧ bHi e.1 hi) :
    WF (upd pg p (.leaf es' b' r)) root next g where
  root := wf.root
  rng := wf.rng
  lvl := wf.lvl
  int := by
    intro q l lo' hi' hq
    have hne : q ≠ p := by
      intro e; subst e; rw [hG] at hq; cases hq
    rw [upd_other _ _ _ _ hne]
    exact wf.int q l lo' hi' hq
  leaf := by
    intro q lo' hi' hq
    by_cases e : q = p
    · subst e
      rw [hG] at hq; cases hq
      exact ⟨es', b', r, by simp, hs, hin⟩
    · rw [upd_other _ _ _ _ e]
      exact wf.leaf q lo' hi' hq
  share := by
    intro p1 p2 c l1 lo1 hi1 l2 lo2 hi2 h1 h2 hc1 hc2
    rw [kidsOfPage_upd_leaf pg p es es' b b' r r hp] at hc1 hc2
    exact wf.share p1 p2 c l1 lo1 hi1 l2 lo2 hi2 h1 h2 hc1 hc2
  lnodup := wf.lnodup
  lmem := wf.lmem
  seg := by
    obtain ⟨p0, rest, hL, hseg⟩ := wf.seg
    refine ⟨p0, rest, hL, ?_⟩
    apply Seg_frame pg _ g.G g.G g.L _ p0 none 0 none hseg
    intro q _
    refine ⟨?_, rfl⟩
    by_cases e : q = p
    · subst e; simp [rightOf, hp]
    · simp [rightOf, upd_other _ _ _ _ e]
  fuel := wf.fuel

theorem contents_upd_leaf {pg : Pg κ} {root next : Nat} {g : Ghost κ} (wf : WF pg root next g)
    (p : Nat) (es : List (κ × Nat)) (b r : Nat) (A B : List Nat) (hL : g.L = A ++ p :: B) :
    contents (upd pg p (.leaf es b r)) g.L = contents pg A ++ es ++ contents pg B := by
  obtain ⟨hA, hB⟩ := wf.notin_of_split hL
  rw [hL, contents_append, contents_cons, contents_upd_notin _ _ _ _ hA, contents_upd_notin _ _ _ _ hB,
    entriesOf_leaf (upd_same ..), List.append_assoc]

/-! ### insert without split -/

/-- `i` is any slot that separates the smaller keys from the others: `leaf_lower_bound`'s in an insert without
    split, `binary_search_by`'s in a leaf split -/
theorem Found.insert_slot {pg : Pg κ} {root next : Nat} {g : Ghost κ} (wf : WF pg root next g)
    {k : κ} {p : Nat} {es : List (κ × Nat)} {b r : Nat} {lo hi : Option κ} {path : List (Nat × Nat)}
    (hf : Found pg g root k p es b r lo hi path)
    (hfresh : Multimap.hasKey k (contents pg g.L) = false) {A B : List Nat} (hL : g.L = A ++ p :: B)
    (v : Nat) {i : Nat} (hle : i ≤ es.length) (hb : ∀ e ∈ es.take i, Lt e.1 k) (ha : ∀ e ∈ es.drop i, Le k e.1) :
    SSorted (es.insertIdx i (k, v)) ∧ (∀ e ∈ es.insertIdx i (k, v), bLo lo e.1 ∧ bHi e.1 hi) ∧
      Multimap.insert k v (contents pg g.L) = contents pg A ++ es.insertIdx i (k, v) ++ contents pg B := by
  obtain ⟨hcont, hA, hB, _⟩ := hf.around wf hL
  have hnokey := mm_hasKey_false k _ hfresh
  refine ⟨SSorted_insert es i k v hf.sorted hle hb ?_, ?_, ?_⟩
  · intro e he
    apply lt_of_le_of_ne (ha e he)
    intro hk
    apply hnokey e _ hk.symm
    rw [hcont]
    exact List.mem_append_left _ (List.mem_append_right _ (List.mem_of_mem_drop he))
  · intro e he
    rcases (List.mem_insertIdx hle).mp he with rfl | he
    · exact ⟨hf.lo, hf.hi⟩
    · exact hf.inRange e he
  · rw [hcont, (mm_around k _ es _ i hle hA hB hb ha).2 v]

theorem Found.insert_nosplit {t : Tree κ} {g : Ghost κ} (wf : WF t.pages.get t.root t.next g)
    {k : κ} {p : Nat} {es : List (κ × Nat)} {b r : Nat} {lo hi : Option κ} {path : List (Nat × Nat)}
    (hf : Found t.pages.get g t.root k p es b r lo hi path)
    (hfresh : Multimap.hasKey k (contents t.pages.get g.L) = false) (v : Nat) {i : Nat} (hle : i ≤ es.length)
    (hb : ∀ e ∈ es.take i, Lt e.1 k) (ha : ∀ e ∈ es.drop i, Le k e.1) (b' : Nat) :
    WF (t.pages.set p (.leaf (es.insertIdx i (k, v)) b' r)).get t.root t.next g ∧
      contents (t.pages.set p (.leaf (es.insertIdx i (k, v)) b' r)).get g.L =
        Multimap.insert k v (contents t.pages.get g.L) := by
  obtain ⟨A, B, hL⟩ := wf.mem_split hf.ghost
  obtain ⟨hs', hin', hspec⟩ := hf.insert_slot wf hfresh hL v hle hb ha
  rw [get_set_eq_upd, hspec]
  exact ⟨WF_upd_leaf wf p lo hi es _ b b' r hf.ghost hf.page hs' hin', contents_upd_leaf wf p _ b' r A B hL⟩

/-! ### delete -/

theorem delete_spec (c : Cfg) (hc : c.Std) (t : Tree κ) (g : Ghost κ)
    (wf : WF t.pages.get t.root t.next g) (k : κ) (v : Nat) :
    ∃ t' b, delete c t k v = (t', .found b) ∧ WF t'.pages.get t'.root t'.next g ∧
      (b, contents t'.pages.get g.L) = Multimap.delete k v (contents t.pages.get g.L) ∧
      ∀ B, Sized c B t.pages.get → Sized c B t'.pages.get := by
  obtain ⟨p, es, b, r, lo, hi, path, hd, hf⟩ := descend_root c hc t g wf k
  have hsorted := hf.sorted
  obtain ⟨A, B, hL⟩ := wf.mem_split hf.ghost
  obtain ⟨hcont, hA, hB, _⟩ := hf.around wf hL
  obtain ⟨bs, hbs, hspec⟩ := rustBinarySearch_spec (fun e : κ × Nat => pairCmp e k v) es (pairCmp_pat es k v hsorted)
  have hneA : ∀ e ∈ contents t.pages.get A, e ≠ (k, v) := by
    intro e he h; subst h; exact lt_irrefl k (hA _ he)
  have hneB : ∀ e ∈ contents t.pages.get B, e ≠ (k, v) := by
    intro e he h; subst h; exact lt_irrefl k (hB _ he)
  cases bs with
  | missing i =>
    refine ⟨t, false, by simp [delete, hd, hbs], wf, ?_, fun _ hsz => hsz⟩
    obtain ⟨_, h1, h2⟩ := hspec
    have hnone : Multimap.remove k v (contents t.pages.get g.L) = none := by
      apply mm_remove_none
      rw [hcont]
      intro e he
      rcases List.mem_append.mp he with he | he
      · rcases List.mem_append.mp he with he | he
        · exact hneA e he
        · intro h
          obtain ⟨j, hj⟩ := List.mem_iff_getElem?.mp he
          have heq : pairCmp e k v = .eq := (pairCmp_eq_iff e k v).mpr h
          by_cases hji : j < i
          · have := h1 j e hji hj; rw [heq] at this; cases this
          · have := h2 j e (Nat.le_of_not_lt hji) hj; rw [heq] at this; cases this
      · exact hneB e he
    simp [Multimap.delete, hnone]
  | found i =>
    obtain ⟨x, hx, hxe⟩ := hspec
    obtain ⟨hi', rfl⟩ := List.getElem?_eq_some_iff.mp hx
    have hxkv : es[i] = (k, v) := (pairCmp_eq_iff _ k v).mp hxe
    refine ⟨{ t with pages := t.pages.set p (.leaf (es.eraseIdx i) b r) }, true, by simp [delete, hd, hbs, hi'], ?_, ?_,
      fun B hsz => by rw [get_set_eq_upd]; exact Sized_upd hsz _ _ (SizedCells.erase (hsz p _ hf.page) i)⟩
    · simp only
      rw [get_set_eq_upd]
      apply WF_upd_leaf wf p lo hi es _ b b r hf.ghost hf.page
      · exact List.Pairwise.sublist (List.eraseIdx_sublist es i) hsorted
      · intro e he; exact hf.inRange e (List.mem_of_mem_eraseIdx he)
    · simp only
      rw [get_set_eq_upd, contents_upd_leaf wf p _ b r A B hL, hcont]
      have hsplit : es = es.take i ++ (k, v) :: es.drop (i + 1) := by
        rw [← hxkv]; simp
      have hbefore : ∀ e ∈ es.take i, e ≠ (k, v) := by
        intro e he h
        obtain ⟨j, hj, hje⟩ := List.mem_take_iff_getElem.mp he
        have hji : j < i := (Nat.lt_min.mp hj).1
        have := (List.pairwise_iff_getElem.mp hsorted) j i (Nat.lt_trans hji hi') hi' hji
        rw [hje, h, hxkv] at this
        exact lt_irrefl k this
      have hfound : Multimap.remove k v (contents t.pages.get A ++ es ++ contents t.pages.get B) =
          some (contents t.pages.get A ++ es.eraseIdx i ++ contents t.pages.get B) := by
        have e1 : contents t.pages.get A ++ es ++ contents t.pages.get B =
            (contents t.pages.get A ++ es.take i) ++ (k, v) :: (es.drop (i + 1) ++ contents t.pages.get B) := by
          conv => lhs; rw [hsplit]
          simp [List.append_assoc]
        rw [e1, mm_remove_found]
        · rw [List.eraseIdx_eq_take_drop_succ]; simp [List.append_assoc]
        · intro e he
          rcases List.mem_append.mp he with he | he
          · exact hneA e he
          · exact hbefore e he
      unfold Multimap.delete
      rw [hfound]

end Nervus.BTree
