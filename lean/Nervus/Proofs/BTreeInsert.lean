/-
  C26: insert with splits.  What a leaf split and an internal split do to the pages is a `SplitStep`
  (`leaf_split_step`, `int_split_step`).  `Pend` is the state insert_into_parent is called in: the tree with the
  pending cell already in the parent — or under a new root — is well formed.  It holds after a split step on the
  descent path (`pend_of_split`: the two instances of `split_below`), and again one level up after an internal
  split (`pend_step`).  The walks of the
  code that use them (`iip_run`, `insert_run`, `runFrom_run`) are in BTreeRun.
-/
import Nervus.Proofs.BTreeSplit
set_option linter.unusedSectionVars false
namespace Nervus.BTree
open Nervus KO

variable {κ : Type} [KeyOrd κ] [LawfulKeyOrd κ]

theorem kidsOf_append (lm rlm : Nat) (l r : List (κ × Nat)) (pk : κ) :
    kidsOf lm (l ++ (pk, rlm) :: r) = kidsOf lm l ++ kidsOf rlm r := by
  simp [kidsOf]

/-! ### the path is stable under changes below it -/

theorem PathOK_frame {pg pg' : Pg κ} {g g' : Ghost κ} {root : Nat} (hH : g'.H = g.H) :
    ∀ (path : List (Nat × Nat)) (child lvl : Nat),
      (∀ p l lo hi, g.G p = some (l, lo, hi) → lvl < l → g'.G p = g.G p ∧ pg' p = pg p) →
      PathOK pg g root child lvl path → PathOK pg' g' root child lvl path := by
  intro path
  induction path with
  | nil => intro child lvl _ h; exact ⟨h.1, by rw [hH]; exact h.2⟩
  | cons x xs ih =>
    obtain ⟨pid, pos⟩ := x
    intro child lvl hfr h
    obtain ⟨⟨lo, hi, lm, cells, b, hG, hp, hpos, hch⟩, hrest⟩ := h
    obtain ⟨e1, e2⟩ := hfr pid (lvl + 1) lo hi hG (Nat.lt_succ_self _)
    refine ⟨⟨lo, hi, lm, cells, b, by rw [e1]; exact hG, by rw [e2]; exact hp, hpos, hch⟩, ?_⟩
    exact ih pid (lvl + 1) (fun p l lo hi hp hl => hfr p l lo hi hp (Nat.lt_of_succ_lt hl)) hrest

/-! ### pending state of insert_into_parent -/

/-- what holds when insert_into_parent is called with (path, x, s, y): adding the cell (s, y) right
    after `x` in the page at the head of the path — or a new root above x and y — gives a
    well-formed tree.  `y` has been allocated already: `next` is one more than the `next` of the split step, and
    the new root will be page `next`. -/
def Pend (pg : Pg κ) (root next : Nat) (g : Ghost κ) : List (Nat × Nat) → Nat → Nat → κ → Nat → Prop
  | [], x, _, s, y =>
    x = root ∧ ∀ bb, WF (upd pg next (.internal x [(s, y)] bb)) next (next + 1)
      ⟨setG g.G next (g.H + 1, none, none), g.L, g.H + 1⟩
  | (pid, pos) :: rest, _, lvl, s, y =>
    ∃ lo hi lm cells b, g.G pid = some (lvl + 1, lo, hi) ∧ pg pid = some (.internal lm cells b) ∧
      pos ≤ cells.length ∧
      (∀ bb, WF (upd pg pid (.internal lm (cells.insertIdx pos (s, y)) bb)) root next g) ∧
      PathOK pg g root pid (lvl + 1) rest

theorem pend_of_split {pgV : Pg κ} {root next : Nat} {g : Ghost κ} (wf : WF pgV root next g)
    {x lvl : Nat} {a b : Option κ} {s : κ} {pgS : Pg κ} {L' : List Nat}
    (st : SplitStep pgV next g x lvl a b s pgS L') (path : List (Nat × Nat))
    (hpath : PathOK pgV g root x lvl path) :
    Pend pgS root (next + 1) ⟨splitG g.G x next lvl a b s, L', g.H⟩ path x lvl s next := by
  have hy := wf.next_unknown
  cases path with
  | nil =>
    -- `x` is the root: the split below a new root, page `next + 1`, which the ghost state does not know
    obtain ⟨hx, hl⟩ := hpath
    subst hx hl
    have h1 := wf.root
    rw [st.hx] at h1
    simp only [Option.some.injEq, Prod.mk.injEq, true_and] at h1
    obtain ⟨ha, hb⟩ := h1
    subst ha hb
    have hroot := wf.rng x g.H none none wf.root
    have hnew : g.G (next + 1) = none := by
      cases h : g.G (next + 1) with
      | none => rfl
      | some v => exact absurd (wf.rng _ v.1 v.2.1 v.2.2 h).2.1 (Nat.not_lt.2 (Nat.le_succ _))
    have hfuel : L'.length + (g.H + 1) ≤ next + 2 := by
      have := st.len
      have := wf.fuel
      omega
    refine ⟨rfl, fun bb => split_below (F := []) (Tl := []) wf (Nat.lt_succ_of_lt (Nat.lt_succ_self _)) (Nat.le_succ _)
      hfuel st bb (Nat.ne_of_gt (Nat.lt_succ_of_lt hroot.2.1)) (Nat.succ_ne_self _)
      ⟨⟨Nat.succ_pos _, Nat.lt_succ_self _, trivial⟩, Nat.le_refl _⟩
      (Or.inl hnew) (if_pos rfl) rfl (fun z hz => hz.elim nofun nofun)
      (List.nodup_cons.mpr ⟨nofun, List.nodup_nil⟩) ?_⟩
    -- the old root is nobody's kid
    intro q l lo hi _ hq c hc hcr
    obtain ⟨lo', hi', h⟩ := wf.kid_ghost q l lo hi hq c hc
    rw [List.mem_singleton.mp hcr, wf.root] at h
    cases h
    exact absurd (wf.lvl q _ lo hi hq) (Nat.not_succ_le_self _)
  | cons y ys =>
    -- the split below the parent `pid`, which keeps its ghost entry
    obtain ⟨pid, pos⟩ := y
    obtain ⟨⟨plo, phi, lm, cells, bb0, hpid, hpg, hpos, hchild⟩, hrest⟩ := hpath
    have hpy : pid ≠ next := ghost_ne_of_none hpid hy
    have hpx : pid ≠ x := ghost_ne_of_level hpid st.hx (Nat.succ_ne_self _)
    have hGpid : splitG g.G x next lvl a b s pid = some (lvl + 1, plo, phi) :=
      (splitG_other _ _ _ _ _ _ _ _ hpx hpy).trans hpid
    refine ⟨plo, phi, lm, cells, bb0, hGpid, (st.same pid hpx hpy).trans hpg, hpos, fun bb' => ?_, ?_⟩
    · obtain ⟨lm0, cells0, b0, hpg0, hkids, hnd⟩ := wf.int pid lvl plo phi hpid
      rw [hpg] at hpg0; cases hpg0
      obtain ⟨tail, hold, hnew⟩ := kidsR_at_prefix plo phi lm (cells.take pos) (cells.drop pos)
      have hnew := hnew s next
      rw [List.take_append_drop, hchild] at hold
      rw [← insertIdx_eq_take_drop _ _ _ hpos, hchild] at hnew
      have hxin := hkids (x, (endSt plo lm (cells.take pos)).1, hdKey (cells.drop pos) phi) (by rw [hold]; simp)
      rw [st.hx] at hxin
      simp only [Option.some.injEq, Prod.mk.injEq, true_and] at hxin
      rw [← hxin.1, ← hxin.2] at hold hnew
      generalize front plo lm (cells.take pos) = F at hold hnew
      have hkidsV : kidsOfPage pgV pid = F.map (·.1) ++ x :: tail.map (·.1) := by
        rw [kidsOfPage, hpg]; simp only; rw [← kidsR_map_fst plo phi lm, hold]; simp
      have hset : setG (splitG g.G x next lvl a b s) pid (lvl + 1, plo, phi) = splitG g.G x next lvl a b s := by
        funext q
        by_cases e : q = pid
        · rw [e, hGpid]; exact if_pos rfl
        · exact if_neg e
      have hr := wf.rng pid _ plo phi hpid
      have hroot : splitG g.G x next lvl a b s root = some (g.H, none, none) := by
        rw [splitG_other _ _ _ _ _ _ _ _ (ghost_ne_of_level wf.root st.hx (Nat.ne_of_gt (wf.lvl pid (lvl + 1) plo phi hpid)))
          (ghost_ne_of_none wf.root hy)]
        exact wf.root
      rw [← hset]
      exact split_below wf (Nat.lt_succ_self _) (Nat.le_refl _)
        (Nat.le_trans (Nat.add_le_add_right st.len _) (by rw [Nat.add_right_comm]; exact Nat.succ_le_succ wf.fuel)) st bb' hpx hpy
        ⟨⟨hr.1, Nat.lt_succ_of_lt hr.2.1, hr.2.2⟩, wf.lvl pid _ plo phi hpid⟩
        (Or.inr hpid) (by rw [hset]; exact hroot) hnew
        (fun z hz => hkids z (by
          rw [hold]
          exact hz.elim (List.mem_append_left _) fun h => List.mem_append_right _ (List.mem_cons_of_mem _ h)))
        (by rw [← hkidsV, kidsOfPage, hpg]; exact hnd)
        (fun q l lo hi hq hG c hc hcP => hq (wf.share q pid c l lo hi lvl plo phi hG hpid hc (hkidsV ▸ hcP)))
    · apply PathOK_frame (pg := pgV) (pg' := pgS) (g := g)
        (g' := ⟨splitG g.G x next lvl a b s, L', g.H⟩) rfl ys pid (lvl + 1) _ hrest
      intro p l lo' hi' hpg hl
      have n1 : p ≠ x := ghost_ne_of_level hpg st.hx (Nat.ne_of_gt (Nat.lt_of_succ_lt hl))
      have n2 : p ≠ next := ghost_ne_of_none hpg hy
      exact ⟨splitG_other _ _ _ _ _ _ _ _ n1 n2, st.same p n1 n2⟩

/-! ### the two kinds of split -/

theorem leaf_split_step {pg : Pg κ} {root next : Nat} {g : Ghost κ} (wf : WF pg root next g)
    {cur : Nat} {lo hi : Option κ} {es : List (κ × Nat)} {b r : Nat}
    (hG : g.G cur = some (0, lo, hi)) (hp : pg cur = some (.leaf es b r))
    {A B : List Nat} (hL : g.L = A ++ cur :: B)
    (entries : List (κ × Nat)) (hsorted : SSorted entries) (hin : ∀ e ∈ entries, bLo lo e.1 ∧ bHi e.1 hi)
    (mid : Nat) (sep : κ) (v0 : Nat) (rest' : List (κ × Nat)) (hdrop : entries.drop mid = (sep, v0) :: rest')
    (lb rb : Nat) :
      SplitStep pg next g cur 0 lo hi sep
        (upd (upd pg cur (.leaf (entries.take mid) lb next)) next (.leaf (entries.drop mid) rb r))
        (A ++ cur :: next :: B) ∧
      contents (upd (upd pg cur (.leaf (entries.take mid) lb next)) next (.leaf (entries.drop mid) rb r))
        (A ++ cur :: next :: B) = contents pg A ++ entries ++ contents pg B := by
  obtain ⟨p0, r', hsegA, hr, hn, hsegB, hpos⟩ := chain_split wf hG hL
  rw [rightOf, hp] at hr
  cases hr
  have hfresh := wf.next_unknown
  have hcn : cur ≠ next := ghost_ne_of_none hG hfresh
  have hsep_mem : (sep, v0) ∈ entries := List.mem_of_mem_drop (by rw [hdrop]; exact List.mem_cons_self ..)
  have hsplit : SSorted (entries.take mid ++ entries.drop mid) := by rw [List.take_append_drop]; exact hsorted
  obtain ⟨hs1, hs2, hs3⟩ := List.pairwise_append.mp hsplit
  have hnextL : next ∉ A ++ cur :: B := by
    intro hq
    obtain ⟨lo', hi', h⟩ := (wf.lmem next).mp (hL ▸ hq)
    rw [hfresh] at h; cases h
  obtain ⟨hcurA, hcurB⟩ := wf.notin_of_split hL
  have hnextA : next ∉ A := fun h => hnextL (List.mem_append_left _ h)
  have hnextB : next ∉ B := fun h => hnextL (List.mem_append_right _ (List.mem_cons_of_mem _ h))
  have hperm := perm_insert_after A B cur next
  generalize hpgS : upd (upd pg cur (.leaf (entries.take mid) lb next)) next (.leaf (entries.drop mid) rb r) = pgS
  have hS_cur : pgS cur = some (.leaf (entries.take mid) lb next) := by
    rw [← hpgS, upd_other _ _ _ _ hcn]; simp
  have hS_next : pgS next = some (.leaf (entries.drop mid) rb r) := by rw [← hpgS]; simp
  have hS_other : ∀ p, p ≠ cur → p ≠ next → pgS p = pg p := by
    intro p h1 h2; rw [← hpgS, upd_other _ _ _ _ h2, upd_other _ _ _ _ h1]
  have hS_list : ∀ X : List Nat, cur ∉ X → next ∉ X → ∀ q ∈ X, pgS q = pg q :=
    fun X h1 h2 q hq => hS_other q (fun e => h1 (e ▸ hq)) (fun e => h2 (e ▸ hq))
  refine ⟨
    { hx := hG, lo_le_sep := bLe_of_bLo (hin _ hsep_mem).1, sep_le_hi := bLe_of_bHi (hin _ hsep_mem).2,
      same := hS_other, leafc := ?_, intc := ?_, kidsub := ?_, kidsdisj := ?_,
      lnodup := hperm.nodup_iff.mpr (List.nodup_cons.mpr ⟨hnextL, hL ▸ wf.lnodup⟩), lmem := ?_,
      seg := ?_, len := by rw [hperm.length_eq, ← hL]; simp }, ?_⟩
  · intro _
    refine ⟨⟨_, lb, next, hS_cur, hs1, ?_⟩, ⟨_, rb, r, hS_next, hs2, ?_⟩⟩
    · intro e he
      refine ⟨(hin e (List.mem_of_mem_take he)).1, ?_⟩
      exact hs3 e he (sep, v0) (by rw [hdrop]; exact List.mem_cons_self ..)
    · intro e he
      refine ⟨?_, (hin e (List.mem_of_mem_drop he)).2⟩
      rw [hdrop] at he hs2
      rcases List.mem_cons.mp he with rfl | he
      · exact le_refl _
      · exact le_of_lt ((List.pairwise_cons.mp hs2).1 e he)
  · intro l hl; exact absurd hl.symm (Nat.succ_ne_zero _)
  · intro c hc
    rcases hc with hc | hc
    · simp [kidsOfPage, hS_cur] at hc
    · simp [kidsOfPage, hS_next] at hc
  · intro c hc; simp [kidsOfPage, hS_cur] at hc
  · intro q
    rw [hperm.mem_iff, List.mem_cons, ← hL]
    exact ⟨fun h => h.elim (fun e => Or.inr ⟨rfl, e⟩) Or.inl, fun h => h.elim Or.inr fun e => Or.inl e.2⟩
  · have hframe : ∀ X : List Nat, cur ∉ X → next ∉ X → ∀ q ∈ X,
        rightOf pgS q = rightOf pg q ∧ splitG g.G cur next 0 lo hi sep q = g.G q := by
      intro X h1 h2 q hq
      have n1 : q ≠ cur := fun e => h1 (e ▸ hq)
      have n2 : q ≠ next := fun e => h2 (e ▸ hq)
      exact ⟨by rw [rightOf, rightOf, hS_other q n1 n2], splitG_other _ _ _ _ _ _ _ _ n1 n2⟩
    have hA' := Seg_frame pg pgS g.G (splitG g.G cur next 0 lo hi sep) A (hframe A hcurA hnextA) p0 none cur lo hsegA
    have hB' := Seg_frame pg pgS g.G (splitG g.G cur next 0 lo hi sep) B (hframe B hcurB hnextB) r hi 0 none hsegB
    have hmid : Seg pgS (splitG g.G cur next 0 lo hi sep) cur lo (cur :: next :: B) 0 none := by
      refine ⟨rfl, hpos, some sep, next, splitG_x _ _ _ _ _ _ _ hcn, by simp [rightOf, hS_cur], by simp, ?_⟩
      have hnpos : 0 < next := Nat.zero_lt_of_lt (wf.rng cur 0 lo hi hG).2.1
      exact ⟨rfl, hnpos, hi, r, splitG_y _ _ _ _ _ _ _, by simp [rightOf, hS_next], hn, hB'⟩
    have hall : Seg pgS (splitG g.G cur next 0 lo hi sep) p0 none (A ++ cur :: next :: B) 0 none :=
      (Seg_append _ _ A _ p0 none 0 none).mpr ⟨cur, lo, hA', hmid⟩
    cases A with
    | nil => exact ⟨p0, next :: B, by rw [show p0 = cur from hsegA.1]; rfl, hall⟩
    | cons a0 A' => exact ⟨p0, A' ++ cur :: next :: B, by rw [show a0 = p0 from hsegA.1]; rfl, hall⟩
  · rw [contents_append, contents_cons, contents_cons, contents_congr (hS_list A hcurA hnextA),
      contents_congr (hS_list B hcurB hnextB), entriesOf_leaf hS_cur, entriesOf_leaf hS_next]
    simp only [List.append_assoc]
    rw [← List.append_assoc (List.take _ _), List.take_append_drop]

theorem int_split_step {pgV : Pg κ} {root next : Nat} {g : Ghost κ} (wf : WF pgV root next g)
    (x l : Nat) (a b : Option κ) (lm : Nat) (all : List (κ × Nat)) (bbv : Nat)
    (hG : g.G x = some (l + 1, a, b)) (hp : pgV x = some (.internal lm all bbv))
    (lcells rcells : List (κ × Nat)) (promote : κ) (rlm : Nat)
    (hall : all = lcells ++ (promote, rlm) :: rcells) (lb rb : Nat) :
    SplitStep pgV next g x (l + 1) a b promote
      (upd (upd pgV x (.internal lm lcells lb)) next (.internal rlm rcells rb)) g.L := by
  have hfresh := wf.next_unknown
  have hxn : x ≠ next := ghost_ne_of_none hG hfresh
  obtain ⟨lm0, all0, b0, hp0, hkids, hnd⟩ := wf.int x l a b hG
  rw [hp] at hp0; cases hp0
  have hninv : ∀ z ∈ kidsR a b lm all, bLe z.2.1 z.2.2 := fun z hz => (wf.rng z.1 l z.2.1 z.2.2 (hkids z hz)).2.2
  have hpm : (promote, rlm) ∈ all := by rw [hall]; simp
  have hsplitR : kidsR a b lm all = kidsR a (some promote) lm lcells ++ kidsR (some promote) b rlm rcells := by
    rw [hall]; exact kidsR_split a b lm lcells rcells promote rlm
  have hkidsA : kidsOf lm all = kidsOf lm lcells ++ kidsOf rlm rcells := by
    rw [hall]; exact kidsOf_append lm rlm lcells rcells promote
  rw [hkidsA] at hnd
  obtain ⟨nd1, nd2, nd3⟩ := List.nodup_append.mp hnd
  generalize hpgS : upd (upd pgV x (.internal lm lcells lb)) next (.internal rlm rcells rb) = pgS
  have hS_x : pgS x = some (.internal lm lcells lb) := by
    rw [← hpgS, upd_other _ _ _ _ hxn]; simp
  have hS_next : pgS next = some (.internal rlm rcells rb) := by rw [← hpgS]; simp
  have hS_other : ∀ p, p ≠ x → p ≠ next → pgS p = pgV p := by
    intro p h1 h2; rw [← hpgS, upd_other _ _ _ _ h2, upd_other _ _ _ _ h1]
  refine
    { hx := hG, lo_le_sep := bLe_of_bLo ((kidsR_bounds a b lm all hninv).2 _ hpm).1,
      sep_le_hi := ((kidsR_bounds a b lm all hninv).2 _ hpm).2,
      same := hS_other, leafc := ?_, intc := ?_, kidsub := ?_, kidsdisj := ?_, lnodup := wf.lnodup, lmem := ?_,
      seg := ?_, len := Nat.le_succ _ }
  · intro h; exact absurd h (Nat.succ_ne_zero _)
  · intro l' hl
    have : l' = l := (Nat.succ.inj hl).symm
    subst this
    refine ⟨⟨lm, lcells, lb, hS_x, ?_, nd1⟩, ⟨rlm, rcells, rb, hS_next, ?_, nd2⟩⟩
    · intro z hz; exact hkids z (by rw [hsplitR]; exact List.mem_append_left _ hz)
    · intro z hz; exact hkids z (by rw [hsplitR]; exact List.mem_append_right _ hz)
  · intro c hc
    simp only [kidsOfPage, hS_x, hS_next, hp] at hc ⊢
    rw [hkidsA]
    exact List.mem_append.mpr hc
  · intro c h1 h2
    simp only [kidsOfPage, hS_x] at h1
    simp only [kidsOfPage, hS_next] at h2
    exact nd3 c h1 c h2 rfl
  · exact fun p => ⟨Or.inl, fun h => h.elim id fun e => absurd e.1 (Nat.succ_ne_zero _)⟩
  · obtain ⟨p0, rest, hL, hseg⟩ := wf.seg
    refine ⟨p0, rest, hL, ?_⟩
    apply Seg_frame pgV _ g.G _ g.L _ p0 none 0 none hseg
    intro q hq
    obtain ⟨lo, hi, h⟩ := (wf.lmem q).mp hq
    have n1 : q ≠ x := ghost_ne_of_level h hG (Nat.succ_ne_zero _).symm
    have n2 : q ≠ next := ghost_ne_of_none h hfresh
    exact ⟨by simp [rightOf, hS_other q n1 n2], splitG_other _ _ _ _ _ _ _ _ n1 n2⟩

/-! ### allocation, and the recursion of insert_into_parent -/

theorem alloc_cases (c : Cfg) (t : Tree κ) :
    (alloc c t = none ∧ c.maxPages ≤ t.next) ∨
    (alloc c t = some (t.next, { t with next := t.next + 1 }) ∧ t.next < c.maxPages) := by
  unfold alloc
  split
  · exact Or.inl ⟨rfl, by assumption⟩
  · exact Or.inr ⟨rfl, Nat.lt_of_not_le ‹_›⟩

theorem alloc_eq_some {c : Cfg} {t t1 : Tree κ} {nr : Nat} :
    alloc c t = some (nr, t1) ↔ t.next < c.maxPages ∧ nr = t.next ∧ t1 = { t with next := t.next + 1 } := by
  rcases alloc_cases c t with ⟨h, hf⟩ | ⟨h, hf⟩ <;> rw [h]
  · exact ⟨fun h => (nomatch h), fun h => absurd h.1 (Nat.not_lt.mpr hf)⟩
  · simp [hf, eq_comm]

/-- the state insert_into_parent recurses in after an internal split of `pid`, which would hold the cells `all` -/
theorem pend_step (t : Tree κ) (g : Ghost κ) (pid : Nat) (rest : List (Nat × Nat)) (lvl : Nat) (lo hi : Option κ)
    (lm : Nat) (all : List (κ × Nat)) (hG : g.G pid = some (lvl + 1, lo, hi))
    (hwf : ∀ bb, WF (upd t.pages.get pid (.internal lm all bb)) t.root t.next g)
    (hpath : PathOK t.pages.get g t.root pid (lvl + 1) rest)
    (promote : κ) (rlm : Nat) (rc : List (κ × Nat)) (hd : all.drop (all.length / 2) = (promote, rlm) :: rc)
    (lb rb : Nat) :
    Pend ((t.pages.set pid (.internal lm (all.take (all.length / 2)) lb)).set t.next (.internal rlm rc rb)).get
      t.root (t.next + 1) ⟨splitG g.G pid t.next (lvl + 1) lo hi promote, g.L, g.H⟩ rest pid (lvl + 1) promote t.next := by
  -- the hypothetical tree with all cells in `pid`
  have wfV := hwf 0
  have hall : all = all.take (all.length / 2) ++ (promote, rlm) :: rc := by
    rw [← hd, List.take_append_drop]
  have st := int_split_step wfV pid lvl lo hi lm all 0 hG (by simp) _ rc promote rlm hall lb rb
  have hpathV : PathOK (upd t.pages.get pid (.internal lm all 0)) g t.root pid (lvl + 1) rest := by
    apply PathOK_frame (pg := t.pages.get) (g := g) (g' := g) rfl rest pid (lvl + 1) _ hpath
    intro p l lo' hi' hpg hll
    exact ⟨rfl, upd_other _ _ _ _ (ghost_ne_of_level hpg hG (Nat.ne_of_gt hll))⟩
  have hpend2 := pend_of_split wfV st rest hpathV
  rw [upd_upd_same] at hpend2
  rw [get_set_eq_upd, get_set_eq_upd]
  exact hpend2

end Nervus.BTree
