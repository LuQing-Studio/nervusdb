/-
  C26: BTree::insert and histories.  The insert path is walked ONCE per level — `iip_run` (insert_into_parent),
  `insert_run` (BTree::insert), `runFrom_run` (histories): when the outcome is Ok the tree is well formed with the spec's
  contents, and on a sized tree under the fit condition (BTreeSized) the outcome is Ok unless the page ids run out; both are
  halves of one statement.  Before them: the outcomes the spec prescribes (`allOk`, `specOuts`), the empty tree
  (`create_wf`).
-/
import Nervus.Proofs.BTreeInsert
import Nervus.Proofs.BTreeSized
set_option linter.unusedSectionVars false
namespace Nervus.BTree
open Nervus KO

variable {κ : Type} [KeyOrd κ] [LawfulKeyOrd κ]

/-- no op of the history ended in err / panic / loop -/
def allOk : List Out → Bool
  | [] => true
  | .ok :: os => allOk os
  | .found _ :: os => allOk os
  | _ :: _ => false

def specOut (m : Multimap.MM κ) : Multimap.Op κ → Out
  | .insert _ _ => .ok
  | .delete k p => .found (Multimap.delete k p m).1

def specOuts : Multimap.MM κ → List (Multimap.Op κ) → List Out
  | _, [] => []
  | m, op :: ops => specOut m op :: specOuts (Multimap.step m op) ops

theorem create_wf (c : Cfg) (hfp : 0 < c.firstPage) :
    ∃ g, WF (create c : Tree κ).pages.get (create c : Tree κ).root (create c : Tree κ).next g ∧
      contents (create c : Tree κ).pages.get g.L = [] := by
  -- the ghost state knows one page: the root leaf, responsible for every key
  have hG : ∀ (p : Nat) (v : Nat × Option κ × Option κ),
      (if p = c.firstPage then some (0, none, none) else none) = some v → p = c.firstPage ∧ v = (0, none, none) := by
    intro p v h
    split at h
    · next e => cases h; exact ⟨e, rfl⟩
    · cases h
  have hpage : (create c : Tree κ).pages.get c.firstPage = some (.leaf [] c.ps 0) := by
    simp [create, PageMap.get]
  refine ⟨⟨fun p => if p = c.firstPage then some (0, none, none) else none, [c.firstPage], 0⟩, ?_, ?_⟩
  · refine
      { root := if_pos rfl, rng := ?_, lvl := ?_, int := ?_, leaf := ?_, share := ?_, lnodup := by simp,
        lmem := ?_, seg := ?_, fuel := by simp [create] }
    · intro p l lo hi h
      obtain ⟨rfl, hv⟩ := hG _ _ h
      cases hv
      exact ⟨hfp, Nat.lt_succ_self _, trivial⟩
    · intro p l lo hi h
      cases (hG _ _ h).2
      exact Nat.le_refl _
    · intro p l lo hi h
      cases (hG _ _ h).2
    · intro p lo hi h
      obtain ⟨rfl, hv⟩ := hG _ _ h
      cases hv
      exact ⟨[], c.ps, 0, hpage, List.Pairwise.nil, fun e he => by cases he⟩
    · intro p1 p2 c' l1 lo1 hi1 l2 lo2 hi2 h1
      cases (hG _ _ h1).2
    · intro p
      rw [List.mem_singleton]
      exact ⟨fun hp => ⟨none, none, if_pos hp⟩, fun ⟨lo, hi, h⟩ => (hG _ _ h).1⟩
    · refine ⟨c.firstPage, [], rfl, rfl, hfp, none, 0, if_pos rfl, ?_, fun _ => rfl, rfl, rfl⟩
      rw [rightOf, hpage]
  · simp [contents, entriesOf, hpage]

/-! ### the insert path, walked once

Each level has ONE theorem: what the operation returns from a state that meets its precondition, what holds when
the outcome is Ok (the tree is well formed, with the spec's contents), and what the fit condition adds on a sized tree
(the outcome is Ok and the tree stays sized, or Err because the page ids are used up — never a panic). -/

/-- insert_into_parent, called in a pending state; it touches no leaf, so the contents stay. -/
theorem iip_run (c : Cfg) : ∀ (path : List (Nat × Nat)) (t : Tree κ) (g : Ghost κ) (x lvl : Nat) (s : κ)
    (y : Nat), Pend t.pages.get t.root t.next g path x lvl s y →
    ∃ t' o, insertIntoParent c t path x s y = (t', o) ∧ (∀ b, o ≠ .found b) ∧
      (o = .ok → ∃ g', WF t'.pages.get t'.root t'.next g' ∧ contents t'.pages.get g'.L = contents t.pages.get g.L) ∧
      (∀ B, FitCfg c B → Sized c B t.pages.get → Good c B s →
        (o = .ok ∧ Sized c B t'.pages.get) ∨ (o = .err ∧ c.maxPages ≤ t'.next)) := by
  intro path
  induction path with
  | nil =>
    intro t g x lvl s y hpend
    obtain ⟨hx, hwf⟩ := hpend
    simp only [insertIntoParent]
    rcases alloc_cases c t with ⟨ha, hfull⟩ | ⟨ha, _⟩ <;> simp only [ha]
    · exact ⟨t, .err, rfl, nofun, nofun, fun _ _ _ _ => Or.inr ⟨rfl, hfull⟩⟩
    cases hi : intInsertAt c ([] : List (κ × Nat)) c.ps 0 s y with
    | none =>
      refine ⟨_, .err, rfl, nofun, nofun, fun B fc _ hs => ?_⟩
      -- one cell fits an empty page
      have hfit := one_int_fits c B fc s hs
      have : intInsertAt c ([] : List (κ × Nat)) c.ps 0 s y = some ([(s, y)], c.ps - intCellLen c s) :=
        cellInsertAt_eq_some.mpr ⟨by rw [fc.slack]; simpa using hfit, Nat.zero_le _, by omega, rfl⟩
      rw [hi] at this; cases this
    | some r =>
      obtain ⟨cells, b⟩ := r
      have hc := cellInsertAt_cells hi
      simp only [List.insertIdx_zero] at hc
      subst hc
      have wf' := hwf b
      refine ⟨_, .ok, rfl, nofun, fun _ => ⟨⟨setG g.G t.next (g.H + 1, none, none), g.L, g.H + 1⟩, ?_,
        contents_congr fun p hp => ?_⟩, fun B fc hsz hs => Or.inl ⟨rfl, ?_⟩⟩ <;> simp only <;> rw [get_set_eq_upd]
      · exact wf'
      · refine upd_other _ _ _ _ fun e => ?_
        obtain ⟨lo, hi, hh⟩ := (wf'.lmem p).mp hp
        simp [setG, e] at hh
      · exact Sized_upd hsz _ _ (SizedCells.insert (e := (s, y)) (es := []) fc.slack hi
          ⟨by simpa using fc.hi, by simp [wsum], fun e he => by cases he⟩ hs)
  | cons pp rest ih =>
    obtain ⟨pid, pos⟩ := pp
    intro t g x lvl s y hpend
    obtain ⟨lo, hi, lm, cells, b, hG, hp, hpos, hwf, hpath⟩ := hpend
    have hleafne : ∀ p ∈ g.L, p ≠ pid ∧ p ≠ t.next := by
      intro p hpL
      have wf0 := hwf b
      obtain ⟨lo', hi', hh⟩ := (wf0.lmem p).mp hpL
      exact ⟨ghost_ne_of_level hh hG (Nat.succ_ne_zero _).symm, ghost_ne_of_none hh wf0.next_unknown⟩
    simp only [insertIntoParent, hp]
    cases hi' : intInsertAt c cells b pos s y with
    | some r =>
      obtain ⟨cells', b'⟩ := r
      have hc := cellInsertAt_cells hi'
      simp only at hc
      subst hc
      refine ⟨_, .ok, rfl, nofun, fun _ => ⟨g, ?_, contents_congr fun p hpL => ?_⟩,
        fun B fc hsz hs => Or.inl ⟨rfl, ?_⟩⟩ <;> simp only <;> rw [get_set_eq_upd]
      · exact hwf b'
      · exact upd_other _ _ _ _ (hleafne p hpL).1
      · exact Sized_upd hsz _ _ (SizedCells.insert (e := (s, y)) fc.slack hi' (hsz pid _ hp) hs)
    | none =>
      simp only [if_neg (Nat.not_lt.mpr hpos)]
      -- under the fit condition the halves are not empty and are rebuilt
      have hfit := fun (B : Bounds) (fc : FitCfg c B) (hsz : Sized c B t.pages.get) (hs : Good c B s) =>
        rebuildInternal_ok fc (hsz pid _ hp) hpos (x := (s, y)) hs
      cases hd : (cells.insertIdx pos (s, y)).drop ((cells.insertIdx pos (s, y)).length / 2) with
      | nil => exact ⟨_, .panic, rfl, nofun, nofun, fun B fc hsz hs => absurd hd (hfit B fc hsz hs).1⟩
      | cons pr rcells =>
        obtain ⟨promote, rlm⟩ := pr
        simp only
        rcases alloc_cases c t with ⟨ha, hfull⟩ | ⟨ha, _⟩ <;> simp only [ha]
        · exact ⟨t, .err, rfl, nofun, nofun, fun _ _ _ _ => Or.inr ⟨rfl, hfull⟩⟩
        cases hl : rebuildInternal c ((cells.insertIdx pos (s, y)).take ((cells.insertIdx pos (s, y)).length / 2)) with
        | none =>
          refine ⟨_, .err, rfl, nofun, nofun, fun B fc hsz hs => ?_⟩
          have := ((hfit B fc hsz hs).2.2 _ lm (Or.inl (List.Sublist.refl _))).1
          rw [hl] at this; cases this
        | some rl =>
          obtain ⟨lc, lb⟩ := rl
          cases hr : rebuildInternal c rcells with
          | none =>
            refine ⟨_, .err, rfl, nofun, nofun, fun B fc hsz hs => ?_⟩
            have := ((hfit B fc hsz hs).2.2 rcells rlm (Or.inr (hd ▸ List.sublist_cons_self ..))).1
            rw [hr] at this; cases this
          | some rr =>
            obtain ⟨rc, rb⟩ := rr
            simp only
            have hlc := rebuildInternal_eq c _ _ hl
            have hrc := rebuildInternal_eq c _ _ hr
            simp only at hlc hrc
            subst hlc hrc
            obtain ⟨t', o, hrun, hnf, h1, h2⟩ := ih
              ⟨(t.pages.set pid (.internal lm _ lb)).set t.next (.internal rlm rc rb), t.root, t.next + 1⟩
              _ pid (lvl + 1) promote t.next
              (pend_step t g pid rest lvl lo hi lm _ hG hwf hpath promote rlm rc hd lb rb)
            simp only [get_set_eq_upd] at h1 h2
            refine ⟨t', o, hrun, hnf, fun ho => ?_, fun B fc hsz hs => ?_⟩
            · obtain ⟨g', wf', hcont⟩ := h1 ho
              refine ⟨g', wf', hcont.trans (contents_congr fun p hpL => ?_)⟩
              rw [upd_other _ _ _ _ (hleafne p hpL).2, upd_other _ _ _ _ (hleafne p hpL).1]
            · obtain ⟨_, hgood, hreb⟩ := hfit B fc hsz hs
              have hl2 := hreb _ lm (Or.inl (List.Sublist.refl _))
              have hr2 := hreb rc rlm (Or.inr (hd ▸ List.sublist_cons_self ..))
              rw [hl] at hl2; rw [hr] at hr2
              cases hl2.1; cases hr2.1
              exact h2 B fc (Sized_upd (Sized_upd hsz _ _ hl2.2) _ _ hr2.2)
                (hgood (promote, rlm) (List.mem_of_mem_drop (hd ▸ List.mem_cons_self ..)))

theorem insert_run (c : Cfg) (hc : c.Std) (t : Tree κ) (g : Ghost κ)
    (wf : WF t.pages.get t.root t.next g) (k : κ) (v : Nat)
    (hfresh : Multimap.hasKey k (contents t.pages.get g.L) = false) :
    ∃ t' o, insert c t k v = (t', o) ∧ (∀ b, o ≠ .found b) ∧
      (o = .ok → ∃ g', WF t'.pages.get t'.root t'.next g' ∧
        contents t'.pages.get g'.L = Multimap.insert k v (contents t.pages.get g.L)) ∧
      (∀ B, FitCfg c B → Sized c B t.pages.get → Good c B k →
        (o = .ok ∧ Sized c B t'.pages.get) ∨ (o = .err ∧ c.maxPages ≤ t'.next)) := by
  obtain ⟨p, es, b, r, lo, hi, path, hd, hf⟩ := descend_root c hc t g wf k
  obtain ⟨idx, hidx, hle, hbefore, hafter⟩ := leafLowerBound_spec c hc es hf.sorted.weak k
  simp only [insert, hd, hidx]
  cases hins : leafInsertAt c es b idx k v with
  | some r' =>
    obtain ⟨es', b'⟩ := r'
    obtain rfl : es' = es.insertIdx idx (k, v) := cellInsertAt_cells hins
    obtain ⟨h1, h2⟩ := hf.insert_nosplit wf hfresh v hle hbefore hafter b'
    refine ⟨_, .ok, rfl, nofun, fun _ => ⟨g, h1, h2⟩, fun B fc hsz hk => Or.inl ⟨rfl, ?_⟩⟩
    simp only [get_set_eq_upd]
    exact Sized_upd hsz _ _ (SizedCells.insert (e := (k, v)) fc.slack hins (hsz p _ hf.page) hk)
  | none =>
    obtain ⟨A, B, hL⟩ := wf.mem_split hf.ghost
    have hnokey : ∀ e ∈ es, e.1 ≠ k := fun e he => mm_hasKey_false k _ hfresh e (by
      rw [(hf.around wf hL).1]; exact List.mem_append_left _ (List.mem_append_right _ he))
    obtain ⟨i, hbs, hile, hb, hafter⟩ := kcmp_search es k hf.sorted hnokey
    obtain ⟨hs', hin', hspec⟩ := hf.insert_slot wf hfresh hL v hile hb (fun e he => le_of_lt (hafter e he))
    simp only [hbs, BS.pos]
    have hfit := fun (B : Bounds) (fc : FitCfg c B) (hsz : Sized c B t.pages.get) (hk : Good c B k) =>
      rebuildLeaf_ok fc (hsz p _ hf.page) hile (x := (k, v)) hk
    cases hdrop : (es.insertIdx i (k, v)).drop ((es.insertIdx i (k, v)).length / 2) with
    | nil => exact ⟨_, .panic, rfl, nofun, nofun, fun B fc hsz hk => absurd hdrop (hfit B fc hsz hk).1⟩
    | cons sv rest' =>
      obtain ⟨sep, v0⟩ := sv
      simp only
      rcases alloc_cases c t with ⟨ha, hfull⟩ | ⟨ha, _⟩ <;> simp only [ha]
      · exact ⟨t, .err, rfl, nofun, nofun, fun _ _ _ _ => Or.inr ⟨rfl, hfull⟩⟩
      cases hrr : rebuildLeaf c ((sep, v0) :: rest') with
      | none =>
        refine ⟨_, .panic, rfl, nofun, nofun, fun B fc hsz hk => ?_⟩
        have := ((hfit B fc hsz hk).2.2 ((sep, v0) :: rest') r (Or.inr (hdrop ▸ List.Sublist.refl _))).1
        rw [hrr] at this; cases this
      | some rr =>
        obtain ⟨re, rb⟩ := rr
        cases hrl : rebuildLeaf c ((es.insertIdx i (k, v)).take ((es.insertIdx i (k, v)).length / 2)) with
        | none =>
          refine ⟨_, .panic, rfl, nofun, nofun, fun B fc hsz hk => ?_⟩
          have := ((hfit B fc hsz hk).2.2 _ t.next (Or.inl (List.Sublist.refl _))).1
          rw [hrl] at this; cases this
        | some rl =>
          obtain ⟨le, lb⟩ := rl
          simp only
          have hre := rebuildLeaf_eq c _ _ hrr
          have hle' := rebuildLeaf_eq c _ _ hrl
          simp only at hre hle'
          subst hre hle'
          -- the two leaves are a split step; insert_into_parent is called in the pending state it leaves
          obtain ⟨st, hcont⟩ := leaf_split_step wf hf.ghost hf.page hL _ hs' hin' _ sep v0 rest' hdrop lb rb
          have hpend := pend_of_split wf st path hf.path
          rw [hdrop, ← get_set_eq_upd, ← get_set_eq_upd] at hpend hcont
          obtain ⟨t', o, hrun, hnf, h1, h2⟩ := iip_run c path
            ⟨(t.pages.set p (.leaf _ lb t.next)).set t.next (.leaf ((sep, v0) :: rest') rb r), t.root, t.next + 1⟩
            _ p 0 sep t.next hpend
          refine ⟨t', o, hrun, hnf, fun ho => ?_, fun B fc hsz hk => ?_⟩
          · obtain ⟨g', wf', hsame⟩ := h1 ho
            exact ⟨g', wf', by rw [hsame, hcont, hspec]⟩
          · obtain ⟨_, _, hreb⟩ := hfit B fc hsz hk
            have hr2 := hreb ((sep, v0) :: rest') r (Or.inr (hdrop ▸ List.Sublist.refl _))
            have hl2 := hreb _ t.next (Or.inl (List.Sublist.refl _))
            rw [hrr] at hr2; rw [hrl] at hl2
            cases hr2.1; cases hl2.1
            refine h2 B fc ?_ (hr2.2.2.2 (sep, v0) (List.mem_cons_self ..))
            simp only [get_set_eq_upd]
            exact Sized_upd (Sized_upd hsz _ _ hl2.2) _ _ hr2.2

/-! ### next_page_id never decreases -/

theorem iip_next_mono (c : Cfg) (path : List (Nat × Nat)) (t : Tree κ) (x : Nat) (s : κ) (y : Nat) :
    t.next ≤ (insertIntoParent c t path x s y).1.next := by
  fun_induction insertIntoParent c t path x s y <;> simp_all +zetaDelta [alloc_eq_some] <;> omega

theorem insert_next_mono (c : Cfg) (t : Tree κ) (k : κ) (v : Nat) : t.next ≤ (insert c t k v).1.next := by
  fun_cases insert c t k v <;> simp_all +zetaDelta [alloc_eq_some]
  exact Nat.le_of_succ_le (iip_next_mono c _ (Tree.mk _ t.root (t.next + 1)) _ _ _)

theorem delete_next (c : Cfg) (t : Tree κ) (k : κ) (v : Nat) : (delete c t k v).1.next = t.next := by
  fun_cases delete c t k v <;> simp_all

theorem runFrom_next_mono (c : Cfg) : ∀ (ops : List (Multimap.Op κ)) (t : Tree κ), t.next ≤ (runFrom c t ops).1.next
  | [], t => Nat.le_refl _
  | op :: ops, t => by
    simp only [runFrom]
    have h1 : t.next ≤ (step c t op).1.next := by
      cases op with
      | insert k v => exact insert_next_mono c t k v
      | delete k v => simp only [step]; rw [delete_next]; exact Nat.le_refl _
    exact Nat.le_trans h1 (runFrom_next_mono c ops _)

def goodOps (c : Cfg) (B : Bounds) (ops : List (Multimap.Op κ)) : Prop :=
  ∀ k p, Multimap.Op.insert k p ∈ ops → Good c B k

/-- the fit half asks for room in the FINAL state: `next_page_id` never decreases, so an allocate_page
    that failed on the way shows there. -/
theorem runFrom_run (c : Cfg) (hc : c.Std) : ∀ (ops : List (Multimap.Op κ)) (t : Tree κ) (g : Ghost κ),
    WF t.pages.get t.root t.next g → Multimap.distinctKeys (contents t.pages.get g.L) ops = true →
    (allOk (runFrom c t ops).2 = true →
      ∃ g', WF (runFrom c t ops).1.pages.get (runFrom c t ops).1.root (runFrom c t ops).1.next g' ∧
        contents (runFrom c t ops).1.pages.get g'.L = ops.foldl Multimap.step (contents t.pages.get g.L) ∧
        (runFrom c t ops).2 = specOuts (contents t.pages.get g.L) ops) ∧
    (∀ B, FitCfg c B → Sized c B t.pages.get → goodOps c B ops → (runFrom c t ops).1.next < c.maxPages →
      allOk (runFrom c t ops).2 = true) := by
  intro ops
  induction ops with
  | nil => intro t g wf _; exact ⟨fun _ => ⟨g, wf, rfl, rfl⟩, fun _ _ _ _ _ => rfl⟩
  | cons op ops ih =>
    intro t g wf hdist
    cases op with
    | insert k v =>
      simp only [Multimap.distinctKeys, Bool.and_eq_true, Bool.not_eq_true'] at hdist
      obtain ⟨hfresh, hdist'⟩ := hdist
      obtain ⟨t1, o, hins, hnf, h1, h2⟩ := insert_run c hc t g wf k v hfresh
      simp only [runFrom, step, hins]
      have hgood' := fun B (hgood : goodOps c B (.insert k v :: ops)) k p h => hgood k p (List.mem_cons_of_mem _ h)
      cases o with
      | ok =>
        obtain ⟨g1, wf1, hc1⟩ := h1 rfl
        obtain ⟨ih1, ih2⟩ := ih t1 g1 wf1 (hc1 ▸ hdist')
        refine ⟨fun hok => ?_, fun B fc hsz hgood hroom => ?_⟩
        · obtain ⟨g', wf', hcont, houts⟩ := ih1 hok
          exact ⟨g', wf', by rw [hcont, hc1]; rfl, by rw [houts, hc1]; rfl⟩
        · rcases h2 B fc hsz (hgood k v (List.mem_cons_self ..)) with ⟨_, hsz1⟩ | ⟨h, _⟩
          · exact ih2 B fc hsz1 (hgood' B hgood) hroom
          · cases h
      | found b => exact absurd rfl (hnf b)
      | err =>
        refine ⟨fun hok => by simp [allOk] at hok, fun B fc hsz hgood hroom => ?_⟩
        rcases h2 B fc hsz (hgood k v (List.mem_cons_self ..)) with ⟨h, _⟩ | ⟨_, hfull⟩
        · cases h
        · have := runFrom_next_mono c ops t1
          omega
      | panic | loop =>
        refine ⟨fun hok => by simp [allOk] at hok, fun B fc hsz hgood hroom => ?_⟩
        rcases h2 B fc hsz (hgood k v (List.mem_cons_self ..)) with ⟨h, _⟩ | ⟨h, _⟩ <;> cases h
    | delete k v =>
      simp only [Multimap.distinctKeys] at hdist
      obtain ⟨t1, b, hdel, wf1, hspec, hsz1⟩ := delete_spec c hc t g wf k v
      have hb : b = (Multimap.delete k v (contents t.pages.get g.L)).1 := by rw [← hspec]
      have hc1 : contents t1.pages.get g.L = (Multimap.delete k v (contents t.pages.get g.L)).2 := by rw [← hspec]
      obtain ⟨ih1, ih2⟩ := ih t1 g wf1 (hc1 ▸ hdist)
      simp only [runFrom, step, hdel, allOk]
      refine ⟨fun hok => ?_, fun B fc hsz hgood hroom => ?_⟩
      · obtain ⟨g', wf', hcont, houts⟩ := ih1 hok
        exact ⟨g', wf', by rw [hcont, hc1]; rfl, by rw [houts, hc1, hb]; rfl⟩
      · exact ih2 B fc (hsz1 B hsz) (fun k p h => hgood k p (List.mem_cons_of_mem _ h)) hroom

theorem create_sized (c : Cfg) (B : Bounds) (fc : FitCfg c B) : Sized c B (create c : Tree κ).pages.get := by
  intro p n hp
  simp only [create, PageMap.get] at hp
  split at hp
  · cases hp
    exact ⟨by simpa using fc.hl, by simp [wsum], fun e he => by cases he⟩
  · cases hp

end Nervus.BTree
