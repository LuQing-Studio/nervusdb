/-
  C28: vacuum's mark phase SUCCEEDS on a well-formed database.
  The worklist fails in three ways — a page does not pass vacuum's check for the role it is read in,
  a blob page is popped when it is already marked, the fuel runs out.  On a database that is typed,
  whose reachable pages pass their checks and in which every blob page is referenced once, none of
  them happens; the fuel needed is (number of roots) + (number of page references in the file): marking a page
  moves its references from those still to come (`futureOf`) onto the worklist (`futureOf_mark`), so
  |worklist| + |futureOf| goes down with every iteration, and a blob node counted once over both stays so.
-/
import Nervus.Proofs.Vacuum
namespace Nervus.Vacuum
open Nervus

/-- the pages of the file with their type -/
def univ (d : Db) (τ : Nat → Role) : List Node := d.pages.map (fun x => (x.1, τ x.1))

/-- references that will still be pushed: successors of the pages not yet marked -/
def futureOf (f : Node → List Node) (U done : List Node) : List Node :=
  (U.filter (fun n => !done.contains n)).flatMap f

theorem futureOf_mark (f : Node → List Node) {U done : List Node} {n : Node} (hU : U.Nodup) (hn : n ∉ done)
    (hf : n ∉ U → f n = []) : (futureOf f U done).Perm (f n ++ futureOf f U (n :: done)) := by
  have hF : (U.filter fun u => !(n :: done).contains u) = (U.filter fun u => !done.contains u).filter (· != n) := by
    rw [List.filter_filter]
    exact List.filter_congr fun u _ => by rw [List.contains_cons, Bool.not_or]; rfl
  unfold futureOf
  rw [hF]
  generalize hFd : (U.filter fun u => !done.contains u) = F
  have hFn : F.Nodup := hFd ▸ List.Pairwise.filter _ hU
  by_cases hm : n ∈ F
  · rw [← hFn.erase_eq_filter n]
    exact (List.perm_cons_erase hm).flatMap_right f
  · have hnU : n ∉ U := fun h => hm (hFd ▸ List.mem_filter.mpr ⟨h, by simpa using hn⟩)
    rw [hf hnU, List.filter_eq_self.mpr fun u hu => by simpa using fun e : u = n => hm (e ▸ hu)]
    exact List.Perm.refl _

structure Markable (L : Layout) (d : Db) (τ : Nat → Role) : Prop where
  typed : Typed L d τ
  keys : (d.pages.map (·.1)).Nodup
  checks : ∀ n, Reach (succV L d) (fixed ++ roots L d) n → checkV L n.2 (d.pages.get n.1) = .ok ()
  /-- every blob page is referenced once: among the roots and all page references of the file -/
  blobOnce : ∀ x : Node, x.2 = Role.blob →
    List.count x (roots L d) + List.count x (futureOf (succV L d) (univ d τ) []) ≤ 1

theorem univ_nodup (d : Db) (τ : Nat → Role) (h : (d.pages.map (·.1)).Nodup) : (univ d τ).Nodup := by
  unfold univ
  have : (d.pages.map (fun x => (x.1, τ x.1))) = (d.pages.map (·.1)).map (fun p => (p, τ p)) := by
    simp [List.map_map]
  rw [this]
  exact List.Pairwise.map _ (fun a b hab e => hab (Prod.mk.inj e).1) h

theorem succ_nil_of_notin (L : Layout) (d : Db) (τ : Nat → Role) (n : Node) (ht : τ n.1 = n.2)
    (h : n ∉ univ d τ) : succV L d n = [] := by
  have : n.1 ∉ d.pages.map (·.1) := by
    intro hm
    obtain ⟨x, hx, hxe⟩ := List.mem_map.mp hm
    apply h
    unfold univ
    refine List.mem_map.mpr ⟨x, hx, ?_⟩
    rw [hxe, ht]
  simp only [succV, BTree.PageMap.get_none_of_notin _ _ this, succOf_none]

/-- the loop invariant: the worklist invariant from the roots; no blob node is pending twice, pending and
    marked, or pending and still to be referenced -/
structure LoopInv (L : Layout) (d : Db) (τ : Nat → Role) (work done : List Node) : Prop where
  mark : MarkInv L d (fixed ++ roots L d) work done
  blob : ∀ x : Node, x.2 = Role.blob →
    List.count x work + List.count x (futureOf (succV L d) (univ d τ) done) + (if x ∈ done then 1 else 0) ≤ 1

theorem markLoop_succeeds (L : Layout) (d : Db) (τ : Nat → Role) (mk : Markable L d τ) :
    ∀ (fuel : Nat) (work done : List Node), LoopInv L d τ work done →
      work.length + (futureOf (succV L d) (univ d τ) done).length ≤ fuel →
      ∃ res, markLoop L d fuel work done = .ok res
  | 0, [], done, _, _ => ⟨done, rfl⟩
  | 0, _ :: _, done, _, hf => by simp at hf
  | f + 1, [], done, _, _ => ⟨done, rfl⟩
  | f + 1, n :: work, done, inv, hf => by
    have hreach := inv.mark.reach n (Or.inr (List.mem_cons_self ..))
    have htyped : τ n.1 = n.2 := typed_reach L d τ mk.typed n hreach
    simp only [markLoop]
    by_cases hs : seenPage done n.1 = true
    · simp only [hs, if_true]
      obtain ⟨r, hr⟩ := (seenPage_iff done n.1).mp hs
      -- the page was marked in the role it is popped in, since both are the page's type
      have hmem : n ∈ done := by
        have := typed_reach L d τ mk.typed _ (inv.mark.reach _ (Or.inl hr))
        simp only at this
        rw [show n = (n.1, r) by rw [← this, htyped]]; exact hr
      by_cases hb : n.2 = Role.blob
      · -- a blob pending while already marked contradicts the invariant
        have := inv.blob n hb
        simp only [List.count_cons, beq_self_eq_true, if_true, hmem] at this
        omega
      · simp only [hb, if_false]
        refine markLoop_succeeds L d τ mk f work done ⟨inv.mark.skip hs, fun x hx => ?_⟩
          (by simp only [List.length_cons] at hf; omega)
        have := inv.blob x hx
        have hne : ¬ (n == x) = true := by
          intro e; have := eq_of_beq e; subst this; exact hb hx
        simp only [List.count_cons, hne] at this
        simpa using this
    · simp only [hs]
      rw [mk.checks n hreach]
      simp only
      have hnd : n ∉ done := fun hm => hs ((seenPage_iff done n.1).mpr ⟨n.2, hm⟩)
      have hp := futureOf_mark (succV L d) (univ_nodup d τ mk.keys) hnd (succ_nil_of_notin L d τ n htyped)
      refine markLoop_succeeds L d τ mk f (succV L d n ++ work) (n :: done) ⟨inv.mark.push, fun x hx => ?_⟩ ?_
      · have := inv.blob x hx
        rw [hp.count_eq] at this
        simp only [List.count_cons, List.count_append, List.mem_cons] at this ⊢
        by_cases e : n = x
        · subst e
          simp only [beq_self_eq_true, if_true, hnd, if_false, true_or] at this ⊢
          omega
        · have hne : ¬ (n == x) = true := fun h => e (eq_of_beq h)
          have hne' : ¬ x = n := fun h => e h.symm
          simp only [hne, hne', false_or] at this ⊢
          omega
      · rw [hp.length_eq] at hf
        simp only [List.length_cons, List.length_append] at hf ⊢
        omega

theorem mark_succeeds (L : Layout) (d : Db) (τ : Nat → Role) (mk : Markable L d τ) (fuel : Nat)
    (hf : (roots L d).length + (futureOf (succV L d) (univ d τ) []).length ≤ fuel) :
    ∃ keep, mark L d fuel = .ok keep := by
  -- the two fixed pages reference nothing, so marking them first leaves the pending references as they are
  have hfix : (futureOf (succV L d) (univ d τ) []).Perm (futureOf (succV L d) (univ d τ) fixed) :=
    (futureOf_mark (succV L d) (n := (1, Role.i2e)) (univ_nodup d τ mk.keys) (by simp) fun _ => rfl).trans
      (futureOf_mark (succV L d) (n := (0, Role.i2e)) (univ_nodup d τ mk.keys) (by simp) fun _ => rfl)
  have inv0 : LoopInv L d τ (roots L d) fixed := by
    refine ⟨MarkInv.init L d, fun x hx => ?_⟩
    have h1 := mk.blobOnce x hx
    rw [hfix.count_eq] at h1
    have h3 : x ∉ fixed := by
      intro hm
      simp only [fixed, List.mem_cons, List.not_mem_nil, or_false] at hm
      rcases hm with e | e <;> (rw [e] at hx; cases hx)
    simp only [h3, if_false]
    omega
  obtain ⟨res, hres⟩ := markLoop_succeeds L d τ mk fuel (roots L d) fixed inv0 (hfix.length_eq ▸ hf)
  exact ⟨res.map (·.1), by simp [mark, hres]⟩

theorem reach_mem_refs (L : Layout) (d : Db) (τ : Nat → Role) (ht : Typed L d τ) :
    ∀ n, Reach (succV L d) (fixed ++ roots L d) n →
      n ∈ fixed ++ roots L d ++ (univ d τ).flatMap (succV L d) := by
  intro n hn
  cases hn with
  | root hr => exact List.mem_append_left _ hr
  | step hm hs =>
    rename_i m
    apply List.mem_append_right
    have hmt := typed_reach L d τ ht m hm
    by_cases hu : m ∈ univ d τ
    · exact List.mem_flatMap.mpr ⟨m, hu, hs⟩
    · rw [succ_nil_of_notin L d τ m hmt hu] at hs; cases hs

/-- the conditions of `Markable` as checks over the finitely many pages and references of the file -/
theorem markable_of_refs (L : Layout) (d : Db) (τ : Nat → Role) (ht : Typed L d τ)
    (hk : (d.pages.map (·.1)).Nodup)
    (hc : ∀ n ∈ fixed ++ roots L d ++ (univ d τ).flatMap (succV L d), checkV L n.2 (d.pages.get n.1) = .ok ())
    (hb : ∀ x ∈ roots L d ++ (univ d τ).flatMap (succV L d), x.2 = Role.blob →
      List.count x (roots L d ++ (univ d τ).flatMap (succV L d)) ≤ 1) : Markable L d τ := by
  refine ⟨ht, hk, fun n hn => hc n (reach_mem_refs L d τ ht n hn), ?_⟩
  intro x hx
  have hfut : futureOf (succV L d) (univ d τ) [] = (univ d τ).flatMap (succV L d) := by
    simp only [futureOf, List.contains_nil, Bool.not_false, List.filter_eq_self.mpr fun _ _ => rfl]
  rw [hfut, ← List.count_append]
  by_cases hm : x ∈ roots L d ++ (univ d τ).flatMap (succV L d)
  · exact hb x hm hx
  · rw [List.count_eq_zero.mpr hm]; exact Nat.zero_le _

end Nervus.Vacuum
