/-
  Proofs.CrashNodes — applying created nodes to the node table (`IdMap::apply_create_node`, used by
  commit and by recovery): after every prefix of its I/O steps, every power-loss image of the page
  file holds a prefix of the node list that recovery completes from the log.  One node is a chain of
  `Hoare` blocks over the classes `NG … k` (`nodeA_safe`); the whole phase, with what it leaves in
  memory, is `nodes_phase`.
-/
import Nervus.Proofs.CrashRep
import Nervus.Proofs.CrashPager
namespace Nervus.Crash

/-! ### the class of page-file images during node-table updates -/

structure Frame (p0 p : PImg) : Prop where
  segs : p.segs = p0.segs
  trees : p.trees = p0.trees
  cat : p.cat = p0.cat
  idx : p.idx = p0.idx
  init : p.hdr.init = p0.hdr.init
  catRoot : p.hdr.catRoot = p0.hdr.catRoot
  len : p0.len ≤ p.len
  nextPage : p0.hdr.nextPage ≤ p.hdr.nextPage
  bm : p0.bm ≤ p.bm

theorem Frame.refl (p : PImg) : Frame p p := ⟨rfl, rfl, rfl, rfl, rfl, rfl, Nat.le_refl _, Nat.le_refl _, Nat.le_refl _⟩

theorem Frame.store {p0 p : PImg} {T : List Tx} {cs : List CTx} (f : Frame p0 p) (h : StoreOK T cs p0) : StoreOK T cs p where
  segs := by intro k hk; simpa [segFind, f.segs] using h.segs k hk
  segKeys := by
    intro s hs; rw [f.segs] at hs
    exact ⟨Nat.lt_of_lt_of_le (h.segKeys s hs).1 f.nextPage, Nat.lt_of_lt_of_le (h.segKeys s hs).2 f.bm⟩
  treeKeys := by
    intro t ht; rw [f.trees] at ht
    exact ⟨Nat.lt_of_lt_of_le (h.treeKeys t ht).1 f.nextPage, Nat.lt_of_lt_of_le (h.treeKeys t ht).2 f.bm⟩
  edges := by
    have : segEdges p = segEdges p0 := by funext k; simp [segEdges, segFind, f.segs]
    intro e; rw [this]; exact h.edges e
  runProps := h.runProps
  props := by
    obtain ⟨cov, h1, h2, h3⟩ := h.props
    exact ⟨cov, h1, h2, fun hne => by simpa [treeFind, f.trees] using h3 hne⟩

theorem Frame.booted {p0 p : PImg} (f : Frame p0 p) (b : Booted p0) : Booted p where
  init := by rw [f.init]; exact b.init
  len := Nat.le_trans b.len f.len
  nextPage := Nat.le_trans b.nextPage f.nextPage
  bm := Nat.le_trans b.bm f.bm
  catRoot := by rw [f.catRoot]; exact b.catRoot
  cat := by rw [f.cat, f.idx]; exact b.cat

/-- node-table class: at most `k` nodes are counted, and the first `k` slots hold the first `k`
    nodes of `N` wherever they are looked at -/
structure NG (N : List Nat) (c : Nat) (p0 : PImg) (k : Nat) (p : PImg) : Prop where
  frame : Frame p0 p
  start : p.hdr.i2eStart = 0 → p.hdr.i2eLen = 0
  lo : c ≤ p.hdr.i2eLen
  hi : p.hdr.i2eLen ≤ k
  slots : ∀ i, i < k → getSlot p.i2e i = getSlot N i

theorem NG.pagerOK {N : List Nat} {c k : Nat} {p0 p : PImg} (h : NG N c p0 k p) (b : Booted p0)
    (hk : k ≤ N.length) : PagerOK N c p where
  booted := h.frame.booted b
  start := h.start
  lo := h.lo
  hi := Nat.le_trans h.hi hk
  slots := fun i hi => h.slots i (Nat.lt_of_lt_of_le hi h.hi)

/-- a meta page content that the node-table code may write while `k` slots are in place -/
structure OKhdr (c : Nat) (p0 : PImg) (k : Nat) (pm : Meta) : Prop where
  init : pm.init = p0.hdr.init
  catRoot : pm.catRoot = p0.hdr.catRoot
  start : pm.i2eStart = 0 → pm.i2eLen = 0
  lo : c ≤ pm.i2eLen
  hi : pm.i2eLen ≤ k
  nextPage : p0.hdr.nextPage ≤ pm.nextPage

/-- steps that cannot take a page-file image out of `NG … k` -/
def HStep (c : Nat) (p0 : PImg) (k : Nat) : Step → Prop
  | .pg (.setLen _) _ => True
  | .pg (.bitmap top) _ => p0.bm ≤ top
  | .pg .stats _ => True
  | .pg (.hdr pm) _ => OKhdr c p0 k pm
  | .pg (.slot j _) _ => k ≤ j
  | .ps => True
  | _ => False

theorem hstep_torn {c k : Nat} {p0 p : PImg} {e e' : PEff} {pid : Nat} (hs : HStep c p0 k (.pg e pid))
    (h : tornEff p e = some e') : e' = e := by
  cases e <;> simp only [HStep] at hs <;> simp [tornEff] at h
  all_goals first | exact h.symm | exact h.2.symm

theorem ng_applyEff {N : List Nat} {c k : Nat} {p0 p : PImg} {e : PEff} {pid : Nat}
    (h : NG N c p0 k p) (hs : HStep c p0 k (.pg e pid)) : NG N c p0 k (applyEff e p) := by
  have hf := h.frame
  cases e <;> simp only [HStep] at hs
  case setLen n =>
    exact ⟨⟨hf.segs, hf.trees, hf.cat, hf.idx, hf.init, hf.catRoot,
      Nat.le_trans hf.len (Nat.le_max_left _ _), hf.nextPage, hf.bm⟩, h.start, h.lo, h.hi, h.slots⟩
  case bitmap top =>
    exact ⟨⟨hf.segs, hf.trees, hf.cat, hf.idx, hf.init, hf.catRoot, hf.len, hf.nextPage, hs⟩, h.start, h.lo, h.hi, h.slots⟩
  case stats => exact h
  case hdr pm =>
    exact ⟨⟨hf.segs, hf.trees, hf.cat, hf.idx, hs.init, hs.catRoot, hf.len, hs.nextPage, hf.bm⟩,
      hs.start, hs.lo, hs.hi, h.slots⟩
  case slot j x =>
    refine ⟨⟨hf.segs, hf.trees, hf.cat, hf.idx, hf.init, hf.catRoot, hf.len, hf.nextPage, hf.bm⟩,
      h.start, h.lo, h.hi, ?_⟩
    intro i hi
    show getSlot (setSlot p.i2e j x) i = _
    rw [getSlot_setSlot_ne _ _ _ _ (by omega)]
    exact h.slots i hi

theorem hstep_pagerStep {c k : Nat} {p0 : PImg} {s : Step} (h : HStep c p0 k s) : PagerStep s := by
  cases s <;> simp [HStep] at h <;> trivial

theorem pagerActs_start (ps : PS) (id : IdSt) : PagerActs (startA ps id).1 := by
  unfold startA
  split
  · exact (((pagerActs_alloc ps).append (pagerActs_single_mem _)).append (pagerActs_flush _ _)).append (pagerActs_single_mem _)
  · exact pagerActs_nil

theorem pagerActs_node (cfg : Cfg) (ps : PS) (id : IdSt) (x : Nat) : PagerActs (nodeA cfg ps id x).1 :=
  (((((((((pagerActs_start ps id).append (pagerActs_ensure _ _)).append (pagerActs_pg _ _)).append
    (pagerActs_ite (l := [ioA .ps]) (by intro a ha; simp at ha; subst ha; trivial))).append
    ((pagerActs_single_mem _).append (pagerActs_single_mem _))).append (pagerActs_flush _ _)).append
    (pagerActs_single_mem _)).append (pagerActs_flush _ _)).append (pagerActs_single_mem _))

theorem OKhdr.sameKey {c k : Nat} {p0 : PImg} {a b : Meta} (h : OKhdr c p0 k a) (s : SameKey a b) :
    OKhdr c p0 k b :=
  ⟨s.init.trans h.init, s.catRoot.trans h.catRoot, by rw [s.start, s.len]; exact h.start,
    by rw [s.len]; exact h.lo, by rw [s.len]; exact h.hi, Nat.le_trans h.nextPage s.np⟩

structure HBlock (c : Nat) (p0 : PImg) (k : Nat) (acts : List Action) : Prop where
  nofail : failOf acts = none
  steps : ∀ s ∈ ioSteps acts, HStep c p0 k s

theorem HBlock.append {c k : Nat} {p0 : PImg} {a b : List Action} (ha : HBlock c p0 k a) (hb : HBlock c p0 k b) :
    HBlock c p0 k (a ++ b) where
  nofail := by rw [failOf_append, ha.nofail]; simpa using hb.nofail
  steps := by
    rw [ioSteps_append_noFail _ _ ha.nofail]
    intro s hs
    rcases List.mem_append.mp hs with h | h
    · exact ha.steps s h
    · exact hb.steps s h

theorem HBlock.mem {c k : Nat} {p0 : PImg} (u : MemUpd) : HBlock c p0 k [memA u] :=
  ⟨rfl, by simp [ioSteps]⟩

theorem HBlock.nil {c k : Nat} {p0 : PImg} : HBlock c p0 k [] := ⟨rfl, by simp [ioSteps]⟩

/-- nothing that matters is unsynced; the in-memory meta page and bitmap are those of the file or
    ahead of them in the allocation frontier only (after a failed allocation) -/
def SyncedI (fs : FS) (ps : PS) : Prop := Inert fs.pj ∧ SameKey fs.pd.hdr ps.pm ∧ fs.pd.bm ≤ ps.bm

structure NodeSt (c : Nat) (p0 : PImg) (k : Nat) (ps : PS) (id : IdSt) : Prop where
  pm : OKhdr c p0 k ps.pm
  len : ps.pm.i2eLen = k
  idl : id.len = k
  ids : id.start = ps.pm.i2eStart
  np : 1 ≤ ps.pm.nextPage
  bm : p0.bm ≤ ps.bm

theorem NodeSt.sameKey {c k : Nat} {p0 : PImg} {ps ps' : PS} {id : IdSt} (h : NodeSt c p0 k ps id)
    (hs : SameKey ps.pm ps'.pm) (hb : ps.bm ≤ ps'.bm) : NodeSt c p0 k ps' id :=
  ⟨h.pm.sameKey hs, by rw [hs.len, h.len], h.idl, by rw [hs.start, h.ids], Nat.le_trans h.np hs.np, Nat.le_trans h.bm hb⟩

/-- Where node application starts, in the terms of its callers: the files `g` hold the node table `p0`
    of `N` with nothing that matters unsynced, the scratch is at most ahead of it in the allocation
    frontier.  `N'` is the list to be completed (`N` itself in recovery, `N` with the new nodes in commit). -/
theorem NG.enter {N N' : List Nat} {c : Nat} {g : FS} {p0 : PImg} {ps : PS} {id : IdSt} (hp : PagerOK N c p0)
    (hN : ∀ i, i < p0.hdr.i2eLen → getSlot N' i = getSlot N i) (hpj : Inert g.pj) (hpd : g.pd = p0)
    (hpm : SameKey p0.hdr ps.pm) (hbm : p0.bm ≤ ps.bm) (hil : id.len = p0.hdr.i2eLen) (his : id.start = p0.hdr.i2eStart) :
    AllImgs g (NG N' c p0 p0.hdr.i2eLen) ∧ SyncedI g ps ∧ NodeSt c p0 p0.hdr.i2eLen ps id := by
  subst hpd
  exact ⟨allImgs_of_inert g _ hpj
      ⟨Frame.refl _, hp.start, hp.lo, Nat.le_refl _, fun i hi => (hp.slots i hi).trans (hN i hi).symm⟩,
    ⟨hpj, hpm, hbm⟩,
    ⟨OKhdr.sameKey ⟨rfl, rfl, hp.start, hp.lo, Nat.le_refl _, Nat.le_refl _⟩ hpm, hpm.len, hil, his.trans hpm.start.symm,
      Nat.le_trans (Nat.le_trans (by decide) hp.booted.nextPage) hpm.np, hbm⟩⟩

theorem startA_bm (ps : PS) (id : IdSt) : ps.bm ≤ (startA ps id).2.1.bm := by
  unfold startA
  split
  · exact allocA_bm ps
  · exact Nat.le_refl _

theorem nodeA_bm (cfg : Cfg) (ps : PS) (id : IdSt) (x : Nat) : ps.bm ≤ (nodeA cfg ps id x).2.1.bm :=
  Nat.le_trans (startA_bm ps id) (ensureA_form (startA ps id).2.1 (startA ps id).2.2).2

theorem nodesA_bm (cfg : Cfg) : ∀ (xs : List Nat) (ps : PS) (id : IdSt), ps.bm ≤ (nodesA cfg ps id xs).2.1.bm
  | [], _, _ => Nat.le_refl _
  | x :: xs, ps, id => Nat.le_trans (nodeA_bm cfg ps id x) (nodesA_bm cfg xs (nodeA cfg ps id x).2.1 (nodeA cfg ps id x).2.2)

theorem ng_slot_succ {N : List Nat} {c k : Nat} {p0 p : PImg} (h : NG N c p0 k p) :
    NG N c p0 (k + 1) (applyEff (.slot k (getSlot N k)) p) := by
  refine ⟨⟨h.frame.segs, h.frame.trees, h.frame.cat, h.frame.idx, h.frame.init, h.frame.catRoot, h.frame.len,
    h.frame.nextPage, h.frame.bm⟩, h.start, h.lo, Nat.le_succ_of_le h.hi, ?_⟩
  intro i hi
  show getSlot (setSlot p.i2e k _) i = _
  by_cases hik : i = k
  · subst hik; rw [getSlot_setSlot_eq]
  · rw [getSlot_setSlot_ne _ _ _ _ hik]; exact h.slots i (by omega)

/-! ### the node table phase as blocks -/

theorem ng_closed (N : List Nat) (c : Nat) (p0 : PImg) (k : Nat) : ClosedUnder (NG N c p0 k) (fun e => HStep c p0 k (.pg e 0)) :=
  ⟨fun h he => ng_applyEff h he, fun he ht => hstep_torn he ht ▸ he⟩

theorem NG.safe {N : List Nat} {c k : Nat} {p0 : PImg} (b0 : Booted p0) (hk : k ≤ N.length) (p : PImg) (h : NG N c p0 k p) :
    PagerOK N c p ∧ Frame p0 p := ⟨h.pagerOK b0 hk, h.frame⟩

theorem startA_safe {N : List Nat} {c k : Nat} {p0 : PImg} {ps ps0 : PS} {id : IdSt} (b0 : Booted p0) (hk : k ≤ N.length)
    (h : NodeSt c p0 k ps id) :
    (∃ ps1, Hoare .keeps (fun p => PagerOK N c p ∧ Frame p0 p) (NG N c p0 k) (Cache (fun _ => True) ps0) (startA ps id).1
      (NG N c p0 k) (Cache (fun _ => True) ps1)) ∧
    NodeSt c p0 k (startA ps id).2.1 { id with start := (startA ps id).2.2 } ∧ (startA ps id).2.2 ≠ 0 := by
  have s := NG.safe (N := N) (c := c) b0 hk
  unfold startA
  split
  · rename_i hs
    obtain ⟨hpid, _, hsk, hbm, _, _⟩ := allocA_form ps
    have h' := h.sameKey hsk hbm
    have hlen0 : (allocA ps).2.1.pm.i2eLen = 0 := by rw [hsk.len]; exact h.pm.start (h.ids ▸ hs)
    have hok : OKhdr c p0 k { (allocA ps).2.1.pm with i2eStart := (allocA ps).2.2 } :=
      ⟨h'.pm.init, h'.pm.catRoot, fun _ => hlen0, h'.pm.lo, h'.pm.hi, h'.pm.nextPage⟩
    refine ⟨⟨_, ((((Hoare.alloc (ng_closed N c p0 k) s ps (fun _ => trivial) h'.pm h'.bm fun _ _ _ h => h).seq
        (Hoare.mem s _)).seq
        (Hoare.flush (ng_closed N c p0 k) s s hok h'.bm (fun _ _ _ h => h) fun _ hx _ _ _ => hx)).seq
        (Hoare.mem s _)).toKeeps⟩, ⟨hok, h'.len, h.idl, rfl, h'.np, h'.bm⟩, ?_⟩
    rw [hpid]; have := h.np; have := h.bm; have := b0.bm; omega
  · rename_i hs
    exact ⟨⟨_, Hoare.nil s⟩, ⟨h.pm, h.len, h.idl, h.ids, h.np, h.bm⟩, hs⟩

/-- Class `k` admits the write of slot `k` (`HStep`: slots `≥ k` are free) and `V'` records it; at the
    sync that follows (`cfg.syncSlot`: the `pager.sync()` between slot and `i2e_len` in idmap.rs) the
    class moves to `k + 1`, and only there may a meta page count the node. -/
theorem nodeA_safe {cfg : Cfg} {N : List Nat} {c k : Nat} {p0 : PImg} {ps ps0 : PS} {id : IdSt} (b0 : Booted p0)
    (hsync : cfg.syncSlot = true) (h : NodeSt c p0 k ps id) (hk : k < N.length) (hck : c ≤ k) :
    Hoare .syncs (fun p => PagerOK N c p ∧ Frame p0 p) (NG N c p0 k) (Cache (fun _ => True) ps0)
      (nodeA cfg ps id (getSlot N k)).1 (NG N c p0 (k + 1)) (Cache (fun _ => True) (nodeA cfg ps id (getSlot N k)).2.1) ∧
    NodeSt c p0 (k + 1) (nodeA cfg ps id (getSlot N k)).2.1 (nodeA cfg ps id (getSlot N k)).2.2 := by
  obtain rfl := h.idl
  obtain ⟨⟨ps1, h0⟩, st0, ne0⟩ := startA_safe (N := N) (ps0 := ps0) b0 (Nat.le_of_lt hk) h
  obtain ⟨sk1, bm1⟩ := ensureA_form (startA ps id).2.1 (startA ps id).2.2
  have st1 := st0.sameKey sk1 bm1
  have hok1 : OKhdr c p0 (id.len + 1) { (ensureA (startA ps id).2.1 (startA ps id).2.2).2.pm with i2eLen := id.len + 1 } :=
    ⟨st1.pm.init, st1.pm.catRoot, fun h0 => absurd (st1.ids.trans h0) ne0, Nat.le_succ_of_le hck, Nat.le_refl _, st1.pm.nextPage⟩
  have hok2 : OKhdr c p0 (id.len + 1) { (ensureA (startA ps id).2.1 (startA ps id).2.2).2.pm with
      i2eLen := id.len + 1, nextInt := id.len + 1 } := hok1.sameKey ⟨rfl, rfl, rfl, rfl, Nat.le_refl _⟩
  have s := NG.safe (N := N) (c := c) b0 (Nat.le_of_lt hk)
  have s' := NG.safe (N := N) (c := c) b0 (Nat.succ_le_of_lt hk)
  unfold nodeA
  simp only [hsync, if_true]
  refine ⟨?_, ⟨hok2, rfl, rfl, st1.ids, st1.np, st1.bm⟩⟩
  exact ((((((((h0.seq
    (Hoare.ensure (ng_closed N c p0 id.len) s _ _ (fun _ => trivial) st1.pm st1.bm fun _ _ _ h => h)).seq
    (Hoare.pg (ng_closed N c p0 id.len) s (e := .slot id.len (getSlot N id.len)) (Nat.le_refl id.len) _
      (V' := fun q => NG N c p0 (id.len + 1) q ∧ Cache (fun _ => True) (ensureA (startA ps id).2.1 (startA ps id).2.2).2 q)
      fun _ hx hv => ⟨ng_slot_succ hx, hv⟩)).seq
    (Hoare.sync s s' fun _ _ hv => hv)).seq
    ((Hoare.mem s' _).seq (Hoare.mem s' _))).seq
    (Hoare.flush (ng_closed N c p0 (id.len + 1)) s' s' hok1 st1.bm (fun _ _ _ h => h) fun _ hx _ _ _ => hx)).seq
    (Hoare.mem s' _)).seq
    (Hoare.flush (ng_closed N c p0 (id.len + 1)) s' s' hok2 st1.bm (fun _ _ _ h => h) fun _ hx _ _ _ => hx)).seq
    (Hoare.mem s' _))

theorem getSlot_of_drop : ∀ (N : List Nat) (k x : Nat) (t : List Nat), N.drop k = x :: t →
    getSlot N k = x ∧ k < N.length ∧ N.drop (k + 1) = t
  | [], k, x, t, h => by simp at h
  | y :: ys, 0, x, t, h => by
    simp at h
    exact ⟨h.1, by simp, by simp [h.2]⟩
  | y :: ys, k + 1, x, t, h => by
    have := getSlot_of_drop ys k x t (by simpa using h)
    exact ⟨by simpa [getSlot] using this.1, by simp; omega, by simpa using this.2.2⟩

theorem nodesA_cons (cfg : Cfg) (ps : PS) (id : IdSt) (x : Nat) (xs : List Nat) :
    nodesA cfg ps id (x :: xs) = ((nodeA cfg ps id x).1 ++ (nodesA cfg (nodeA cfg ps id x).2.1 (nodeA cfg ps id x).2.2 xs).1,
      (nodesA cfg (nodeA cfg ps id x).2.1 (nodeA cfg ps id x).2.2 xs).2) := rfl

/-! ### memory side of node application -/

def IdUpd : MemUpd → Prop
  | .setPm _ => True
  | .setIdStart _ => True
  | .incIdLen => True
  | .pushExt _ => True
  | .setBm _ => True
  | _ => False

def lastStart : List MemUpd → Nat → Nat
  | [], d => d
  | .setIdStart p :: l, _ => lastStart l p
  | _ :: l, d => lastStart l d

def countInc : List MemUpd → Nat
  | [] => 0
  | .incIdLen :: l => countInc l + 1
  | _ :: l => countInc l

def pushed : List MemUpd → List Nat
  | [] => []
  | .pushExt x :: l => x :: pushed l
  | _ :: l => pushed l

theorem foldl_idUpd (l : List MemUpd) (h : ∀ u ∈ l, IdUpd u) (m : Mem) :
    l.foldl applyUpd m =
      { m with pm := lastPm l m.pm, bm := lastBm l m.bm, idStart := lastStart l m.idStart,
               idLen := m.idLen + countInc l, exts := m.exts ++ pushed l } := by
  induction l generalizing m with
  | nil => simp [lastPm, lastBm, lastStart, countInc, pushed]
  | cons u l ih =>
    have hu := h u (by simp)
    have hl : ∀ u ∈ l, IdUpd u := fun u hu => h u (by simp [hu])
    cases u <;> simp only [IdUpd] at hu <;>
      simp [List.foldl, ih hl, applyUpd, lastPm, lastBm, lastStart, countInc, pushed] <;> omega

theorem lastStart_append (a b : List MemUpd) (d : Nat) : lastStart (a ++ b) d = lastStart b (lastStart a d) := by
  induction a generalizing d with
  | nil => rfl
  | cons u a ih => cases u <;> simp [lastStart, ih]

theorem countInc_append (a b : List MemUpd) : countInc (a ++ b) = countInc a + countInc b := by
  induction a with
  | nil => simp [countInc]
  | cons u a ih => cases u <;> simp [countInc, ih] <;> omega

theorem pushed_append (a b : List MemUpd) : pushed (a ++ b) = pushed a ++ pushed b := by
  induction a with
  | nil => rfl
  | cons u a ih => cases u <;> simp [pushed, ih]

theorem OnlySetPm.facts {l : List MemUpd} (h : OnlySetPm l) :
    (∀ u ∈ l, IdUpd u) ∧ (∀ d, lastStart l d = d) ∧ countInc l = 0 ∧ pushed l = [] := by
  induction l with
  | nil => simp [lastStart, countInc, pushed]
  | cons u l ih =>
    obtain ⟨h1, h2, h3, h4⟩ := ih (fun u hu => h u (by simp [hu]))
    rcases h u (by simp) with ⟨pm, rfl⟩ | ⟨b, rfl⟩
    all_goals
      refine ⟨?_, ?_, ?_, ?_⟩
      · intro u hu
        rcases List.mem_cons.mp hu with rfl | hu
        · trivial
        · exact h1 u hu
      · intro d; simp [lastStart, h2]
      · simp [countInc, h3]
      · simp [pushed, h4]

structure MemFacts (l : List MemUpd) (pm0 pm' : Meta) (st0 st' : Nat) (n : Nat) (xs : List Nat) (b0 b' : Nat) : Prop where
  idupd : ∀ u ∈ l, IdUpd u
  pm : lastPm l pm0 = pm'
  start : lastStart l st0 = st'
  inc : countInc l = n
  push : pushed l = xs
  bm : lastBm l b0 = b'

theorem MemFacts.append {a b : List MemUpd} {pm0 pm1 pm2 : Meta} {s0 s1 s2 n1 n2 : Nat} {x1 x2 : List Nat} {b0 b1 b2 : Nat}
    (ha : MemFacts a pm0 pm1 s0 s1 n1 x1 b0 b1) (hb : MemFacts b pm1 pm2 s1 s2 n2 x2 b1 b2) :
    MemFacts (a ++ b) pm0 pm2 s0 s2 (n1 + n2) (x1 ++ x2) b0 b2 where
  bm := by rw [lastBm_append, ha.bm, hb.bm]
  idupd := by
    intro u hu
    rcases List.mem_append.mp hu with h | h
    · exact ha.idupd u h
    · exact hb.idupd u h
  pm := by rw [lastPm_append, ha.pm, hb.pm]
  start := by rw [lastStart_append, ha.start, hb.start]
  inc := by rw [countInc_append, ha.inc, hb.inc]
  push := by rw [pushed_append, ha.push, hb.push]

theorem OnlySetPm.memFacts {l : List MemUpd} (h : OnlySetPm l) (pm0 : Meta) (st b0 : Nat) :
    MemFacts l pm0 (lastPm l pm0) st st 0 [] b0 (lastBm l b0) :=
  ⟨h.facts.1, rfl, h.facts.2.1 st, h.facts.2.2.1, h.facts.2.2.2, rfl⟩

theorem memFacts_startA (ps : PS) (id : IdSt) :
    MemFacts (memUpds (startA ps id).1) ps.pm (startA ps id).2.1.pm id.start (startA ps id).2.2 0 [] ps.bm (startA ps id).2.1.bm := by
  unfold startA
  split
  · have hnf := (pagerActs_alloc ps).facts.1
    have hmu : memUpds ((allocA ps).1 ++ [memA (.setPm { (allocA ps).2.1.pm with i2eStart := (allocA ps).2.2 })]
        ++ flushA { (allocA ps).2.1.pm with i2eStart := (allocA ps).2.2 } (allocA ps).2.1.bm ++ [memA (.setIdStart (allocA ps).2.2)]) =
        memUpds (allocA ps).1 ++ [.setPm { (allocA ps).2.1.pm with i2eStart := (allocA ps).2.2 }, .setIdStart (allocA ps).2.2] := by
      simp [memUpds_append_noFail, hnf, memUpds, flushA]
    rw [hmu]
    have := ((onlySetPm_alloc ps).memFacts ps.pm id.start ps.bm).append
      (⟨by intro u hu; simp at hu; rcases hu with rfl | rfl <;> trivial, rfl, rfl, rfl, rfl, rfl⟩ :
        MemFacts [.setPm { (allocA ps).2.1.pm with i2eStart := (allocA ps).2.2 }, .setIdStart (allocA ps).2.2]
          _ { (allocA ps).2.1.pm with i2eStart := (allocA ps).2.2 } id.start (allocA ps).2.2 0 [] _ _)
    rwa [lastBm_alloc] at this
  · exact ⟨fun _ h => absurd h List.not_mem_nil, rfl, rfl, rfl, rfl, rfl⟩

theorem memFacts_nodeA (cfg : Cfg) (ps : PS) (id : IdSt) (x : Nat) :
    MemFacts (memUpds (nodeA cfg ps id x).1) ps.pm (nodeA cfg ps id x).2.1.pm id.start
      (nodeA cfg ps id x).2.2.start 1 [x] ps.bm (nodeA cfg ps id x).2.1.bm := by
  have h0 := (pagerActs_start ps id).facts.1
  have h1 := (pagerActs_ensure (startA ps id).2.1 (startA ps id).2.2).facts.1
  have hmu : memUpds (nodeA cfg ps id x).1 =
      (memUpds (startA ps id).1 ++ memUpds (ensureA (startA ps id).2.1 (startA ps id).2.2).1) ++
        [.incIdLen, .setPm { (ensureA (startA ps id).2.1 (startA ps id).2.2).2.pm with i2eLen := id.len + 1 },
          .setPm (nodeA cfg ps id x).2.1.pm, .pushExt x] := by
    by_cases hsy : cfg.syncSlot = true <;>
      simp [nodeA, hsy, memUpds_append_noFail, h0, h1, memUpds, flushA]
  rw [hmu]
  have e := (onlySetPm_ensure (startA ps id).2.1 (startA ps id).2.2).memFacts (startA ps id).2.1.pm (startA ps id).2.2
    (startA ps id).2.1.bm
  rw [lastPm_ensure, lastBm_ensure] at e
  exact ((memFacts_startA ps id).append e).append
    ⟨by intro u hu; simp at hu; rcases hu with rfl | rfl | rfl | rfl <;> trivial, rfl, rfl, rfl, rfl, rfl⟩

theorem memFacts_nodes (cfg : Cfg) : ∀ (xs : List Nat) (ps : PS) (id : IdSt),
    MemFacts (memUpds (nodesA cfg ps id xs).1) ps.pm (nodesA cfg ps id xs).2.1.pm id.start
      (nodesA cfg ps id xs).2.2.start xs.length xs ps.bm (nodesA cfg ps id xs).2.1.bm
  | [], _, _ => ⟨fun _ h => absurd h List.not_mem_nil, rfl, rfl, rfl, rfl, rfl⟩
  | x :: xs, ps, id => by
    rw [nodesA_cons, memUpds_append_noFail _ _ (pagerActs_node cfg ps id x).facts.1, List.length_cons, Nat.add_comm]
    exact (memFacts_nodeA cfg ps id x).append (memFacts_nodes cfg xs _ _)

/-! ### the whole phase -/

/-- `r` stands for `nodesA cfg ps id xs` (`nodes_phase`); `k'` nodes are in the table afterwards. -/
structure NodePhase (N : List Nat) (c : Nat) (p0 : PImg) (k' : Nat) (fs : FS) (ps : PS) (id : IdSt) (xs : List Nat)
    (r : List Action × PS × IdSt) : Prop where
  pager : PagerActs r.1
  safe : SafeAlong (fun g => AllImgs g (fun p => PagerOK N c p ∧ Frame p0 p)) fs (ioSteps r.1)
  imgs : AllImgs (fs.steps (ioSteps r.1)) (NG N c p0 k')
  synced : SyncedI fs ps → SyncedI (fs.steps (ioSteps r.1)) r.2.1
  st : NodeSt c p0 k' r.2.1 r.2.2
  mem : MemFacts (memUpds r.1) ps.pm r.2.1.pm id.start r.2.2.start xs.length xs ps.bm r.2.1.bm

theorem nodes_phase {cfg : Cfg} {N : List Nat} {c : Nat} {p0 : PImg} (b0 : Booted p0) :
    ∀ (xs : List Nat), (xs ≠ [] → cfg.syncSlot = true) → ∀ (k : Nat) (fs : FS) (ps : PS) (id : IdSt),
      N.drop k = xs → AllImgs fs (NG N c p0 k) → NodeSt c p0 k ps id → c ≤ k → k ≤ N.length →
      NodePhase N c p0 (k + xs.length) fs ps id xs (nodesA cfg ps id xs)
  | [], _, _, fs, ps, id, _, hB, st, _, hkN =>
    ⟨pagerActs_nil, safeAlong_nil (allImgs_mono fs _ _ hB (NG.safe b0 hkN)), hB, fun h => h, st, memFacts_nodes cfg [] ps id⟩
  | x :: xs, hsy, k, fs, ps, id, hdrop, hB, st, hck, _ => by
    have hsync := hsy (List.cons_ne_nil _ _)
    obtain ⟨rfl, hk, hdrop'⟩ := getSlot_of_drop N k x xs hdrop
    obtain ⟨h1, st1⟩ := nodeA_safe (cfg := cfg) (N := N) (ps0 := ⟨fs.pv.hdr, 0, fs.pv.bm⟩) b0 hsync st hk hck
    obtain ⟨sa, hB1, hV, hpj⟩ := h1.run fs hB ⟨trivial, rfl, rfl⟩
    rw [pv_of_pj_nil hpj] at hV
    have r := nodes_phase b0 xs (fun _ => hsync) (k + 1) _ _ _ hdrop' hB1 st1 (Nat.le_succ_of_le hck) hk
    have e : ioSteps ((nodeA cfg ps id (getSlot N k)).1 ++ (nodesA cfg (nodeA cfg ps id (getSlot N k)).2.1
        (nodeA cfg ps id (getSlot N k)).2.2 xs).1) = _ := ioSteps_append_noFail _ _ h1.pager.facts.1
    rw [nodesA_cons, List.length_cons, ← Nat.add_assoc k, Nat.add_right_comm k]
    refine ⟨h1.pager.append r.pager, ?_, ?_, fun _ => ?_, r.st, memFacts_nodes cfg (getSlot N k :: xs) ps id⟩
    · rw [e]; exact safeAlong_append sa r.safe
    · rw [e, steps_append]; exact r.imgs
    · rw [e, steps_append]; exact r.synced ⟨inert_of_nil hpj, hV.2.1 ▸ SameKey.refl _, Nat.le_of_eq hV.2.2⟩

end Nervus.Crash
