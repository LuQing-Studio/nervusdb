/-
  The page map of the three page-level models (`BTree.PageMap`: B-tree pages, the pager's page contents, vacuum's
  typed pages): `set` then `get`, and `get` as the lookup of an association list.
-/
import Nervus.Model.BTree
import Nervus.Proofs.ListBasics
namespace Nervus.BTree
open Nervus

theorem PageMap.get_set {α : Type} (m : PageMap α) (p : Nat) (a : α) (q : Nat) :
    (m.set p a).get q = if q = p then some a else m.get q := by
  induction m with
  | nil =>
    simp only [PageMap.set, PageMap.get]
    by_cases h : p = q
    · subst h; simp
    · have : ¬ q = p := fun e => h e.symm
      simp [h, this]
  | cons x xs ih =>
    obtain ⟨r, b⟩ := x
    simp only [PageMap.set]
    by_cases hr : r = p
    · subst hr
      simp only [if_true, PageMap.get]
      by_cases h : r = q
      · subst h; simp
      · have : ¬ q = r := fun e => h e.symm
        simp [h, this]
    · simp only [hr, if_false, PageMap.get]
      by_cases h : r = q
      · subst h
        have : ¬ r = p := hr
        simp [this]
      · simp only [h, if_false]; exact ih

theorem PageMap.get_eq_lookup {α : Type} (m : PageMap α) (p : Nat) : m.get p = m.lookup p := by
  induction m with
  | nil => rfl
  | cons x xs ih =>
    rw [PageMap.get, List.lookup_cons, ih]
    by_cases e : x.1 = p
    · rw [if_pos e, e, beq_self_eq_true]
    · rw [if_neg e, beq_false_of_ne (Ne.symm e)]

theorem PageMap.get_mem {α : Type} (m : PageMap α) (p : Nat) (a : α) (h : m.get p = some a) : (p, a) ∈ m :=
  mem_of_lookup_eq_some (m.get_eq_lookup p ▸ h)

theorem PageMap.get_none_of_notin {α : Type} (m : PageMap α) (p : Nat) (h : p ∉ m.map (·.1)) : m.get p = none :=
  m.get_eq_lookup p ▸ lookup_eq_none_of_not_mem_keys fun q hq e => h (List.mem_map.mpr ⟨q, hq, e⟩)

end Nervus.BTree
