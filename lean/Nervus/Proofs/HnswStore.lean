/-
  C31, durability of the two system trees: after every successful engine insert the catalog records
  the root the in-memory tree uses (`Synced`; the write-back is the last thing `insertVector` does),
  and a synced tree reopens to itself.
-/
import Nervus.Model.HnswStore
namespace Nervus.HnswStore
open Nervus Nervus.BTree

variable {κ : Type}

def Synced (s : SysTree κ) : Prop := s.catRoot = s.tree.root

theorem sync_synced (s : SysTree κ) : Synced (s.sync true) := by
  unfold SysTree.sync Synced
  by_cases h : s.catRoot = s.tree.root
  · simp [h]
  · simp [h]

theorem reopen_of_synced (s : SysTree κ) (h : Synced s) : s.reopen = s := by
  obtain ⟨⟨pages, root, next⟩, cat⟩ := s
  unfold Synced at h
  simp only at h
  subst h
  rfl

theorem create_synced (c : Cfg) : Synced (SysTree.create c : SysTree κ) := rfl

theorem store_reopen_of_synced (s : Store κ) (h : Synced s.vec ∧ Synced s.graph) : s.reopen = s := by
  obtain ⟨v, g⟩ := s
  unfold Store.reopen
  rw [reopen_of_synced v h.1, reopen_of_synced g h.2]

variable [KeyOrd κ]

theorem insertVector_synced (c : Cfg) (s s' : Store κ) (vw gw : List (κ × Nat))
    (h : insertVector true c s vw gw = (s', true)) : Synced s'.vec ∧ Synced s'.graph := by
  unfold insertVector at h
  cases hrv : writes c s.vec.tree vw with
  | mk tv okv =>
    rw [hrv] at h
    cases okv with
    | false => simp at h
    | true =>
      cases hrg : writes c s.graph.tree gw with
      | mk tg okg =>
        simp only [if_true, hrg] at h
        cases okg with
        | false => simp at h
        | true =>
          simp only [Bool.and_self, if_true, Prod.mk.injEq, and_true] at h
          rw [← h]
          exact ⟨sync_synced _, sync_synced _⟩

theorem runStore_synced (c : Cfg) : ∀ (ops : List (List (κ × Nat) × List (κ × Nat))) (s s' : Store κ),
    Synced s.vec ∧ Synced s.graph → runStore true c s ops = (s', true) → Synced s'.vec ∧ Synced s'.graph := by
  intro ops
  induction ops with
  | nil =>
    intro s s' hs h
    simp only [runStore, Prod.mk.injEq] at h; obtain ⟨rfl, _⟩ := h; exact hs
  | cons op rest ih =>
    obtain ⟨vw, gw⟩ := op
    intro s s' _ h
    unfold runStore at h
    cases hi : insertVector true c s vw gw with
    | mk s1 ok =>
      rw [hi] at h
      cases ok with
      | false => simp at h
      | true =>
        simp only at h
        exact ih s1 s' (insertVector_synced c s s1 vw gw hi) h

end Nervus.HnswStore
