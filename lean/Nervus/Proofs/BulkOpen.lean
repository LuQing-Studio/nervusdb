/-
  Proofs/BulkOpen.lean — `GraphEngine::open` on the files BulkLoader::commit leaves behind (C30):
  the engine it builds, explicitly, for every valid input.
-/
import Nervus.Proofs.CheckpointRec
import Nervus.Model.Bulk
namespace Nervus.Storage

theorem gocl_interner (s : Engine) (l : Nat) : (s.getOrCreateLabel l).1.interner = internName s.interner l := by
  unfold Engine.getOrCreateLabel internName
  cases s.interner.getId l <;> rfl

theorem internName_nodup (t : Interner) (nm : Nat) (h : t.Nodup) : (internName t nm).Nodup :=
  gocl_interner { interner := t } nm ▸ getOrCreateLabel_nodup { interner := t } nm h

theorem fold_internName_nodup (names : List Nat) (t : Interner) (h : t.Nodup) : (names.foldl internName t).Nodup :=
  List.foldlRecOn names internName h fun t' ht a _ => internName_nodup t' a ht

theorem internName_mem (t : Interner) (nm : Nat) : nm ∈ internName t nm := by
  unfold internName
  cases hg : t.getId nm with
  | some i => exact Classical.byContradiction (fun h => by rw [(getId_none_iff t nm).mpr h] at hg; cases hg)
  | none => simp

theorem internName_mono (t : Interner) (nm x : Nat) (h : x ∈ t) : x ∈ internName t nm := by
  unfold internName
  split
  · exact h
  · exact List.mem_append_left _ h

theorem fold_internName_mono (names : List Nat) (t : Interner) (x : Nat) (h : x ∈ t) : x ∈ names.foldl internName t :=
  List.foldlRecOn names internName (motive := (x ∈ ·)) h fun t' ht a _ => internName_mono t' a x ht

theorem fold_internName_mem (names : List Nat) : ∀ (t : Interner) (x : Nat), x ∈ names → x ∈ names.foldl internName t := by
  induction names with
  | nil => intro t x h; cases h
  | cons a as ih =>
    intro t x h
    rcases List.mem_cons.mp h with rfl | h'
    · exact fold_internName_mono as _ x (internName_mem t x)
    · exact ih _ x h'

theorem internName_of_mem (t : Interner) (nm : Nat) (h : nm ∈ t) : internName t nm = t := by
  unfold internName
  cases hg : t.getId nm with
  | some _ => rfl
  | none => exact absurd h ((getId_none_iff t nm).mp hg)

theorem fold_replicate_same (t : Interner) (nm : Nat) (k : Nat) :
    (List.replicate k nm).foldl internName (internName t nm) = internName t nm := by
  induction k with
  | zero => rfl
  | succ k ih =>
    rw [List.replicate_succ, List.foldl_cons, internName_of_mem _ _ (internName_mem t nm)]
    exact ih

theorem bulkInterner_nodup (ns : List BulkNode) (es : List BulkEdge) : (bulkInterner ns es).Nodup :=
  fold_internName_nodup _ _ (fold_internName_nodup _ _ List.nodup_nil)

/-- the engine `open` builds from a bulk-loaded database -/
def bulkEngine (ns : List BulkNode) (es : List BulkEdge) (d : Disk) : Engine :=
  { wal := d.wal, idmap := IdMap.load d.i2e, interner := bulkInterner ns es, runs := [],
    segs := [(buildForward 0 (bulkEdges ns es)).persist], segStore := d.segStore, store := bulkStore ns es,
    storeRoot := 1, vecs := [], nextTxid := 1, nextSegId := 1, epoch := 0, ckptTxid := 0, propsRoot := 1 }

theorem bulk_open (ns : List BulkNode) (es : List BulkEdge) (hv : bulkValid ns es = true) :
    ∃ d, bulkLoad ns es = some d ∧ Engine.open d = .ok (bulkEngine ns es d) ∧
      d.i2e = ns.map (fun n => ⟨n.ext, ((bulkInterner ns es).getId n.label).getD 0⟩) := by
  let d : Disk :=
    { wal := .beginTx 0 :: (metaBody (bulkInterner ns es) 0 [0] 0 1 ++ [.commitTx 0]),
      i2e := ns.map (fun n => ⟨n.ext, ((bulkInterner ns es).getId n.label).getD 0⟩),
      segStore := [(buildForward 0 (bulkEdges ns es)).persist],
      store := bulkStore ns es, storeRoot := 1, vecs := [] }
  have hb : bulkLoad ns es = some d := by
    unfold bulkLoad
    rw [hv]
    simp only [Bool.not_true, Bool.false_eq_true, if_false, d, metaBody, List.append_assoc, List.cons_append,
      List.nil_append]
  refine ⟨d, hb, ?_, rfl⟩
  obtain ⟨hblocks, hl, ⟨s1, s2, s3, s4⟩, s5⟩ := metaLog 0 (bulkInterner ns es) (bulkInterner_nodup ns es) 0 [0] 0 1
  have hid : ((buildForward 0 (bulkEdges ns es)).persist).id = 0 := by rw [persist_id, buildForward_id]
  have hfind : [0].mapM (findSeg d.segStore) = .ok [(buildForward 0 (bulkEdges ns es)).persist] := by
    show [0].mapM (findSeg [(buildForward 0 (bulkEdges ns es)).persist]) = _
    rw [List.mapM_cons]
    unfold findSeg
    simp only [List.find?_cons, hid, beq_self_eq_true, List.mapM_nil, bind, Except.bind, pure, Except.pure]
  -- the one transaction of the log is at the checkpoint: the graph replay skips it
  have hg : replayGraph [(0, metaBody (bulkInterner ns es) 0 [0] 0 1)] 0 (IdMap.load (IdMap.readNodeTable d.i2e)) =
      .ok (IdMap.load d.i2e, []) := by
    rw [IdMap.readNodeTable_eq, replayGraph_eq, List.foldlM_cons]
    rfl
  unfold Engine.open
  simp only [show replayCommitted d.wal none [] = _ from hblocks.parse, hl, s1, s2, s3, s4, s5, hfind, hg, bind,
    Except.bind, pure, Except.pure]
  unfold bulkEngine
  simp only [List.foldl_cons, List.foldl_nil, hid]
  rfl

end Nervus.Storage
