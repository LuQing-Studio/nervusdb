/-
  Proofs.CrashCkpt — the log side of a manifest + checkpoint transaction (compaction,
  checkpoint-on-close): what `scan`, the replayed operations and the replayed runs become when the
  checkpoint is raised.
-/
import Nervus.Proofs.CrashLog
namespace Nervus.Crash

def sysOps (ep : Nat) (segs : List Nat) (root : Nat) (top : Bool) (up : Nat) : List Rec :=
  [.manifest ep segs root top, .checkpoint up ep root top]

theorem sysOps_isOp (ep : Nat) (segs : List Nat) (root : Nat) (top : Bool) (up : Nat) : ∀ r ∈ sysOps ep segs root top up, IsOp r := by
  intro r hr
  simp [sysOps] at hr
  rcases hr with rfl | rfl <;> trivial

theorem scan_snoc_manifest (cs : List CTx) (t ep : Nat) (segs : List Nat) (pr : Nat) (pt : Bool) (up : Nat)
    (hep : (scan cs).epoch ≤ ep) :
    scan (cs ++ [⟨t, [.manifest ep segs pr pt, .checkpoint up ep pr pt]⟩]) =
      { epoch := ep, segs := segs, ckpt := up, maxTxid := max (scan cs).maxTxid t, proot := pr, ptop := pt } := by
  have hep' : (List.foldl scanTx {} cs).epoch ≤ ep := hep
  simp [scan, List.foldl_append, scanTx, scanOp, hep']

theorem flatOps_sys_nodes (up t : Nat) (ops : List Rec) (h : nodesOfOps ops = []) : nodesOfOps (flatOps up [⟨t, ops⟩]) = [] := by
  by_cases ht : t ≤ up <;> simp [flatOps, ht, h, nodesOfOps]

theorem logRuns_sys (up t ep : Nat) (segs : List Nat) (root : Nat) (top : Bool) (u : Nat) :
    logRuns up [⟨t, sysOps ep segs root top u⟩] = [] := by
  by_cases ht : t ≤ up <;> simp [logRuns, ht, runOf, sysOps, edgesOf, propsOf]

theorem mem_logRuns {c : Nat} {r : Run} : ∀ {cs : List CTx}, r ∈ logRuns c cs → ∃ tx ∈ cs, r = runOf tx ∧ ¬ tx.txid ≤ c
  | [], h => by simp [logRuns] at h
  | tx :: rest, h => by
    simp only [logRuns] at h
    by_cases h1 : tx.txid ≤ c
    · simp only [h1, if_true] at h
      obtain ⟨tx', hm, he⟩ := mem_logRuns h
      exact ⟨tx', by simp [hm], he⟩
    · simp only [h1, if_false] at h
      by_cases h2 : ((runOf tx).edges.isEmpty && (runOf tx).props.isEmpty) = true
      · simp only [h2, if_true] at h
        obtain ⟨tx', hm, he⟩ := mem_logRuns h
        exact ⟨tx', by simp [hm], he⟩
      · simp only [h2] at h
        rcases List.mem_cons.mp h with rfl | h
        · exact ⟨tx, by simp, rfl, h1⟩
        · obtain ⟨tx', hm, he⟩ := mem_logRuns h
          exact ⟨tx', by simp [hm], he⟩

theorem logRuns_raise (c1 c2 : Nat) (hle : c1 ≤ c2) : ∀ (cs : List CTx), (∀ r ∈ logRuns c1 cs, r.txid ≤ c2) → logRuns c2 cs = []
  | [], _ => rfl
  | tx :: rest, h => by
    by_cases h2 : tx.txid ≤ c2
    · simp only [logRuns, h2, if_true]
      apply logRuns_raise c1 c2 hle rest
      intro r hr
      apply h r
      simp only [logRuns]
      by_cases h1 : tx.txid ≤ c1
      · simpa [h1] using hr
      · by_cases h3 : ((runOf tx).edges.isEmpty && (runOf tx).props.isEmpty) = true
        · simpa [h1, h3] using hr
        · simp [h1, h3, hr]
    · have h1 : ¬ tx.txid ≤ c1 := by omega
      by_cases h3 : ((runOf tx).edges.isEmpty && (runOf tx).props.isEmpty) = true
      · simp only [logRuns, h2, if_false, h3, if_true]
        apply logRuns_raise c1 c2 hle rest
        intro r hr
        apply h r
        simpa [logRuns, h1, h3] using hr
      · exfalso
        have : (runOf tx).txid ≤ c2 := h (runOf tx) (by simp [logRuns, h1, h3])
        exact h2 this

theorem flatOps_all_gt (c : Nat) : ∀ (cs : List CTx), (∀ b ∈ cs, c < b.txid) → flatOps c cs = cs.flatMap (·.ops)
  | [], _ => rfl
  | tx :: rest, h => by
    have h1 : ¬ tx.txid ≤ c := by have := h tx (by simp); omega
    simp [flatOps, h1, flatOps_all_gt c rest (fun b hb => h b (by simp [hb]))]

theorem flatOps_raise (c1 c2 : Nat) (hle : c1 ≤ c2) : ∀ (cs : List CTx), TxMono cs → ∃ X, flatOps c1 cs = X ++ flatOps c2 cs
  | [], _ => ⟨[], rfl⟩
  | tx :: rest, hm => by
    have hm' := List.pairwise_cons.mp hm
    obtain ⟨X, hX⟩ := flatOps_raise c1 c2 hle rest hm'.2
    by_cases h1 : tx.txid ≤ c1
    · have h2 : tx.txid ≤ c2 := by omega
      exact ⟨X, by simp [flatOps, h1, h2, hX]⟩
    · by_cases h2 : tx.txid ≤ c2
      · exact ⟨tx.ops ++ X, by simp [flatOps, h1, h2, hX]⟩
      · refine ⟨[], ?_⟩
        have e1 := flatOps_all_gt c1 rest (fun b hb => by have := hm'.1 b hb; omega)
        have e2 := flatOps_all_gt c2 rest (fun b hb => by have := hm'.1 b hb; omega)
        simp [flatOps, h1, h2, e1, e2]

theorem seqFrom_length (N : List Nat) : ∀ (n i : Nat), (seqFrom N i n).length = n
  | 0, _ => rfl
  | n + 1, i => by simp [seqFrom, seqFrom_length N n]

theorem seqFrom_suffix (N : List Nat) (c n : Nat) (A B : List (Nat × Nat)) (h : A ++ B = seqFrom N c n) :
    A.length ≤ n ∧ B = seqFrom N (c + A.length) (n - A.length) := by
  have hl : A.length + B.length = n := by
    have := congrArg List.length h
    rwa [List.length_append, seqFrom_length] at this
  refine ⟨by omega, ?_⟩
  have hn : n = A.length + (n - A.length) := by omega
  rw [hn, seqFrom_append] at h
  have := List.append_inj h (by rw [seqFrom_length])
  exact this.2

theorem logRuns_gt {c : Nat} {cs : List CTx} {r : Run} (h : r ∈ logRuns c cs) : c < r.txid := by
  obtain ⟨tx, _, rfl, hn⟩ := mem_logRuns h
  show c < tx.txid
  omega

/-- raising the checkpoint to `up` takes a prefix `X` off the operations recovery replays
    (`flatOps_raise`); `c'` is `c` plus the nodes of `X` -/
theorem logOK_ckpt {T : List Tx} {cs : List CTx} {c : Nat} (hlog : LogOK T cs c) (t ep : Nat) (segs : List Nat)
    (root : Nat) (top : Bool) (up : Nat) (hep : (scan cs).epoch ≤ ep) (ht : (scan cs).maxTxid < t)
    (hup1 : (scan cs).ckpt ≤ up) (hup2 : up ≤ (scan cs).maxTxid) :
    ∃ c', c' ≤ (allNodes T).length ∧ LogOK T (cs ++ [⟨t, sysOps ep segs root top up⟩]) c' := by
  have hck : (scan (cs ++ [⟨t, sysOps ep segs root top up⟩])).ckpt = up := by
    unfold sysOps; rw [scan_snoc_manifest cs t ep segs root top up hep]
  obtain ⟨X, hX⟩ := flatOps_raise (scan cs).ckpt up hup1 cs hlog.mono
  have hnodes := hlog.nodes
  rw [hX, nodesOfOps_append] at hnodes
  obtain ⟨hA, hB⟩ := seqFrom_suffix _ _ _ _ _ hnodes
  have hc' : c + (nodesOfOps X).length ≤ (allNodes T).length := by have := hlog.cle; omega
  refine ⟨c + (nodesOfOps X).length, hc',
    hlog.snoc_tail ⟨t, _⟩ ht (by rw [hck]; exact Nat.le_of_lt (Nat.lt_of_le_of_lt hup2 ht)) hlog.nodup hlog.nozero hc' ?_⟩
  rw [hck, flatOps_append, nodesOfOps_append, flatOps_sys_nodes _ _ _ (by simp [sysOps, nodesOfOps]), List.append_nil, hB]
  congr 1
  omega

theorem PagerOK.raise {N : List Nat} {c c' : Nat} {p : PImg} (h : PagerOK N c p) (hc : c' ≤ p.hdr.i2eLen) : PagerOK N c' p :=
  { h with lo := hc }

end Nervus.Crash
