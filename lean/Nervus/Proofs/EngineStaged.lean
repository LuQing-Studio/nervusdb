/-
  Proofs/EngineStaged.lean — per-operation simulation lemmas of the C06 refinement, graph and property
  columns: the relation between an open write transaction (memtable) and the Spec graph staged so far,
  and its preservation by every staged write.
-/
import Nervus.Proofs.EngineSimBase
namespace Nervus.Storage
open Nervus.GraphSpec (Graph TxOp Op Rel)

/-- how the engine may differ from the engine at `begin_write` while the transaction is open:
    only by interned names (plus log, txid counter, vectors) -/
structure Ext (s0 s : Engine) : Prop where
  runs : s.runs = s0.runs
  idmap : s.idmap = s0.idmap
  segs : s.segs = s0.segs
  root : s.propsRoot = s0.propsRoot
  pre : s0.interner <+: s.interner
  nodup : s.interner.Nodup

/-- graph-structure and property columns of the staged relation -/
structure Staged (s0 : Engine) (g0 : Graph) (s : Engine) (t : Txn) (g : Graph) : Prop where
  ext : Ext s0 s
  dead : ∀ n, n ∈ g.dead ↔ (n ∈ g0.dead ∨ n ∈ t.mt.tombNodes)
  edges : ∀ r nm a b, s.interner[r]? = some nm →
    g.mult ⟨a, nm, b⟩ = t.mt.edges.count ⟨a, r, b⟩ +
      (if (⟨a, r, b⟩ ∈ t.mt.tombEdges ∨ a ∈ t.mt.tombNodes ∨ b ∈ t.mt.tombNodes)
       then 0 else g0.mult ⟨a, nm, b⟩)
  mtOK : ∀ e ∈ t.mt.edges, e.src ∉ g.dead ∧ e.dst ∉ g.dead ∧ e.rel < s.interner.length
  relsInt : ∀ e ∈ g.rels, e.typ ∈ s.interner
  rels0 : ∀ e ∈ g0.rels, e.typ ∈ s0.interner
  nprops : ∀ n k, n ∉ g.dead →
    g.nprop n k = (match t.mt.nprops.lookup (n, k) with
      | some v => some v
      | none => if (n, k) ∈ t.mt.nDel then none else g0.nprop n k)
  mtN : ∀ key, key ∈ t.mt.nDel → t.mt.nprops.lookup key = none
  eprops : ∀ r nm a b k, s.interner[r]? = some nm → a ∉ g.dead → b ∉ g.dead →
    g.eprop ⟨a, nm, b⟩ k = (match t.mt.eprops.lookup (⟨a, r, b⟩, k) with
      | some v => some v
      | none => if ((⟨a, r, b⟩ : Edge), k) ∈ t.mt.eDel then none else g0.eprop ⟨a, nm, b⟩ k)
  mtE : ∀ key, key ∈ t.mt.eDel → t.mt.eprops.lookup key = none
  mtERel : ∀ p ∈ t.mt.eprops, p.1.1.rel < s.interner.length
  epropsInt : ∀ p ∈ g.eprops, p.1.1.typ ∈ s.interner
  eprops0 : ∀ p ∈ g0.eprops, p.1.1.typ ∈ s0.interner

theorem Ext.begin {s : Engine} (hn : s.interner.Nodup) : Ext s s.beginWrite.1 :=
  ⟨rfl, rfl, rfl, rfl, List.prefix_refl _, hn⟩

theorem Ext.intern {s0 s : Engine} (he : Ext s0 s) (nm : Nat) : Ext s0 (s.getOrCreateLabel nm).1 := by
  have hf : (s.getOrCreateLabel nm).1.runs = s.runs ∧ (s.getOrCreateLabel nm).1.idmap = s.idmap ∧
      (s.getOrCreateLabel nm).1.segs = s.segs ∧ (s.getOrCreateLabel nm).1.propsRoot = s.propsRoot := by
    unfold Engine.getOrCreateLabel; split <;> exact ⟨rfl, rfl, rfl, rfl⟩
  exact ⟨hf.1.trans he.runs, hf.2.1.trans he.idmap, hf.2.2.1.trans he.segs, hf.2.2.2.trans he.root,
    he.pre.trans (getOrCreateLabel_prefix s nm), getOrCreateLabel_nodup s nm he.nodup⟩

/-! ### a relationship type that is not interned occurs nowhere -/

theorem mult_zero_of_typ_not_mem (g : Graph) (t : Interner) (h : ∀ e ∈ g.rels, e.typ ∈ t)
    (nm : Nat) (hn : nm ∉ t) (a b : Nat) : g.mult ⟨a, nm, b⟩ = 0 :=
  List.count_eq_zero.mpr fun hm => hn (h _ hm)

theorem eprop_none_of_typ_not_mem (g : Graph) (t : Interner) (h : ∀ p ∈ g.eprops, p.1.1.typ ∈ t)
    (nm : Nat) (hn : nm ∉ t) (a b k : Nat) : g.eprop ⟨a, nm, b⟩ k = none :=
  lookup_eq_none_of_not_mem_keys fun p hp e => hn (by have := h p hp; rwa [e] at this)

theorem count_zero_of_rel_ge (l : List Edge) (n : Nat) (h : ∀ e ∈ l, e.rel < n) (e : Edge) (he : n ≤ e.rel) :
    l.count e = 0 :=
  List.count_eq_zero.mpr fun hm => Nat.lt_irrefl _ (Nat.lt_of_lt_of_le (h e hm) he)

theorem lookup_none_of_rel_ge {ν} (m : List ((Edge × Nat) × ν)) (n : Nat)
    (h : ∀ p ∈ m, p.1.1.rel < n) (e : Edge) (k : Nat) (he : n ≤ e.rel) : m.lookup (e, k) = none :=
  lookup_eq_none_of_not_mem_keys fun p hp eq =>
    Nat.lt_irrefl _ (Nat.lt_of_lt_of_le (by have := h p hp; rwa [eq] at this) he)

theorem Staged.intern {s0 g0 s t g} (hst : Staged s0 g0 s t g) (nm : Nat) :
    Staged s0 g0 (s.getOrCreateLabel nm).1 t g := by
  have hpre := getOrCreateLabel_prefix s nm
  have hext := hst.ext.intern nm
  have hlen := hpre.length_le
  have hsub0 : ∀ x, x ∉ s.interner → x ∉ s0.interner := fun x hx h0 => hx (hst.ext.pre.subset h0)
  exact { hst with
    ext := hext
    edges := fun r x a b hx => by
      rcases old_or_new hpre hext.nodup hx with hold | ⟨hnew, hge⟩
      · exact hst.edges r x a b hold
      · rw [mult_zero_of_typ_not_mem g _ hst.relsInt x hnew,
          mult_zero_of_typ_not_mem g0 _ hst.rels0 x (hsub0 x hnew),
          count_zero_of_rel_ge _ _ (fun e he => (hst.mtOK e he).2.2) _ hge, ite_self]
    mtOK := fun e he => ⟨(hst.mtOK e he).1, (hst.mtOK e he).2.1, Nat.lt_of_lt_of_le (hst.mtOK e he).2.2 hlen⟩
    relsInt := fun e he => hpre.subset (hst.relsInt e he)
    eprops := fun r x a b k hx ha hb => by
      rcases old_or_new hpre hext.nodup hx with hold | ⟨hnew, hge⟩
      · exact hst.eprops r x a b k hold ha hb
      · rw [eprop_none_of_typ_not_mem g _ hst.epropsInt x hnew,
          eprop_none_of_typ_not_mem g0 _ hst.eprops0 x (hsub0 x hnew),
          lookup_none_of_rel_ge _ _ hst.mtERel _ k hge, ite_self]
    mtERel := fun p hp => Nat.lt_of_lt_of_le (hst.mtERel p hp) hlen
    epropsInt := fun p hp => hpre.subset (hst.epropsInt p hp) }

/-- ids and names determine each other -/
theorem edge_eq_iff {t : Interner} (hn : t.Nodup) {r r' nm nm' : Nat} (h : t[r]? = some nm) (h' : t[r']? = some nm')
    (a b a' b' : Nat) : ((⟨a', nm', b'⟩ : Rel) = ⟨a, nm, b⟩) ↔ ((⟨a', r', b'⟩ : Edge) = ⟨a, r, b⟩) := by
  rw [Rel.mk.injEq, Edge.mk.injEq]
  refine and_congr_right fun _ => and_congr_left fun _ => ⟨?_, ?_⟩
  · rintro rfl; exact name_inj t hn _ _ _ h' h
  · rintro rfl; exact Option.some.inj (h'.symm.trans h)

theorem ekey_eq_iff {t : Interner} (hn : t.Nodup) {r r' nm nm' : Nat} (h : t[r]? = some nm) (h' : t[r']? = some nm')
    (a b a' b' k k' : Nat) :
    (((⟨a', nm', b'⟩ : Rel), k') = (⟨a, nm, b⟩, k)) ↔ (((⟨a', r', b'⟩ : Edge), k') = (⟨a, r, b⟩, k)) := by
  rw [Prod.mk.injEq, Prod.mk.injEq, edge_eq_iff hn h h' a b a' b']

theorem Staged.edge {s0 g0 s t g} (hst : Staged s0 g0 s t g) {r nm a b : Nat}
    (hr : s.interner[r]? = some nm) (ha : a ∉ g.dead) (hb : b ∉ g.dead) :
    Staged s0 g0 s (t.createEdge ⟨a, r, b⟩) (g.step (.edge a nm b)) :=
  { hst with
    edges := fun r' nm' a' b' h' => by
      have hiff : ((⟨a, nm, b⟩ : Rel) == ⟨a', nm', b'⟩) = ((⟨a, r, b⟩ : Edge) == ⟨a', r', b'⟩) := by
        rw [Bool.eq_iff_iff, beq_iff_eq, beq_iff_eq, eq_comm, edge_eq_iff hst.ext.nodup hr h', eq_comm]
      show ((⟨a, nm, b⟩ : Rel) :: g.rels).count ⟨a', nm', b'⟩ = (t.mt.edges ++ [(⟨a, r, b⟩ : Edge)]).count ⟨a', r', b'⟩ + _
      rw [List.count_cons, List.count_append, List.count_singleton, hiff, Nat.add_right_comm]
      exact congrArg (· + _) (hst.edges r' nm' a' b' h')
    mtOK := fun e he => (List.mem_append.mp he).elim (hst.mtOK e)
      fun h => List.mem_singleton.mp h ▸ ⟨ha, hb, lt_of_getElem?_eq_some hr⟩
    relsInt := fun e he => (List.mem_cons.mp he).elim (fun h => h ▸ List.mem_of_getElem? hr) (hst.relsInt e) }

/-- `hnp`: `tombstone_edge` leaves the properties of the key where they are (finding
    C06-rel-props-survive-delete) -/
theorem Staged.tombEdge {s0 g0 s t g} (hst : Staged s0 g0 s t g) {r nm a b : Nat}
    (hr : s.interner[r]? = some nm) (hnp : ∀ p ∈ g.eprops, p.1.1 ≠ ⟨a, nm, b⟩) :
    Staged s0 g0 s (t.tombstoneEdge ⟨a, r, b⟩) (g.step (.tombEdge a nm b)) := by
  have hep : g.eprops.filter (fun p => p.1.1 != (⟨a, nm, b⟩ : Rel)) = g.eprops :=
    List.filter_eq_self.mpr fun p hp => by simpa using hnp p hp
  exact { hst with
    edges := fun r' nm' a' b' h' => by
      have hiff := edge_eq_iff hst.ext.nodup hr h' a b a' b'
      have hold : g.rels.count ⟨a', nm', b'⟩ = _ := hst.edges r' nm' a' b' h'
      show (g.rels.filter (· != (⟨a, nm, b⟩ : Rel))).count ⟨a', nm', b'⟩ =
        (t.mt.edges.filter (· != (⟨a, r, b⟩ : Edge))).count ⟨a', r', b'⟩ +
        (if ((⟨a', r', b'⟩ : Edge) ∈ setInsert (⟨a, r, b⟩ : Edge) t.mt.tombEdges ∨ a' ∈ t.mt.tombNodes ∨
          b' ∈ t.mt.tombNodes) then 0 else g0.mult ⟨a', nm', b'⟩)
      rw [count_filter_ite, count_filter_ite, hold]
      by_cases he : (⟨a', r', b'⟩ : Edge) = ⟨a, r, b⟩
      · simp [he, hiff.mpr he, mem_setInsert]
      · simp [he, mt hiff.mp he, mem_setInsert]
    mtOK := fun e he => hst.mtOK e (List.mem_filter.mp he).1
    relsInt := fun e he => hst.relsInt e (List.mem_filter.mp he).1
    eprops := fun r' nm' a' b' k h' ha hb => by
      show (g.eprops.filter (fun p => p.1.1 != (⟨a, nm, b⟩ : Rel))).lookup _ = _
      rw [hep]; exact hst.eprops r' nm' a' b' k h' ha hb
    epropsInt := fun p hp => hst.epropsInt p (List.mem_filter.mp hp).1 }

theorem touches_iff (e : Rel) (n : Nat) : e.touches n = true ↔ (e.src = n ∨ e.dst = n) := by
  simp [Rel.touches]

/-- `hne`: the memtable keeps a staged edge at a node tombstoned after it (finding
    C06-edge-and-endpoint-delete-in-one-tx) -/
theorem Staged.tombNode {s0 g0 s t g} (hst : Staged s0 g0 s t g) {n : Nat}
    (hne : ∀ e ∈ t.mt.edges, e.src ≠ n ∧ e.dst ≠ n) :
    Staged s0 g0 s (t.tombstoneNode n) (g.step (.tombNode n)) :=
  { hst with
    dead := fun n' => by
      show n' ∈ n :: g.dead ↔ (n' ∈ g0.dead ∨ n' ∈ setInsert n t.mt.tombNodes)
      rw [List.mem_cons, mem_setInsert, hst.dead n', or_left_comm]
    edges := fun r' nm' a' b' h' => by
      have hold : g.rels.count ⟨a', nm', b'⟩ = _ := hst.edges r' nm' a' b' h'
      show (g.rels.filter (fun e => !e.touches n)).count ⟨a', nm', b'⟩ = t.mt.edges.count ⟨a', r', b'⟩ +
        (if ((⟨a', r', b'⟩ : Edge) ∈ t.mt.tombEdges ∨ a' ∈ setInsert n t.mt.tombNodes ∨
          b' ∈ setInsert n t.mt.tombNodes) then 0 else g0.mult ⟨a', nm', b'⟩)
      rw [count_filter_ite, hold]
      by_cases ht : a' = n ∨ b' = n
      · -- a key at the deleted node: the Spec drops it, no staged edge has it, the tombstone hides the rest
        have h0 : t.mt.edges.count ⟨a', r', b'⟩ = 0 :=
          List.count_eq_zero.mpr fun hm => ht.elim (hne _ hm).1 (hne _ hm).2
        rw [h0]
        rcases ht with ht | ht <;> simp [Rel.touches, ht, mem_setInsert]
      · rw [not_or] at ht
        simp [Rel.touches, ht.1, ht.2, mem_setInsert]
    mtOK := fun e he => ⟨fun h => (List.mem_cons.mp h).elim (hne e he).1 (hst.mtOK e he).1,
      fun h => (List.mem_cons.mp h).elim (hne e he).2 (hst.mtOK e he).2.1, (hst.mtOK e he).2.2⟩
    relsInt := fun e he => hst.relsInt e (List.mem_filter.mp he).1
    nprops := fun n' k hn' => by
      rw [show n' ∉ (g.step (.tombNode n)).dead ↔ n' ≠ n ∧ n' ∉ g.dead from
        (not_congr List.mem_cons).trans not_or] at hn'
      show (g.nprops.filter (fun p => p.1.1 != n)).lookup (n', k) = _
      rw [lookup_filter_of_keep _ (fun _ => by simpa using hn'.1)]
      exact hst.nprops n' k hn'.2
    eprops := fun r' nm' a' b' k h' ha hb => by
      rw [show ∀ x, x ∉ (g.step (.tombNode n)).dead ↔ x ≠ n ∧ x ∉ g.dead from
        fun x => (not_congr List.mem_cons).trans not_or] at ha hb
      show (g.eprops.filter (fun p => !p.1.1.touches n)).lookup (⟨a', nm', b'⟩, k) = _
      rw [lookup_filter_of_keep _ (fun _ => by simp [Rel.touches, ha.1, hb.1])]
      exact hst.eprops r' nm' a' b' k h' ha.2 hb.2
    epropsInt := fun p hp => hst.epropsInt p (List.mem_filter.mp hp).1 }

theorem Staged.nprop {s0 g0 s t g} (hst : Staged s0 g0 s t g) (n k : Nat) (v : PV) :
    Staged s0 g0 s (t.setNodeProp n k v) (g.step (.nprop n k v)) :=
  { hst with
    nprops := fun n' k' hn' => overlay_set v Iff.rfl (hst.nprops n' k' hn')
    mtN := staged_disj_set hst.mtN _ _ }

theorem Staged.npropDel {s0 g0 s t g} (hst : Staged s0 g0 s t g) (n k : Nat) :
    Staged s0 g0 s (t.removeNodeProp n k) (g.step (.npropDel n k)) :=
  { hst with
    nprops := fun n' k' hn' => overlay_del Iff.rfl (hst.nprops n' k' hn')
    mtN := staged_disj_del hst.mtN _ }

theorem Staged.eprop {s0 g0 s t g} (hst : Staged s0 g0 s t g) {r nm a b : Nat} (k : Nat) (v : PV)
    (hr : s.interner[r]? = some nm) :
    Staged s0 g0 s (t.setEdgeProp ⟨a, r, b⟩ k v) (g.step (.eprop a nm b k v)) :=
  { hst with
    eprops := fun r' nm' a' b' k' h' ha hb =>
      overlay_set v (ekey_eq_iff hst.ext.nodup hr h' a b a' b' k k') (hst.eprops r' nm' a' b' k' h' ha hb)
    mtE := staged_disj_set hst.mtE _ _
    mtERel := fun p hp => (List.mem_cons.mp hp).elim (fun h => h ▸ lt_of_getElem?_eq_some hr)
      fun h => hst.mtERel p (List.mem_filter.mp h).1
    epropsInt := fun p hp => (List.mem_cons.mp hp).elim (fun h => h ▸ List.mem_of_getElem? hr)
      fun h => hst.epropsInt p (List.mem_filter.mp h).1 }

theorem Staged.epropDel {s0 g0 s t g} (hst : Staged s0 g0 s t g) {r nm a b : Nat} (k : Nat)
    (hr : s.interner[r]? = some nm) :
    Staged s0 g0 s (t.removeEdgeProp ⟨a, r, b⟩ k) (g.step (.epropDel a nm b k)) :=
  { hst with
    eprops := fun r' nm' a' b' k' h' ha hb =>
      overlay_del (ekey_eq_iff hst.ext.nodup hr h' a b a' b' k k') (hst.eprops r' nm' a' b' k' h' ha hb)
    mtE := staged_disj_del hst.mtE _
    mtERel := fun p hp => hst.mtERel p (List.mem_filter.mp hp).1
    epropsInt := fun p hp => hst.epropsInt p (List.mem_filter.mp hp).1 }

end Nervus.Storage
