/-
  C26: the B-tree invariant `WF` over the page map, with ghost state
    G : page ↦ (level, lo, hi)   level 0 = leaf; the page is responsible for keys in [lo, hi)
    L : the leaves from left to right
    H : level of the root
  Clauses: root covers everything; ranges are not inverted; an internal page's children carry
  exactly the ranges cut out by its separator keys (so separators bound subtrees and all leaves are
  at level 0 = one depth); leaves are strictly sorted and inside their range; no page is the child
  of two pages; the leaf chain (right-sibling pointers) visits `L` in order and the ranges of
  consecutive leaves are adjacent (leaf chain = in-order traversal); `|L| + H ≤ next`, because the loops of the
  model run on `next` units of fuel: a descent needs more than `H`, a walk along the chain more than `|L|`.
-/
import Nervus.Proofs.BTreeLeaf
import Nervus.Proofs.PageMap
set_option linter.unusedSectionVars false
namespace Nervus.BTree
open Nervus KO

variable {κ : Type} [KeyOrd κ] [LawfulKeyOrd κ]

/-- the page map as a function: the invariant and the proofs speak of `upd`, the model of `PageMap.set`
    (`get_set_eq_upd`) -/
abbrev Pg (κ : Type) := Nat → Option (Node κ)

def upd (pg : Pg κ) (p : Nat) (n : Node κ) : Pg κ := fun q => if q = p then some n else pg q

theorem get_set_eq_upd (m : PageMap (Node κ)) (p : Nat) (n : Node κ) :
    (m.set p n).get = upd m.get p n := by
  funext q; simp [PageMap.get_set, upd]

@[simp] theorem upd_same (pg : Pg κ) (p : Nat) (n : Node κ) : upd pg p n p = some n := by simp [upd]
theorem upd_other (pg : Pg κ) (p q : Nat) (n : Node κ) (h : q ≠ p) : upd pg p n q = pg q := by simp [upd, h]
theorem upd_upd_same (pg : Pg κ) (p : Nat) (a b : Node κ) : upd (upd pg p a) p b = upd pg p b := by
  funext q; by_cases h : q = p <;> simp [upd, h]

abbrev GMap (κ : Type) := Nat → Option (Nat × Option κ × Option κ)

structure Ghost (κ : Type) where
  G : Nat → Option (Nat × Option κ × Option κ)
  L : List Nat
  H : Nat

def rightOf (pg : Pg κ) (p : Nat) : Option Nat :=
  match pg p with
  | some (.leaf _ _ r) => some r
  | _ => none

def entriesOf (pg : Pg κ) (p : Nat) : List (κ × Nat) :=
  match pg p with
  | some (.leaf es _ _) => es
  | _ => []

def kidsOfPage (pg : Pg κ) (p : Nat) : List Nat :=
  match pg p with
  | some (.internal lm cells _) => kidsOf lm cells
  | _ => []

/-- leaf-chain segment: the leaves `ps` start at page `a` (lower bound `alo`), follow the right-sibling
    pointers, have adjacent ranges, and end by pointing at `z` with upper bound `zhi` -/
def Seg (pg : Pg κ) (G : Nat → Option (Nat × Option κ × Option κ)) :
    Nat → Option κ → List Nat → Nat → Option κ → Prop
  | a, alo, [], z, zhi => a = z ∧ alo = zhi
  | a, alo, p :: rest, z, zhi =>
    p = a ∧ 0 < p ∧ ∃ hi r, G p = some (0, alo, hi) ∧ rightOf pg p = some r ∧ (hi = none → r = 0) ∧
      Seg pg G r hi rest z zhi

def contents (pg : Pg κ) (L : List Nat) : List (κ × Nat) := L.flatMap (entriesOf pg)

structure WF (pg : Pg κ) (root next : Nat) (g : Ghost κ) : Prop where
  root : g.G root = some (g.H, none, none)
  rng : ∀ p l lo hi, g.G p = some (l, lo, hi) → 0 < p ∧ p < next ∧ bLe lo hi
  lvl : ∀ p l lo hi, g.G p = some (l, lo, hi) → l ≤ g.H
  int : ∀ p l lo hi, g.G p = some (l + 1, lo, hi) →
    ∃ lm cells b, pg p = some (.internal lm cells b) ∧
      (∀ x ∈ kidsR lo hi lm cells, g.G x.1 = some (l, x.2.1, x.2.2)) ∧ (kidsOf lm cells).Nodup
  leaf : ∀ p lo hi, g.G p = some (0, lo, hi) →
    ∃ es b r, pg p = some (.leaf es b r) ∧ SSorted es ∧ ∀ e ∈ es, bLo lo e.1 ∧ bHi e.1 hi
  share : ∀ p1 p2 c l1 lo1 hi1 l2 lo2 hi2, g.G p1 = some (l1 + 1, lo1, hi1) →
    g.G p2 = some (l2 + 1, lo2, hi2) → c ∈ kidsOfPage pg p1 → c ∈ kidsOfPage pg p2 → p1 = p2
  lnodup : g.L.Nodup
  lmem : ∀ p, p ∈ g.L ↔ ∃ lo hi, g.G p = some (0, lo, hi)
  seg : ∃ p0 rest, g.L = p0 :: rest ∧ Seg pg g.G p0 none g.L 0 none
  fuel : g.L.length + g.H ≤ next

theorem Seg_append (pg : Pg κ) (G : GMap κ) (A B : List Nat)
    (a : Nat) (alo : Option κ) (z : Nat) (zhi : Option κ) :
    Seg pg G a alo (A ++ B) z zhi ↔ ∃ m mlo, Seg pg G a alo A m mlo ∧ Seg pg G m mlo B z zhi := by
  induction A generalizing a alo with
  | nil =>
    constructor
    · intro h; exact ⟨a, alo, ⟨rfl, rfl⟩, h⟩
    · rintro ⟨m, mlo, ⟨rfl, rfl⟩, h⟩; exact h
  | cons p ps ih =>
    constructor
    · intro h
      obtain ⟨hp, hpos, hi, r, hG, hr, hn, hrest⟩ := h
      obtain ⟨m, mlo, h1, h2⟩ := (ih r hi).mp hrest
      exact ⟨m, mlo, ⟨hp, hpos, hi, r, hG, hr, hn, h1⟩, h2⟩
    · rintro ⟨m, mlo, ⟨hp, hpos, hi, r, hG, hr, hn, h1⟩, h2⟩
      exact ⟨hp, hpos, hi, r, hG, hr, hn, (ih r hi).mpr ⟨m, mlo, h1, h2⟩⟩

theorem Seg_frame (pg pg' : Pg κ) (G G' : GMap κ) (ps : List Nat)
    (h : ∀ p ∈ ps, rightOf pg' p = rightOf pg p ∧ G' p = G p) :
    ∀ (a : Nat) (alo : Option κ) (z : Nat) (zhi : Option κ),
      Seg pg G a alo ps z zhi → Seg pg' G' a alo ps z zhi := by
  induction ps with
  | nil => intro a alo z zhi hs; exact hs
  | cons p ps ih =>
    intro a alo z zhi hs
    obtain ⟨hp, hpos, hi, r, hG, hr, hn, hrest⟩ := hs
    have hp' := h p (List.mem_cons_self ..)
    refine ⟨hp, hpos, hi, r, by rw [hp'.2]; exact hG, by rw [hp'.1]; exact hr, hn, ?_⟩
    exact ih (fun q hq => h q (List.mem_cons_of_mem _ hq)) r hi z zhi hrest

theorem Seg_mem (pg : Pg κ) (G : Nat → Option (Nat × Option κ × Option κ)) (ps : List Nat) :
    ∀ (a : Nat) (alo : Option κ) (z : Nat) (zhi : Option κ), Seg pg G a alo ps z zhi →
      ∀ p ∈ ps, ∃ lo hi, G p = some (0, lo, hi) := by
  induction ps with
  | nil => intro a alo z zhi _ p hp; cases hp
  | cons q qs ih =>
    intro a alo z zhi hs p hp
    obtain ⟨hq, hpos, hi, r, hG, hr, hn, hrest⟩ := hs
    rcases List.mem_cons.mp hp with e | e
    · subst e; exact ⟨alo, hi, hG⟩
    · exact ih r hi z zhi hrest p e

end Nervus.BTree
