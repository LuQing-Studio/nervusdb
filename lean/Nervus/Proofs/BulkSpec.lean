/-
  Proofs/BulkSpec.lean — the Spec graph of the transactional load `txLoad ns es` (C30), in closed form:
  nodes in input order, their labels and external ids, the LAST value written per property key, the
  relationships of the input.
-/
import Nervus.Proofs.EngineTx
import Nervus.Model.Bulk
namespace Nervus.Storage
open Nervus.GraphSpec (Graph TxOp Op Rel opWF txWF)

/-! ### assignments: the last one per key wins -/

theorem lookup_set {κ} [BEq κ] [LawfulBEq κ] (m : List (κ × PV)) (k k' : κ) (v : PV) :
    ((k, v) :: m.filter (fun p => p.1 != k)).lookup k' = if k' == k then some v else m.lookup k' := by
  rw [List.lookup_cons]
  cases h : k' == k
  · exact lookup_filter_of_keep _ fun _ => by simpa using h
  · rfl

def setAll {κ} [BEq κ] (m : List (κ × PV)) (ins : List (κ × PV)) : List (κ × PV) :=
  ins.foldl (fun m p => (p.1, p.2) :: m.filter (fun q => q.1 != p.1)) m

theorem lookup_setAll {κ} [BEq κ] [LawfulBEq κ] (ins : List (κ × PV)) : ∀ (m : List (κ × PV)) (key : κ),
    (setAll m ins).lookup key = (match ins.reverse.lookup key with | some v => some v | none => m.lookup key) := by
  induction ins with
  | nil => intro m key; rfl
  | cons p ps ih =>
    intro m key
    obtain ⟨a, b⟩ := p
    show (setAll ((a, b) :: m.filter (fun q => q.1 != a)) ps).lookup key = _
    rw [ih, List.reverse_cons, List.lookup_append, lookup_set]
    cases ps.reverse.lookup key with
    | some v => rfl
    | none =>
      simp only [Option.none_or, List.lookup_cons, List.lookup_nil]
      cases (key == a) <;> rfl

theorem setAll_append {κ} [BEq κ] (m : List (κ × PV)) (a b : List (κ × PV)) :
    setAll m (a ++ b) = setAll (setAll m a) b := by
  unfold setAll; rw [List.foldl_append]

/-! ### the node phase -/

def propOps (i : Nat) (props : List (Nat × PV)) : List TxOp := props.map (fun kv => TxOp.nprop i kv.1 kv.2)

def nodeOpsFrom (b : Nat) (l : List BulkNode) : List TxOp :=
  (l.zipIdx b).flatMap (fun p => TxOp.node p.1.ext (some p.1.label) :: propOps p.2 p.1.props)

def nodeIns (zl : List (BulkNode × Nat)) : List ((Nat × Nat) × PV) :=
  zl.flatMap (fun p => p.1.props.map (fun kv => ((p.2, kv.1), kv.2)))

theorem apply_propOps (i : Nat) (props : List (Nat × PV)) : ∀ g : Graph,
    g.apply (propOps i props) = { g with nprops := setAll g.nprops (props.map (fun kv => ((i, kv.1), kv.2))) } := by
  induction props with
  | nil => intro g; rfl
  | cons kv kvs ih =>
    intro g
    show (g.step (.nprop i kv.1 kv.2)).apply (propOps i kvs) = _
    rw [ih]
    rfl

/-- the Spec graph after the nodes `l` (internal ids from `b`) were created with their properties -/
structure NodePhase (g g' : Graph) (b : Nat) (l : List BulkNode) : Prop where
  next : g'.next = b + l.length
  dead : g'.dead = g.dead
  rels : g'.rels = g.rels
  eprops : g'.eprops = g.eprops
  ext : g'.ext = ((l.zipIdx b).map (fun p => (p.2, p.1.ext))).reverse ++ g.ext
  labels : g'.labels = ((l.zipIdx b).map (fun p => (p.2, p.1.label))).reverse ++ g.labels
  nprops : g'.nprops = setAll g.nprops (nodeIns (l.zipIdx b))

theorem extLookup_none (g : Graph) (x : Nat) (h : ∀ p ∈ g.ext, p.2 ≠ x) : g.extLookup x = none := by
  unfold Graph.extLookup
  rw [Option.map_eq_none_iff, List.find?_eq_none]
  intro p hp
  have := h p hp
  simp [this]

theorem txWF_append (a b : List TxOp) : ∀ g, txWF g (a ++ b) = (txWF g a && txWF (g.apply a) b) := by
  induction a with
  | nil => intro g; simp [txWF, Graph.apply]
  | cons o os ih =>
    intro g
    simp only [List.cons_append, txWF, ih, Bool.and_assoc]
    rfl

theorem wf_propOps (i : Nat) (props : List (Nat × PV)) : ∀ g : Graph, g.live i = true → txWF g (propOps i props) = true := by
  induction props with
  | nil => intro g _; rfl
  | cons kv kvs ih =>
    intro g hl
    show (opWF g (.nprop i kv.1 kv.2) && txWF (g.step (.nprop i kv.1 kv.2)) (propOps i kvs)) = true
    rw [Bool.and_eq_true]
    exact ⟨hl, ih _ hl⟩

theorem nodePhase (l : List BulkNode) : ∀ (g : Graph) (b : Nat), g.next = b → g.dead = [] →
    (∀ n ∈ l, ∀ p ∈ g.ext, p.2 ≠ n.ext) → (l.map (·.ext)).Nodup →
    NodePhase g (g.apply (nodeOpsFrom b l)) b l ∧ txWF g (nodeOpsFrom b l) = true := by
  induction l with
  | nil =>
    intro g b hb _ _ _
    exact ⟨show NodePhase g g b [] from ⟨by simpa using hb, rfl, rfl, rfl, by simp [List.zipIdx], by simp [List.zipIdx], rfl⟩, rfl⟩
  | cons n ns ih =>
    intro g b hb hd hfresh hnd
    rw [List.map_cons, List.nodup_cons] at hnd
    have hnone : g.extLookup n.ext = none := extLookup_none g n.ext (hfresh n List.mem_cons_self)
    let g1 : Graph := { g with next := g.next + 1, ext := (g.next, n.ext) :: g.ext, labels := (g.next, n.label) :: g.labels }
    have hstep : g.step (.node n.ext (some n.label)) = g1 := by
      show (if (g.extLookup n.ext).isSome then g else _) = _
      rw [hnone]; rfl
    let g2 : Graph := { g1 with nprops := setAll g1.nprops (n.props.map (fun kv => ((b, kv.1), kv.2))) }
    have hops : nodeOpsFrom b (n :: ns) =
        (TxOp.node n.ext (some n.label) :: propOps b n.props) ++ nodeOpsFrom (b + 1) ns := by
      unfold nodeOpsFrom
      rw [List.zipIdx_cons, List.flatMap_cons]
    have hhead : g.apply (TxOp.node n.ext (some n.label) :: propOps b n.props) = g2 := by
      show (g.step (.node n.ext (some n.label))).apply (propOps b n.props) = _
      rw [hstep, apply_propOps]
    have happ : g.apply (nodeOpsFrom b (n :: ns)) = g2.apply (nodeOpsFrom (b + 1) ns) := by
      rw [hops, ← hhead]; unfold Graph.apply; rw [List.foldl_append]
    obtain ⟨ih', iw⟩ := ih g2 (b + 1) (by show g.next + 1 = b + 1; rw [hb]) hd
      (by
        intro m hm p hp
        have hp' : p ∈ (g.next, n.ext) :: g.ext := hp
        rcases List.mem_cons.mp hp' with rfl | h'
        · intro heq
          exact hnd.1 (List.mem_map.mpr ⟨m, hm, heq.symm⟩)
        · exact hfresh m (List.mem_cons_of_mem _ hm) p h')
      hnd.2
    constructor
    · rw [happ]
      refine ⟨?_, ih'.dead, ih'.rels, ih'.eprops, ?_, ?_, ?_⟩
      · rw [ih'.next, List.length_cons]; omega
      · rw [ih'.ext, List.zipIdx_cons, List.map_cons, List.reverse_cons, List.append_assoc]
        show _ ++ (g.next, n.ext) :: g.ext = _
        rw [hb]; rfl
      · rw [ih'.labels, List.zipIdx_cons, List.map_cons, List.reverse_cons, List.append_assoc]
        show _ ++ (g.next, n.label) :: g.labels = _
        rw [hb]; rfl
      · rw [ih'.nprops, List.zipIdx_cons]
        unfold nodeIns
        rw [List.flatMap_cons, setAll_append]
    · have hl1 : g1.live b = true := by
        rw [live_iff]; show b < g.next + 1 ∧ b ∉ g.dead; rw [hb, hd]; simp
      rw [hops, txWF_append, hhead, iw, Bool.and_true]
      show (opWF g (.node n.ext (some n.label)) && txWF (g.step (.node n.ext (some n.label))) (propOps b n.props)) = true
      rw [hstep, Bool.and_eq_true]
      refine ⟨?_, wf_propOps b n.props g1 hl1⟩
      show (!g.ext.any (fun p => p.2 == n.ext)) = true
      rw [Bool.not_eq_true', List.any_eq_false]
      intro p hp; simpa using hfresh n List.mem_cons_self p hp

/-! ### the relationship phase -/

/-- the relationship of the Spec graph a bulk edge stands for (end nodes by position, type by NAME) -/
def relOf (ns : List BulkNode) (e : BulkEdge) : Rel := ⟨bulkIid ns e.src, e.rel, bulkIid ns e.dst⟩

def edgeOps (ns : List BulkNode) (es : List BulkEdge) : List TxOp :=
  es.flatMap (fun e => TxOp.edge (bulkIid ns e.src) e.rel (bulkIid ns e.dst) ::
    e.props.map (fun kv => TxOp.eprop (bulkIid ns e.src) e.rel (bulkIid ns e.dst) kv.1 kv.2))

def edgeInsSpec (ns : List BulkNode) (es : List BulkEdge) : List ((Rel × Nat) × PV) :=
  es.flatMap (fun e => e.props.map (fun kv => ((relOf ns e, kv.1), kv.2)))

theorem txLoad_eq (ns : List BulkNode) (es : List BulkEdge) :
    txLoad ns es = nodeOpsFrom 0 ns ++ edgeOps ns es := rfl

theorem apply_epropOps (r : Rel) (props : List (Nat × PV)) : ∀ g : Graph,
    g.apply (props.map (fun kv => TxOp.eprop r.src r.typ r.dst kv.1 kv.2)) =
      { g with eprops := setAll g.eprops (props.map (fun kv => ((r, kv.1), kv.2))) } := by
  induction props with
  | nil => intro g; rfl
  | cons kv kvs ih =>
    intro g
    show (g.step (.eprop r.src r.typ r.dst kv.1 kv.2)).apply _ = _
    rw [ih]
    rfl

structure EdgePhase (ns : List BulkNode) (g g' : Graph) (es : List BulkEdge) : Prop where
  next : g'.next = g.next
  dead : g'.dead = g.dead
  ext : g'.ext = g.ext
  labels : g'.labels = g.labels
  nprops : g'.nprops = g.nprops
  rels : g'.rels = (es.map (relOf ns)).reverse ++ g.rels
  eprops : g'.eprops = setAll g.eprops (edgeInsSpec ns es)

theorem wf_epropOps (r : Rel) (props : List (Nat × PV)) : ∀ g : Graph, g.live r.src = true → g.live r.dst = true →
    0 < g.mult r → txWF g (props.map (fun kv => TxOp.eprop r.src r.typ r.dst kv.1 kv.2)) = true := by
  induction props with
  | nil => intro g _ _ _; rfl
  | cons kv kvs ih =>
    intro g h1 h2 h3
    show (opWF g (.eprop r.src r.typ r.dst kv.1 kv.2) && txWF (g.step (.eprop r.src r.typ r.dst kv.1 kv.2)) _) = true
    rw [Bool.and_eq_true]
    refine ⟨?_, ih _ h1 h2 h3⟩
    show (g.live r.src && g.live r.dst && decide (0 < g.mult ⟨r.src, r.typ, r.dst⟩)) = true
    rw [h1, h2]; simpa using h3

theorem edgePhase (ns : List BulkNode) (es : List BulkEdge) : ∀ g : Graph,
    EdgePhase ns g (g.apply (edgeOps ns es)) es ∧
    (g.dead = [] → (∀ e ∈ es, bulkIid ns e.src < g.next ∧ bulkIid ns e.dst < g.next) → txWF g (edgeOps ns es) = true) := by
  induction es with
  | nil => intro g; exact ⟨⟨rfl, rfl, rfl, rfl, rfl, rfl, rfl⟩, fun _ _ => rfl⟩
  | cons e es ih =>
    intro g
    let g1 : Graph := { g with rels := relOf ns e :: g.rels }
    let g2 : Graph := { g1 with eprops := setAll g1.eprops (e.props.map (fun kv => ((relOf ns e, kv.1), kv.2))) }
    have hhead : g.apply (TxOp.edge (bulkIid ns e.src) e.rel (bulkIid ns e.dst) ::
        e.props.map (fun kv => TxOp.eprop (bulkIid ns e.src) e.rel (bulkIid ns e.dst) kv.1 kv.2)) = g2 := by
      show g1.apply (e.props.map (fun kv => TxOp.eprop (relOf ns e).src (relOf ns e).typ (relOf ns e).dst kv.1 kv.2)) = _
      rw [apply_epropOps]
    have hops : edgeOps ns (e :: es) = (TxOp.edge (bulkIid ns e.src) e.rel (bulkIid ns e.dst) ::
        e.props.map (fun kv => TxOp.eprop (bulkIid ns e.src) e.rel (bulkIid ns e.dst) kv.1 kv.2)) ++ edgeOps ns es := by
      unfold edgeOps; rw [List.flatMap_cons]
    have happ : g.apply (edgeOps ns (e :: es)) = g2.apply (edgeOps ns es) := by
      rw [hops, ← hhead]; unfold Graph.apply; rw [List.foldl_append]
    obtain ⟨ih', iw⟩ := ih g2
    constructor
    · rw [happ]
      refine ⟨ih'.next, ih'.dead, ih'.ext, ih'.labels, ih'.nprops, ?_, ?_⟩
      · rw [ih'.rels, List.map_cons, List.reverse_cons, List.append_assoc]; rfl
      · rw [ih'.eprops]
        unfold edgeInsSpec
        rw [List.flatMap_cons, setAll_append]
    · intro hd hiid
      obtain ⟨i1, i2⟩ := hiid e List.mem_cons_self
      have hl : ∀ x, x < g.next → ∀ g' : Graph, g'.next = g.next → g'.dead = [] → g'.live x = true := by
        intro x hx g' h1 h2; rw [live_iff, h1, h2]; exact ⟨hx, by simp⟩
      rw [hops, txWF_append, hhead, iw hd (fun x hx => hiid x (List.mem_cons_of_mem _ hx)), Bool.and_true]
      show (opWF g (.edge (bulkIid ns e.src) e.rel (bulkIid ns e.dst)) && txWF g1 _) = true
      rw [Bool.and_eq_true]
      refine ⟨?_, wf_epropOps (relOf ns e) e.props g1 (hl _ i1 g1 rfl hd) (hl _ i2 g1 rfl hd)
        (by show 0 < (relOf ns e :: g.rels).count (relOf ns e); simp)⟩
      show (g.live _ && g.live _) = true
      rw [hl _ i1 g rfl hd, hl _ i2 g rfl hd]; rfl

theorem txLoad_graph (ns : List BulkNode) (es : List BulkEdge) (hnd : (ns.map (·.ext)).Nodup) :
    let g := ({} : Graph).apply (txLoad ns es)
    g.next = ns.length ∧ g.dead = [] ∧
    g.ext = (ns.zipIdx.map (fun p => (p.2, p.1.ext))).reverse ∧
    g.labels = (ns.zipIdx.map (fun p => (p.2, p.1.label))).reverse ∧
    g.nprops = setAll [] (nodeIns ns.zipIdx) ∧
    g.rels = (es.map (relOf ns)).reverse ∧
    g.eprops = setAll [] (edgeInsSpec ns es) := by
  have hN := (nodePhase ns {} 0 rfl rfl (by intro n _ p hp; cases hp) hnd).1
  have hE := (edgePhase ns es (({} : Graph).apply (nodeOpsFrom 0 ns))).1
  have happ : ({} : Graph).apply (txLoad ns es) = (({} : Graph).apply (nodeOpsFrom 0 ns)).apply (edgeOps ns es) := by
    rw [txLoad_eq]; unfold Graph.apply; rw [List.foldl_append]
  simp only
  rw [happ]
  refine ⟨by rw [hE.next, hN.next]; simp, by rw [hE.dead, hN.dead], by rw [hE.ext, hN.ext]; simp,
    by rw [hE.labels, hN.labels]; simp, by rw [hE.nprops, hN.nprops], by rw [hE.rels, hN.rels]; simp,
    by rw [hE.eprops, hN.eprops]⟩

end Nervus.Storage
