/-
  Proofs/ReopenHist.lean — the history induction with reopen steps (C04): `Sim ∧ Rec` is maintained
  by committed and abandoned transactions and by reopen.
-/
import Nervus.Proofs.ReopenMain
import Nervus.Proofs.Staging
import Nervus.Proofs.EngineC06
namespace Nervus.Storage
open Nervus.GraphSpec (Graph TxOp Op txWF txDeletesRelWithProps txLabelReAdd txEdgeAndEndpointDelete txExtZero)

theorem stepTx_txid (c : Cfg) (st : Engine × Txn) (op : TxOp) : (stepTx c st op).2.txid = st.2.txid := by
  cases op with
  | node x lab =>
    simp only [stepTx]
    split
    · rename_i r hr; exact (createNode_fields _ _ _ _ _ hr).2.2.2
    · rfl
  | vec n v =>
    show (st.2.setVector c st.1 n v).2.txid = _
    unfold Txn.setVector; split <;> rfl
  | _ => rfl

theorem fold_txid (c : Cfg) (ops : List TxOp) : ∀ st : Engine × Txn, (ops.foldl (stepTx c) st).2.txid = st.2.txid := by
  induction ops with
  | nil => intro st; rfl
  | cons op ops ih => intro st; rw [List.foldl_cons, ih, stepTx_txid]

theorem Rec.begin {s : Engine} (h : Rec s) : Rec s.beginWrite.1 :=
  h.congr rfl rfl rfl rfl (Nat.le_succ _) rfl rfl rfl rfl

theorem tx_abort_rec (c : Cfg) {s0 : Engine} (h : Rec s0) (ops : List TxOp) : Rec (runTx c s0 ops false) :=
  Rec.fold c ops s0.beginWrite h.begin

/-- asks for the idmap columns only (`SimL`, `StagedL`), not for `Sim`: an engine with segments has no `Sim`; it
    gets these columns from its shadow through `SimL.of_ideq` (`stage_s`) -/
theorem Rec.runTx_staged {s : Engine} {g g' : Graph} (hR : Rec s) (hL : SimL s g) (ops : List TxOp)
    (hstL : StagedL s g (ops.foldl (Storage.stepTx Cfg.current) s.beginWrite).1 (ops.foldl (Storage.stepTx Cfg.current) s.beginWrite).2 g') :
    let st := ops.foldl (Storage.stepTx Cfg.current) s.beginWrite
    runTx Cfg.current s ops true = committed Cfg.current st.1 st.2 (idmapAfter st.1.idmap st.2) ∧
    Rec (committed Cfg.current st.1 st.2 (idmapAfter st.1.idmap st.2)) ∧ st.2.mt.WF ∧
    (∀ c ∈ st.2.created, st.1.idmap.lookup c.1 = none) ∧ (st.2.created.map (·.1)).Nodup := by
  intro st
  have fs := StageFrame.fold Cfg.current ops s.beginWrite
  have hid : st.1.idmap = s.idmap := fs.idmap
  have htxid := fold_txid Cfg.current ops s.beginWrite
  have hmt := fold_mtWF Cfg.current ops s.beginWrite MemTable.WF.empty
  obtain ⟨f1, f2, f3, f4, f5⟩ := hstL.idmap_facts hL
  rw [← hid] at f1 f2 f4 f5
  obtain ⟨hok, hR'⟩ := (Rec.fold Cfg.current ops s.beginWrite hR.begin).commit hmt
    (by rw [htxid, fs.ckptTxid]; exact hR.ckptLt) (by rw [htxid]; exact fs.nextTxid) f1 f2 f3
    (by rw [hid, hL.lenL, hL.lenE]) f4 f5
  exact ⟨commit_ok_eq Cfg.current _ _ _ hok, hR', hmt, f2, f3⟩

/-- `Cfg.current`: with the pinned record order (CreateEdge before TombstoneEdge) replay loses an edge that the
    transaction deleted and created again (`C04_counterexample_recreate`) -/
theorem tx_commit_rec {s0 g0} (h : Sim s0 g0) (hr : Rec s0) (ops : List TxOp)
    (ho : OpOK g0 s0.interner.length (.tx ops true)) :
    Sim (runTx Cfg.current s0 ops true) (g0.apply ops) ∧ Rec (runTx Cfg.current s0 ops true) := by
  obtain ⟨hrun, hR', _⟩ := hr.runTx_staged h.L ops (stage_tx Cfg.current h ops ho).L
  exact ⟨tx_commit Cfg.current h ops ho, hrun ▸ hR'⟩

def txOrReopen : List Op → Bool
  | [] => true
  | .tx _ _ :: h => txOrReopen h
  | .reopen :: h => txOrReopen h
  | _ :: _ => false

theorem simRec_step {s : Engine} {g : Graph} (hs : Sim s g) (hr : Rec s) (op : Op) (h : List Op)
    (htx : txOrReopen (op :: h) = true) (ho : OpOK g s.interner.length op) :
    ∃ s1, runOp Cfg.current s op = .ok s1 ∧ Sim s1 (g.opStep op) ∧ Rec s1 ∧ txOrReopen h = true ∧
      s1.interner.length ≤ s.interner.length + opSize op := by
  cases op with
  | tx ops b =>
    have hlen := runTx_interner_le Cfg.current s ops b
    cases b with
    | true =>
      obtain ⟨hs', hr'⟩ := tx_commit_rec hs hr ops ho
      exact ⟨_, rfl, hs', hr', htx, hlen⟩
    | false => exact ⟨_, rfl, tx_abort _ hs ops ho.2.1, tx_abort_rec _ hr ops, htx, hlen⟩
  | reopen =>
    obtain ⟨s1, h1, h2, h3, h4⟩ := reopen_sim_interner hs hr
    exact ⟨s1, h1, h2, h3, htx, by rw [h4]; exact Nat.le_refl _⟩
  | compact => cases htx
  | close => cases htx

theorem run_sim_rec (h : List Op) :
    ∀ s g, Sim s g → Rec s → txOrReopen h = true → HistOK g s.interner.length h →
      ∃ s', h.foldlM (runOp Cfg.current) s = .ok s' ∧ Sim s' (h.foldl Graph.opStep g) ∧ Rec s' := by
  induction h with
  | nil => intro s g hs hr _ _; exact ⟨s, rfl, hs, hr⟩
  | cons op h ih =>
    intro s g hs hr htx hk
    obtain ⟨ho, hk'⟩ := hk.cons
    obtain ⟨s1, h1, hs1, hr1, htx1, hlen⟩ := simRec_step hs hr op h htx ho
    obtain ⟨s', h2, hs', hr'⟩ := ih s1 _ hs1 hr1 htx1 (hk' _ hlen)
    exact ⟨s', by rw [List.foldlM_cons, h1]; exact h2, hs', hr'⟩

end Nervus.Storage
