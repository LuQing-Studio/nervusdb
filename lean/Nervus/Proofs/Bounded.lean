/-
  C22 and C33 (bounded extra work) over the plan tree, as ONE theorem: for every node with stream `s`
  and hand-overs `tr d` below it (`trace`), `Sound n s tr` says that a consumer that never calls again
  after an `Err` (`Calls`) makes every operator below behave the same way (no hand-over is `late`) with
  at most `n` pulls that return an `Err`, and that if the `d` items handed out are rows, so is
  everything handed over below.  `Sound` is kept by what a node is made of — items handed to an operator
  (`handover`, the one step that costs a pull), an operator with `ErrFwd` seen from its output (`run`), the
  guard (`guarded`), parked failures (`parked`, `parkHead`), inputs one after the other (`append`) or
  drained when the node is built (`drained`), nested executions per row (`flat`) — so every case of the
  one induction (`trace_sound`) is a composition of these.
-/
import Nervus.Proofs.PlanOps
namespace Nervus.PlanOps

section
variable {χ ρ ν ε κ α : Type} [DecidableEq κ]

/-! ### hand-overs of a consumer that stops at the first `Err` -/

theorem forall_mem_ite_nil {β : Type} {c : Prop} [Decidable c] {l : List β} {P : β → Prop}
    (h : ¬ c → ∀ x ∈ l, P x) : ∀ x ∈ (if c then [] else l), P x := by
  split
  · simp
  · exact h ‹_›

theorem handedFrom_items (g : Bool) (s : Stream ε ρ) (seen : Bool) : (handedFrom g seen s).map (·.item) = s := by
  induction s generalizing seen with
  | nil => rfl
  | cons x xs ih => simp [handedFrom, ih]

theorem handed_ok_iff (g : Bool) (s : Stream ε ρ) :
    (∀ h ∈ handed g s, Item.isOk h.item = true) ↔ allOk s = true := by
  have := List.forall_mem_map (l := handedFrom g false s) (f := (·.item)) (P := fun x => Item.isOk x = true)
  rw [handedFrom_items] at this
  exact (allOk_iff s).trans this |>.symm

theorem errPulls_append (a b : List (Handed ε ρ)) : errPulls (a ++ b) = errPulls a + errPulls b :=
  List.countP_append

theorem errPulls_of_ok (tr : List (Handed ε ρ)) (h : ∀ x ∈ tr, Item.isOk x.item = true) : errPulls tr = 0 :=
  List.countP_eq_zero.2 fun x hx => by simp [h x hx]

theorem errPulls_of_toGuard (tr : List (Handed ε ρ)) (h : ∀ x ∈ tr, x.toGuard = true) : errPulls tr = 0 :=
  List.countP_eq_zero.2 fun x hx => by simp [h x hx]

theorem handedFrom_toGuard (g : Bool) (s : Stream ε ρ) (seen : Bool) : ∀ h ∈ handedFrom g seen s, h.toGuard = g := by
  induction s generalizing seen with
  | nil => exact fun _ hh => nomatch hh
  | cons x xs ih =>
    intro h hh
    rcases List.mem_cons.1 hh with rfl | hh
    · rfl
    · exact ih _ h hh

/-- what the theorem says of a piece of the trace: nothing `late`, at most `n` pulls returned `Err` -/
def Good (n : Nat) (tr : List (Handed ε ρ)) : Prop :=
  (∀ h ∈ tr, h.late = false) ∧ errPulls tr ≤ n

theorem Good.nil (n : Nat) : Good n ([] : List (Handed ε ρ)) := ⟨fun _ hh => (nomatch hh), Nat.zero_le n⟩

theorem Good.append {a b : Nat} {x y : List (Handed ε ρ)} (hx : Good a x) (hy : Good b y) : Good (a + b) (x ++ y) :=
  ⟨List.forall_mem_append.2 ⟨hx.1, hy.1⟩, errPulls_append x y ▸ Nat.add_le_add hx.2 hy.2⟩

theorem Good.mono {a b : Nat} {x : List (Handed ε ρ)} (hx : Good a x) (hab : a ≤ b) : Good b x :=
  ⟨hx.1, Nat.le_trans hx.2 hab⟩

theorem Good.zero_of_ok {a : Nat} {x : List (Handed ε ρ)} (hx : Good a x)
    (hok : ∀ h ∈ x, Item.isOk h.item = true) : Good 0 x :=
  ⟨hx.1, Nat.le_of_eq (errPulls_of_ok x hok)⟩

/-- the items a consumer that stops at the first `Err` takes: none after an `Err`, the last one alone
    can be an `Err` -/
theorem good_handed (g : Bool) (s : Stream ε ρ) (n : Nat) (hc : Calls s n) : Good 1 (handed g (s.take n)) := by
  induction s generalizing n with
  | nil => rw [List.take_nil]; exact Good.nil 1
  | cons x xs ih =>
    match n with
    | 0 => exact Good.nil 1
    | 1 => exact ⟨List.forall_mem_cons.2 ⟨rfl, fun _ hh => (nomatch hh)⟩, List.countP_le_length⟩
    | n + 2 =>
      obtain ⟨hx, hxs⟩ := Bool.and_eq_true_iff.1 (hc : (Item.isOk x && allOk (xs.take n)) = true)
      obtain ⟨hl, he⟩ := ih (n + 1) hxs
      rw [List.take_succ_cons, handed, handedFrom, hx]
      exact ⟨List.forall_mem_cons.2 ⟨rfl, hl⟩, by simpa [errPulls, hx, handed] using he⟩

theorem good_handed_true (s : Stream ε ρ) (n : Nat) (hc : Calls s n) : Good 0 (handed true (s.take n)) :=
  ⟨(good_handed true s n hc).1, Nat.le_of_eq (errPulls_of_toGuard _ (handedFrom_toGuard true _ false))⟩

theorem good_parks (es : List ε) : Good 0 (es.map (fun e => (⟨true, .error e, false⟩ : Handed ε ρ))) :=
  ⟨fun h hh => by obtain ⟨e, _, rfl⟩ := List.mem_map.1 hh; rfl,
   Nat.le_of_eq (errPulls_of_toGuard _ fun h hh => by obtain ⟨e, _, rfl⟩ := List.mem_map.1 hh; rfl)⟩

/-! ### the invariant, node by node -/

structure Sound (n : Nat) (s : Stream ε ρ) (tr : Nat → List (Handed ε ρ)) : Prop where
  good : ∀ d, Calls s d → Good n (tr d)
  ok : ∀ d, allOk (s.take d) = true → ∀ x ∈ tr d, Item.isOk x.item = true

theorem Sound.mono {n m : Nat} {s : Stream ε ρ} {tr : Nat → List (Handed ε ρ)} (h : Sound n s tr) (hnm : n ≤ m) :
    Sound m s tr :=
  ⟨fun d hd => (h.good d hd).mono hnm, h.ok⟩

theorem Sound.congr {n : Nat} {s : Stream ε ρ} {tr tr' : Nat → List (Handed ε ρ)} (h : Sound n s tr)
    (heq : ∀ d, tr d = tr' d) : Sound n s tr' :=
  ⟨fun d hd => heq d ▸ h.good d hd, fun d hd => heq d ▸ h.ok d hd⟩

theorem Sound.nil (s : Stream ε ρ) : Sound 0 s (fun _ => []) :=
  ⟨fun _ _ => Good.nil 0, fun _ _ _ hx => nomatch hx⟩

/-- the items of `c` are handed to an operator: the last one taken can be an `Err` -/
theorem Sound.handover {n : Nat} {c : Stream ε ρ} {ct : Nat → List (Handed ε ρ)} (h : Sound n c ct) :
    Sound (n + 1) c (fun d => handed false (c.take d) ++ ct d) :=
  ⟨fun d hd => ((good_handed false c d hd).append (h.good d hd)).mono (Nat.le_of_eq (Nat.add_comm 1 n)),
   fun d hd => List.forall_mem_append.2 ⟨(handed_ok_iff false _).2 hd, h.ok d hd⟩⟩

/-- what an operator with `ErrFwd` takes for `d` items, seen from its output -/
theorem Sound.run {σ : Type} {n : Nat} {c : Stream ε ρ} {tr : Nat → List (Handed ε ρ)} (h : Sound n c tr)
    (t : Trans σ ε ρ) (hf : ErrFwd t) (st : σ) : Sound n (t.run st c) (fun d => tr (t.need st c d)) :=
  ⟨fun d hd => h.good _ (t.calls hf st c d hd), fun d hd => h.ok _ (t.pulled_ok hf st c d hd)⟩

/-- the node's guard is one more operator with `ErrFwd`; what it takes from the node's body is handed
    `toGuard`, which costs nothing -/
theorem Sound.guarded {n : Nat} {s : Stream ε ρ} {st : Nat → List (Handed ε ρ)} (h : Sound n s st)
    (L : LimEnv ε) (site : Site) :
    Sound n (guard L site s) (fun d => handed true (s.take (guardNeed L site s d)) ++ st (guardNeed L site s d)) := by
  have hg : Sound n s (fun d => handed true (s.take d) ++ st d) :=
    ⟨fun d hd => ((good_handed_true s d hd).append (h.good d hd)).mono (Nat.le_of_eq (Nat.zero_add n)),
     fun d hd => List.forall_mem_append.2 ⟨(handed_ok_iff true _).2 hd, h.ok d hd⟩⟩
  unfold guard guardNeed
  cases L.time site 0 with
  | some e => exact ⟨fun _ _ => hg.good 0 rfl, fun _ _ => hg.ok 0 rfl⟩
  | none => exact hg.run (guardT L site) (guardT_errFwd L site) _

/-- failures parked on the way count as errors handed to the node's guard, which cost nothing -/
theorem Sound.parked {n : Nat} {s : Stream ε ρ} {tr : Nat → List (Handed ε ρ)} (h : Sound n s tr) (ev : Nat → List ε)
    (hev : ∀ d, allOk (s.take d) = true → ev d = []) :
    Sound n s (fun d => tr d ++ (ev d).map (fun e => ⟨true, .error e, false⟩)) :=
  ⟨fun d hd => (h.good d hd).append (good_parks _),
   fun d hd => List.forall_mem_append.2 ⟨h.ok d hd, by rw [hev d hd]; exact fun _ hx => nomatch hx⟩⟩

/-- a failure parked while the node was built takes the place of the node's first item -/
theorem Sound.parkHead {n : Nat} {s : Stream ε ρ} {tr : Nat → List (Handed ε ρ)} (h : Sound n s tr) (p : Option ε) :
    Sound n (parkHead p false s)
      (fun d => (if d = 0 then [] else p.toList.map (fun e => ⟨true, .error e, false⟩)) ++ tr d) := by
  refine ⟨fun d hd => ?_, fun d hd => ?_⟩
  · refine ((?_ : Good 0 _).append (h.good d (parkHead_take_ok p s _ hd).2)).mono (Nat.le_of_eq (Nat.zero_add n))
    split
    · exact Good.nil _
    · exact good_parks _
  · obtain ⟨hp, hs⟩ := parkHead_take_ok p s d hd
    exact List.forall_mem_append.2 ⟨forall_mem_ite_nil fun hne => by simp [hp.resolve_left hne], h.ok d hs⟩

/-- a body that is built by draining `a` as the driver does and then, if `a` was error-free, `b` -/
theorem Sound.drained {n m : Nat} {a b body : Stream ε ρ} {ta tb : Nat → List (Handed ε ρ)} (ha : Sound n a ta)
    (hb : Sound m b tb)
    (hbody : ∀ d, d ≠ 0 → allOk (body.take d) = true → allOk a = true ∧ allOk b = true) :
    Sound (max n m) body (fun d => if d = 0 then [] else
      ta (driverDemand a) ++ (if allOk a then tb (driverDemand b) else [])) := by
  refine ⟨fun d _ => ?_, fun d hd => forall_mem_ite_nil fun hne => ?_⟩
  · have Ga := ha.good _ (Calls.driver a)
    split
    · exact Good.nil _
    · split
      · rename_i hok
        exact ((Ga.zero_of_ok (ha.ok _ (allOk_take _ _ hok))).append (hb.good _ (Calls.driver b))).mono (by omega)
      · rw [List.append_nil]
        exact Ga.mono (by omega)
  · obtain ⟨h1, h2⟩ := hbody d hne hd
    rw [if_pos h1]
    exact List.forall_mem_append.2 ⟨ha.ok _ (allOk_take _ _ h1), hb.ok _ (allOk_take _ _ h2)⟩

theorem Sound.leaf (L : LimEnv ε) (site : Site) (body : Stream ε ρ) :
    Sound 0 (guard L site body) (leafTrace L site body) :=
  ((Sound.nil body).guarded L site).congr fun _ => List.append_nil _

theorem Sound.unary {σ : Type} {n : Nat} {c : Stream ε ρ} {ct : Nat → List (Handed ε ρ)} (h : Sound n c ct)
    (L : LimEnv ε) (site : Site) (t : Trans σ ε ρ) (hf : ErrFwd t) (st : σ) :
    Sound (n + 1) (guard L site (t.run st c)) (unaryTrace L site t st c ct 0) :=
  ((h.handover.run t hf st).guarded L site).congr fun d => by
    rw [unaryTrace, Nat.max_zero]; exact (List.append_assoc _ _ _).symm

/-- a node whose operator can park failures (its guard looks for one at the end of the stream too) -/
theorem Sound.park {σ : Type} {n : Nat} {c : Stream ε ρ} {ct : Nat → List (Handed ε ρ)} (h : Sound n c ct)
    (L : LimEnv ε) (site : Site) (t : Trans σ ε ρ) (hf : ErrFwd t) (parks : σ → Except ε ρ → Option ε)
    (fp : σ → Option ε)
    (howes : Owes t parks fp) (st : σ) :
    Sound (n + 1) (guard L site ((parkT t parks fp false).run (st, none) c))
      (parkTrace L site t parks fp false st c ct 0) :=
  (((h.handover.run _ (parkT_errFwd t hf parks fp false) (st, none)).parked _
    (parkEvents_eq_nil t parks fp howes.pend c st)).guarded L site).congr fun d => by
      simp only [parkTrace, unaryTrace, Nat.max_zero, List.append_assoc]

/-- two inputs, one after the other: the second is touched only once the first is exhausted, so only
    one of them can have met an error -/
theorem Sound.append {n m : Nat} {a b : Stream ε ρ} {ta tb : Nat → List (Handed ε ρ)} (ha : Sound n a ta)
    (hb : Sound m b tb) : Sound (max n m) (a ++ b) (fun d => ta d ++ tb (d - a.length)) := by
  refine ⟨fun d hd => ?_, fun d hd => ?_⟩
  · have Gl := ha.good d (Calls.append_left _ _ _ hd)
    have Gr := hb.good _ (Calls.append_right _ _ _ hd)
    cases hcl : allOk (a.take d) with
    | true => exact ((Gl.zero_of_ok (ha.ok d hcl)).append Gr).mono (by omega)
    | false =>
      have hle : d ≤ a.length := Nat.le_of_not_lt fun hgt => by
        rw [allOk_take _ d (Calls.allOk_of_lt _ _ _ hd hgt)] at hcl; cases hcl
      exact (Gl.append (Gr.zero_of_ok (hb.ok _ (by rw [Nat.sub_eq_zero_of_le hle]; rfl)))).mono (by omega)
  · rw [allOk_take_append, Bool.and_eq_true] at hd
    exact List.forall_mem_append.2 ⟨ha.ok d hd.1, hb.ok _ hd.2⟩

theorem batches_zero (g : Nat → ρ → Stream ε ρ) (k : Nat) (c : Stream ε ρ) : batches g k c 0 = [] := by
  cases c <;> simp [batches]

theorem flatMapT_need_ok (g : Nat → ρ → Stream ε ρ) (k : Nat) (r : ρ) (xs : Stream ε ρ) (d : Nat) (hd : d ≠ 0) :
    (flatMapT g).need k (.ok r :: xs) d =
      if d ≤ (g k r).length then 1 else 1 + (flatMapT g).need (k + 1) xs (d - (g k r).length) := by
  simp only [Trans.need]
  rw [if_neg]
  · rfl
  · intro h
    rcases h with h | h
    · exact hd h
    · simp [flatMapT] at h

/-- the nested executions of a per-row expansion: only the last one touched can have met an error,
    and none has if the operator's own input failed -/
theorem batches_good (g : Nat → ρ → Stream ε ρ) (F : Nat × ρ × Nat → List (Handed ε ρ)) (n : Nat)
    (hF : ∀ b, Calls (g b.1 b.2.1) b.2.2 → Good n (F b))
    (hZ : ∀ b, b.2.2 ≠ 0 → allOk ((g b.1 b.2.1).take b.2.2) = true → ∀ h ∈ F b, Item.isOk h.item = true) :
    ∀ (c : Stream ε ρ) (k d : Nat), Calls ((flatMapT g).run k c) d →
      Good n (((batches g k c d).map F).flatten) ∧
      (allOk (c.take ((flatMapT g).need k c d)) = false →
        ∀ h ∈ ((batches g k c d).map F).flatten, Item.isOk h.item = true) := by
  intro c
  induction c with
  | nil => intro k d _; simp [batches, Good.nil]
  | cons x xs ih =>
    intro k d h
    by_cases hd0 : d = 0
    · subst hd0; simp [batches_zero, Good.nil]
    · cases x with
      | error e =>
        rw [flatMapT_run_err] at h
        -- the consumer stops at this `Err`: nothing further is demanded
        have hd1 : d - 1 = 0 := by
          cases hd : d - 1 with
          | zero => rfl
          | succ m =>
            unfold Calls at h
            rw [hd] at h
            simp [List.take_succ_cons, allOk, Item.isOk] at h
        simp only [batches, hd0, if_false, hd1, batches_zero]
        simp [Good.nil]
      | ok r =>
        rw [flatMapT_run_ok] at h
        simp only [batches, hd0, if_false, List.map_cons, List.flatten_cons]
        by_cases hlen : d ≤ (g k r).length
        · have h0 : d - (g k r).length = 0 := by omega
          rw [h0, batches_zero]
          simp only [List.map_nil, List.flatten_nil, List.append_nil]
          refine ⟨hF (k, r, d) (Calls.append_left _ _ _ h), fun hno => ?_⟩
          rw [flatMapT_need_ok g k r xs d hd0, if_pos hlen] at hno
          simp [allOk, Item.isOk] at hno
        · have hout := Calls.allOk_of_lt _ _ _ h (by omega)
          have Gb := (hF (k, r, d) (Calls.append_left _ _ _ h)).zero_of_ok
            (hZ (k, r, d) hd0 (allOk_take _ _ hout))
          obtain ⟨Gr, Zr⟩ := ih (k + 1) (d - (g k r).length) (Calls.append_right _ _ _ h)
          refine ⟨(Gb.append Gr).mono (by omega), fun hno => ?_⟩
          intro x hx
          rcases List.mem_append.1 hx with hx | hx
          · exact hZ (k, r, d) hd0 (allOk_take _ _ hout) x hx
          · refine Zr ?_ x hx
            rw [flatMapT_need_ok g k r xs d hd0, if_neg hlen, Nat.add_comm, List.take_succ_cons] at hno
            simpa [allOk, Item.isOk] using hno

/-- a node that expands every input row by a nested execution (EXISTS filter, CartesianProduct,
    Apply); `F b` = what the execution for the batch `b` = (index, row, demand) hands over -/
theorem Sound.flat {n : Nat} {c : Stream ε ρ} {ct : Nat → List (Handed ε ρ)} (h : Sound n c ct)
    (L : LimEnv ε) (site : Site) (g : Nat → ρ → Stream ε ρ) (F : Nat × ρ × Nat → List (Handed ε ρ)) (m : Nat)
    (hF : ∀ b, Calls (g b.1 b.2.1) b.2.2 → Good m (F b))
    (hZ : ∀ b, b.2.2 ≠ 0 → allOk ((g b.1 b.2.1).take b.2.2) = true → ∀ h ∈ F b, Item.isOk h.item = true) :
    Sound (max n m + 1) (guard L site ((dropErrT false (flatMapT g)).run 0 c))
      (fun d => unaryTrace L site (dropErrT false (flatMapT g)) 0 c ct 0 d ++
        ((batches g 0 c (guardNeed L site ((dropErrT false (flatMapT g)).run 0 c) d)).map F).flatten) := by
  rw [dropErrT_false]
  have hU := h.handover.run _ (flatMapT_errFwd g) 0
  have hop : Sound (max n m + 1) ((flatMapT g).run 0 c) (fun d =>
      (handed false (c.take ((flatMapT g).need 0 c d)) ++ ct ((flatMapT g).need 0 c d)) ++
        ((batches g 0 c d).map F).flatten) := by
    refine ⟨fun d hd => ?_, fun d hd => ?_⟩
    · obtain ⟨B1, B0⟩ := batches_good g F m hF hZ c 0 d hd
      cases hok : allOk (c.take ((flatMapT g).need 0 c d)) with
      -- the operator's own input was error-free: the whole budget is left to the nested executions
      | true => exact (((hU.good d hd).zero_of_ok (h.handover.ok _ hok)).append B1).mono (by omega)
      | false => exact ((hU.good d hd).append (B1.zero_of_ok (B0 hok))).mono (by omega)
    · refine List.forall_mem_append.2 ⟨hU.ok d hd, fun x hx => ?_⟩
      obtain ⟨tr, htr, hxt⟩ := List.mem_flatten.1 hx
      obtain ⟨b, hb, rfl⟩ := List.mem_map.1 htr
      obtain ⟨hb0, hbok⟩ := batches_ok g 0 c d hd b hb
      exact hZ b hb0 hbok x hxt
  exact (hop.guarded L site).congr fun d => by simp only [unaryTrace, Nat.max_zero, List.append_assoc]

/-! ### the tree -/

/-- over the records `Quirks.forwarding b`, where every flag an operator asks for reduces to `false`
    (`Quirks.eq_of_forwardsErr`) -/
theorem trace_sound_forwarding (S : Sem χ ρ ν ε κ α) (b : Bool) (L : LimEnv ε) (p : Plan χ ρ ε α) (site : Site) (env : ρ) :
    Sound p.depth (runL S (.forwarding b) L site env p) (trace false S (.forwarding b) L site env p) := by
  induction p generalizing site env with
  | scan rows => exact .leaf L site _
  | fail e => exact .leaf L site _
  | arg => exact .leaf L site _
  | filter pred inp ih => exact (ih _ _).unary L site _ (dropErrT_errFwd (mapT_errFwd _)) _
  | distinct inp ih => exact (ih _ _).unary L site _ (distinctT_errFwd S) _
  | expand kind g inp ih => exact (ih _ _).unary L site _ (dropErrT_errFwd (flatMapT_errFwd _)) _
  | project projs inp ih =>
    exact (ih _ _).park L site _ (dropErrT_errFwd (mapT_errFwd _)) _ _
      (.of_fwd _ (fun _ => rfl) (fun _ e => ⟨[], rfl⟩) _ _) _
  | unwind e alias inp ih =>
    exact (ih _ _).park L site _ (dropErrT_errFwd (flatMapT_errFwd _)) _ _
      (.of_fwd _ (fun _ => rfl) (fun _ e => ⟨[], rfl⟩) _ _) _
  | procedureCall name args inp ih =>
    exact (ih _ _).park L site _ (dropErrT_errFwd (flatMapT_errFwd _)) _ _
      (.of_fwd _ (fun _ => rfl) (fun _ e => ⟨[], rfl⟩) _ _) _
  | orderBy keys inp ih =>
    exact (ih _ _).park L site _ (orderByT_errFwd S _ rfl L site env keys) _ _
      (.of_none _ _) _
  | aggregate groupBy aggs inp ih =>
    exact (ih _ _).park L site _ (dropErrT_errFwd (aggregateT_errFwd S L site env groupBy aggs)) _ _
      (.of_none _ _) _
  | skip n inp ih =>
    show Sound _ (guard L site (match S.window n env with | .error e => _ | .ok k => _))
      (fun d => match S.window n env with | .error e => _ | .ok k => _)
    cases S.window n env with
    | error e => exact (Sound.leaf L site _).mono (Nat.zero_le _)
    | ok k => exact (ih _ _).unary L site _ (skipT_errFwd) _
  | limit n inp ih =>
    show Sound _ (guard L site (match S.window n env with | .error e => _ | .ok k => _))
      (fun d => match S.window n env with | .error e => _ | .ok k => _)
    cases S.window n env with
    | error e => exact (Sound.leaf L site _).mono (Nat.zero_le _)
    | ok k => exact (ih _ _).unary L site _ limitT_errFwd _
  | filterExists sub inp ihs ihi =>
    exact (ihi _ _).flat L site _ (fun b => trace false S _ L (.exec b.1 site) (S.bind env b.2.1) sub 1) _
      (fun b _ => (ihs _ _).good 1 (Calls.one _))
      (fun b hb0 hbok => (ihs _ _).ok 1 (existsRow_head_ok _ rfl _ _ _ hb0 hbok))
  | cartesian l r ihl ihr =>
    exact (ihl _ _).flat L site _ (fun b => trace false S _ L (.exec b.1 site) env r b.2.2) _
      (fun b hb => (ihr _ _).good _ (Calls.of_map _ (joinItem_isOk S _) _ _ hb))
      (fun b _ hbok => (ihr _ _).ok _ (by rwa [← List.map_take, allOk_map_iff _ (joinItem_isOk S _)] at hbok))
  | apply inp sub ihi ihs =>
    show Sound _ (guard L site (match L.time (.inner site) 0 with | some e => _ | none => _))
      (fun d => match L.time (.inner site) 0 with | some e => _ | none => _)
    cases L.time (.inner site) 0 with
    | some e => exact (Sound.leaf L site _).mono (Nat.zero_le _)
    | none =>
      exact (ihi _ _).flat L site _ (fun b => trace false S _ L (.exec b.1 site) (S.bind env b.2.1) sub
          (driverDemand (runL S _ L (.exec b.1 site) (S.bind env b.2.1) sub))) _
        (fun b _ => (ihs _ _).good _ (Calls.driver _))
        (fun b hb0 hbok => (ihs _ _).ok _ (allOk_take _ _ (applyRow_ok S L site _ _ _ _ hb0 hbok)))
  | indexSeek key value fb ih =>
    have hb : Sound (fb.depth + 1) (seekBody S L env key value (runL S (.forwarding b) L (.left site) env fb))
        (fun d => match S.eval L.coll value env S.empty with
          | .error _ => []
          | .ok v => match S.lookup key v with
            | some _ => []
            | none => handed false ((runL S (.forwarding b) L (.left site) env fb).take d) ++
                trace false S (.forwarding b) L (.left site) env fb d) := by
      unfold seekBody
      cases S.eval L.coll value env S.empty with
      | error e => exact (Sound.nil _).mono (Nat.zero_le _)
      | ok v =>
        dsimp only
        cases S.lookup key v with
        | some rows => exact (Sound.nil _).mono (Nat.zero_le _)
        | none => exact (ih _ _).handover
    exact ((hb.parkHead _).guarded L site).congr fun d => (List.append_assoc _ _ _).symm
  | fixup nulls outer filtered iho ihf =>
    have ho := (iho (.left site) env).handover.run (dropErrT ((Quirks.forwarding b).dropsErr .fixupOuter) _)
      (dropErrT_errFwd (loopT_errFwd L (.inner site) "OptionalWhereFixup.outer")) ⟨0, 0, false⟩
    have hf := (ihf (.right site) env).handover.run (dropErrT ((Quirks.forwarding b).dropsErr .fixupFiltered) _)
      (dropErrT_errFwd (loopT_errFwd L (.inner (.inner site)) "OptionalWhereFixup.filtered")) ⟨0, 0, false⟩
    refine (((ho.drained hf (fixupBody_head_ok S (.forwarding b) L site nulls _ _)).guarded L site).mono (Nat.le_of_eq (Nat.succ_max_succ _ _))).congr fun d => ?_
    simp only [trace, eagerPre, Bool.false_eq_true, if_false, Nat.max_zero]
    split
    · rename_i h0; rw [h0]; rfl
    · simp only [List.append_assoc]
  | union all l r ihl ihr =>
    have hcat := (ihl (.left site) env).append (ihr (.right site) env)
    cases all with
    | true => exact ((hcat.guarded L site).mono (Nat.le_succ _)).congr fun d => (List.append_assoc _ _ _).symm
    | false =>
      exact (hcat.unary L site _ (distinctT_errFwd S) []).congr fun d => by
        rw [unaryTrace, Nat.max_zero]; exact (List.append_assoc _ _ _).symm

/-- **C22 and C33 (bounded extra work), tree level**: for every plan, every limit environment and every node -/
theorem trace_sound (S : Sem χ ρ ν ε κ α) (Q : Quirks) (hq : Q.forwardsErr) (L : LimEnv ε)
    (p : Plan χ ρ ε α) (site : Site) (env : ρ) :
    Sound p.depth (runL S Q L site env p) (trace false S Q L site env p) :=
  Quirks.eq_of_forwardsErr hq ▸ trace_sound_forwarding S _ L p site env

end

end Nervus.PlanOps
