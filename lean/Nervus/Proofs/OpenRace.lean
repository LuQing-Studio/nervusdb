/-
  Racing creators (`Model.OpenRace`) under the source's protocol `replaces = false`: once the path names an inode it names
  that one for good, so every descriptor is on that one inode and a granted lock is in its lock table (`Ok`, `Inv`); two owners would
  both be recorded as the holder of the same inode's lock.
-/
import Nervus.Model.OpenRace
namespace Nervus.OpenRace

/-- What opener `i` at program point `p` relies on: its descriptor is on THE inode of the path, and a lock it was
    granted is recorded in the lock table. -/
def Ok (path : Option Nat) (lockOf : Nat → Option Nat) (i : Nat) : OPc → Prop
  | .haveFd n => path = some n
  | .locked n => path = some n ∧ lockOf n = some i
  | _ => True

def Inv (s : State) : Prop := ∀ i, Ok s.pathIno s.lockOf i (s.ops i)

theorem inv_init : Inv init := fun _ => trivial

/-- Opener `i` moves to `p` while path and lock table are set anew: `p` must be justified against the new values, and
    whatever an opener could rely on before must survive the change. -/
theorem Inv.set {s : State} (hi : Inv s) (i : Nat) (p : OPc) (path : Option Nat) (nx : Nat) (lockOf : Nat → Option Nat)
    (hp : Ok path lockOf i p) (hmono : ∀ j q, Ok s.pathIno s.lockOf j q → Ok path lockOf j q) :
    Inv ⟨path, nx, lockOf, (setOp s i p).ops⟩ := fun j => by
  by_cases hj : j = i
  · subst hj; simpa [setOp] using hp
  · simpa [setOp, hj] using hmono j _ (hi j)

theorem inv_step {s s' : State} {l : Label} (hi : Inv s) (hs : step false s l = some s') : Inv s' := by
  cases l with
  | check i => simp [step] at hs
  | create i => simp [step] at hs
  | openp i =>
    simp only [step, Bool.false_eq_true, if_false] at hs
    split at hs
    · split at hs
      · rename_i n hp
        cases hs
        exact hi.set i _ _ _ _ hp fun _ _ h => h
      · -- the path named no inode, so nobody has a descriptor yet
        rename_i hp
        cases hs
        refine hi.set i _ _ _ _ rfl fun j q h => ?_
        rw [hp] at h
        cases q with
        | haveFd => cases h
        | locked => cases h.1
        | _ => trivial
    · cases hs
  | lock i =>
    simp only [step] at hs
    split at hs
    · rename_i n hop
      have hn : Ok _ _ i _ := hop ▸ hi i
      split at hs
      · -- the inode's lock was free, so no other opener relies on holding it
        rename_i hfree
        cases hs
        refine hi.set i _ _ _ _ ⟨hn, if_pos rfl⟩ fun j q h => ?_
        cases q with
        | locked m =>
          have h2 : s.lockOf m = some j := h.2
          refine ⟨h.1, ?_⟩
          show (if m = n then some i else s.lockOf m) = some j
          by_cases hm : m = n
          · rw [hm, hfree] at h2; cases h2
          · rw [if_neg hm]; exact h2
        | _ => exact h
      · cases hs
        exact hi.set i _ _ _ _ trivial fun _ _ h => h
    · cases hs

theorem reach_inv {s : State} (h : Reach false s) : Inv s := by
  induction h with
  | init => exact inv_init
  | step l _ hs ih => exact inv_step ih hs

theorem reach_of_runTrace {r : Bool} {s s' : State} (tr : List Label)
    (h0 : Reach r s) (h : runTrace r s tr = some s') : Reach r s' := by
  induction tr generalizing s with
  | nil => simp [runTrace] at h; subst h; exact h0
  | cons l ls ih =>
    simp only [runTrace] at h
    split at h
    · rename_i s1 hs1; exact ih (Reach.step l h0 hs1) h
    · cases h

end Nervus.OpenRace
