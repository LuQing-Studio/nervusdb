/-
  Proofs.ValueInd — induction over `Value` by the values directly inside a list or a map (`Value.kids`,
  `Value.ind`), and the recursive predicates on values read at those (`wf_kids`, `noNaN_kids`, …): what a
  proof by `Value.ind` needs to hand its hypotheses down.
-/
import Nervus.Spec.Findings
namespace Nervus
open Value Spec

def Value.kids : Value → List Value
  | .list xs => xs
  | .map kvs => kvs.map Prod.snd
  | _ => []

theorem Value.sizeOf_kid {v w : Value} (h : w ∈ v.kids) : sizeOf w < sizeOf v := by
  cases v with
  | list xs =>
    have : sizeOf w < sizeOf xs := List.sizeOf_lt_of_mem h
    simp only [Value.list.sizeOf_spec]; omega
  | map kvs =>
    obtain ⟨kv, hkv, rfl⟩ := List.mem_map.1 h
    have h1 : sizeOf kv < sizeOf kvs := List.sizeOf_lt_of_mem hkv
    have h2 : sizeOf kv.2 < sizeOf kv := by cases kv; simp only [Prod.mk.sizeOf_spec]; omega
    simp only [Value.map.sizeOf_spec]; omega
  | _ => cases h

theorem Value.ind {P : Value → Prop} (step : ∀ v, (∀ w ∈ v.kids, P w) → P v) (v : Value) : P v :=
  step v fun w _ => Value.ind step w
termination_by sizeOf v
decreasing_by exact Value.sizeOf_kid ‹_›

/-- a conjunction over a list written out by recursion says that every member passes (`g`: the part of a member
    that is tested) -/
theorem all_of_eqns {α β : Type} {p : α → Bool} {g : β → α} {f : List β → Bool} (nil : f [] = true)
    (cons : ∀ y ys, f (y :: ys) = (p (g y) && f ys)) : ∀ {ys : List β}, f ys = true ↔ ∀ w ∈ ys.map g, p w = true
  | [] => .intro (fun _ _ hw => nomatch hw) fun _ => nil
  | y :: ys => by
    rw [cons, Bool.and_eq_true, all_of_eqns nil cons (ys := ys), List.map_cons]
    exact ⟨fun h w hw => (List.mem_cons.1 hw).elim (· ▸ h.1) (h.2 w),
      fun h => ⟨h _ (.head _), fun w hw => h w (.tail _ hw)⟩⟩

theorem all_of_eqns_id {α : Type} {p : α → Bool} {f : List α → Bool} (nil : f [] = true)
    (cons : ∀ y ys, f (y :: ys) = (p y && f ys)) {ys : List α} : f ys = true ↔ ∀ w ∈ ys, p w = true :=
  by have h := all_of_eqns (g := id) nil cons (ys := ys); rwa [List.map_id] at h

theorem wfMap_mem {kvs : List (Str × Value)} (h : wfMap kvs = true) : ∀ x ∈ kvs.map Prod.snd, x.wf = true :=
  (all_of_eqns rfl fun ⟨_, _⟩ _ => rfl).1 h

theorem wf_kids {v : Value} (h : v.wf = true) : ∀ w ∈ v.kids, w.wf = true := by
  cases v with
  | list xs => exact (all_of_eqns_id rfl fun _ _ => rfl).1 h
  | map kvs => exact wfMap_mem (Bool.and_eq_true _ _ ▸ h).2
  | _ => nofun

theorem noNaN_kids {v : Value} (h : mapsNaNFree.noNaN v = true) : ∀ w ∈ v.kids, mapsNaNFree.noNaN w = true := by
  cases v with
  | list xs => exact (all_of_eqns_id rfl fun _ _ => rfl).1 h
  | map kvs => exact (all_of_eqns rfl fun ⟨_, _⟩ _ => rfl).1 h
  | _ => nofun

theorem clean_kids {v : Value} (h : clean v = true) : ∀ w ∈ v.kids, clean w = true := by
  cases v with
  | list xs => exact (all_of_eqns_id rfl fun _ _ => rfl).1 h
  | map kvs => exact (all_of_eqns rfl fun ⟨_, _⟩ _ => rfl).1 h
  | _ => nofun

theorem mnfList_iff {xs : List Value} : mapsNaNFree.mnfList xs = true ↔ ∀ x ∈ xs, mapsNaNFree x = true :=
  all_of_eqns_id rfl fun _ _ => rfl

theorem plainList_mem {xs : List Value} (h : plain.plainList xs = true) : ∀ x ∈ xs, plain x = true :=
  (all_of_eqns_id rfl fun _ _ => rfl).1 h

/-- a concatenation over a list written out by recursion contains what each member contributes -/
theorem append_of_eqns {α β γ : Type} {s : α → List γ} {g : β → α} {f : List β → List γ}
    (cons : ∀ y ys, f (y :: ys) = s (g y) ++ f ys) : ∀ {ys : List β}, ∀ w ∈ ys.map g, ∀ c ∈ s w, c ∈ f ys
  | y :: ys, w, hw, c, hc => by
    rw [cons]
    rcases List.mem_cons.1 hw with rfl | hw
    · exact List.mem_append_left _ hc
    · exact List.mem_append_right _ (append_of_eqns cons w hw c hc)

theorem stringsOf_kids {v w : Value} (h : w ∈ v.kids) : ∀ s ∈ stringsOf w, s ∈ stringsOf v := by
  cases v with
  | list xs => exact append_of_eqns (g := id) (f := stringsOf.stringsOfList) (fun _ _ => rfl) w ((List.map_id xs).symm ▸ h)
  | map kvs => exact append_of_eqns (f := stringsOf.stringsOfMap) (fun ⟨_, _⟩ _ => rfl) w h
  | _ => cases h

end Nervus
