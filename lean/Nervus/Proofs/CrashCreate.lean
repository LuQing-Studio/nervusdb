/-
  Proofs.CrashCreate — first-time creation of a database (`Pager::open` on a fresh file, catalog
  page, the two reserved index roots) is crash-safe at every I/O step: every crash image is again a
  *nascent* database — one on which `open` completes the creation — or the finished empty database.
  Each piece of the program is a chain of `Hoare` blocks over the classes `NCls`; the class grows
  at the syncs (catalog page durable, index root durable, meta page names the catalog).
-/
import Nervus.Proofs.CrashOpen
namespace Nervus.Crash

/-- nothing but creation has ever touched the page file -/
structure NBase (p : PImg) : Prop where
  i2e : p.i2e = []
  segs : p.segs = []
  trees : p.trees = []
  start : p.hdr.i2eStart = 0
  ilen : p.hdr.i2eLen = 0
  np : 2 ≤ p.hdr.nextPage
  bm : 2 ≤ p.bm

/-- `≤ 2`: the two reserved indexes of `mkIndexA`. -/
def CatOK (R : List Nat) (p : PImg) : Prop :=
  ∃ es, p.cat = some es ∧ es.length ≤ 2 ∧ (∀ r ∈ es, r ∈ p.idx) ∧ ∀ r ∈ R, r ∈ p.idx

/-- classes of page-file images during creation: `ini` = the meta page is initialised and the file
    has its two fixed pages; `cr` = the catalog root the meta page names (if pinned); `R` = the
    catalog page is durable and names only initialised index roots, `R` are initialised -/
structure NCls (ini : Bool) (cr : Option Nat) (R : Option (List Nat)) (p : PImg) : Prop where
  base : NBase p
  inited : ini = true → p.hdr.init = true ∧ 2 ≤ p.len
  root : ∀ c, cr = some c → p.hdr.catRoot = c
  cat : ∀ R', R = some R' → CatOK R' p

def NHdrOK (ini : Bool) (cr : Option Nat) (pm : Meta) : Prop :=
  pm.i2eStart = 0 ∧ pm.i2eLen = 0 ∧ 2 ≤ pm.nextPage ∧ (ini = true → pm.init = true) ∧ (∀ c, cr = some c → pm.catRoot = c)

def NEff (ini : Bool) (cr : Option Nat) (R : Option (List Nat)) : PEff → Prop
  | .setLen _ => True
  | .bitmap top => 2 ≤ top
  | .hdr pm => NHdrOK ini cr pm
  | .cat es => ∀ R', R = some R' → es.length ≤ 2 ∧ ∀ r ∈ es, r ∈ R'
  | .idxRoot _ => True
  | _ => False

theorem ncls_applyEff {ini : Bool} {cr : Option Nat} {R : Option (List Nat)} {p : PImg} {e : PEff}
    (h : NCls ini cr R p) (he : NEff ini cr R e) : NCls ini cr R (applyEff e p) := by
  have hb := h.base
  cases e <;> simp only [NEff] at he
  case setLen n =>
    exact { h with base := { hb with }, inited := fun hi => ⟨(h.inited hi).1, Nat.le_trans (h.inited hi).2 (Nat.le_max_left _ _)⟩ }
  case bitmap top => exact { h with base := { hb with bm := he } }
  case hdr pm =>
    exact { base := { hb with start := he.1, ilen := he.2.1, np := he.2.2.1 }
            inited := fun hi => ⟨he.2.2.2.1 hi, (h.inited hi).2⟩
            root := he.2.2.2.2
            cat := h.cat }
  case cat es =>
    refine { h with base := { hb with }, cat := ?_ }
    intro R' hR
    obtain ⟨es0, _, _, _, h4⟩ := h.cat R' hR
    obtain ⟨h1, h2⟩ := he R' hR
    exact ⟨es, rfl, h1, fun r hr => h4 r (h2 r hr), h4⟩
  case idxRoot r =>
    refine { h with base := { hb with }, cat := ?_ }
    intro R' hR
    obtain ⟨es0, e1, e2, e3, e4⟩ := h.cat R' hR
    exact ⟨es0, e1, e2, fun x hx => List.mem_cons_of_mem _ (e3 x hx), fun x hx => List.mem_cons_of_mem _ (e4 x hx)⟩

theorem neff_torn {ini : Bool} {cr : Option Nat} {R : Option (List Nat)} {p : PImg} {e e' : PEff}
    (he : NEff ini cr R e) (ht : tornEff p e = some e') : e' = e := by
  cases e <;> simp only [NEff] at he <;> simp only [tornEff, Option.some.injEq] at ht <;> exact ht.symm

theorem ncls_closed (ini : Bool) (cr : Option Nat) (R : Option (List Nat)) : ClosedUnder (NCls ini cr R) (NEff ini cr R) :=
  ⟨ncls_applyEff, fun he ht => neff_torn he ht ▸ he⟩

structure NascentP (p : PImg) : Prop where
  base : NBase p
  cat : p.hdr.catRoot = 0 ∨ (p.hdr.init = true ∧ 2 ≤ p.len ∧ CatOK [] p)

theorem NCls.nascent {ini : Bool} {cr : Option Nat} {R : Option (List Nat)} {p : PImg} (h : NCls ini cr R p)
    (hc : cr = some 0 ∨ (ini = true ∧ ∃ R', R = some R')) : NascentP p := by
  refine ⟨h.base, ?_⟩
  rcases hc with hc | ⟨hi, R', hR⟩
  · exact Or.inl (h.root 0 hc)
  · obtain ⟨es, e1, e2, e3, _⟩ := h.cat R' hR
    exact Or.inr ⟨(h.inited hi).1, (h.inited hi).2, es, e1, e2, e3, by simp⟩

theorem NHdrOK.sameKey {ini : Bool} {cr : Option Nat} {a b : Meta} (h : NHdrOK ini cr a) (s : SameKey a b) : NHdrOK ini cr b :=
  ⟨s.start.trans h.1, s.len.trans h.2.1, Nat.le_trans h.2.2.1 s.np, fun hi => s.init.trans (h.2.2.2.1 hi),
    fun c hc => s.catRoot.trans (h.2.2.2.2 c hc)⟩

theorem pagerEff_cat {e : PEff} {p : PImg} {es : List Nat} (he : PagerEff e) (h : p.cat = some es) :
    (applyEff e p).cat = some es := by
  cases e
  case setLen => exact h
  case hdr => exact h
  case bitmap => exact h
  all_goals exact he.elim

theorem ncls_alloc {ini : Bool} {cr : Option Nat} {R : Option (List Nat)} {W : PImg → Prop} {ps0 : PS}
    (hs : ∀ p, NCls ini cr R p → NascentP p) (ps : PS) (hpm : NHdrOK ini cr ps.pm) (hbm : 2 ≤ ps.bm) (hw : ∀ p e, PagerEff e → W p → W (applyEff e p)) :
    Hoare .syncs NascentP (NCls ini cr R) (Cache W ps0) (allocA ps).1 (NCls ini cr R) (Cache W (allocA ps).2.1) :=
  Hoare.alloc (ncls_closed ini cr R) hs ps (fun _ => trivial) (hpm.sameKey (allocA_form ps).sameKey)
    (Nat.le_trans hbm (allocA_bm ps)) hw

def bootM0 (pm0 : Meta) (bm : Nat) : Mem := { pm := pm0, bm := bm, idStart := 0, idLen := 0, exts := [] }

/-- `IndexCatalog::open_or_create` when there is no catalog yet -/
def catCreateA (ps : PS) : List Action × PS × Nat :=
  ((allocA ps).1 ++ [ioA (.pg (.cat []) (allocA ps).2.2)] ++ [ioA .ps] ++
      [memA (.setPm { (allocA ps).2.1.pm with catRoot := (allocA ps).2.2 })] ++
      flushA { (allocA ps).2.1.pm with catRoot := (allocA ps).2.2 } (allocA ps).2.1.bm ++ [memA (.catalog (allocA ps).2.2 [])],
   { (allocA ps).2.1 with pm := { (allocA ps).2.1.pm with catRoot := (allocA ps).2.2 } }, (allocA ps).2.2)

/-- the result of the first half of `open`, given what the catalog step produced -/
def bootTail (cfg : Cfg) (vol : PImg) (pre : List Action) (m0 : Mem) (ps : PS) (c : Nat) (es0 : List Nat) :
    Except (List Action × Err) BootRes :=
  let r2 := mkIndexA cfg ps c es0 0
  let r3 := mkIndexA cfg r2.2.1 c r2.2.2 1
  if !(r3.2.2.all (fun r => (r3.2.2.drop es0.length).contains r || vol.idx.contains r)) then
    .error (pre ++ r2.1 ++ r3.1, .idxBad)
  else .ok { acts := pre ++ r2.1 ++ r3.1, ps := r3.2.1, catRoot := c, entries := r3.2.2, m0 := m0 }

theorem bootA_cat (cfg : Cfg) (vol : PImg) (hfz : cfg.freshZero = true) (hb : NBase vol) (hinit : vol.hdr.init = true) (hlen : 2 ≤ vol.len)
    (hc : vol.hdr.catRoot ≠ 0) (es : List Nat) (hcat : vol.cat = some es) :
    bootA cfg vol = bootTail cfg vol
      ([memA (.setPm vol.hdr)] ++ [memA (.loaded (bootM0 vol.hdr vol.bm))] ++ [memA (.catalog vol.hdr.catRoot es)])
      (bootM0 vol.hdr vol.bm) { pm := vol.hdr, len := vol.len, bm := vol.bm } vol.hdr.catRoot es := by
  have h0 : ¬ vol.len = 0 := by omega
  have h2 : ¬ vol.len < 2 := by omega
  unfold bootA bootTail
  simp [h0, h2, hinit, hc, hcat, hb.start, hb.ilen, bootM0, hfz]

theorem bootA_nocat (cfg : Cfg) (vol : PImg) (hfz : cfg.freshZero = true) (hsc : cfg.syncCreate = true) (hb : NBase vol)
    (hinit : vol.hdr.init = true) (hlen : 2 ≤ vol.len) (hc : vol.hdr.catRoot = 0) :
    bootA cfg vol = bootTail cfg vol
      ([memA (.setPm vol.hdr)] ++ [memA (.loaded (bootM0 vol.hdr vol.bm))] ++ (catCreateA { pm := vol.hdr, len := vol.len, bm := vol.bm }).1)
      (bootM0 vol.hdr vol.bm) (catCreateA { pm := vol.hdr, len := vol.len, bm := vol.bm }).2.1
      (catCreateA { pm := vol.hdr, len := vol.len, bm := vol.bm }).2.2 [] := by
  have h0 : ¬ vol.len = 0 := by omega
  have h2 : ¬ vol.len < 2 := by omega
  unfold bootA bootTail catCreateA
  simp [h0, h2, hinit, hc, hb.start, hb.ilen, bootM0, hfz, hsc]

theorem bootA_fresh (cfg : Cfg) (vol : PImg) (hfz : cfg.freshZero = true) (hsc : cfg.syncCreate = true)
    (hf : vol.len = 0 ∨ vol.len < 2 ∨ vol.hdr.init = false) :
    bootA cfg vol = bootTail cfg vol
      ([memA (.setPm { init := true })] ++ [ioA (.pg (.setLen 2) 2)] ++ flushA { init := true } 2 ++
        [memA (.loaded (bootM0 { init := true } 2))] ++ (catCreateA { pm := { init := true }, len := max vol.len 2, bm := 2 }).1)
      (bootM0 { init := true } 2) (catCreateA { pm := { init := true }, len := max vol.len 2, bm := 2 }).2.1
      (catCreateA { pm := { init := true }, len := max vol.len 2, bm := 2 }).2.2 [] := by
  have hfr : (vol.len = 0 || (cfg.freshZero && (decide (vol.len < 2) || !vol.hdr.init))) = true := by
    rcases hf with h | h | h <;> simp [h, hfz]
  unfold bootA bootTail catCreateA
  simp only [hfr, Bool.not_true, Bool.false_and, Bool.false_eq_true, if_false, if_true]
  simp [bootM0, hsc]

theorem catCreate_safe {W : PImg → Prop} {ps0 : PS} (ps : PS) (hpm : NHdrOK true (some 0) ps.pm) (hbm : 2 ≤ ps.bm)
    (hw : ∀ p e, PagerEff e → W p → W (applyEff e p)) :
    Hoare .syncs NascentP (NCls true (some 0) none) (Cache W ps0) (catCreateA ps).1
      (NCls true (some (catCreateA ps).2.2) (some [])) (Cache (fun p => p.cat = some []) (catCreateA ps).2.1) ∧
    NHdrOK true (some (catCreateA ps).2.2) (catCreateA ps).2.1.pm ∧ 2 ≤ (catCreateA ps).2.1.bm ∧ (catCreateA ps).2.2 ≠ 0 := by
  have s0 : ∀ p, NCls true (some 0) none p → NascentP p := fun _ h => h.nascent (Or.inl rfl)
  have s1 : ∀ c p, NCls true c (some []) p → NascentP p := fun _ _ h => h.nascent (Or.inr ⟨rfl, [], rfl⟩)
  have hpm1 := hpm.sameKey (allocA_form ps).sameKey
  have hbm1 := Nat.le_trans hbm (allocA_bm ps)
  have hc : (allocA ps).2.2 ≠ 0 := by have := (allocA_form ps).pid; have := hpm.2.2.1; omega
  unfold catCreateA
  refine ⟨?_, ⟨hpm1.1, hpm1.2.1, hpm1.2.2.1, hpm1.2.2.2.1, fun _ h => Option.some.inj h⟩, hbm1, hc⟩
  exact ((((((ncls_alloc s0 ps hpm hbm hw).seq
    (Hoare.pg (ncls_closed _ _ _) s0 (e := .cat []) (fun _ h => by cases h) _
      (V' := Cache (fun p => p.cat = some []) (allocA ps).2.1) fun _ _ h => ⟨rfl, h.2⟩)).seq
    -- the catalog is durable: the class may say so, and need no longer pin the root to 0
    (Hoare.sync s0 (s1 none) (X' := NCls true none (some [])) fun p hx hv =>
      ⟨{ hx with root := (fun _ h => by cases h), cat := fun _ h => by cases h; exact ⟨[], hv.1, by simp, by simp, by simp⟩ }, hv⟩)).seq
    (Hoare.mem (s1 none) _)).seq
    (Hoare.flush (ncls_closed _ _ _) (s1 none) (s1 _) (E := NEff true none (some []))
      (pm := { (allocA ps).2.1.pm with catRoot := (allocA ps).2.2 })
      ⟨hpm1.1, hpm1.2.1, hpm1.2.2.1, hpm1.2.2.2.1, fun _ h => by cases h⟩ hbm1 (fun _ _ he h => pagerEff_cat he h)
      fun p hx _ hh _ => { hx with root := fun c hc => by rw [← Option.some.inj hc, hh] })).seq
    (Hoare.mem (s1 _) _))

theorem NCls.addRoot {ini : Bool} {cr : Option Nat} {es : List Nat} {p : PImg} {r : Nat} (h : NCls ini cr (some es) p)
    (hr : r ∈ p.idx) : NCls ini cr (some (es ++ [r])) p := by
  refine { h with cat := fun _ hR => ?_ }
  cases hR
  obtain ⟨es0, e1, e2, e3, e4⟩ := h.cat es rfl
  refine ⟨es0, e1, e2, e3, fun x hx => ?_⟩
  rcases List.mem_append.mp hx with hx | hx
  · exact e4 x hx
  · rw [List.mem_singleton.mp hx]; exact hr

def idxPm (pm : Meta) : Meta := { pm with nextIdx := (if pm.nextIdx = 0 then 1 else pm.nextIdx) + 1 }

theorem mkIndexA_new (cfg : Cfg) (hsc : cfg.syncCreate = true) (ps : PS) (c : Nat) (es : List Nat) (i : Nat) (h : ¬ i < es.length) :
    mkIndexA cfg ps c es i =
      ([memA (.setPm (idxPm ps.pm))] ++ flushA (idxPm ps.pm) ps.bm ++ (allocA { ps with pm := idxPm ps.pm }).1 ++
        [ioA (.pg (.idxRoot (allocA { ps with pm := idxPm ps.pm }).2.2) (allocA { ps with pm := idxPm ps.pm }).2.2)] ++ [ioA .ps] ++
        [memA (.catalog c (es ++ [(allocA { ps with pm := idxPm ps.pm }).2.2]))] ++
        [ioA (.pg (.cat (es ++ [(allocA { ps with pm := idxPm ps.pm }).2.2])) c)] ++ [ioA .ps],
       (allocA { ps with pm := idxPm ps.pm }).2.1, es ++ [(allocA { ps with pm := idxPm ps.pm }).2.2]) := by
  simp [mkIndexA, h, hsc, idxPm]

theorem mkIndex_safe (cfg : Cfg) (hsc : cfg.syncCreate = true) (ps : PS) (c : Nat) (es : List Nat) (i : Nat)
    (hpm : NHdrOK true (some c) ps.pm) (hbm : 2 ≤ ps.bm) (hlen : es.length ≤ 2) (hi : i ≤ 1) (hge : i ≤ es.length) :
    Hoare .keeps NascentP (NCls true (some c) (some es)) (Cache (fun p => p.cat = some es) ps) (mkIndexA cfg ps c es i).1
      (NCls true (some c) (some (mkIndexA cfg ps c es i).2.2))
      (Cache (fun p => p.cat = some (mkIndexA cfg ps c es i).2.2) (mkIndexA cfg ps c es i).2.1) ∧
    NHdrOK true (some c) (mkIndexA cfg ps c es i).2.1.pm ∧ 2 ≤ (mkIndexA cfg ps c es i).2.1.bm ∧
    (mkIndexA cfg ps c es i).2.2.length ≤ 2 ∧ i < (mkIndexA cfg ps c es i).2.2.length ∧
    ∃ tl, (mkIndexA cfg ps c es i).2.2 = es ++ tl := by
  have s : ∀ R p, NCls true (some c) (some R) p → NascentP p := fun R _ h => h.nascent (Or.inr ⟨rfl, R, rfl⟩)
  by_cases hskip : i < es.length
  · have hm : mkIndexA cfg ps c es i = ([], ps, es) := by simp [mkIndexA, hskip]
    rw [hm]
    exact ⟨Hoare.nil (s es), hpm, hbm, hlen, hskip, [], by simp⟩
  · rw [mkIndexA_new cfg hsc ps c es i hskip]
    have hpm1 : NHdrOK true (some c) (idxPm ps.pm) := hpm
    have hcat : ∀ p e, PagerEff e → p.cat = some es → (applyEff e p).cat = some es := fun _ _ he h => pagerEff_cat he h
    generalize hps1 : ({ ps with pm := idxPm ps.pm } : PS) = ps1
    have hpm1' : NHdrOK true (some c) ps1.pm := by rw [← hps1]; exact hpm1
    have hbm1 : 2 ≤ ps1.bm := by rw [← hps1]; exact hbm
    refine ⟨Hoare.toKeeps ?_, hpm1'.sameKey (allocA_form ps1).sameKey, Nat.le_trans hbm1 (allocA_bm ps1), by simp; omega, by simp; omega,
      _, rfl⟩
    exact (((((((Hoare.mem (s es) _).seq
      (Hoare.flush (ncls_closed _ _ _) (s es) (s es) hpm1 hbm hcat fun _ hx _ _ _ => hx)).seq
      (ncls_alloc (s es) ps1 hpm1' hbm1 hcat)).seq
      (Hoare.pg (ncls_closed _ _ _) (s es) (e := .idxRoot (allocA ps1).2.2) trivial _
        (V' := Cache (fun p => p.cat = some es ∧ (allocA ps1).2.2 ∈ p.idx) (allocA ps1).2.1)
        fun _ _ h => ⟨⟨h.1, List.mem_cons_self⟩, h.2⟩)).seq
      -- the root page is durable: the catalog may name it
      (Hoare.sync (s es) (s _) fun _ hx hv => ⟨hx.addRoot hv.1.2, hv⟩)).seq
      (Hoare.mem (s _) _)).seq
      (Hoare.pg (ncls_closed _ _ _) (s _) (e := .cat (es ++ [(allocA ps1).2.2])) (fun _ h => by cases h; exact ⟨by simp; omega, fun _ h => h⟩) c
        (V' := Cache (fun p => p.cat = some (es ++ [(allocA ps1).2.2])) (allocA ps1).2.1) fun _ _ h => ⟨rfl, h.2⟩)).seq
      (Hoare.sync (s _) (s _) fun _ hx hv => ⟨hx, hv⟩)

theorem NCls.booted {c : Nat} {es : List Nat} {ps : PS} {p : PImg} (h : NCls true (some c) (some es) p)
    (hv : Cache (fun p => p.cat = some es) ps p) (hc : c ≠ 0) (hlen : es.length = 2) :
    Booted p ∧ NBase p ∧ p.hdr = ps.pm ∧ p.bm = ps.bm := by
  obtain ⟨es', e1, _, e3, _⟩ := h.cat _ rfl
  have hes : es' = es := Option.some.inj (e1.symm.trans hv.1)
  exact ⟨{ init := (h.inited rfl).1, len := (h.inited rfl).2, nextPage := h.base.np, bm := h.base.bm,
           catRoot := by rw [h.root c rfl]; exact hc, cat := ⟨es', e1, by rw [hes]; exact hlen, e3⟩ }, h.base, hv.2.1, hv.2.2⟩

/-- `pre` is what the entry case of `boot_nascent` did before the two reserved indexes. -/
theorem bootTail_safe (cfg : Cfg) (hsc : cfg.syncCreate = true) (vol : PImg) (pre : List Action) (m0 : Mem) (ps : PS) (c : Nat)
    (es : List Nat) {X0 V0 : PImg → Prop} (fs : FS)
    (hpre : Hoare .keeps NascentP X0 V0 pre (NCls true (some c) (some es)) (Cache (fun p => p.cat = some es) ps))
    (hx : AllImgs fs X0) (hv : V0 fs.pv) (hpj : fs.pj = [])
    (hpm : NHdrOK true (some c) ps.pm) (hbm : 2 ≤ ps.bm) (hlen : es.length ≤ 2) (hc : c ≠ 0) (hvol : ∀ r ∈ es, r ∈ vol.idx) :
    ∃ b, bootTail cfg vol pre m0 ps c es = .ok b ∧ b.m0 = m0 ∧ PagerActs b.acts ∧
      SafeAlong (fun g => AllImgs g NascentP) fs (ioSteps b.acts) ∧
      (fs.steps (ioSteps b.acts)).pj = [] ∧ Booted (fs.steps (ioSteps b.acts)).pd ∧ NBase (fs.steps (ioSteps b.acts)).pd ∧
      (fs.steps (ioSteps b.acts)).pd.hdr = b.ps.pm ∧ (fs.steps (ioSteps b.acts)).pd.bm = b.ps.bm := by
  obtain ⟨h2, pm2, bm2, len2, lt2, tl2, htl2⟩ := mkIndex_safe cfg hsc ps c es 0 hpm hbm hlen (by omega) (Nat.zero_le _)
  generalize hr2 : mkIndexA cfg ps c es 0 = r2 at h2 pm2 bm2 len2 lt2 htl2
  obtain ⟨h3, _, _, len3, lt3, tl3, htl3⟩ := mkIndex_safe cfg hsc r2.2.1 c r2.2.2 1 pm2 bm2 len2 (Nat.le_refl _) (by omega)
  generalize hr3 : mkIndexA cfg r2.2.1 c r2.2.2 1 = r3 at h3 len3 lt3 htl3
  have hchk : (r3.2.2.all (fun r => (r3.2.2.drop es.length).contains r || vol.idx.contains r)) = true := by
    rw [List.all_eq_true]
    intro r hr
    rw [htl3, htl2, List.append_assoc] at hr ⊢
    simp only [List.drop_left, Bool.or_eq_true, List.contains_iff_mem]
    rcases List.mem_append.mp hr with h | h
    · exact Or.inr (by simpa using hvol r h)
    · exact Or.inl (by simpa using h)
  have h := (hpre.seq h2).seq h3
  obtain ⟨sa, hX, hV, hp⟩ := h.run fs hx hv
  have pjF := hp hpj
  rw [pv_of_pj_nil pjF] at hV
  refine ⟨{ acts := pre ++ r2.1 ++ r3.1, ps := r3.2.1, catRoot := c, entries := r3.2.2, m0 := m0 }, ?_, rfl, h.pager, sa, pjF,
    (hX _ (isImg_pd _ _)).booted hV hc (Nat.le_antisymm len3 lt3)⟩
  unfold bootTail
  simp only [hr2, hr3, hchk, Bool.not_true, Bool.false_eq_true, if_false]

theorem pagerActs_mems (l : List Action) (h : ∀ a ∈ l, ∃ u, a = memA u) : PagerActs l := by
  intro a ha
  obtain ⟨u, rfl⟩ := h a ha
  trivial

theorem boot_nascent (cfg : Cfg) (hfz : cfg.freshZero = true) (hsc : cfg.syncCreate = true) (fs : FS) (hpj : fs.pj = [])
    (hn : NascentP fs.pd) :
    ∃ b, bootA cfg fs.pd = .ok b ∧ (∃ pm bm, b.m0 = bootM0 pm bm) ∧ PagerActs b.acts ∧
      SafeAlong (fun g => AllImgs g NascentP) fs (ioSteps b.acts) ∧
      (fs.steps (ioSteps b.acts)).pj = [] ∧ Booted (fs.steps (ioSteps b.acts)).pd ∧ NBase (fs.steps (ioSteps b.acts)).pd ∧
      (fs.steps (ioSteps b.acts)).pd.hdr = b.ps.pm ∧ (fs.steps (ioSteps b.acts)).pd.bm = b.ps.bm := by
  have hpv : fs.pv = fs.pd := pv_of_pj_nil hpj
  have himgs : ∀ (X : PImg → Prop), X fs.pd → AllImgs fs X := fun X => allImgs_of_inert fs X (inert_of_nil hpj)
  have hcache : ∀ len, Cache (fun _ => True) { pm := fs.pd.hdr, len := len, bm := fs.pd.bm } fs.pv :=
    fun _ => by rw [hpv]; exact ⟨trivial, rfl, rfl⟩
  have s0 : ∀ ini p, NCls ini (some 0) none p → NascentP p := fun _ _ h => h.nascent (Or.inl rfl)
  by_cases hf : fs.pd.len = 0 ∨ fs.pd.len < 2 ∨ fs.pd.hdr.init = false
  · -- fresh: the file is initialised again from scratch
    have hroot : fs.pd.hdr.catRoot = 0 := by
      rcases hn.cat with h | ⟨h1, h2, _⟩
      · exact h
      · rcases hf with h | h | h
        · omega
        · omega
        · rw [h1] at h; cases h
    rw [bootA_fresh cfg fs.pd hfz hsc hf]
    have hw : ∀ p e, PagerEff e → 2 ≤ p.len → 2 ≤ (applyEff e p).len := by
      intro p e he h
      cases e
      case setLen n => exact Nat.le_trans h (Nat.le_max_left _ _)
      case hdr => exact h
      case bitmap => exact h
      all_goals exact he.elim
    obtain ⟨hcc, pmc, bmc, hc⟩ := catCreate_safe (ps0 := { pm := { init := true }, len := max fs.pd.len 2, bm := 2 })
      { pm := { init := true }, len := max fs.pd.len 2, bm := 2 }
      ⟨rfl, rfl, Nat.le_refl _, fun _ => rfl, fun _ h => Option.some.inj h⟩ (Nat.le_refl _) hw
    -- `set_len 2` and the first flush of the meta page: from then on the file counts as initialised
    have hpre := ((((Hoare.mem (s0 false) (.setPm { init := true })).seq
      (Hoare.pg (ncls_closed false (some 0) none) (s0 false) (e := .setLen 2) trivial 2
        (V := Cache (fun _ => True) { pm := fs.pd.hdr, len := max fs.pd.len 2, bm := fs.pd.bm })
        (V' := Cache (fun p => 2 ≤ p.len) { pm := fs.pd.hdr, len := max fs.pd.len 2, bm := fs.pd.bm })
        fun _ _ h => ⟨Nat.le_max_right _ _, h.2⟩)).seq
      (Hoare.flush (ncls_closed false (some 0) none) (s0 false) (s0 true) (pm := { init := true }) (bm := 2)
        ⟨rfl, rfl, Nat.le_refl _, (fun h => by cases h), fun _ h => Option.some.inj h⟩ (Nat.le_refl 2) hw
        fun p hx hl hh _ => { hx with inited := fun _ => ⟨by rw [hh], hl⟩ })).seq
      (Hoare.mem (s0 true) (.loaded (bootM0 { init := true } 2)))).seq hcc
    obtain ⟨b, hb, hm0, r⟩ := bootTail_safe cfg hsc fs.pd _ (bootM0 { init := true } 2) _ _ [] fs hpre.toKeeps
      (himgs _ { base := hn.base, inited := (fun h => by cases h), root := (fun _ h => by rw [← Option.some.inj h]; exact hroot),
                 cat := fun _ h => by cases h })
      (hcache _) hpj pmc bmc (by simp) hc (by simp)
    exact ⟨b, hb, ⟨_, _, hm0⟩, r⟩
  · -- the meta page is initialised
    have hinit : fs.pd.hdr.init = true := by
      cases h : fs.pd.hdr.init with
      | true => rfl
      | false => exact absurd (Or.inr (Or.inr h)) hf
    have hlen : 2 ≤ fs.pd.len := by
      by_cases h : 2 ≤ fs.pd.len
      · exact h
      · exact absurd (Or.inr (Or.inl (by omega))) hf
    by_cases hroot : fs.pd.hdr.catRoot = 0
    · -- no catalog yet
      rw [bootA_nocat cfg fs.pd hfz hsc hn.base hinit hlen hroot]
      obtain ⟨hcc, pmc, bmc, hc⟩ := catCreate_safe (W := fun _ => True) (ps0 := { pm := fs.pd.hdr, len := fs.pd.len, bm := fs.pd.bm })
        { pm := fs.pd.hdr, len := fs.pd.len, bm := fs.pd.bm }
        ⟨hn.base.start, hn.base.ilen, hn.base.np, fun _ => hinit, fun _ h => by rw [← Option.some.inj h]; exact hroot⟩ hn.base.bm
        (fun _ _ _ h => h)
      obtain ⟨b, hb, hm0, r⟩ := bootTail_safe cfg hsc fs.pd _ (bootM0 fs.pd.hdr fs.pd.bm) _ _ [] fs
        (((Hoare.mem (s0 true) (.setPm fs.pd.hdr)).seq (Hoare.mem (s0 true) (.loaded (bootM0 fs.pd.hdr fs.pd.bm)))).seq hcc).toKeeps
        (himgs _ { base := hn.base, inited := fun _ => ⟨hinit, hlen⟩, root := (fun _ h => by rw [← Option.some.inj h]; exact hroot),
                   cat := fun _ h => by cases h })
        (hcache _) hpj pmc bmc (by simp) hc (by simp)
      exact ⟨b, hb, ⟨_, _, hm0⟩, r⟩
    · -- the catalog exists: only missing reserved indexes are created
      have hcatOK : CatOK [] fs.pd := by
        rcases hn.cat with h | ⟨_, _, h⟩
        · exact absurd h hroot
        · exact h
      obtain ⟨es, e1, e2, e3, _⟩ := hcatOK
      rw [bootA_cat cfg fs.pd hfz hn.base hinit hlen hroot es e1]
      have s : ∀ p, NCls true (some fs.pd.hdr.catRoot) (some es) p → NascentP p := fun _ h => h.nascent (Or.inr ⟨rfl, es, rfl⟩)
      obtain ⟨b, hb, hm0, r⟩ := bootTail_safe cfg hsc fs.pd _ (bootM0 fs.pd.hdr fs.pd.bm)
        { pm := fs.pd.hdr, len := fs.pd.len, bm := fs.pd.bm } _ es fs
        (((Hoare.mem s (.setPm fs.pd.hdr)).seq (Hoare.mem s (.loaded (bootM0 fs.pd.hdr fs.pd.bm)))).seq
          (Hoare.mem s (.catalog fs.pd.hdr.catRoot es)))
        (himgs _ { base := hn.base, inited := fun _ => ⟨hinit, hlen⟩, root := fun _ h => Option.some.inj h,
                   cat := fun _ h => by cases h; exact ⟨es, e1, e2, e3, e3⟩ })
        (by rw [hpv]; exact ⟨e1, rfl, rfl⟩) hpj ⟨hn.base.start, hn.base.ilen, hn.base.np, fun _ => hinit, fun _ h => Option.some.inj h⟩
        hn.base.bm e2 hroot e3
      exact ⟨b, hb, ⟨_, _, hm0⟩, r⟩

theorem rep_empty {p : PImg} (hb : Booted p) (hn : NBase p) : Rep [] p [] :=
  ⟨[], 0, rfl, ⟨by decide, by decide, by decide, by decide, by decide, List.Pairwise.nil, by intro tx h; simp at h⟩,
    { booted := hb, start := fun _ => hn.ilen, lo := Nat.zero_le _, hi := by rw [hn.ilen]; exact Nat.le_refl _,
      slots := by intro i hi; rw [hn.ilen] at hi; omega },
    ⟨by intro k hk; simp [scan] at hk, by rw [hn.segs]; intro s hs; simp at hs,
      by rw [hn.trees]; intro t ht; simp at ht, by intro e; simp [allEdges, logRuns, scan], by intro q hq; simp [logRuns] at hq,
      ⟨[], by intro q hq; simp [allProps] at hq, fun _ => rfl, fun h => absurd (by decide) h⟩⟩⟩

/-- files as a crash (or a dropped handle) leaves them -/
structure Flat (fs : FS) : Prop where
  pj : fs.pj = []
  quiet : WalQuiet fs

theorem crash_flat (fs : FS) (mode : CrashMode) : Flat (fs.crash mode) :=
  ⟨rfl, ⟨rfl, rfl⟩⟩

/-- a database whose creation may have been cut short (at any step, any number of times), or that
    was never created: flat files, an empty log, a nascent page file -/
structure Nascent (fs : FS) : Prop where
  flat : Flat fs
  log : fs.wf = []
  page : NascentP fs.pd

/-- Behind `C02.create_every_step`.  The first half of `open` is `boot_nascent`; on the finished empty
    database it leaves, the second half is the recovery of the empty transaction list (`replay_blk`). -/
theorem create_safe {cfg : Cfg} (hfz : cfg.freshZero = true) (hsc : cfg.syncCreate = true) {fs : FS} (hN : Nascent fs) :
    Blk (fun g => ∀ mode, Nascent (g.crash mode)) (fun _ _ => True) (openA cfg fs.pv fs.wf) fs {}
      (fun g mm => g.wf = fs.wf ∧ ∃ cs c, InvOpen [] g mm cs c ∧ mm.tailChecked = false) := by
  obtain ⟨⟨hpj, hq⟩, hw, hn⟩ := hN
  have hpv : fs.pv = fs.pd := pv_of_pj_nil hpj
  obtain ⟨b, hb, ⟨pm0, bm0, hm0⟩, pgb, sab, pjF, hboot, hbase, hhdr, hbm⟩ := boot_nascent cfg hfz hsc fs hpj hn
  obtain ⟨nfb, hpg⟩ := pgb.facts
  obtain ⟨hwF, hdF, hrF⟩ := steps_pager_wal _ hpg fs
  have hopen : openA cfg fs.pv fs.wf = b.acts ++ replayA cfg fs.pd [] b := by
    unfold openA
    rw [hpv, hb, hw]
  have hblk := replay_blk (cfg := cfg) (T := []) (fs := fs.steps (ioSteps b.acts)) (fun h => absurd (List.drop_nil) h) pjF
    ⟨by rw [hdF, hwF]; exact hq.wdur, hrF.trans hq.ren⟩ (by rw [hwF, hw]; exact rep_empty hboot hbase) b
    ((memUpds b.acts).foldl applyUpd {}) hhdr.symm hbm.symm (by rw [hm0, hbase.start]; rfl) (by rw [hm0, hbase.ilen]; rfl)
    (by rw [hm0]; simp [bootMem, bootM0, hbase.start]) (by rw [hm0]; rfl) (by rw [hm0]; rfl)
  -- on an empty log the second half performs no I/O, and reads no segment of the page file
  have hrA : replayA cfg (fs.steps (ioSteps b.acts)).pd (fs.steps (ioSteps b.acts)).wf b = replayA cfg fs.pd [] b := by
    rw [hwF, hw]; simp [replayA, readAll, committed, committedAux, scan]
  have hioR : ioSteps (replayA cfg fs.pd [] b) = [] := by
    simp [replayA, readAll, committed, committedAux, scan, planTxs, nodesA, ioSteps]
  rw [hrA] at hblk
  have hpost := hblk.post
  rw [hioR] at hpost
  have hio : ioSteps (openA cfg fs.pv fs.wf) = ioSteps b.acts := by
    rw [hopen, ioSteps_append_noFail _ _ nfb, hioR, List.append_nil]
  refine ⟨by rw [hopen, failOf_append, nfb]; exact hblk.nofail, fun n mode => ?_, fun _ _ => trivial, ?_⟩
  · rw [hio]
    obtain ⟨hwn, hdn, hrn⟩ := take_pager_wal _ hpg fs n
    have hqn : WalQuiet (fs.steps ((ioSteps b.acts).take n)) := ⟨by rw [hdn, hwn]; exact hq.wdur, by rw [hrn]; exact hq.ren⟩
    exact ⟨crash_flat _ mode, by show (fs.steps ((ioSteps b.acts).take n)).crashW mode = []; rw [hqn.crashW, hwn, hw],
      sab n _ (crashP_isImg _ mode)⟩
  · rw [hio, hopen, memUpds_append_noFail _ _ nfb, List.foldl_append]
    exact ⟨hwF, hpost.2⟩

end Nervus.Crash
