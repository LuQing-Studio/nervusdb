/-
  Key-level facts for C15 obtained from C27's theorems: the prefix scan of `lookup_index`
  over `[index_id][value][node_id]` keys matches exactly the entries whose value has the same
  ordered encoding, i.e. (C27) the same value.
-/
import Nervus.Proofs.Index
import Nervus.Props.C27
namespace Nervus.Index
open Nervus Nervus.OKey

theorem properPrefix_iff (a : Bytes) : ∀ b : Bytes, properPrefix a b = true ↔ (a <+: b ∧ a ≠ b) := by
  induction a with
  | nil => intro b; cases b <;> simp [properPrefix]
  | cons x xs ih =>
    intro b
    cases b with
    | nil => simp [properPrefix]
    | cons y ys =>
      simp only [properPrefix, Bool.and_eq_true, beq_iff_eq, ih ys, List.cons_prefix_cons]
      constructor
      · rintro ⟨rfl, h1, h2⟩; exact ⟨⟨rfl, h1⟩, fun h => h2 (List.cons.inj h).2⟩
      · rintro ⟨⟨rfl, h1⟩, h2⟩; exact ⟨rfl, h1, fun h => h2 (h ▸ rfl)⟩

theorem prefix_comparable {a b c : Bytes} (h1 : a <+: c) (h2 : b <+: c) : a <+: b ∨ b <+: a := by
  rcases Nat.le_total a.length b.length with h | h
  · exact Or.inl (List.prefix_of_prefix_length_le h1 h2 h)
  · exact Or.inr (List.prefix_of_prefix_length_le h2 h1 h)

/-- the lookup prefix `[id][enc v]` matches the key of `(v', n)` iff the two values have one encoding
    (C27 `prefix_free`: no encoding is a proper prefix of another one) -/
theorem prefix_iff_enc_eq (v v' : OV) (hv : Valid v) (hv' : Valid v') (id n : Nat) :
    (beBytes 4 id ++ enc v).isPrefixOf (encIndexKey id v' n) = true ↔ enc v = enc v' := by
  unfold encIndexKey
  rw [List.isPrefixOf_iff_prefix, List.append_assoc, List.prefix_append_right_inj]
  constructor
  · intro h
    rcases prefix_comparable h (List.prefix_append (enc v') (beBytes 8 n)) with h1 | h1
    · by_cases heq : enc v = enc v'
      · exact heq
      · have := (properPrefix_iff _ _).mpr ⟨h1, heq⟩
        rw [Props.C27.prefix_free v v' hv hv'] at this; cases this
    · by_cases heq : enc v' = enc v
      · exact heq.symm
      · have := (properPrefix_iff _ _).mpr ⟨h1, heq⟩
        rw [Props.C27.prefix_free v' v hv' hv] at this; cases this
  · intro h; rw [h]; exact List.prefix_append _ _

theorem lookup_exact_of_inv (m : Mode) (s : State) (hinv : Inv m s) (l : Label) (k : Key) (v : OV)
    (hv : Valid v) (hvals : ∀ n v', s.prop n k = some v' → Valid v') (ids : List Nat)
    (h : lookupIndex s l k v = some ids) (n : Nat) :
    n ∈ ids ↔ (n < s.nodes.length ∧ s.first n = some l ∧ ∃ v', s.prop n k = some v' ∧ eqv v' v) := by
  obtain ⟨id, _, hmem⟩ := lookupIndex_spec hinv h
  rw [hmem, State.first_eq]
  refine and_congr_right fun _ => and_congr_right fun _ => exists_congr fun v' => and_congr_right fun hv' => ?_
  rw [prefix_iff_enc_eq v v' hv (hvals _ _ hv') id n, Props.C27.equality_iff v' v (hvals _ _ hv') hv]
  exact eq_comm

end Nervus.Index
