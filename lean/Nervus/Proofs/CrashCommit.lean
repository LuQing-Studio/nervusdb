/-
  Proofs.CrashCommit — `WriteTxn::commit` as a block: the log block (`Proofs/CrashLogBlk`), the log
  sync (`LogSyncEnd`: the block is durable), the node-table phase (`blk_nodes`) and the publication.
  After every prefix of its I/O steps every crash image represents the old or the new committed
  list; once the log is synced, the new one; a completed commit leaves files and memory in agreement
  on the extended list, so that the next operation starts from the invariant; with rollback, an
  injected error in the log phase undoes the append.
-/
import Nervus.Proofs.CrashLogBlk
import Nervus.Proofs.CrashPhase
namespace Nervus.Crash

theorem commitA_eq (cfg : Cfg) (m : Mem) (vol : PImg) (w : List Frag) (tx : Tx) (ho : m.walOpen = true) :
    commitA cfg m vol w tx = memA .bumpTxid ::
      ((cutActs cfg (m.ws w) ++ wwActs cfg (startOf cfg (m.ws w)) (txRecs m.nextTxid m.idLen tx) ++ [Action.io .ws (if cfg.walRollback then [Step.wt (startOf cfg (m.ws w))] else [])]) ++
        ((nodesA cfg (m.ps vol) { start := m.idStart, len := m.idLen } tx.nodes).1 ++
          ((if tx.edges.isEmpty && tx.props.isEmpty then []
            else [memA (.pushRun { txid := m.nextTxid, edges := tx.edges, props := tx.props })]) ++ [memA .bumpTxid]))) := by
  unfold commitA
  have hap := appendsA_eq cfg (.begin m.nextTxid) (txBody m.idLen tx ++ [.commit m.nextTxid]) (m.ws w) ho
  have hop := appendsA_isOpen cfg (txRecs m.nextTxid m.idLen tx) (m.ws w) ho
  rw [← List.cons_append, ← txRecs_eq] at hap
  simp only [hap, hop, if_true, List.append_assoc]
  rfl

theorem length_logSync (cfg : Cfg) (ws : WS) (recs : List Rec) (s : Step) (f : List Step) :
    (ioSteps (cutActs cfg ws ++ wwActs cfg (startOf cfg ws) recs ++ [Action.io s f])).length = (cutSteps cfg ws).length + 3 * recs.length + 1 := by
  obtain ⟨c1, c2⟩ := ioSteps_cutActs cfg ws
  obtain ⟨w1, w2, _⟩ := ioSteps_wwActs cfg (startOf cfg ws) recs
  rw [ioSteps_append_noFail _ _ (by rw [failOf_append, c2, w2]; rfl), ioSteps_append_noFail _ _ c2, c1, w1]
  simp [ioSteps, frames_length]; omega

structure LogSyncEnd (cs' : List CTx) (g : FS) (mm : Mem) (g2 : FS) (m2 : Mem) : Prop where
  mem : ∃ b, m2 = { mm with tailChecked := b }
  pj : g2.pj = g.pj
  pd : g2.pd = g.pd
  quiet : WalQuiet g2
  clean : validLen g2.wf = g2.wf.length
  com : committed (readAll g2.wf) = .ok cs'

/-- the log phase of a commit (tail cut, records, log sync): old list or extended list in every
    crash image, the extended one at the end; with rollback a failing sync takes the whole block
    out of the log again -/
theorem blk_commitLog {cfg : Cfg} {T : List Tx} {fs : FS} {m : Mem} {cs : List CTx} {c : Nat}
    (h : InvOpen T fs m cs c) (ht : TailPre cfg fs m) (tx : Tx) (hf : FreshTx T tx) :
    Blk (SafeFS [T, T ++ [tx]]) (fun g' m' => cfg.walRollback = true → InvOpen T g' m' cs c ∧ TailPre cfg g' m')
      (cutActs cfg (m.ws fs.wf) ++ wwActs cfg (startOf cfg (m.ws fs.wf)) (txRecs m.nextTxid m.idLen tx) ++
        [Action.io .ws (if cfg.walRollback then [Step.wt (startOf cfg (m.ws fs.wf))] else [])]) fs (applyUpd m .bumpTxid)
      (LogSyncEnd (cs ++ [⟨m.nextTxid, txBody (allNodes T).length tx⟩]) fs (applyUpd m .bumpTxid)) := by
  have hb := blk_logBlock (cfg := cfg) h.bump ht m.nextTxid (txBody m.idLen tx) (txBody_isOp _ _) _ (txRecs_eq _ _ _).symm
  rw [show (applyUpd m .bumpTxid).ws fs.wf = m.ws fs.wf from rfl, h.mlen] at hb
  rw [h.mlen]
  have hsafe : ∀ g, LogSafe cs (cs ++ [⟨m.nextTxid, txBody (allNodes T).length tx⟩]) fs.pd g → SafeFS [T, T ++ [tx]] g := fun _ hs =>
    hs.safeFS h.log h.pager h.store (logOK_snoc h.log _ tx h.mtxid hf) (by rw [allNodes_snoc]; exact pagerOK_extend h.pager)
      (storeOK_snoc h.store _ _ tx (Nat.lt_of_le_of_lt h.log.ckptle h.mtxid))
  refine (hb.mono hsafe (fun _ _ hf => hf) (fun _ _ hq => hq)).post_safe.append fun g1 m1 ⟨e, hs1⟩ => ?_
  have hin1 : Inert g1.pj := e.pj ▸ h.pj
  refine .io _ _ hs1 ?_ (.nil (hsafe _ fun mode => ?_) ⟨e.mem, e.pj, e.pd, ⟨rfl, rfl⟩, e.clean, e.com⟩)
  · -- the sync fails: the log is cut back to where the block began
    intro hroll
    obtain ⟨b, rfl⟩ := e.mem
    rw [hroll, if_pos rfl]
    exact ⟨h.bump.of_cut b hin1 e.pd e.back, Or.inl e.backClean⟩
  · have hq : WalQuiet (g1.step .ws) := ⟨rfl, rfl⟩
    rw [hq.crashW]
    exact ⟨(crashP_inert _ (show Inert (g1.step .ws).pj from hin1) mode).trans e.pd, Or.inr e.com⟩

theorem foldl_preserve {α : Type} (f : Mem → α) (l : List MemUpd) (h : ∀ u ∈ l, ∀ m, f (applyUpd m u) = f m) (m : Mem) :
    f (l.foldl applyUpd m) = f m :=
  List.foldlRecOn l applyUpd (motive := fun m' => f m' = f m) rfl fun m' ih u hu => (h u hu m').trans ih

structure CommitMem (m mF : Mem) (nodeUpds : List MemUpd) (pubRuns : List Run) : Prop where
  pm : mF.pm = lastPm nodeUpds m.pm
  bm : mF.bm = lastBm nodeUpds m.bm
  idStart : mF.idStart = lastStart nodeUpds m.idStart
  idLen : mF.idLen = m.idLen + countInc nodeUpds
  exts : mF.exts = m.exts ++ pushed nodeUpds
  runs : mF.runs = m.runs ++ pubRuns
  segs : mF.segs = m.segs
  proot : mF.proot = m.proot
  ptop : mF.ptop = m.ptop
  epoch : mF.epoch = m.epoch
  nextTxid : mF.nextTxid = m.nextTxid + 2
  walOpen : mF.walOpen = m.walOpen

/-- the node-table phase and the publication of a commit, started on the synced log: every
    crash image represents the extended list; at the end files and handle agree on it -/
theorem blk_commitNodes {cfg : Cfg} {T : List Tx} {fs g2 : FS} {m m2 : Mem} {cs : List CTx} {c : Nat}
    (hsync : cfg.syncSlot = true) (h : InvOpen T fs m cs c) (tx : Tx) (hf : FreshTx T tx)
    (e : LogSyncEnd (cs ++ [⟨m.nextTxid, txBody (allNodes T).length tx⟩]) fs (applyUpd m .bumpTxid) g2 m2) :
    Blk (SafeFS [T ++ [tx]]) (fun _ _ => True)
      ((nodesA cfg (m.ps fs.pv) { start := m.idStart, len := m.idLen } tx.nodes).1 ++
        ((if tx.edges.isEmpty && tx.props.isEmpty then []
          else [memA (.pushRun { txid := m.nextTxid, edges := tx.edges, props := tx.props })]) ++ [memA .bumpTxid])) g2 m2
      (fun g mm => ∃ cs' c', InvOpen (T ++ [tx]) g mm cs' c' ∧ validLen g.wf = g.wf.length) := by
  -- the node phase starts from the node table of the invariant, whatever the log phase did to the log
  have hstart := NG.enter (N' := allNodes (T ++ [tx])) (ps := m.ps fs.pv) (id := { start := m.idStart, len := m.idLen }) h.pager
    (fun i hi => by rw [allNodes_snoc, getSlot_append_left _ _ _ (h.full ▸ hi)]) (e.pj ▸ h.pj) e.pd h.mpm h.mbm
    (h.mlen.trans h.full.symm) h.mstart
  rw [h.full] at hstart
  obtain ⟨hB, hSy, st⟩ := hstart
  have hlog2 := logOK_snoc h.log m.nextTxid tx h.mtxid hf
  have hstore2 := storeOK_snoc h.store m.nextTxid (allNodes T).length tx (Nat.lt_of_le_of_lt h.log.ckptle h.mtxid)
  have hlenN : (allNodes T).length + tx.nodes.length = (allNodes (T ++ [tx])).length := by rw [allNodes_snoc]; simp
  obtain ⟨b, rfl⟩ := e.mem
  have hnodes := blk_nodes (cfg := cfg) (xs := tx.nodes) h.pager.booted (fun _ => hsync) { applyUpd m .bumpTxid with tailChecked := b } e.quiet e.com
    hlog2 hstore2 (by rw [allNodes_snoc]; simp) hB hSy st (h.full ▸ h.pager.lo) (by rw [← hlenN]; exact Nat.le_add_right _ _)
    rfl rfl rfl
  refine hnodes.post_safe.append fun g mm ⟨n, hsafe⟩ => ?_
  obtain ⟨pmF, bmF, stF, hmm⟩ := n.mem
  have hnle : ¬ m.nextTxid ≤ (scan cs).ckpt := by have := h.mtxid; have := h.log.ckptle; omega
  have hscEq := scan_snoc_body cs m.nextTxid (allNodes T).length tx
  -- the publication performs no I/O: it appends the run, if there is one, and takes the next id
  have inv : ∀ rs, rs = m.runs ++ (if tx.edges.isEmpty && tx.props.isEmpty then []
        else [{ txid := m.nextTxid, edges := tx.edges, props := tx.props }]) →
      ∃ cs' c', InvOpen (T ++ [tx]) g { mm with runs := rs, nextTxid := mm.nextTxid + 1 } cs' c' ∧ validLen g.wf = g.wf.length := by
    intro rs hrs
    subst hmm
    refine ⟨cs ++ [⟨m.nextTxid, txBody (allNodes T).length tx⟩], c, ?_, by rw [n.wf]; exact e.clean⟩
    exact {
      pj := n.pj
      wal := WalStable.of_quiet n.quiet (by rw [n.wf]; exact e.com)
      log := hlog2
      pager := n.pager
      store := n.store
      full := n.full
      mpm := n.mpm
      mbm := n.mbm
      mlen := by show m.idLen + _ = _; rw [h.mlen, hlenN]
      mstart := n.mstart
      mexts := by show m.exts ++ _ = _; rw [h.mexts, allNodes_snoc]
      mruns := by rw [hscEq, logRuns_snoc_body _ _ _ _ _ hnle, ← h.mruns]; exact hrs
      msegs := by show m.segs = _; rw [h.msegs, hscEq, n.segs]
      mroot := by rw [hscEq]; exact h.mroot
      mptop := by rw [hscEq]; exact h.mptop
      mepoch := by rw [hscEq]; exact h.mepoch
      mtxid := by
        rw [hscEq]
        show max (scan cs).maxTxid m.nextTxid < m.nextTxid + 1 + 1
        have := h.mtxid; omega
      mwal := h.mwal }
  by_cases hc : (tx.edges.isEmpty && tx.props.isEmpty) = true
  · rw [if_pos hc] at inv ⊢
    exact .mem _ <| .nil hsafe (inv mm.runs (by subst hmm; exact (List.append_nil _).symm))
  · rw [if_neg hc] at inv ⊢
    exact .mem _ <| .mem _ <| .nil hsafe (inv _ (by subst hmm; rfl))

theorem blk_commit {cfg : Cfg} {T : List Tx} {fs : FS} {m : Mem} {cs : List CTx} {c : Nat}
    (hsync : cfg.syncSlot = true) (h : InvOpen T fs m cs c) (ht : TailPre cfg fs m) (tx : Tx) (hf : FreshTx T tx) :
    Blk (SafeFS [T, T ++ [tx]]) (fun _ _ => True) (commitA cfg m fs.pv fs.wf tx) fs m
      (fun g mm => ∃ cs' c', InvOpen (T ++ [tx]) g mm cs' c' ∧ validLen g.wf = g.wf.length) := by
  rw [commitA_eq cfg m fs.pv fs.wf tx h.mwal]
  exact .mem _ (((blk_commitLog h ht tx hf).mono (fun _ hs => hs) (fun _ _ _ => trivial) (fun _ _ hq => hq)).append
    fun _ _ e => (blk_commitNodes hsync h tx hf e).mono (fun _ hs => safeFS_mono hs (by simp)) (fun _ _ hf => hf) (fun _ _ hq => hq))

/-- commit is crash-safe at every I/O step (`C02.commit_every_step`): after any prefix of the
    steps every crash image (process death or power loss with any subset of unsynced operations)
    represents the old or the new committed list; once the log sync has been performed (`nAck` =
    the steps before it), the new one. -/
theorem commit_safe {cfg : Cfg} {T : List Tx} {fs : FS} {m : Mem} {cs : List CTx} {c : Nat}
    (hsync : cfg.syncSlot = true) (h : InvOpen T fs m cs c) (ht : TailPre cfg fs m) (tx : Tx) (hf : FreshTx T tx) :
    let S := ioSteps (commitA cfg m fs.pv fs.wf tx)
    let nAck := (cutSteps cfg (m.ws fs.wf)).length + 3 * (txRecs m.nextTxid m.idLen tx).length
    SafeAlong (SafeFS [T, T ++ [tx]]) fs S ∧
    (∀ n, nAck < n → SafeFS [T ++ [tx]] (fs.steps (S.take n))) := by
  refine ⟨(blk_commit hsync h ht tx hf).safe, fun n hlt => ?_⟩
  show SafeFS _ (fs.steps ((ioSteps (commitA cfg m fs.pv fs.wf tx)).take n))
  rw [commitA_eq cfg m fs.pv fs.wf tx h.mwal]
  exact (blk_commitLog h ht tx hf).safe_right (fun _ _ e => (blk_commitNodes hsync h tx hf e).safe) n
    (by rw [length_logSync]; omega)

theorem commit_post {cfg : Cfg} {T : List Tx} {fs : FS} {m : Mem} {cs : List CTx} {c : Nat}
    (hsync : cfg.syncSlot = true) (h : InvOpen T fs m cs c) (ht : TailPre cfg fs m) (tx : Tx) (hf : FreshTx T tx) :
    ∃ cs' c', InvOpen (T ++ [tx]) (run (commitA cfg m fs.pv fs.wf tx) .none fs m).fs
      (run (commitA cfg m fs.pv fs.wf tx) .none fs m).mem cs' c' ∧
      validLen (run (commitA cfg m fs.pv fs.wf tx) .none fs m).fs.wf = (run (commitA cfg m fs.pv fs.wf tx) .none fs m).fs.wf.length :=
  (blk_commit hsync h ht tx hf).run_none.2

/-- a commit that fails in its log phase (any of the three writes of any record, the log sync,
    or the tail cut of the first append): the error is reported; memory is untouched except for the
    transaction counter and the tail flag; the log is back to what it was plus, at most, unsynced
    complete records of the unfinished transaction — files and handle again satisfy the invariant
    for the OLD list `T`, and the log has no torn tail (or the cut is still armed). -/
theorem failed_commit_wal {cfg : Cfg} {T : List Tx} {fs : FS} {m : Mem} {cs : List CTx} {c : Nat}
    (hroll : cfg.walRollback = true) (h : InvOpen T fs m cs c) (ht : TailPre cfg fs m) (tx : Tx) (hf : FreshTx T tx)
    (k : Nat) (hk : k ≤ (cutSteps cfg (m.ws fs.wf)).length + 3 * (txRecs m.nextTxid m.idLen tx).length) :
    let out := run (commitA cfg m fs.pv fs.wf tx) (.faultAt k) fs m
    out.err = some .io ∧ InvOpen T out.fs out.mem cs c ∧ TailPre cfg out.fs out.mem := by
  show (run (commitA cfg m fs.pv fs.wf tx) (.faultAt k) fs m).err = some .io ∧
    InvOpen T (run (commitA cfg m fs.pv fs.wf tx) (.faultAt k) fs m).fs (run (commitA cfg m fs.pv fs.wf tx) (.faultAt k) fs m).mem cs c ∧
    TailPre cfg (run (commitA cfg m fs.pv fs.wf tx) (.faultAt k) fs m).fs (run (commitA cfg m fs.pv fs.wf tx) (.faultAt k) fs m).mem
  rw [commitA_eq cfg m fs.pv fs.wf tx h.mwal]
  obtain ⟨e1, e2⟩ := (blk_commitLog h ht tx hf).run_fault_left _ k (by rw [length_logSync]; omega)
  exact ⟨e1, e2 hroll⟩

end Nervus.Crash
