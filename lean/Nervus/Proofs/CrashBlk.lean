/-
  Proofs.CrashBlk — one judgement for a program (a list of actions) started on given files and
  memory, covering the three ways `run` can end: process death after any prefix of the I/O steps
  (`Safe`), an injected I/O error at any step followed by the error path of that call site
  (`Fail`), completion (`Q`).  Programs are composed with `Blk.append`; the intermediate state is
  a bound variable of the second premise.  A result about a position inside a composed program
  is read off its parts: `run_fault_left` (an error in the first part), `run_fault_mid` (behind a
  completed part), `safe_right` (a death in the second part).  Its sibling `Hoare`
  (`Proofs/CrashHoare`) speaks of classes of page-file images only; a `Hoare` or `PBlk` fact about
  a page phase enters a `Blk` as its `Safe` component once the log is known to be left alone
  (`blk_nodes` in CrashPhase, `blk_pages` in CrashCompact).
-/
import Nervus.Proofs.CrashImg
namespace Nervus.Crash

structure Blk (Safe : FS → Prop) (Fail : FS → Mem → Prop) (acts : List Action) (fs : FS) (m : Mem)
    (Q : FS → Mem → Prop) : Prop where
  nofail : failOf acts = none
  safe : SafeAlong Safe fs (ioSteps acts)
  fault : ∀ k, k < (ioSteps acts).length →
    Fail ((fs.steps ((ioSteps acts).take k)).steps (onFailAt acts k)) ((memBefore acts k).foldl applyUpd m)
  post : Q (fs.steps (ioSteps acts)) ((memUpds acts).foldl applyUpd m)

namespace Blk
variable {Safe Safe' : FS → Prop} {Fail Fail' : FS → Mem → Prop} {Q Q' R : FS → Mem → Prop}
  {acts a b : List Action} {fs : FS} {m : Mem}

theorem nil (hs : Safe fs) (hq : Q fs m) : Blk Safe Fail [] fs m Q :=
  ⟨rfl, safeAlong_nil hs, fun _ hk => absurd hk (Nat.not_lt_zero _), hq⟩

theorem mem (u : MemUpd) (h : Blk Safe Fail acts fs (applyUpd m u) Q) : Blk Safe Fail (.mem u :: acts) fs m Q :=
  ⟨h.nofail, h.safe, h.fault, h.post⟩

theorem io (s : Step) (onFail : List Step) (hs : Safe fs) (hf : Fail (fs.steps onFail) m)
    (h : Blk Safe Fail acts (fs.step s) m Q) : Blk Safe Fail (.io s onFail :: acts) fs m Q :=
  ⟨h.nofail, safeAlong_cons hs h.safe,
    fun k hk => match k with
      | 0 => hf
      | k + 1 => h.fault k (Nat.lt_of_succ_lt_succ hk),
    h.post⟩

theorem mono (h : Blk Safe Fail acts fs m Q) (hs : ∀ g, Safe g → Safe' g) (hf : ∀ g mm, Fail g mm → Fail' g mm)
    (hq : ∀ g mm, Q g mm → Q' g mm) : Blk Safe' Fail' acts fs m Q' :=
  ⟨h.nofail, safeAlong_mono h.safe hs, fun k hk => hf _ _ (h.fault k hk), hq _ _ h.post⟩

theorem append (ha : Blk Safe Fail a fs m Q) (hb : ∀ g mm, Q g mm → Blk Safe Fail b g mm R) :
    Blk Safe Fail (a ++ b) fs m R := by
  have hb' := hb _ _ ha.post
  refine ⟨by rw [failOf_append, ha.nofail, hb'.nofail]; rfl, ?_, ?_, ?_⟩
  · rw [ioSteps_append_noFail _ _ ha.nofail]
    exact safeAlong_append ha.safe hb'.safe
  · intro k hk
    rw [ioSteps_append_noFail _ _ ha.nofail] at hk ⊢
    by_cases hka : k < (ioSteps a).length
    · rw [onFailAt_append_left _ _ _ hka, memBefore_append_left _ _ _ hka, List.take_append_of_le_length (Nat.le_of_lt hka)]
      exact ha.fault k hka
    · obtain ⟨j, rfl⟩ : ∃ j, k = (ioSteps a).length + j := ⟨k - (ioSteps a).length, by omega⟩
      rw [onFailAt_append_right _ _ _ ha.nofail, memBefore_append_right _ _ _ ha.nofail, List.take_append,
        List.take_of_length_le (Nat.le_add_right _ _), Nat.add_sub_cancel_left, steps_append, List.foldl_append]
      exact hb'.fault j (by rw [List.length_append] at hk; omega)
  · rw [ioSteps_append_noFail _ _ ha.nofail, memUpds_append_noFail _ _ ha.nofail, steps_append, List.foldl_append]
    exact hb'.post

theorem post_safe (h : Blk Safe Fail acts fs m Q) : Blk Safe Fail acts fs m (fun g mm => Q g mm ∧ Safe g) :=
  ⟨h.nofail, h.safe, h.fault, h.post, safeAlong_last h.safe⟩

/-- the crash points inside the second part of a program may satisfy more than those of the whole -/
theorem safe_right (ha : Blk Safe Fail a fs m Q) (hb : ∀ g mm, Q g mm → SafeAlong Safe' g (ioSteps b)) (n : Nat)
    (hn : (ioSteps a).length ≤ n) : Safe' (fs.steps ((ioSteps (a ++ b)).take n)) := by
  rw [ioSteps_append_noFail _ _ ha.nofail, List.take_append, List.take_of_length_le hn, steps_append]
  exact hb _ _ ha.post (n - (ioSteps a).length)

/-! ### what the judgement says about `run` -/

theorem run_none (h : Blk Safe Fail acts fs m Q) :
    (run acts .none fs m).err = none ∧ Q (run acts .none fs m).fs (run acts .none fs m).mem := by
  unfold run
  rw [runActs_none]
  exact ⟨h.nofail, h.post⟩

/-- `open` judged as a block: `recover` succeeds and returns an end state of the block -/
theorem recover_ok {cfg : Cfg} (h : Blk Safe Fail (openA cfg fs.pv fs.wf) fs {} Q) :
    ∃ m' fs', recover cfg fs = .ok (m', fs') ∧ Q fs' m' := by
  obtain ⟨he, hq⟩ := h.run_none
  exact ⟨_, _, by simp only [recover, he], hq⟩

theorem run_fault (h : Blk Safe Fail acts fs m Q) (k : Nat) (hk : k < (ioSteps acts).length) :
    (run acts (.faultAt k) fs m).err = some .io ∧
    Fail (run acts (.faultAt k) fs m).fs (run acts (.faultAt k) fs m).mem := by
  obtain ⟨e1, e2, e3⟩ := run_fault_eq acts k fs m hk
  rw [e2, e3]
  exact ⟨e1, h.fault k hk⟩

theorem run_fault_left (h : Blk Safe Fail a fs m Q) (b : List Action) (k : Nat) (hk : k < (ioSteps a).length) :
    (run (a ++ b) (.faultAt k) fs m).err = some .io ∧
    Fail (run (a ++ b) (.faultAt k) fs m).fs (run (a ++ b) (.faultAt k) fs m).mem := by
  have hlen : k < (ioSteps (a ++ b)).length := by
    rw [ioSteps_append_noFail _ _ h.nofail, List.length_append]; omega
  obtain ⟨e1, e2, e3⟩ := run_fault_eq (a ++ b) k fs m hlen
  rw [e2, e3, ioSteps_append_noFail _ _ h.nofail, List.take_append_of_le_length (Nat.le_of_lt hk),
    onFailAt_append_left _ _ _ hk, memBefore_append_left _ _ _ hk]
  exact ⟨e1, h.fault k hk⟩

/-- an error inside the middle part of a program: the first part has run to completion (the block
    before it need not be the one judged with the same `Safe`, `Fail`), what follows does not matter -/
theorem run_fault_mid (ha : Blk Safe Fail a fs m Q) (hb : ∀ g mm, Q g mm → Blk Safe' Fail' b g mm R) (c : List Action) (k : Nat)
    (hk : k < (ioSteps b).length) :
    Fail' (run (a ++ (b ++ c)) (.faultAt ((ioSteps a).length + k)) fs m).fs (run (a ++ (b ++ c)) (.faultAt ((ioSteps a).length + k)) fs m).mem := by
  have hb' := hb _ _ ha.post
  have hkbc : k < (ioSteps (b ++ c)).length := by
    rw [ioSteps_append_noFail _ _ hb'.nofail, List.length_append]; exact Nat.lt_add_right _ hk
  have hlen : (ioSteps a).length + k < (ioSteps (a ++ (b ++ c))).length := by
    rw [ioSteps_append_noFail _ _ ha.nofail, List.length_append]; exact Nat.add_lt_add_left hkbc _
  obtain ⟨_, e2, e3⟩ := run_fault_eq (a ++ (b ++ c)) _ fs m hlen
  obtain ⟨_, f2, f3⟩ := run_fault_eq (b ++ c) k (fs.steps (ioSteps a)) ((memUpds a).foldl applyUpd m) hkbc
  have := (hb'.run_fault_left c k hk).2
  rw [f2, f3] at this
  rw [e2, e3, ioSteps_append_noFail _ _ ha.nofail, List.take_append, List.take_of_length_le (Nat.le_add_right _ _),
    Nat.add_sub_cancel_left, steps_append, onFailAt_append_right _ _ _ ha.nofail, memBefore_append_right _ _ _ ha.nofail,
    List.foldl_append]
  exact this

end Blk

end Nervus.Crash
