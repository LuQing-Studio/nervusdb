/-
  Proofs/EngineDangling.lean — no dangling relationships (C14): the Spec graph of a well-formed
  history only holds relationships between live nodes, hence (C06 refinement) so does every read of
  the engine; the query-level DELETE check against the snapshot.
-/
import Nervus.Proofs.EngineReadsAgree
import Nervus.Model.QueryDelete
namespace Nervus.Storage
open Nervus.GraphSpec (Graph TxOp Op Rel opWF txWF wfFrom)

def RelsLive (g : Graph) : Prop := ∀ e ∈ g.rels, g.live e.src = true ∧ g.live e.dst = true

theorem live_mono_next (g : Graph) (n : Nat) (h : g.live n = true) (g' : Graph)
    (h1 : g.next ≤ g'.next) (h2 : g'.dead = g.dead) : g'.live n = true := by
  rw [live_iff] at h ⊢
  rw [h2]; exact ⟨Nat.lt_of_lt_of_le h.1 h1, h.2⟩

theorem RelsLive.step {g : Graph} (h : RelsLive g) (op : TxOp) (hwf : opWF g op = true) :
    RelsLive (g.step op) := by
  have same : ∀ g' : Graph, g'.rels = g.rels → g.next ≤ g'.next → g'.dead = g.dead → RelsLive g' := by
    intro g' h1 h2 h3 e he
    rw [h1] at he
    exact ⟨live_mono_next g _ (h e he).1 g' h2 h3, live_mono_next g _ (h e he).2 g' h2 h3⟩
  cases op with
  | node x lab =>
    show RelsLive (if (g.extLookup x).isSome then g else _)
    split
    · exact h
    · exact same _ rfl (Nat.le_succ _) rfl
  | labelAdd n l =>
    show RelsLive (if g.labels.contains (n, l) then g else _)
    split
    · exact h
    · exact same _ rfl (Nat.le_refl _) rfl
  | labelDel n l => exact same _ rfl (Nat.le_refl _) rfl
  | edge s t d =>
    simp only [opWF, Bool.and_eq_true] at hwf
    intro e he
    have he' : e ∈ (⟨s, t, d⟩ : Rel) :: g.rels := he
    rw [List.mem_cons] at he'
    rcases he' with rfl | he'
    · exact ⟨live_mono_next g _ hwf.1 _ (Nat.le_refl _) rfl, live_mono_next g _ hwf.2 _ (Nat.le_refl _) rfl⟩
    · exact ⟨live_mono_next g _ (h e he').1 _ (Nat.le_refl _) rfl, live_mono_next g _ (h e he').2 _ (Nat.le_refl _) rfl⟩
  | tombNode n =>
    intro e he
    have he' : e ∈ g.rels.filter (fun e => !e.touches n) := he
    obtain ⟨hm, ht⟩ := List.mem_filter.mp he'
    have hnt : ¬ (e.src = n ∨ e.dst = n) := by
      intro hh; have := (touches_iff e n).mpr hh; simp [this] at ht
    simp only [not_or] at hnt
    obtain ⟨h1, h2⟩ := h e hm
    rw [live_iff] at h1 h2
    constructor
    · rw [live_iff]; refine ⟨h1.1, ?_⟩
      show e.src ∉ n :: g.dead
      simp only [List.mem_cons, not_or]; exact ⟨hnt.1, h1.2⟩
    · rw [live_iff]; refine ⟨h2.1, ?_⟩
      show e.dst ∉ n :: g.dead
      simp only [List.mem_cons, not_or]; exact ⟨hnt.2, h2.2⟩
  | tombEdge s t d =>
    intro e he
    have he' : e ∈ g.rels.filter (· != (⟨s, t, d⟩ : Rel)) := he
    have := h e (List.mem_filter.mp he').1
    exact ⟨live_mono_next g _ this.1 _ (Nat.le_refl _) rfl, live_mono_next g _ this.2 _ (Nat.le_refl _) rfl⟩
  | nprop n k v => exact same _ rfl (Nat.le_refl _) rfl
  | npropDel n k => exact same _ rfl (Nat.le_refl _) rfl
  | eprop s t d k v => exact same _ rfl (Nat.le_refl _) rfl
  | epropDel s t d k => exact same _ rfl (Nat.le_refl _) rfl
  | vec n v => exact same _ rfl (Nat.le_refl _) rfl

theorem RelsLive.apply (ops : List TxOp) : ∀ g, RelsLive g → txWF g ops = true → RelsLive (g.apply ops) := by
  induction ops with
  | nil => intro g h _; exact h
  | cons op ops ih =>
    intro g h hwf
    simp only [txWF, Bool.and_eq_true] at hwf
    exact ih (g.step op) (h.step op hwf.1) hwf.2

theorem RelsLive.hist (h : List Op) : ∀ g, RelsLive g → wfFrom g h = true → RelsLive (h.foldl Graph.opStep g) := by
  induction h with
  | nil => intro g hg _; exact hg
  | cons op h ih =>
    intro g hg hwf
    cases op with
    | tx ops commit =>
      simp only [wfFrom, Bool.and_eq_true] at hwf
      cases commit with
      | true => exact ih _ (RelsLive.apply ops g hg hwf.1) hwf.2
      | false => exact ih _ hg hwf.2
    | compact => exact ih _ hg hwf
    | close => exact ih _ hg hwf
    | reopen => exact ih _ hg hwf

/-- the Spec graph of a well-formed history has no dangling relationship -/
theorem spec_no_dangling (h : List Op) (hwf : GraphSpec.wellFormed h = true) : RelsLive (GraphSpec.run h) :=
  RelsLive.hist h {} (fun _ he => absurd he List.not_mem_nil) hwf

theorem mem_nodes_iff_live (g : Graph) (n : Nat) : n ∈ g.nodes ↔ g.live n = true := by
  unfold Graph.nodes
  rw [List.mem_filter, List.mem_range, live_iff]
  simp

/-- reads that agree with a dangling-free Spec graph return no dangling relationship -/
theorem reads_no_dangling (c : Cfg) {s : Engine} {g : Graph} (hr : ReadsAgree c s g) (hl : RelsLive g)
    (n : Nat) (hn : n ∈ s.nodes) :
    (∃ es, s.neighbors n none = some es ∧ ∀ e ∈ es, e.src ∈ s.nodes ∧ e.dst ∈ s.nodes) ∧
    (∃ es, s.incoming c n none = some es ∧ ∀ e ∈ es, e.src ∈ s.nodes ∧ e.dst ∈ s.nodes) := by
  have hlive : g.live n = true := by rw [← mem_nodes_iff_live, ← hr.nodes]; exact hn
  -- a read that agrees in multiplicity with a part of the Spec's relationships has live ends
  have key : ∀ (es : List Edge) (l : List Rel), (∀ x ∈ l, x ∈ g.rels) →
      (∀ e ∈ es, ∃ nm, s.interner[e.rel]? = some nm) →
      (∀ r nm a b, s.interner[r]? = some nm → es.count ⟨a, r, b⟩ = l.count ⟨a, nm, b⟩) →
      ∀ e ∈ es, e.src ∈ s.nodes ∧ e.dst ∈ s.nodes := by
    intro es l hsub h2 h3 e he
    obtain ⟨nm, hnm⟩ := h2 e he
    have hpos : 0 < es.count (⟨e.src, e.rel, e.dst⟩ : Edge) := List.count_pos_iff.mpr he
    rw [h3 e.rel nm e.src e.dst hnm] at hpos
    rw [hr.nodes, mem_nodes_iff_live, mem_nodes_iff_live]
    exact hl _ (hsub _ (List.count_pos_iff.mp hpos))
  constructor
  · obtain ⟨es, h1, h2, h3⟩ := hr.out n none none hlive (Or.inl ⟨rfl, rfl⟩)
    exact ⟨es, h1, key es _ (fun x hx => (List.mem_filter.mp hx).1) h2 h3⟩
  · obtain ⟨es, h1, h2, h3⟩ := hr.inc n none none hlive (Or.inl ⟨rfl, rfl⟩)
    exact ⟨es, h1, key es _ (fun x hx => (List.mem_filter.mp hx).1) h2 h3⟩

/-! ### the query-level DELETE check -/

/-- a non-DETACH delete of a node that has, in the snapshot, a relationship which the statement does
    not delete explicitly fails -/
theorem delete_with_snapshot_rels_fails (c : Cfg) (snap : Engine) (t : Txn) (nodes : List Nat)
    (explicit : List Edge) (ls : List (List Edge)) (hl : nodes.mapM (attached c snap) = some ls)
    (e : Edge) (he : e ∈ ls.flatten) (hne : e ∉ explicit) :
    (match execDelete c snap t false nodes explicit with | .hasRels => true | _ => false) = true := by
  unfold execDelete deleteSafe
  simp only [Bool.false_eq_true, if_false, hl, Option.map_some]
  have : ls.flatten.all explicit.contains = false := by
    rw [List.all_eq_false]
    exact ⟨e, he, by simpa using hne⟩
  rw [this]

/-- a successful non-DETACH delete only deletes nodes whose snapshot relationships are all deleted
    explicitly by the same statement -/
theorem delete_ok_covers_snapshot (c : Cfg) (snap : Engine) (t t' : Txn) (k : Nat) (nodes : List Nat)
    (explicit : List Edge) (h : execDelete c snap t false nodes explicit = .ok t' k) :
    ∃ ls, nodes.mapM (attached c snap) = some ls ∧ ∀ e ∈ ls.flatten, e ∈ explicit := by
  unfold execDelete deleteSafe at h
  simp only [Bool.false_eq_true, if_false] at h
  cases hl : nodes.mapM (attached c snap) with
  | none => rw [hl] at h; simp at h
  | some ls =>
    rw [hl] at h
    simp only [Option.map_some] at h
    refine ⟨ls, rfl, ?_⟩
    cases ha : ls.flatten.all explicit.contains with
    | false => rw [ha] at h; simp at h
    | true =>
      intro e he
      have := List.all_eq_true.mp ha e he
      simpa using this

end Nervus.Storage
