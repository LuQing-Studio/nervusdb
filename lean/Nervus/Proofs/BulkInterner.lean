/-
  Proofs/BulkInterner.lean — the label table of the transactional load is the label table the bulk loader
  builds (same names, same ids): node labels in node order, then relationship types in edge order (C30).
-/
import Nervus.Proofs.BulkSpec
import Nervus.Proofs.BulkOpen
namespace Nervus.Storage
open Nervus.GraphSpec (TxOp Op)

def opNames : TxOp → List Nat
  | .node _ (some l) => [l]
  | .node _ none => []
  | .labelAdd _ l => [l]
  | .labelDel _ l => [l]
  | .edge _ t _ => [t]
  | .tombEdge _ t _ => [t]
  | .eprop _ t _ _ _ => [t]
  | .epropDel _ t _ _ => [t]
  | _ => []

theorem stepTx_interner (c : Cfg) (st : Engine × Txn) (op : TxOp) :
    (stepTx c st op).1.interner = (opNames op).foldl internName st.1.interner := by
  cases op with
  | node x lab =>
    have hi : (internLabel st.1 lab).1.interner = (opNames (.node x lab)).foldl internName st.1.interner := by
      cases lab with
      | none => rfl
      | some l => exact gocl_interner st.1 l
    simp only [stepTx]
    split <;> exact hi
  | labelAdd n l => exact gocl_interner st.1 l
  | labelDel n l => exact gocl_interner st.1 l
  | edge a l b => exact gocl_interner st.1 l
  | tombNode n => rfl
  | tombEdge a l b => exact gocl_interner st.1 l
  | nprop n k v => rfl
  | npropDel n k => rfl
  | eprop a l b k v => exact gocl_interner st.1 l
  | epropDel a l b k => exact gocl_interner st.1 l
  | vec n v =>
    show (st.2.setVector c st.1 n v).1.interner = _
    unfold Txn.setVector; split <;> rfl

theorem fold_interner (c : Cfg) (ops : List TxOp) : ∀ st : Engine × Txn,
    (ops.foldl (stepTx c) st).1.interner = (ops.flatMap opNames).foldl internName st.1.interner := by
  induction ops with
  | nil => intro st; rfl
  | cons op ops ih =>
    intro st
    rw [List.foldl_cons, ih, stepTx_interner, List.flatMap_cons, List.foldl_append]

theorem runTx_interner (c : Cfg) (s : Engine) (ops : List TxOp) (b : Bool) :
    (runTx c s ops b).interner = (ops.flatMap opNames).foldl internName s.interner := by
  unfold runTx
  have h := fold_interner c ops s.beginWrite
  cases b with
  | true => exact (commit_interner c _ _).trans h
  | false => exact h

theorem txLoad_names (ns : List BulkNode) (es : List BulkEdge) : ∀ t : Interner,
    ((txLoad ns es).flatMap opNames).foldl internName t =
      (es.map (·.rel)).foldl internName ((ns.map (·.label)).foldl internName t) := by
  intro t
  rw [txLoad_eq, List.flatMap_append, List.foldl_append]
  have hnodes : ∀ (b : Nat) (l : List BulkNode) (t : Interner),
      ((nodeOpsFrom b l).flatMap opNames).foldl internName t = (l.map (·.label)).foldl internName t := by
    intro b l
    induction l generalizing b with
    | nil => intro t; rfl
    | cons n l ih =>
      intro t
      have hops : nodeOpsFrom b (n :: l) =
          (TxOp.node n.ext (some n.label) :: propOps b n.props) ++ nodeOpsFrom (b + 1) l := by
        unfold nodeOpsFrom; rw [List.zipIdx_cons, List.flatMap_cons]
      have hp : (propOps b n.props).flatMap opNames = [] := by
        unfold propOps
        induction n.props with
        | nil => rfl
        | cons kv kvs ihp => simp only [List.map_cons, List.flatMap_cons, ihp]; rfl
      rw [hops, List.flatMap_append, List.foldl_append, List.flatMap_cons, hp, List.append_nil]
      show ((nodeOpsFrom (b + 1) l).flatMap opNames).foldl internName (internName t n.label) = _
      rw [ih]; rfl
  have hedges : ∀ (l : List BulkEdge) (t : Interner),
      ((edgeOps ns l).flatMap opNames).foldl internName t = (l.map (·.rel)).foldl internName t := by
    intro l
    induction l with
    | nil => intro t; rfl
    | cons e l ih =>
      intro t
      unfold edgeOps
      rw [List.flatMap_cons, List.flatMap_append, List.foldl_append, List.flatMap_cons]
      have hp : (e.props.map (fun kv => TxOp.eprop (bulkIid ns e.src) e.rel (bulkIid ns e.dst) kv.1 kv.2)).flatMap opNames =
          List.replicate e.props.length e.rel := by
        induction e.props with
        | nil => rfl
        | cons kv kvs ihp => simp only [List.map_cons, List.flatMap_cons, ihp, List.length_cons, List.replicate_succ]; rfl
      rw [hp]
      show (_ : List Nat).foldl internName ((List.replicate e.props.length e.rel).foldl internName (internName t e.rel)) = _
      rw [fold_replicate_same]
      exact ih _
  rw [hnodes, hedges]

theorem txLoad_interner (c : Cfg) (ns : List BulkNode) (es : List BulkEdge) :
    (runTx c {} (txLoad ns es) true).interner = bulkInterner ns es := by
  rw [runTx_interner, txLoad_names]; rfl

end Nervus.Storage
