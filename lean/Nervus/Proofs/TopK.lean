/-
  Proofs.TopK — soundness of top-k pruning under ORDER BY … [SKIP s] LIMIT l: removing from the input a row that
  at least k earlier rows precede in the FULL comparison (they then precede it in the stable order) does not
  change the first k rows of the stable sort (`topk_drop_sound`, `topk_drop_sound_slice`).
-/
import Nervus.Proofs.Sort
namespace Nervus
open Order

section
variable {α : Type} (cmp : α → α → Ordering)

theorem insertSorted_append_of_gt (x : α) (A C : List α) (h : ∀ a ∈ A, cmp x a = .gt) :
    insertSorted cmp x (A ++ C) = A ++ insertSorted cmp x C := by
  have hp : ∀ a ∈ A, (cmp x a == .gt) = true := fun a ha => beq_iff_eq.mpr (h a ha)
  rw [insertSorted_eq, insertSorted_eq, List.takeWhile_append_of_pos hp, List.dropWhile_append_of_pos hp,
    List.append_assoc]

theorem insertSorted_append_of_stop (x c : α) (hc : cmp x c ≠ .gt) (A C : List α) :
    insertSorted cmp x (A ++ c :: C) = insertSorted cmp x A ++ c :: C := by
  induction A with
  | nil => simp [insertSorted, hc]
  | cons a A ih => simp only [List.cons_append, insertSorted, ih]; split <;> rfl

theorem insertSorted_split (x : α) (S : List α) : ∃ A B, insertSorted cmp x S = A ++ x :: B ∧ S = A ++ B :=
  ⟨_, _, insertSorted_eq cmp x S, List.takeWhile_append_dropWhile.symm⟩

def cntLe (r : α) (pre : List α) : Nat := (pre.filter (fun x => cmp x r != .gt)).length

/-- `r` sits behind at least `cntLe r pre` rows of the sorted input, and removing `r` from the input removes
    exactly `r` from the sorted output -/
theorem isort_remove_mid {P : α → Prop} (h : CmpLawsOn cmp P) (r : α) (post : List α) :
    ∀ (pre : List α), (∀ x ∈ pre ++ r :: post, P x) →
      ∃ A B, isort cmp (pre ++ r :: post) = A ++ r :: B ∧ isort cmp (pre ++ post) = A ++ B ∧
        cntLe cmp r pre ≤ A.length
  | [], _ => by
    obtain ⟨A, B, h1, h2⟩ := insertSorted_split cmp r (isort cmp post)
    exact ⟨A, B, by simpa [isort] using h1, by simpa using h2, by simp [cntLe]⟩
  | x :: pre, hP => by
    have hP' : ∀ y ∈ pre ++ r :: post, P y := fun y hy => hP y (by simp at hy ⊢; right; exact hy)
    obtain ⟨A, B, e1, e2, hc⟩ := isort_remove_mid h r post pre hP'
    have px : P x := hP x (by simp)
    have pr : P r := hP r (by simp)
    have sorted1 : SortedBy cmp (A ++ r :: B) := by
      rw [← e1]; exact isort_sorted cmp h _ hP'
    have memT : ∀ y ∈ A ++ r :: B, P y := by
      intro y hy; rw [← e1] at hy; exact hP' y ((mem_isort cmp).1 hy)
    have hA : ∀ a ∈ A, cmp a r ≠ .gt := by
      intro a ha
      have := List.pairwise_append.1 sorted1
      exact this.2.2 a ha r (by simp)
    have hB : ∀ b ∈ B, cmp r b ≠ .gt := by
      intro b hb
      have := (List.pairwise_append.1 sorted1).2.1
      exact (List.pairwise_cons.1 this).1 b hb
    simp only [List.cons_append, isort, e1, e2]
    by_cases hxr : cmp x r = .gt
    · -- `x` is placed after `r`: it walks past all of `A` and past `r`
      have hall : ∀ a ∈ A, cmp x a = .gt := by
        intro a ha
        apply Classical.byContradiction
        intro hn
        exact (h.le_trans px (memT a (by simp [ha])) pr hn (hA a ha)) hxr
      refine ⟨A, insertSorted cmp x B, ?_, ?_, ?_⟩
      · rw [insertSorted_append_of_gt cmp x A _ hall]; simp [insertSorted, hxr]
      · rw [insertSorted_append_of_gt cmp x A _ hall]
      · simpa [cntLe, hxr] using hc
    · -- `x` is not placed after `r`: it stops in front of `r`, and in front of what follows `r`
      have hb : (cmp x r != .gt) = true := by simpa using hxr
      refine ⟨insertSorted cmp x A, B, insertSorted_append_of_stop cmp x r hxr A B, ?_, ?_⟩
      · cases B with
        | nil => rw [List.append_nil, List.append_nil]
        | cons b B' =>
          exact insertSorted_append_of_stop cmp x b
            (h.le_trans px pr (memT b (by simp)) hxr (hB b List.mem_cons_self)) A B'
      · have : (insertSorted cmp x A).length = A.length + 1 := by
          have := (insertSorted_perm cmp x A).length_eq; simpa using this
        simp only [cntLe, List.filter_cons, hb, if_true, List.length_cons] at hc ⊢
        omega

/-- top-k pruning is sound when it uses the FULL comparison: a row `r` may be dropped from the input of
    `ORDER BY … LIMIT k` as soon as `k` rows that arrived before it are not placed after it by the full key
    comparison (they precede `r` in the stable order) — the first `k` rows of the sort do not change. -/
theorem topk_drop_sound {P : α → Prop} (h : CmpLawsOn cmp P) (pre post : List α) (r : α) (k : Nat)
    (hP : ∀ x ∈ pre ++ r :: post, P x) (hk : k ≤ cntLe cmp r pre) :
    (isort cmp (pre ++ r :: post)).take k = (isort cmp (pre ++ post)).take k := by
  obtain ⟨A, B, e1, e2, hc⟩ := isort_remove_mid cmp h r post pre hP
  rw [e1, e2, List.take_append_of_le_length (by omega), List.take_append_of_le_length (by omega)]

/-- the same for `SKIP s LIMIT l` (the bound handed down is `s + l`) -/
theorem topk_drop_sound_slice {P : α → Prop} (h : CmpLawsOn cmp P) (pre post : List α) (r : α) (s l : Nat)
    (hP : ∀ x ∈ pre ++ r :: post, P x) (hk : s + l ≤ cntLe cmp r pre) :
    limit l (skip s (isort cmp (pre ++ r :: post))) = limit l (skip s (isort cmp (pre ++ post))) := by
  have := topk_drop_sound cmp h pre post r (s + l) hP hk
  simp only [limit, skip]
  rw [List.take_drop, List.take_drop, this]
end
end Nervus
