/-
  Proofs/EngineStagedL.lean — per-operation simulation lemmas of the C06 refinement, idmap columns:
  node creation, external ids, labels.
-/
import Nervus.Proofs.EngineStaged
namespace Nervus.Storage
open Nervus.GraphSpec (Graph TxOp Op Rel)

/-- idmap / label columns of the invariant between the published engine state and the Spec graph.
    `extNZ`: `resolve_external` reads external id 0 as none (finding C06-external-id-zero); `small`:
    `LabelId::MAX` marks "no label" and must not become the id of a name; `i2lOK`: every stored label id is
    that marker or an interned id, so a newly interned id labels no node. -/
structure SimL (s : Engine) (g : Graph) : Prop where
  lenE : s.idmap.i2e.length = g.next
  lenL : s.idmap.i2l.length = g.next
  e2i : ∀ x, s.idmap.lookup x = (g.ext.map (fun p => (p.2, p.1))).lookup x
  extPt : ∀ n, g.extOf n = (s.idmap.i2e[n]?).map (·.ext)
  extLt : ∀ p ∈ g.ext, p.1 < g.next
  extNZ : ∀ p ∈ g.ext, p.2 ≠ 0
  extND : (g.ext.map (·.2)).Nodup
  extIdND : (g.ext.map (·.1)).Nodup
  labels : ∀ n lid nm, s.interner[lid]? = some nm → n < g.next → n ∉ g.dead →
    (lid ∈ (s.idmap.i2l[n]?).getD [] ↔ (n, nm) ∈ g.labels)
  labelsInt : ∀ p ∈ g.labels, p.2 ∈ s.interner
  labelsLt : ∀ p ∈ g.labels, p.1 < g.next
  deadLt : ∀ n ∈ g.dead, n < g.next
  small : s.interner.length ≤ labelMax
  i2lOK : ∀ (n l : Nat), l ∈ (s.idmap.i2l[n]?).getD [] → l = labelMax ∨ l < s.interner.length

/-- idmap / label columns of the staged relation -/
structure StagedL (s0 : Engine) (g0 : Graph) (s : Engine) (t : Txn) (g : Graph) : Prop where
  next : g.next = g0.next + t.created.length
  extEq : g.ext = (t.created.map (fun c => (c.2.2, c.1))).reverse ++ g0.ext
  ids : ∀ i c, t.created[i]? = some c → c.2.2 = g0.next + i
  extPt : ∀ n, g.extOf n = if n < g0.next then g0.extOf n else (t.created[n - g0.next]?).map (·.1)
  extLt : ∀ p ∈ g.ext, p.1 < g.next
  extNZ : ∀ p ∈ g.ext, p.2 ≠ 0
  extND : (g.ext.map (·.2)).Nodup
  extIdND : (g.ext.map (·.1)).Nodup
  labels : ∀ n lid nm, s.interner[lid]? = some nm → n < g.next → n ∉ g.dead →
    ((n, nm) ∈ g.labels ↔
      (((n, nm) ∈ g0.labels ∨ (∃ x, (x, lid, n) ∈ t.created) ∨ (n, lid) ∈ t.addL) ∧ (n, lid) ∉ t.delL))
  labelsInt : ∀ p ∈ g.labels, p.2 ∈ s.interner
  labelsLt : ∀ p ∈ g.labels, p.1 < g.next
  addOK : ∀ p ∈ t.addL, p.1 < g.next ∧ p.2 < s.interner.length
  delOK : ∀ p ∈ t.delL, p.1 < g.next ∧ p.2 < s.interner.length
  createdLid : ∀ c ∈ t.created, c.2.1 = labelMax ∨ c.2.1 < s.interner.length
  deadLt : ∀ n ∈ g.dead, n < g.next
  small : s.interner.length ≤ labelMax

theorem StagedL.intern {s0 g0 s t g} (hst : StagedL s0 g0 s t g) (hn : s.interner.Nodup)
    (hl0 : ∀ p ∈ g0.labels, p.2 ∈ s.interner) (nm : Nat) (hroom : s.interner.length < labelMax) :
    StagedL s0 g0 (s.getOrCreateLabel nm).1 t g := by
  have hpre := getOrCreateLabel_prefix s nm
  have hlen := hpre.length_le
  have hlen2 := getOrCreateLabel_length_le s nm
  exact { hst with
    labels := fun n lid x hx hn' hd => by
      rcases old_or_new hpre (getOrCreateLabel_nodup s nm hn) hx with hold | ⟨hnew, hge⟩
      · exact hst.labels n lid x hold hn' hd
      · -- a new name labels nothing yet, and no pending list holds its id
        refine ⟨fun h => absurd (hst.labelsInt _ h) hnew, ?_⟩
        rintro ⟨h | ⟨x', hx'⟩ | h, _⟩
        · exact absurd (hl0 _ h) hnew
        · have := hst.createdLid _ hx'; have := lt_of_getElem?_eq_some hx; simp only at *; omega
        · have := (hst.addOK _ h).2; simp only at this; omega
    labelsInt := fun p hp => hpre.subset (hst.labelsInt p hp)
    addOK := fun p hp => ⟨(hst.addOK p hp).1, Nat.lt_of_lt_of_le (hst.addOK p hp).2 hlen⟩
    delOK := fun p hp => ⟨(hst.delOK p hp).1, Nat.lt_of_lt_of_le (hst.delOK p hp).2 hlen⟩
    createdLid := fun c hc => (hst.createdLid c hc).imp id (Nat.lt_of_lt_of_le · hlen)
    small := by omega }

theorem StagedL.tombNode {s0 g0 s t g} (hst : StagedL s0 g0 s t g) {n : Nat} (hlive : n < g.next) :
    StagedL s0 g0 s (t.tombstoneNode n) (g.step (.tombNode n)) :=
  { hst with
    labels := fun n' lid nm h hn' hd => by
      rw [show n' ∉ (g.step (.tombNode n)).dead ↔ n' ≠ n ∧ n' ∉ g.dead from
        (not_congr List.mem_cons).trans not_or] at hd
      show (n', nm) ∈ g.labels.filter (fun p => p.1 != n) ↔ _
      rw [List.mem_filter]
      exact (and_iff_left (by simpa using hd.1)).trans (hst.labels n' lid nm h hn' hd.2)
    labelsInt := fun p hp => hst.labelsInt p (List.mem_filter.mp hp).1
    labelsLt := fun p hp => hst.labelsLt p (List.mem_filter.mp hp).1
    deadLt := fun n' hn' => (List.mem_cons.mp hn').elim (· ▸ hlive) (hst.deadLt n') }

theorem step_labelAdd_eq (g : Graph) (n nm : Nat) :
    ∃ L, g.step (.labelAdd n nm) = { g with labels := L } ∧ ∀ p, p ∈ L ↔ (p = (n, nm) ∨ p ∈ g.labels) := by
  show ∃ L, (if g.labels.contains (n, nm) then g else { g with labels := (n, nm) :: g.labels }) = _ ∧ _
  split
  · next hc => exact ⟨g.labels, rfl, fun p => ⟨Or.inr, fun h => h.elim (· ▸ by simpa using hc) id⟩⟩
  · exact ⟨_, rfl, fun _ => List.mem_cons⟩

theorem label_key_iff {t : Interner} (hn : t.Nodup) {lid lid' nm nm' : Nat} (h : t[lid]? = some nm)
    (h' : t[lid']? = some nm') (n n' : Nat) : (n', nm') = (n, nm) ↔ (n', lid') = (n, lid) := by
  rw [Prod.mk.injEq, Prod.mk.injEq]
  refine and_congr_right fun _ => ⟨?_, ?_⟩
  · rintro rfl; exact name_inj t hn _ _ _ h' h
  · rintro rfl; exact Option.some.inj (h'.symm.trans h)

/-- `hnd`: `commit` applies all additions before all removals (finding C06-label-remove-then-add-in-one-tx) -/
theorem StagedL.labelAdd {s0 g0 s t g} (hst : StagedL s0 g0 s t g) (hn : s.interner.Nodup) {n lid nm : Nat}
    (hr : s.interner[lid]? = some nm) (hlive : n < g.next) (hnd : (n, lid) ∉ t.delL) :
    StagedL s0 g0 s (t.addNodeLabel n lid) (g.step (.labelAdd n nm)) := by
  obtain ⟨L, hg, hlab⟩ := step_labelAdd_eq g n nm
  rw [hg]
  exact { hst with
    labels := fun n' lid' nm' h' hn' hd' => by
      have hk := label_key_iff hn hr h' n n'
      show (n', nm') ∈ L ↔ (((n', nm') ∈ g0.labels ∨ (∃ x, (x, lid', n') ∈ t.created) ∨
        (n', lid') ∈ t.addL ++ [(n, lid)]) ∧ (n', lid') ∉ t.delL)
      rw [hlab, hst.labels n' lid' nm' h' hn' hd', List.mem_append, List.mem_singleton, hk]
      by_cases he : (n', lid') = (n, lid)
      · simp [he, hnd]
      · simp [he]
    labelsInt := fun p hp => ((hlab p).mp hp).elim (· ▸ List.mem_of_getElem? hr) (hst.labelsInt p)
    labelsLt := fun p hp => ((hlab p).mp hp).elim (· ▸ hlive) (hst.labelsLt p)
    addOK := fun p hp => (List.mem_append.mp hp).elim (hst.addOK p)
      fun h => List.mem_singleton.mp h ▸ ⟨hlive, lt_of_getElem?_eq_some hr⟩ }

theorem StagedL.labelDel {s0 g0 s t g} (hst : StagedL s0 g0 s t g) (hn : s.interner.Nodup) {n lid nm : Nat}
    (hr : s.interner[lid]? = some nm) (hlive : n < g.next) :
    StagedL s0 g0 s (t.removeNodeLabel n lid) (g.step (.labelDel n nm)) :=
  { hst with
    labels := fun n' lid' nm' h' hn' hd' => by
      have hk := label_key_iff hn hr h' n n'
      show (n', nm') ∈ g.labels.filter (· != (n, nm)) ↔ (_ ∧ (n', lid') ∉ t.delL ++ [(n, lid)])
      rw [mem_filter_ne, hst.labels n' lid' nm' h' hn' hd', List.mem_append, List.mem_singleton, ne_eq, hk,
        not_or, and_assoc]
      exact Iff.rfl
    labelsInt := fun p hp => hst.labelsInt p (List.mem_filter.mp hp).1
    labelsLt := fun p hp => hst.labelsLt p (List.mem_filter.mp hp).1
    delOK := fun p hp => (List.mem_append.mp hp).elim (hst.delOK p)
      fun h => List.mem_singleton.mp h ▸ ⟨hlive, lt_of_getElem?_eq_some hr⟩ }

theorem StagedL.created_lt {s0 g0 s t g} (hst : StagedL s0 g0 s t g) :
    ∀ c ∈ t.created, c.2.2 < g.next := by
  intro c hc
  obtain ⟨i, hi, hget⟩ := List.mem_iff_getElem.mp hc
  have := hst.ids i c (by rw [List.getElem?_eq_getElem hi, hget])
  rw [hst.next]; omega

def labelsAfterNode (g : Graph) (lab : Option Nat) : List (Nat × Nat) :=
  match lab with
  | some l => (g.next, l) :: g.labels
  | none => g.labels

theorem mem_labelsAfterNode (g : Graph) (lab : Option Nat) (p : Nat × Nat) :
    p ∈ labelsAfterNode g lab ↔ ((lab = some p.2 ∧ p.1 = g.next) ∨ p ∈ g.labels) := by
  obtain ⟨a, b⟩ := p
  cases lab <;> simp [labelsAfterNode, eq_comm, and_comm]

theorem step_node_eq (g : Graph) (x : Nat) (lab : Option Nat) (hfresh : ∀ p ∈ g.ext, p.2 ≠ x) :
    g.step (.node x lab) =
      { g with next := g.next + 1, ext := (g.next, x) :: g.ext, labels := labelsAfterNode g lab } := by
  have : g.extLookup x = none := by
    rw [Graph.extLookup, List.find?_eq_none.mpr fun p hp => by simp [hfresh p hp]]; rfl
  show (if (g.extLookup x).isSome then g else _) = _
  rw [this]; rfl

theorem getElem?_concat_eq_some {α} {l : List α} {a c : α} {i : Nat} (h : (l ++ [a])[i]? = some c) :
    l[i]? = some c ∨ (i = l.length ∧ c = a) := by
  rcases Nat.lt_trichotomy i l.length with hi | hi | hi
  · exact Or.inl (by rwa [List.getElem?_append_left hi] at h)
  · subst hi; exact Or.inr ⟨rfl, by simpa using h.symm⟩
  · rw [List.getElem?_eq_none (by simp; omega)] at h; cases h

/-- `create_node` with a fresh, non-zero external id: the engine accepts it and hands out the Spec's id;
    `lid` is the id of the label's name, or `LabelId::MAX` without a label -/
theorem StagedL.node {s0 g0 s t g} (hst : StagedL s0 g0 s t g) (h0 : SimL s0 g0) (hid : s.idmap = s0.idmap)
    (hn : s.interner.Nodup) {x lid : Nat} {lab : Option Nat}
    (hlid : ∀ l, lab = some l → s.interner[lid]? = some l) (hnone : lab = none → lid = labelMax)
    (hfresh : ∀ p ∈ g.ext, p.2 ≠ x) (hx0 : x ≠ 0) :
    t.createNode s x lid = some ({ t with created := t.created ++ [(x, lid, g.next)] }, g.next) ∧
    StagedL s0 g0 s { t with created := t.created ++ [(x, lid, g.next)] } (g.step (.node x lab)) := by
  have hcl := hst.created_lt
  have hnext := hst.next
  constructor
  · -- the engine knows `x` neither from the idmap nor from this transaction
    have h1 : s.lookupInternal x = none := by
      rw [Engine.lookupInternal, hid, h0.e2i x]
      refine lookup_eq_none_of_not_mem_keys fun p hp => ?_
      obtain ⟨q, hq, rfl⟩ := List.mem_map.mp hp
      exact hfresh q (by rw [hst.extEq]; exact List.mem_append_right _ hq)
    have h2 : t.created.any (·.1 == x) = false := by
      rw [List.any_eq_false]
      intro c hc hcx
      have hm : (c.2.2, c.1) ∈ g.ext := by
        rw [hst.extEq]; exact List.mem_append_left _ (List.mem_reverse.mpr (List.mem_map.mpr ⟨c, hc, rfl⟩))
      exact hfresh _ hm (by simpa using hcx)
    have h3 : s.idmap.nextId + t.created.length = g.next := by rw [IdMap.nextId, hid, h0.lenE, hnext]
    rw [Txn.createNode, h1, h2, h3]; rfl
  rw [step_node_eq g x lab hfresh]
  exact { hst with
    next := by show g.next + 1 = g0.next + (t.created ++ [(x, lid, g.next)]).length; simp; omega
    extEq := by
      show (g.next, x) :: g.ext = ((t.created ++ [(x, lid, g.next)]).map _).reverse ++ g0.ext
      rw [List.map_append, List.reverse_append, hst.extEq]; rfl
    ids := fun i c hc => (getElem?_concat_eq_some hc).elim (hst.ids i c)
      fun h => by rw [h.1, h.2]; exact hnext
    extPt := fun n => by
      show (((g.next, x) :: g.ext).find? (·.1 == n)).map (·.2) =
        if n < g0.next then g0.extOf n else ((t.created ++ [(x, lid, g.next)])[n - g0.next]?).map (·.1)
      have hpt : (g.ext.find? (·.1 == n)).map (·.2) = _ := hst.extPt n
      rw [List.find?_cons]
      by_cases hng : g.next = n
      · subst hng
        rw [if_neg (by omega), show g.next - g0.next = t.created.length by omega]
        simp
      · rw [show ((g.next, x).1 == n) = false from beq_false_of_ne hng, hpt]
        split
        · rfl
        · rcases Nat.lt_or_ge (n - g0.next) t.created.length with hi | hi
          · rw [List.getElem?_append_left hi]
          · rw [List.getElem?_eq_none hi, List.getElem?_eq_none (by simp; omega)]
    extLt := fun p hp => (List.mem_cons.mp hp).elim (fun h => by rw [h]; exact Nat.lt_succ_self _)
      fun h => Nat.lt_succ_of_lt (hst.extLt p h)
    extNZ := fun p hp => (List.mem_cons.mp hp).elim (· ▸ hx0) (hst.extNZ p)
    extND := List.nodup_cons.mpr ⟨fun hm => by
      obtain ⟨q, hq, hqx⟩ := List.mem_map.mp hm; exact hfresh q hq hqx, hst.extND⟩
    extIdND := List.nodup_cons.mpr ⟨fun hm => by
      obtain ⟨q, hq, hqx⟩ := List.mem_map.mp hm; have := hst.extLt q hq; simp only at hqx; omega, hst.extIdND⟩
    labels := fun n lid' nm h hn' hd => by
      show (n, nm) ∈ labelsAfterNode g lab ↔
        ((_ ∨ (∃ x', (x', lid', n) ∈ t.created ++ [(x, lid, g.next)]) ∨ _) ∧ _)
      rw [mem_labelsAfterNode]
      simp only [List.mem_append, List.mem_singleton, Prod.mk.injEq, exists_or, exists_eq_left]
      by_cases hng : n = g.next
      · -- the new node: it has the label it was created with, and nothing else mentions it yet
        subst hng
        have e1 : (g.next, nm) ∉ g.labels := fun h => Nat.lt_irrefl _ (hst.labelsLt _ h)
        have e2 : (g.next, nm) ∉ g0.labels := fun h => by have := h0.labelsLt _ h; simp only at this; omega
        have e3 : (g.next, lid') ∉ t.addL := fun h => Nat.lt_irrefl _ (hst.addOK _ h).1
        have e4 : (g.next, lid') ∉ t.delL := fun h => Nat.lt_irrefl _ (hst.delOK _ h).1
        have e5 : ¬ ∃ x', (x', lid', g.next) ∈ t.created := fun ⟨x', h⟩ => Nat.lt_irrefl _ (hcl _ h)
        simp only [e1, e2, e3, e4, e5, and_true, or_false, false_or, not_false_eq_true]
        constructor
        · intro hl; exact name_inj _ hn _ _ _ h (hlid nm hl)
        · rintro rfl
          cases lab with
          | none => have := hnone rfl; have := lt_of_getElem?_eq_some h; have := hst.small; omega
          | some l => rw [Option.some.inj ((hlid l rfl).symm.trans h)]
      · simp only [hng, and_false, false_or, or_false]
        exact hst.labels n lid' nm h (by have : n < g.next + 1 := hn'; omega) hd
    labelsInt := fun p hp => ((mem_labelsAfterNode g lab p).mp hp).elim
      (fun h => List.mem_of_getElem? (hlid _ h.1)) (hst.labelsInt p)
    labelsLt := fun p hp => ((mem_labelsAfterNode g lab p).mp hp).elim
      (fun h => h.2 ▸ Nat.lt_succ_self _) fun h => Nat.lt_succ_of_lt (hst.labelsLt p h)
    addOK := fun p hp => ⟨Nat.lt_succ_of_lt (hst.addOK p hp).1, (hst.addOK p hp).2⟩
    delOK := fun p hp => ⟨Nat.lt_succ_of_lt (hst.delOK p hp).1, (hst.delOK p hp).2⟩
    createdLid := fun c hc => (List.mem_append.mp hc).elim (hst.createdLid c) fun h => by
      rw [List.mem_singleton.mp h]
      cases lab with
      | none => exact Or.inl (hnone rfl)
      | some l => exact Or.inr (lt_of_getElem?_eq_some (hlid l rfl))
    deadLt := fun n' hn' => Nat.lt_succ_of_lt (hst.deadLt n' hn') }

end Nervus.Storage
