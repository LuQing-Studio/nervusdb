/-
  Proofs/EngineReplay.lean — recover ∘ log = id for one transaction (C04): replaying the WAL records
  that `commit` wrote for a transaction through a fresh memtable (replay_graph_transactions) yields a
  run that is read-equivalent to the run `commit` published — for EVERY memtable the write API can
  build, given the record order of the current source (tombstones before CreateEdge).  Then: reads
  cannot tell read-equivalent runs apart (`RunEq`, `RunsEq`), every memtable the write API builds is
  well-formed, and what `replayOp` does on the record segments of one transaction.
-/
import Nervus.Proofs.Staging
import Nervus.Proofs.EngineCommitG
namespace Nervus.Storage

/-- invariants of every memtable built by the write API -/
structure MemTable.WF (m : MemTable) : Prop where
  nKeys : (m.nprops.map (·.1)).Nodup
  eKeys : (m.eprops.map (·.1)).Nodup
  nDisj : ∀ k ∈ m.nDel, m.nprops.lookup k = none
  eDisj : ∀ k ∈ m.eDel, m.eprops.lookup k = none

theorem nodup_keys_upsert {κ ν} [DecidableEq κ] (k : κ) (v : ν) (m : List (κ × ν))
    (h : (m.map (·.1)).Nodup) : ((upsert k v m).map (·.1)).Nodup := by
  refine List.nodup_cons.mpr ⟨fun hin => ?_, h.sublist (List.filter_sublist.map _)⟩
  obtain ⟨e, he, rfl⟩ := List.mem_map.mp hin
  simpa using (List.mem_filter.mp he).2

theorem nodup_keys_mapErase {κ ν} [DecidableEq κ] (k : κ) (m : List (κ × ν))
    (h : (m.map (·.1)).Nodup) : ((mapErase k m).map (·.1)).Nodup :=
  List.Nodup.sublist (List.Sublist.map _ List.filter_sublist) h

theorem MemTable.WF.empty : MemTable.WF {} :=
  ⟨List.nodup_nil, List.nodup_nil, fun _ h => absurd h List.not_mem_nil, fun _ h => absurd h List.not_mem_nil⟩

theorem MemTable.WF.setNodeProp {m : MemTable} (h : m.WF) (n k : Nat) (v : PV) : (m.setNodeProp n k v).WF :=
  ⟨nodup_keys_upsert _ _ _ h.nKeys, h.eKeys, staged_disj_set h.nDisj _ _, h.eDisj⟩

theorem MemTable.WF.removeNodeProp {m : MemTable} (h : m.WF) (n k : Nat) : (m.removeNodeProp n k).WF :=
  ⟨nodup_keys_mapErase _ _ h.nKeys, h.eKeys, staged_disj_del h.nDisj _, h.eDisj⟩

theorem MemTable.WF.setEdgeProp {m : MemTable} (h : m.WF) (e : Edge) (k : Nat) (v : PV) : (m.setEdgeProp e k v).WF :=
  ⟨h.nKeys, nodup_keys_upsert _ _ _ h.eKeys, h.nDisj, staged_disj_set h.eDisj _ _⟩

theorem MemTable.WF.removeEdgeProp {m : MemTable} (h : m.WF) (e : Edge) (k : Nat) : (m.removeEdgeProp e k).WF :=
  ⟨h.nKeys, nodup_keys_mapErase _ _ h.eKeys, h.nDisj, staged_disj_del h.eDisj _⟩

/-- the memtable part of `replayOp` -/
def memOp (m : MemTable) : WalRec → MemTable
  | .createEdge e => m.createEdge e
  | .tombstoneNode n => m.tombstoneNode n
  | .tombstoneEdge e => m.tombstoneEdge e
  | .setNodeProperty n k v => m.setNodeProp n k v
  | .setEdgeProperty e k v => m.setEdgeProp e k v
  | .removeNodeProperty n k => m.removeNodeProp n k
  | .removeEdgeProperty e k => m.removeEdgeProp e k
  | _ => m

theorem replayOp_mem (a a' : IdMap × MemTable) (r : WalRec) (h : replayOp a r = .ok a') :
    a'.2 = memOp a.2 r := by
  cases r <;> simp only [replayOp, memOp] at h ⊢
  case createNode x l i =>
    split at h
    · split at h
      · cases h
      · cases h; rfl
    · split at h
      · cases h; rfl
      · cases h
  case addNodeLabel n l => split at h <;> cases h; rfl
  case removeNodeLabel n l => split at h <;> cases h; rfl
  all_goals (cases h; rfl)

theorem replay_fold_mem (recs : List WalRec) :
    ∀ (a a' : IdMap × MemTable), recs.foldlM replayOp a = .ok a' → a'.2 = recs.foldl memOp a.2 := by
  induction recs with
  | nil => intro a a' h; cases h; rfl
  | cons r rs ih =>
    intro a a' h
    rw [List.foldlM_cons] at h
    cases hr : replayOp a r with
    | error e => rw [hr] at h; cases h
    | ok a1 =>
      rw [hr] at h
      have h1 := ih a1 a' h
      rw [h1, List.foldl_cons, replayOp_mem a a1 r hr]

/-! ### the folds of one record kind -/

theorem foldlM_snoc {α β ε} (f : β → α → Except ε β) (l : List α) (a : α) (b : β) :
    (l ++ [a]).foldlM f b = l.foldlM f b >>= fun b' => f b' a := by
  simp only [List.foldlM_append, List.foldlM_cons, List.foldlM_nil, bind_pure]

theorem fold_ignored {α} (f : α → WalRec) (hf : ∀ a m, memOp m (f a) = m) (l : List α) (m : MemTable) :
    (l.map f).foldl memOp m = m :=
  foldl_ignored _ _ (fun r hr b => by obtain ⟨a, _, rfl⟩ := List.mem_map.mp hr; exact hf a b) m

theorem fold_tombNode (l : List Nat) (m : MemTable) :
    (l.map WalRec.tombstoneNode).foldl memOp m =
      { m with tombNodes := l.foldl (fun s n => setInsert n s) m.tombNodes } := by
  induction l generalizing m with
  | nil => rfl
  | cons a as ih => simp only [List.map_cons, List.foldl_cons, memOp, MemTable.tombstoneNode, ih]

theorem fold_tombEdge (l : List Edge) (m : MemTable) (he : m.edges = []) :
    (l.map WalRec.tombstoneEdge).foldl memOp m =
      { m with tombEdges := l.foldl (fun s e => setInsert e s) m.tombEdges } := by
  induction l generalizing m with
  | nil => rfl
  | cons a as ih =>
    simp only [List.map_cons, List.foldl_cons, memOp, MemTable.tombstoneEdge]
    rw [ih _ (by simp [he])]
    simp [he]

theorem fold_createEdge (l : List Edge) (m : MemTable) :
    (l.map WalRec.createEdge).foldl memOp m = { m with edges := m.edges ++ l } := by
  induction l generalizing m with
  | nil => simp
  | cons a as ih =>
    simp only [List.map_cons, List.foldl_cons, memOp, MemTable.createEdge, ih, List.append_assoc,
      List.singleton_append]

theorem fold_setN (l : List ((Nat × Nat) × PV)) (m : MemTable) (hd : m.nDel = []) :
    (l.map (fun p => WalRec.setNodeProperty p.1.1 p.1.2 p.2)).foldl memOp m =
      { m with nprops := l.foldl (fun a p => upsert p.1 p.2 a) m.nprops } := by
  induction l generalizing m with
  | nil => rfl
  | cons a as ih =>
    simp only [List.map_cons, List.foldl_cons, memOp, MemTable.setNodeProp]
    rw [ih _ (by simp [hd])]
    simp [hd]

theorem fold_setE (l : List ((Edge × Nat) × PV)) (m : MemTable) (hd : m.eDel = []) :
    (l.map (fun p => WalRec.setEdgeProperty p.1.1 p.1.2 p.2)).foldl memOp m =
      { m with eprops := l.foldl (fun a p => upsert p.1 p.2 a) m.eprops } := by
  induction l generalizing m with
  | nil => rfl
  | cons a as ih =>
    simp only [List.map_cons, List.foldl_cons, memOp, MemTable.setEdgeProp]
    rw [ih _ (by simp [hd])]
    simp [hd]

theorem fold_delN (l : List (Nat × Nat)) (m : MemTable) :
    (l.map (fun p => WalRec.removeNodeProperty p.1 p.2)).foldl memOp m =
      { m with nprops := l.foldl (fun a k => mapErase k a) m.nprops,
               nDel := l.foldl (fun s k => setInsert k s) m.nDel } := by
  induction l generalizing m with
  | nil => rfl
  | cons a as ih => simp only [List.map_cons, List.foldl_cons, memOp, MemTable.removeNodeProp, ih]

theorem fold_delE (l : List (Edge × Nat)) (m : MemTable) :
    (l.map (fun p => WalRec.removeEdgeProperty p.1 p.2)).foldl memOp m =
      { m with eprops := l.foldl (fun a k => mapErase k a) m.eprops,
               eDel := l.foldl (fun s k => setInsert k s) m.eDel } := by
  induction l generalizing m with
  | nil => rfl
  | cons a as ih => simp only [List.map_cons, List.foldl_cons, memOp, MemTable.removeEdgeProp, ih]

/-! ### what the folds compute -/

theorem mem_fold_setInsert {α} [DecidableEq α] (l s : List α) (a : α) :
    a ∈ l.foldl (fun s x => setInsert x s) s ↔ (a ∈ s ∨ a ∈ l) := by
  induction l generalizing s with
  | nil => simp
  | cons x xs ih =>
    rw [List.foldl_cons, ih, mem_setInsert, List.mem_cons]
    constructor
    · rintro ((h | h) | h)
      · exact Or.inr (Or.inl h)
      · exact Or.inl h
      · exact Or.inr (Or.inr h)
    · rintro (h | h | h)
      · exact Or.inl (Or.inr h)
      · exact Or.inl (Or.inl h)
      · exact Or.inr h

theorem lookup_fold_upsert {κ} [DecidableEq κ] [BEq κ] [LawfulBEq κ] (l : List (κ × PV)) (acc : List (κ × PV))
    (hn : (l.map (·.1)).Nodup) (k : κ) :
    (l.foldl (fun a p => upsert p.1 p.2 a) acc).lookup k =
      (match l.lookup k with | some v => some v | none => acc.lookup k) := by
  induction l generalizing acc with
  | nil => rfl
  | cons p ps ih =>
    obtain ⟨a, b⟩ := p
    rw [List.map_cons, List.nodup_cons] at hn
    rw [List.foldl_cons, ih _ hn.2, List.lookup_cons, lookup_upsert]
    by_cases hk : k = a
    · subst hk
      have : ps.lookup k = none := by
        apply lookup_eq_none_of_not_mem_keys
        intro p hp heq
        exact hn.1 (List.mem_map.mpr ⟨p, hp, heq⟩)
      simp [this]
    · have h1 : (k == a) = false := by simpa using hk
      simp only [h1, hk, if_false]

theorem lookup_fold_erase {κ} [DecidableEq κ] [BEq κ] [LawfulBEq κ] (d : List κ) (acc : List (κ × PV)) (k : κ) :
    (d.foldl (fun a x => mapErase x a) acc).lookup k = if k ∈ d then none else acc.lookup k := by
  induction d generalizing acc with
  | nil => simp
  | cons x xs ih =>
    rw [List.foldl_cons, ih, lookup_mapErase]
    by_cases h1 : k ∈ xs
    · simp [h1]
    · by_cases h2 : k = x
      · subst h2; simp [h1]
      · simp [h1, h2]

/-- two runs that no read can tell apart -/
structure RunEq (r r' : Run) : Prop where
  txid : r.txid = r'.txid
  edges : r.edges.Perm r'.edges
  tombNodes : ∀ n, n ∈ r.tombNodes ↔ n ∈ r'.tombNodes
  tombEdges : ∀ e, e ∈ r.tombEdges ↔ e ∈ r'.tombEdges
  nprops : ∀ k, r.nprops.lookup k = r'.nprops.lookup k
  eprops : ∀ k, r.eprops.lookup k = r'.eprops.lookup k
  nDel : ∀ k, k ∈ r.nDel ↔ k ∈ r'.nDel
  eDel : ∀ k, k ∈ r.eDel ↔ k ∈ r'.eDel

theorem RunEq.refl (r : Run) : RunEq r r :=
  ⟨rfl, List.Perm.refl _, fun _ => Iff.rfl, fun _ => Iff.rfl, fun _ => rfl, fun _ => rfl, fun _ => Iff.rfl, fun _ => Iff.rfl⟩

theorem RunEq.symm {r r' : Run} (h : RunEq r r') : RunEq r' r :=
  ⟨h.txid.symm, h.edges.symm, fun n => (h.tombNodes n).symm, fun e => (h.tombEdges e).symm,
   fun k => (h.nprops k).symm, fun k => (h.eprops k).symm, fun k => (h.nDel k).symm, fun k => (h.eDel k).symm⟩

theorem RunEq.trans {a b c : Run} (h1 : RunEq a b) (h2 : RunEq b c) : RunEq a c :=
  ⟨h1.txid.trans h2.txid, h1.edges.trans h2.edges, fun n => (h1.tombNodes n).trans (h2.tombNodes n),
   fun e => (h1.tombEdges e).trans (h2.tombEdges e), fun k => (h1.nprops k).trans (h2.nprops k),
   fun k => (h1.eprops k).trans (h2.eprops k), fun k => (h1.nDel k).trans (h2.nDel k),
   fun k => (h1.eDel k).trans (h2.eDel k)⟩

/-- the graph records of a commit, in the order of the CURRENT source (regenerated table) -/
def graphRecords (t : Txn) (run : Run) : List WalRec := Cfg.current.commitOrder.flatMap (t.recordsOf run)

/-- regenerated fact: tombstones are logged before CreateEdge (replayed after it, `tombstone_edge` would drop
    the re-created edge from the memtable: `fold_tombEdge` needs `m.edges = []`) -/
theorem graphRecords_eq (t : Txn) (run : Run) :
    graphRecords t run =
      t.created.map (fun c => WalRec.createNode c.1 c.2.1 c.2.2) ++
      (t.addL.map (fun p => WalRec.addNodeLabel p.1 p.2) ++
      (t.delL.map (fun p => WalRec.removeNodeLabel p.1 p.2) ++
      (run.tombNodes.map WalRec.tombstoneNode ++
      (run.tombEdges.map WalRec.tombstoneEdge ++
      (run.edges.map WalRec.createEdge ++
      (t.mt.nprops.map (fun p => WalRec.setNodeProperty p.1.1 p.1.2 p.2) ++
      (t.mt.nDel.map (fun p => WalRec.removeNodeProperty p.1 p.2) ++
      (t.mt.eprops.map (fun p => WalRec.setEdgeProperty p.1.1 p.1.2 p.2) ++
      (t.mt.eDel.map (fun p => WalRec.removeEdgeProperty p.1 p.2) ++ []))))))))) := by
  simp only [graphRecords, Cfg.current, Generated.commitOrder, List.flatMap_cons, List.flatMap_nil,
    Txn.recordsOf]

/-- **recover ∘ log = id, one transaction**: replaying the records of a commit through a fresh
    memtable gives a run no read can tell from the published one -/
theorem replay_commit_roundtrip (t : Txn) (hwf : t.mt.WF) (txid : Nat) (i i' : IdMap) (mt' : MemTable)
    (h : (graphRecords t (t.mt.freeze txid)).foldlM replayOp (i, {}) = .ok (i', mt')) :
    RunEq (mt'.freeze txid) (t.mt.freeze txid) := by
  have hm := replay_fold_mem _ _ _ h
  simp only at hm
  rw [graphRecords_eq] at hm
  simp only [List.foldl_append, List.foldl_nil] at hm
  rw [fold_ignored (fun c : Nat × Nat × Nat => WalRec.createNode c.1 c.2.1 c.2.2) (fun _ _ => rfl),
    fold_ignored (fun p : Nat × Nat => WalRec.addNodeLabel p.1 p.2) (fun _ _ => rfl),
    fold_ignored (fun p : Nat × Nat => WalRec.removeNodeLabel p.1 p.2) (fun _ _ => rfl),
    fold_tombNode, fold_tombEdge _ _ rfl, fold_createEdge, fold_setN _ _ rfl, fold_delN,
    fold_setE _ _ rfl, fold_delE] at hm
  subst hm
  refine ⟨rfl, ?_, ?_, ?_, ?_, ?_, ?_, ?_⟩
  · show (isort Edge.le ([] ++ isort Edge.le t.mt.edges)).Perm (isort Edge.le t.mt.edges)
    exact isort_perm _ _
  · intro n
    show n ∈ isort (· ≤ ·) ((isort (· ≤ ·) t.mt.tombNodes).foldl (fun s n => setInsert n s) []) ↔
      n ∈ isort (· ≤ ·) t.mt.tombNodes
    rw [mem_isort, mem_fold_setInsert]; simp
  · intro e
    show e ∈ isort Edge.le ((isort Edge.le t.mt.tombEdges).foldl (fun s e => setInsert e s) []) ↔
      e ∈ isort Edge.le t.mt.tombEdges
    rw [mem_isort, mem_fold_setInsert]; simp
  · intro k
    show (t.mt.nDel.foldl (fun a k => mapErase k a) (t.mt.nprops.foldl (fun a p => upsert p.1 p.2 a) [])).lookup k =
      t.mt.nprops.lookup k
    rw [lookup_fold_erase, lookup_fold_upsert _ _ hwf.nKeys]
    split
    · rename_i hk; rw [hwf.nDisj k hk]
    · cases t.mt.nprops.lookup k <;> rfl
  · intro k
    show (t.mt.eDel.foldl (fun a k => mapErase k a) (t.mt.eprops.foldl (fun a p => upsert p.1 p.2 a) [])).lookup k =
      t.mt.eprops.lookup k
    rw [lookup_fold_erase, lookup_fold_upsert _ _ hwf.eKeys]
    split
    · rename_i hk; rw [hwf.eDisj k hk]
    · cases t.mt.eprops.lookup k <;> rfl
  · intro k
    show k ∈ t.mt.nDel.foldl (fun s k => setInsert k s) [] ↔ k ∈ t.mt.nDel
    rw [mem_fold_setInsert]; simp
  · intro k
    show k ∈ t.mt.eDel.foldl (fun s k => setInsert k s) [] ↔ k ∈ t.mt.eDel
    rw [mem_fold_setInsert]; simp

/-! ### reads cannot tell `RunEq` runs apart -/

inductive RunsEq : List Run → List Run → Prop
  | nil : RunsEq [] []
  | cons {r r' rs rs'} : RunEq r r' → RunsEq rs rs' → RunsEq (r :: rs) (r' :: rs')

theorem RunsEq.refl : ∀ rs : List Run, RunsEq rs rs
  | [] => RunsEq.nil
  | r :: rs => RunsEq.cons (RunEq.refl r) (RunsEq.refl rs)

theorem RunsEq.symm {a b : List Run} (h : RunsEq a b) : RunsEq b a := by
  induction h with
  | nil => exact RunsEq.nil
  | cons hr _ ih => exact RunsEq.cons hr.symm ih

theorem RunsEq.trans {a b c : List Run} (h1 : RunsEq a b) (h2 : RunsEq b c) : RunsEq a c := by
  induction h1 generalizing c with
  | nil => cases h2; exact RunsEq.nil
  | cons hr _ ih =>
    cases h2 with
    | cons hr2 h2' => exact RunsEq.cons (hr.trans hr2) (ih h2')

theorem RunsEq.visE {rs rs' : List Run} (h : RunsEq rs rs') (e : Edge) : visE e rs = visE e rs' := by
  induction h with
  | nil => rfl
  | cons hr _ ih =>
    rw [visE_cons, visE_cons, hr.edges.count_eq, ih]
    congr 1
    simp only [hr.tombEdges, hr.tombNodes]

theorem RunsEq.isTombNode {rs rs' : List Run} (h : RunsEq rs rs') (n : Nat) :
    isTombNode rs n = isTombNode rs' n := by
  induction h with
  | nil => rfl
  | cons hr _ ih =>
    rw [isTombNode_cons, isTombNode_cons, ih]
    congr 1
    rw [Bool.eq_iff_iff]; simp [hr.tombNodes]

theorem RunsEq.overlayRead {κ} [BEq κ] [LawfulBEq κ] (del : Run → List (κ × Nat))
    (set : Run → List ((κ × Nat) × PV)) (hdel : ∀ r r', RunEq r r' → ∀ k, k ∈ del r ↔ k ∈ del r')
    (hset : ∀ r r', RunEq r r' → ∀ k, (set r).lookup k = (set r').lookup k)
    {rs rs' : List Run} (h : RunsEq rs rs') (a : κ) (k : Nat) :
    Storage.overlayRead del set a k rs = Storage.overlayRead del set a k rs' := by
  induction h with
  | nil => rfl
  | @cons r r' _ _ hr _ ih =>
    have hc : (del r).contains (a, k) = (del r').contains (a, k) := by
      rw [Bool.eq_iff_iff]; simp [hdel _ _ hr]
    rw [Storage.overlayRead, Storage.overlayRead, ih, hset _ _ hr, hc]

theorem RunsEq.npropRuns {rs rs' : List Run} (h : RunsEq rs rs') (n k : Nat) :
    npropRuns n k rs = npropRuns n k rs' := by
  rw [npropRuns_eq_overlay]
  exact RunsEq.overlayRead _ _ (fun _ _ h => h.nDel) (fun _ _ h => h.nprops) h n k

theorem RunsEq.epropRuns {rs rs' : List Run} (h : RunsEq rs rs') (e : Edge) (k : Nat) :
    epropRuns e k rs = epropRuns e k rs' := by
  rw [epropRuns_eq_overlay]
  exact RunsEq.overlayRead _ _ (fun _ _ h => h.eDel) (fun _ _ h => h.eprops) h e k

/-! ### every memtable built through the write API is well-formed -/

theorem stepTx_mtWF (c : Cfg) (st : Engine × Txn) (op : GraphSpec.TxOp) (h : st.2.mt.WF) :
    (stepTx c st op).2.mt.WF := by
  cases op with
  | node x lab =>
    simp only [stepTx]
    split
    · next r hr => rw [(createNode_fields _ _ _ _ _ hr).1]; exact h
    · exact h
  | labelAdd n nm => exact h
  | labelDel n nm => exact h
  | edge a nm b => exact ⟨h.nKeys, h.eKeys, h.nDisj, h.eDisj⟩
  | tombNode n => exact ⟨h.nKeys, h.eKeys, h.nDisj, h.eDisj⟩
  | tombEdge a nm b => exact ⟨h.nKeys, h.eKeys, h.nDisj, h.eDisj⟩
  | nprop n k v => exact h.setNodeProp n k v
  | npropDel n k => exact h.removeNodeProp n k
  | eprop a nm b k v => exact h.setEdgeProp _ k v
  | epropDel a nm b k => exact h.removeEdgeProp _ k
  | vec n v =>
    show (st.2.setVector c st.1 n v).2.mt.WF
    unfold Txn.setVector
    split <;> exact h

theorem fold_mtWF (c : Cfg) (ops : List GraphSpec.TxOp) :
    ∀ st : Engine × Txn, st.2.mt.WF → (ops.foldl (stepTx c) st).2.mt.WF := by
  induction ops with
  | nil => intro st h; exact h
  | cons op ops ih => intro st h; exact ih _ (stepTx_mtWF c st op h)

/-! ### replay of the record segments of one transaction -/

theorem replay_createNodes (cs : List (Nat × Nat × Nat)) (m : IdMap) (mt : MemTable)
    (h : ∀ c ∈ cs, m.lookup c.1 = some c.2.2) :
    (cs.map (fun c => WalRec.createNode c.1 c.2.1 c.2.2)).foldlM replayOp (m, mt) = .ok (m, mt) := by
  induction cs with
  | nil => rfl
  | cons c cs ih =>
    rw [List.map_cons, List.foldlM_cons]
    have hc := h c List.mem_cons_self
    have : replayOp (m, mt) (WalRec.createNode c.1 c.2.1 c.2.2) = .ok (m, mt) := by
      simp only [replayOp, hc, bne_self_eq_false, Bool.false_eq_true, if_false]
    rw [this]
    exact ih (fun c' hc' => h c' (List.mem_cons_of_mem _ hc'))

theorem replay_labelOps (rec : Nat → Nat → WalRec) (step : List (List Nat) → Nat → Nat → List (List Nat))
    (hlen : ∀ L n l, (step L n l).length = L.length)
    (hop : ∀ (m : IdMap) (mt : MemTable) (n l : Nat), n < m.i2l.length →
      replayOp (m, mt) (rec n l) = .ok ({ m with i2l := step m.i2l n l }, mt))
    (ps : List (Nat × Nat)) (m : IdMap) (mt : MemTable) (h : ∀ p ∈ ps, p.1 < m.i2l.length) :
    (ps.map (fun p => rec p.1 p.2)).foldlM replayOp (m, mt) =
      .ok ({ m with i2l := ps.foldl (fun L p => step L p.1 p.2) m.i2l }, mt) := by
  induction ps generalizing m with
  | nil => rfl
  | cons p ps ih =>
    rw [List.map_cons, List.foldlM_cons, hop m mt p.1 p.2 (h p List.mem_cons_self)]
    exact ih { m with i2l := step m.i2l p.1 p.2 } fun q hq => by
      rw [hlen]; exact h q (List.mem_cons_of_mem _ hq)

theorem replay_addLabels (ps : List (Nat × Nat)) (m : IdMap) (mt : MemTable) (h : ∀ p ∈ ps, p.1 < m.i2l.length) :
    (ps.map (fun p => WalRec.addNodeLabel p.1 p.2)).foldlM replayOp (m, mt) =
      .ok ({ m with i2l := addAll m.i2l ps }, mt) :=
  replay_labelOps WalRec.addNodeLabel addLabelL addLabelL_length
    (fun m mt n l hn => by simp only [replayOp, applyAddLabel_ok m n l hn]) ps m mt h

theorem replay_delLabels (ps : List (Nat × Nat)) (m : IdMap) (mt : MemTable) (h : ∀ p ∈ ps, p.1 < m.i2l.length) :
    (ps.map (fun p => WalRec.removeNodeLabel p.1 p.2)).foldlM replayOp (m, mt) =
      .ok ({ m with i2l := delAll m.i2l ps }, mt) :=
  replay_labelOps WalRec.removeNodeLabel delLabelL delLabelL_length
    (fun m mt n l hn => by simp only [replayOp, applyRemoveLabel_ok m n l hn]) ps m mt h

/-- records that only touch the memtable -/
def WalRec.isMem : WalRec → Bool
  | .createEdge _ => true
  | .tombstoneNode _ => true
  | .tombstoneEdge _ => true
  | .setNodeProperty _ _ _ => true
  | .setEdgeProperty _ _ _ => true
  | .removeNodeProperty _ _ => true
  | .removeEdgeProperty _ _ => true
  | _ => false

theorem replay_memRecs (recs : List WalRec) (m : IdMap) (mt : MemTable) (h : ∀ r ∈ recs, r.isMem = true) :
    recs.foldlM replayOp (m, mt) = .ok (m, recs.foldl memOp mt) := by
  induction recs generalizing mt with
  | nil => rfl
  | cons r rs ih =>
    rw [List.foldlM_cons, List.foldl_cons]
    have hr := h r List.mem_cons_self
    have : replayOp (m, mt) r = .ok (m, memOp mt r) := by
      cases r <;> simp only [WalRec.isMem] at hr <;> first | rfl | cases hr
    rw [this]
    exact ih _ (fun x hx => h x (List.mem_cons_of_mem _ hx))

end Nervus.Storage
