/-
  Proofs/ReopenMain.lean — `open` on the files of a running engine (C04).  First what the refinement invariant
  looks at: its idmap columns `SimL` read the idmap up to `IdEq`, and the index `IdMap::load` rebuilds from the node
  table is the one of the running engine (`load_lookup_eq`); the structural clauses of `SimG` read the runs up to
  `RunsEq`.  Then `reopen_rec`: from the recovery invariant `Rec` alone, whatever segments there are; `reopen_sim`:
  with the refinement invariant `Sim`, which then holds again for the same Spec graph (`Sim` knows no segments:
  compaction-free histories).
-/
import Nervus.Proofs.ReopenRec
import Nervus.Proofs.NodeTable
import Nervus.Proofs.EngineReadsAgree
import Nervus.Proofs.IdEq
namespace Nervus.Storage
open Nervus.GraphSpec (Graph TxOp Op)

theorem load_lookup_eq {s : Engine} {g : Graph} (hL : SimL s g) (x : Nat) :
    (IdMap.load s.idmap.i2e).lookup x = s.idmap.lookup x := by
  rw [hL.e2i x]
  exact load_lookup_of_ext _ _ hL.ext_mem hL.extNZ hL.extND x

theorem SimL.of_ideq {s u : Engine} {g : Graph} (h : SimL u g) (hm : IdEq s.idmap u.idmap)
    (hi : s.interner = u.interner) : SimL s g :=
  { h with
    lenE := by rw [hm.i2e]; exact h.lenE
    lenL := by rw [hm.i2l]; exact h.lenL
    e2i := fun x => (hm.lookup x).trans (h.e2i x)
    extPt := by rw [hm.i2e]; exact h.extPt
    labels := by rw [hm.i2l, hi]; exact h.labels
    labelsInt := by rw [hi]; exact h.labelsInt
    small := by rw [hi]; exact h.small
    i2lOK := by rw [hm.i2l, hi]; exact h.i2lOK }

theorem RunsEq.runsOK {a b : List Run} (h : RunsEq a b) (hok : RunsOK b) : RunsOK a := by
  induction h with
  | nil => trivial
  | @cons r r' rs rs' hr hrs ih =>
    obtain ⟨h1, h2⟩ := hok
    refine ⟨?_, ih h2⟩
    intro e he
    have he' : e ∈ r'.edges := hr.edges.mem_iff.mp he
    have := h1 e he'
    rw [RunsEq.isTombNode (RunsEq.cons hr hrs) e.src, RunsEq.isTombNode (RunsEq.cons hr hrs) e.dst]
    exact this

theorem RunsEq.mem {a b : List Run} (h : RunsEq a b) : ∀ r ∈ a, ∃ r' ∈ b, RunEq r r' := by
  induction h with
  | nil => intro r hr; cases hr
  | cons hr _ ih =>
    intro r hm
    rcases List.mem_cons.mp hm with rfl | h'
    · exact ⟨_, List.mem_cons_self, hr⟩
    · obtain ⟨r', hr', he⟩ := ih r h'
      exact ⟨r', List.mem_cons_of_mem _ hr', he⟩

theorem RunsEq.bounds {a b : List Run} (h : RunsEq a b) (n : Nat)
    (h1 : ∀ run ∈ b, ∀ e ∈ run.edges, e.rel < n) (h2 : ∀ run ∈ b, ∀ p ∈ run.eprops, p.1.1.rel < n) :
    (∀ run ∈ a, ∀ e ∈ run.edges, e.rel < n) ∧ (∀ run ∈ a, ∀ p ∈ run.eprops, p.1.1.rel < n) := by
  constructor
  · intro run hrun e he
    obtain ⟨run', hr', hq⟩ := h.mem run hrun
    exact h1 run' hr' e (hq.edges.mem_iff.mp he)
  · intro run hrun p hp
    obtain ⟨run', hr', hq⟩ := h.mem run hrun
    obtain ⟨v, hv⟩ := lookup_isSome_of_mem hp
    exact h2 run' hr' (p.1, v) (mem_of_lookup_eq_some (by rw [← hq.eprops p.1]; exact hv))

theorem SimG.of_runsEq {s s' : Engine} {g : Graph} (hG : SimG s g) (hr : RunsEq s'.runs s.runs)
    (h1 : s'.segs = []) (h2 : s'.propsRoot = 0) (h3 : s'.interner = s.interner) : SimG s' g := by
  obtain ⟨b1, b2⟩ := hr.bounds s.interner.length hG.runsRel hG.runsERel
  refine { segs := h1, root := h2, nodup := by rw [h3]; exact hG.nodup, dead := ?_, edges := ?_,
           runsOK := hr.runsOK hG.runsOK, runsRel := by rw [h3]; exact b1,
           relsInt := by rw [h3]; exact hG.relsInt, nprops := ?_, eprops := ?_,
           runsERel := by rw [h3]; exact b2, epropsInt := by rw [h3]; exact hG.epropsInt }
  · intro n; rw [RunsEq.isTombNode hr n]; exact hG.dead n
  · intro r nm a b hn; rw [h3] at hn; rw [RunsEq.visE hr]; exact hG.edges r nm a b hn
  · intro n k hd; rw [RunsEq.npropRuns hr]; exact hG.nprops n k hd
  · intro r nm a b k hn ha hb; rw [h3] at hn; rw [RunsEq.epropRuns hr]; exact hG.eprops r nm a b k hn ha hb

structure SegOK (s : Engine) : Prop where
  store : s.segStore = s.segs
  nodup : (s.segs.map (·.id)).Nodup

theorem mapM_find_self (store : List Seg) (segs : List Seg)
    (h : ∀ g ∈ segs, store.find? (·.id == g.id) = some g) :
    (segs.map (·.id)).mapM (findSeg store) = .ok segs := by
  induction segs with
  | nil => rfl
  | cons a as ih =>
    have ha : findSeg store a.id = .ok a := by
      unfold findSeg; rw [h a List.mem_cons_self]
    rw [List.map_cons, List.mapM_cons, ha, ih (fun g hg => h g (List.mem_cons_of_mem _ hg))]
    rfl

/-- `hK`: the segments the manifest names are in the file (`SegsOK.find`); `hload`: `load_lookup_eq`.  The label
    vectors come back whole although the node table holds first labels only: `Rec` replays the label records of
    the log on top of the loaded table.  The runs come back up to `RunsEq`. -/
theorem reopen_rec {s : Engine} (hR : Rec s)
    (hK : ∀ g ∈ s.segs, s.segStore.find? (·.id == g.id) = some g)
    (hload : ∀ x, (IdMap.load s.idmap.i2e).lookup x = s.idmap.lookup x) :
    ∃ s', s.reopen = .ok s' ∧ s'.segs = s.segs ∧ s'.segStore = s.segStore ∧ s'.store = s.store ∧
      s'.propsRoot = s.propsRoot ∧ s'.interner = s.interner ∧ s'.vecs = s.vecs ∧ s'.epoch = s.epoch ∧
      s'.ckptTxid = s.ckptTxid ∧ s'.wal = s.wal ∧
      s'.idmap = { IdMap.load s.idmap.i2e with i2l := s.idmap.i2l } ∧ RunsEq s'.runs s.runs ∧ Rec s' ∧
      (∀ g ∈ s'.segs, g.id < s'.nextSegId) ∧ s'.storeRoot = s.storeRoot := by
  obtain ⟨⟨txs, hb, hl, hs, hg, b1, b2, b3⟩, hp, ha⟩ := hR
  obtain ⟨sc1, sc2, sc3, sc4⟩ := hs
  have hcov : ∀ x iid, s.idmap.lookup x = some iid → (IdMap.load s.idmap.i2e).lookup x = some iid := by
    intro x iid hx; rw [hload x]; exact hx
  obtain ⟨R, hRg, hE⟩ := hg (IdMap.load s.idmap.i2e) [] hcov (by simp [IdMap.load])
  let m' : IdMap := { IdMap.load s.idmap.i2e with i2l := s.idmap.i2l ++ [] }
  let s' : Engine :=
    { wal := s.wal, idmap := m', interner := s.interner, runs := R.reverse, segs := s.segs, segStore := s.segStore,
      store := s.store, storeRoot := s.storeRoot, vecs := s.vecs, nextTxid := max ((scanRecovery txs).maxTxid + 1) 1,
      nextSegId := max (s.segs.foldl (fun m g => max m g.id) 0 + 1) 1, epoch := s.epoch,
      ckptTxid := s.ckptTxid, propsRoot := s.propsRoot }
  have hfind := mapM_find_self s.segStore s.segs hK
  have hopen : s.reopen = .ok s' := by
    unfold Engine.reopen Engine.open
    have e1 : replayCommitted s.disk.wal none [] = .ok txs := hb.parse
    have e3 : replayGraph txs s.ckptTxid (IdMap.load (IdMap.readNodeTable s.disk.i2e)) = .ok (m', R) := by
      rw [IdMap.readNodeTable_eq]; exact hRg
    have e4 : (List.map (fun x => x.id) s.segs).mapM (findSeg s.disk.segStore) = .ok s.segs := hfind
    simp only [e1, hl, sc1, sc2, sc3, sc4, e3, e4, bind, Except.bind, pure, Except.pure]
    rfl
  have hlk : ∀ x, s'.idmap.lookup x = s.idmap.lookup x := hload
  refine ⟨s', hopen, rfl, rfl, rfl, rfl, rfl, rfl, rfl, rfl, rfl, ?_, hE, ?_, ?_, rfl⟩
  rotate_left 2
  · intro g hg
    show g.id < max (s.segs.foldl (fun m g => max m g.id) 0 + 1) 1
    have := (le_foldl_max_key (·.id) s.segs 0).2 g hg
    omega
  · show ({ IdMap.load s.idmap.i2e with i2l := s.idmap.i2l ++ [] } : IdMap) = _
    rw [List.append_nil]
  · refine ⟨⟨txs, hb, hl, ⟨sc1, sc2, sc3, sc4⟩, ?_, b1, ?_, ?_⟩, Nat.le_max_right _ _, ?_⟩
    · intro m0 T hc hi
      have hc' : ∀ x iid, s.idmap.lookup x = some iid → m0.lookup x = some iid := by
        intro x iid hx; exact hc x iid (by rw [hlk x]; exact hx)
      obtain ⟨R0, h1, h2⟩ := hg m0 T hc' hi
      refine ⟨R0, ?_, h2.trans hE.symm⟩
      show replayGraph txs s.ckptTxid m0 = .ok ({ m0 with i2l := (s.idmap.i2l ++ []) ++ T }, R0)
      rw [List.append_nil]; exact h1
    · intro r hr
      obtain ⟨r', hr', he⟩ := hE.mem r hr
      rw [he.txid]; exact b2 r' hr'
    · show (scanRecovery txs).maxTxid < max ((scanRecovery txs).maxTxid + 1) 1
      omega
    · intro r hr
      obtain ⟨r', hr', he⟩ := hE.mem r hr
      rw [he.txid]; exact ha r' hr'

theorem reopen_sim_interner {s : Engine} {g : Graph} (hS : Sim s g) (hR : Rec s) :
    ∃ s', s.reopen = .ok s' ∧ Sim s' g ∧ Rec s' ∧ s'.interner = s.interner := by
  obtain ⟨s', hopen, hsegs, _, _, hroot, hint, _, _, _, _, hidmap, hruns, hR', _, _⟩ :=
    reopen_rec hR (by rw [hS.G.segs]; intro g hg; cases hg) (load_lookup_eq hS.L)
  exact ⟨s', hopen, ⟨hS.G.of_runsEq hruns (hsegs.trans hS.G.segs) (hroot.trans hS.G.root) hint,
    hS.L.of_ideq (by rw [hidmap]; exact ⟨rfl, rfl, load_lookup_eq hS.L⟩) hint⟩, hR', hint⟩

theorem reopen_sim {s : Engine} {g : Graph} (hS : Sim s g) (hR : Rec s) :
    ∃ s', s.reopen = .ok s' ∧ Sim s' g ∧ Rec s' := by
  obtain ⟨s', h1, h2, h3, _⟩ := reopen_sim_interner hS hR
  exact ⟨s', h1, h2, h3⟩

end Nervus.Storage
