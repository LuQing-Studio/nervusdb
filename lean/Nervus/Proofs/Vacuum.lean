/-
  C28: reachability is monotone in the successor function; vacuum's successors contain the reader's when it reads
  every page list; keeping a superset of the reader-reachable pages leaves the reader-reachable subgraph
  unchanged.  When the mark phase returns Ok it has marked every page vacuum's traversal reaches: one forward
  invariant of the worklist (`MarkInv`), read on a database in which every page has one role (`Typed`).  The two
  scans of the log select the same roots (`scan_agree`): the engine's state projects onto vacuum's.
-/
import Nervus.Model.Vacuum
import Nervus.Proofs.PageMap
namespace Nervus.Vacuum
open Nervus

/-- an edge has to be matched only at a node that is reachable on both sides: `keep_preserves` knows the content
    of a page only there -/
theorem reach_mono {s1 s2 : Node → List Node} {rs : List Node}
    (h : ∀ n, Reach s1 rs n → Reach s2 rs n → ∀ m ∈ s1 n, m ∈ s2 n) : ∀ n, Reach s1 rs n → Reach s2 rs n := by
  intro n hn
  induction hn with
  | root hr => exact Reach.root hr
  | step hreach hm ih => exact Reach.step ih (h _ hreach ih _ hm)

theorem nz_mem {l : List Nat} {x : Nat} : x ∈ nz l ↔ x ∈ l ∧ x ≠ 0 := by
  simp [nz]

theorem succOf_sub (k k' : Nat) (role : Role) (pg : Option Page)
    (h : ∀ lists, pg = some (.csrMeta lists) → ∀ l ∈ lists.take k, l ∈ lists.take k') :
    ∀ m ∈ succOf k role pg, m ∈ succOf k' role pg := by
  intro m hm
  cases role <;> cases pg <;> (try exact hm)
  all_goals (rename_i p; cases p <;> (try exact hm))
  case csrMeta.some.csrMeta lists =>
      simp only [succOf, List.mem_map] at hm ⊢
      obtain ⟨x, hx, rfl⟩ := hm
      refine ⟨x, ?_, rfl⟩
      rw [nz_mem] at hx ⊢
      obtain ⟨l, hl, hxl⟩ := List.mem_flatten.mp hx.1
      exact ⟨List.mem_flatten.mpr ⟨l, h lists rfl l hl, hxl⟩, hx.2⟩

theorem succOf_mono (k k' : Nat) (hk : k ≤ k') (role : Role) (pg : Option Page) :
    ∀ m ∈ succOf k role pg, m ∈ succOf k' role pg :=
  succOf_sub k k' role pg fun lists _ _ hl => List.take_subset_take_left lists hk hl

theorem succOf_all (k k' : Nat) (role : Role) (pg : Option Page)
    (h : ∀ lists, pg = some (.csrMeta lists) → lists.length ≤ k) :
    ∀ m ∈ succOf k' role pg, m ∈ succOf k role pg :=
  succOf_sub k' k role pg fun lists hp l hl => by
    rw [List.take_of_length_le (h lists hp)]; exact List.mem_of_mem_take hl

theorem reader_sub_vacuum (L : Layout) (d : Db) (rs : List Node)
    (hL : ∀ p lists, d.pages.get p = some (.csrMeta lists) → lists.length ≤ L.csrLists) :
    ∀ n, Reach (succR d) rs n → Reach (succV L d) rs n := by
  apply reach_mono
  intro n _ _ m hm
  exact succOf_all L.csrLists allLists n.2 (d.pages.get n.1) (fun lists h => hL n.1 lists h) m hm

theorem roots_keep (L : Layout) (d : Db) (keep : List Nat) : roots L (keepPages d keep) = roots L d := rfl

theorem get_keep (d : Db) (keep : List Nat) (p : Nat) (h : p ∈ keep) :
    (keepPages d keep).pages.get p = d.pages.get p := by
  rw [keepPages, BTree.PageMap.get_eq_lookup, BTree.PageMap.get_eq_lookup]
  exact lookup_filter_of_keep _ fun _ => by simp [h]

theorem keep_preserves (L : Layout) (d : Db) (keep : List Nat)
    (h : ∀ n, Reach (succR d) (roots L d) n → n.1 ∈ keep) :
    (∀ n, Reach (succR (keepPages d keep)) (roots L (keepPages d keep)) n ↔ Reach (succR d) (roots L d) n) ∧
    (∀ n, Reach (succR d) (roots L d) n → (keepPages d keep).pages.get n.1 = d.pages.get n.1) := by
  have hget : ∀ n, Reach (succR d) (roots L d) n → (keepPages d keep).pages.get n.1 = d.pages.get n.1 :=
    fun n hn => get_keep d keep n.1 (h n hn)
  refine ⟨fun n => ⟨reach_mono (rs := roots L d) (fun n _ hn m hm => ?_) n,
    reach_mono (rs := roots L d) (fun n hn _ m hm => ?_) n⟩, hget⟩
  · rw [succR, hget n hn] at hm; exact hm
  · rw [succR, hget n hn]; exact hm

/-! ### the worklist marks everything vacuum can reach -/

theorem seenPage_iff (done : List Node) (p : Nat) : seenPage done p = true ↔ ∃ r, (p, r) ∈ done := by
  simp only [seenPage, List.any_eq_true, beq_iff_eq]
  constructor
  · rintro ⟨x, hx, rfl⟩; exact ⟨x.2, hx⟩
  · rintro ⟨r, h⟩; exact ⟨(p, r), h, rfl⟩

/-- a node's page is marked (in some role) or the node is still to do -/
def Cov (work done : List Node) (m : Node) : Prop := (∃ r, (m.1, r) ∈ done) ∨ m ∈ work

theorem Cov.skip {n m : Node} {work done : List Node} (hs : seenPage done n.1 = true)
    (h : Cov (n :: work) done m) : Cov work done m := by
  rcases h with h | h
  · exact Or.inl h
  · rcases List.mem_cons.mp h with rfl | e
    · exact Or.inl ((seenPage_iff done m.1).mp hs)
    · exact Or.inr e

theorem Cov.push {n m : Node} {work done : List Node} (new : List Node) (h : Cov (n :: work) done m) :
    Cov (new ++ work) (n :: done) m := by
  rcases h with ⟨r, h⟩ | h
  · exact Or.inl ⟨r, List.mem_cons_of_mem _ h⟩
  · rcases List.mem_cons.mp h with rfl | e
    · exact Or.inl ⟨m.2, List.mem_cons_self ..⟩
    · exact Or.inr (List.mem_append_right _ e)

/-- what the worklist maintains, relative to the nodes `rs` it started from: the successors of marked
    nodes and the start nodes are marked or still to do; whatever is marked or still to do is reachable -/
structure MarkInv (L : Layout) (d : Db) (rs work done : List Node) : Prop where
  front : ∀ n ∈ done, ∀ m ∈ succV L d n, Cov work done m
  start : ∀ n ∈ rs, Cov work done n
  reach : ∀ n, n ∈ done ∨ n ∈ work → Reach (succV L d) rs n

theorem MarkInv.skip {L : Layout} {d : Db} {rs work done : List Node} {n : Node}
    (inv : MarkInv L d rs (n :: work) done) (hs : seenPage done n.1 = true) : MarkInv L d rs work done :=
  ⟨fun x hx m hm => (inv.front x hx m hm).skip hs, fun x hx => (inv.start x hx).skip hs,
    fun x hx => inv.reach x (hx.imp id (List.mem_cons_of_mem _))⟩

theorem MarkInv.push {L : Layout} {d : Db} {rs work done : List Node} {n : Node}
    (inv : MarkInv L d rs (n :: work) done) : MarkInv L d rs (succV L d n ++ work) (n :: done) := by
  have hn := inv.reach n (Or.inr (List.mem_cons_self ..))
  refine ⟨fun x hx m hm => ?_, fun x hx => (inv.start x hx).push _, fun x hx => ?_⟩
  · rcases List.mem_cons.mp hx with rfl | e
    · exact Or.inr (List.mem_append_left _ hm)
    · exact (inv.front x e m hm).push _
  · rcases hx with hx | hx
    · rcases List.mem_cons.mp hx with rfl | e
      · exact hn
      · exact inv.reach x (Or.inl e)
    · rcases List.mem_append.mp hx with e | e
      · exact Reach.step hn e
      · exact inv.reach x (Or.inr (List.mem_cons_of_mem _ e))

/-- the state `mark` starts the worklist in: the roots to do, the two fixed pages (which reference nothing) marked -/
theorem MarkInv.init (L : Layout) (d : Db) : MarkInv L d (fixed ++ roots L d) (roots L d) fixed :=
  ⟨fun n hn m hm => by
      simp only [fixed, List.mem_cons, List.not_mem_nil, or_false] at hn
      rcases hn with rfl | rfl <;> simp [succV, succOf] at hm,
    fun n hn => (List.mem_append.mp hn).elim (fun h => Or.inl ⟨n.2, h⟩) Or.inr,
    fun n hn => Reach.root (List.mem_append.mpr hn)⟩

theorem markLoop_inv (L : Layout) (d : Db) (rs : List Node) : ∀ (fuel : Nat) (work done res : List Node),
    MarkInv L d rs work done → markLoop L d fuel work done = .ok res → MarkInv L d rs [] res
  | 0, [], done, res, inv, h => by cases h; exact inv
  | 0, _ :: _, done, res, inv, h => by cases h
  | f + 1, [], done, res, inv, h => by cases h; exact inv
  | f + 1, n :: work, done, res, inv, h => by
    simp only [markLoop] at h
    split at h
    · next hs =>
      split at h
      · cases h
      · exact markLoop_inv L d rs f work done res (inv.skip hs) h
    · split at h
      · cases h
      · exact markLoop_inv L d rs f _ _ res inv.push h

/-- every page is read in one role only: a typing of the pages that the roots and all successor
    edges respect (what a well-formed database file satisfies) -/
def Typed (L : Layout) (d : Db) (τ : Nat → Role) : Prop :=
  (∀ n ∈ fixed ++ roots L d, τ n.1 = n.2) ∧ (∀ p, ∀ m ∈ succV L d (p, τ p), τ m.1 = m.2)

theorem typed_reach (L : Layout) (d : Db) (τ : Nat → Role) (ht : Typed L d τ) :
    ∀ n, Reach (succV L d) (fixed ++ roots L d) n → τ n.1 = n.2 := by
  intro n hn
  induction hn with
  | root hr => exact ht.1 _ hr
  | step hreach hm ih =>
    rename_i a b
    have : a = (a.1, τ a.1) := by rw [ih]
    rw [this] at hm
    exact ht.2 _ _ hm

theorem mark_complete (L : Layout) (d : Db) (τ : Nat → Role) (ht : Typed L d τ) (fuel : Nat) (keep : List Nat)
    (h : mark L d fuel = .ok keep) :
    ∀ n, Reach (succV L d) (roots L d) n → n.1 ∈ keep := by
  unfold mark at h
  split at h
  · next res hm =>
    cases h
    have inv := markLoop_inv L d (fixed ++ roots L d) fuel _ _ res (MarkInv.init L d) hm
    -- a covered node is marked in the role it is reachable in, since both are the page's type
    have role : ∀ m, Reach (succV L d) (fixed ++ roots L d) m → Cov [] res m → m ∈ res := by
      rintro ⟨p, r⟩ hm (⟨r', hr'⟩ | h)
      · have t1 := typed_reach L d τ ht _ (inv.reach _ (Or.inl hr'))
        have t2 := typed_reach L d τ ht _ hm
        simp only at t1 t2
        rw [← t2, t1]; exact hr'
      · cases h
    have key : ∀ n, Reach (succV L d) (roots L d) n → n ∈ res ∧ Reach (succV L d) (fixed ++ roots L d) n := by
      intro n hn
      induction hn with
      | root hr =>
        have hn' := Reach.root (succ := succV L d) (List.mem_append_right fixed hr)
        exact ⟨role _ hn' (inv.start _ (List.mem_append_right _ hr)), hn'⟩
      | step _ hm' ih =>
        have hn' := Reach.step ih.2 hm'
        exact ⟨role _ hn' (inv.front _ ih.1 _ hm'), hn'⟩
    exact fun n hn => List.mem_map_of_mem (key n hn).1
  · cases h

theorem succOf_none (k : Nat) (r : Role) : succOf k r none = [] := by
  cases r <;> rfl

theorem typed_of_pages (L : Layout) (d : Db) (τ : Nat → Role)
    (h1 : ∀ n ∈ fixed ++ roots L d, τ n.1 = n.2)
    (h2 : ∀ x ∈ d.pages, ∀ m ∈ succV L d (x.1, τ x.1), τ m.1 = m.2) : Typed L d τ := by
  refine ⟨h1, ?_⟩
  intro p m hm
  cases hg : d.pages.get p with
  | none => simp only [succV, hg, succOf_none] at hm; cases hm
  | some pg => exact h2 (p, pg) (BTree.PageMap.get_mem _ _ _ hg) m hm

def listsOk (k : Nat) : Page → Bool
  | .csrMeta lists => decide (lists.length ≤ k)
  | _ => true

theorem lists_of_pages (d : Db) (k : Nat) (h : ∀ x ∈ d.pages, listsOk k x.2 = true) :
    ∀ p lists, d.pages.get p = some (.csrMeta lists) → lists.length ≤ k := by
  intro p lists hp
  have := h _ (BTree.PageMap.get_mem _ _ _ hp)
  simpa [listsOk] using this

/-! ### the two WAL scans select the same roots -/

/-- the engine's scan state seen as vacuum's: the fields the two share -/
def ERoots.toV (e : ERoots) : VRoots := ⟨e.epoch, e.segments, e.props, e.stats⟩

theorem engineStep_toV (o : ScanOps) (e : ERoots) (r : Rec) : (engineStep o e r).toV = vacuumStep o e.toV r := by
  cases r <;> simp only [engineStep, vacuumStep] <;> (try rw [apply_ite ERoots.toV]) <;> rfl

theorem ops_toV (o : ScanOps) : ∀ (ops : List Rec) (e : ERoots),
    (ops.foldl (engineStep o) e).toV = ops.foldl (vacuumStep o) e.toV
  | [], _ => rfl
  | r :: rs, e => by rw [List.foldl_cons, List.foldl_cons, ops_toV o rs, engineStep_toV]

theorem log_toV (o : ScanOps) : ∀ (log : List Tx) (e : ERoots),
    (log.foldl (fun s tx => tx.ops.foldl (engineStep o) { s with maxTxid := max s.maxTxid tx.txid }) e).toV =
      log.foldl (fun s tx => tx.ops.foldl (vacuumStep o) s) e.toV
  | [], _ => rfl
  | tx :: rest, e => by rw [List.foldl_cons, List.foldl_cons, log_toV o rest, ops_toV]; rfl

/-- for every log: with the same comparison operators vacuum's scan and the engine's recovery scan end with the
    same segment list, property root and statistics root -/
theorem scan_agree (o : ScanOps) (log : List Tx) : (vacuumScan o log).roots = (engineScan o log).roots :=
  congrArg VRoots.roots (log_toV o log ⟨o.initEpoch, [], 0, 0, 0, 0⟩).symm

end Nervus.Vacuum
