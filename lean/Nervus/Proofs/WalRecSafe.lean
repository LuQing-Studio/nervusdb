/-
  `WalRecord::decode_body` never panics (C25): every slice expression is covered by the length check in front of it
  — provided the ManifestSwitch arm checks the whole 16-byte trailer (`manifestTailCheck ≥ 16`, the `fix:`).
-/
import Nervus.Proofs.WalRec
namespace Nervus.WalRec
open Nervus Nervus.PropVal

def NoPanic {α : Type} (x : Except WErr α) : Prop := x ≠ .error .panic

variable {α β : Type}

theorem np_ok (a : α) : NoPanic (Except.ok a : Except WErr α) := nofun
theorem np_proto (m : String) : NoPanic (Except.error (.proto m) : Except WErr α) := nofun

theorem np_bind {x : Except WErr α} {f : α → Except WErr β} (hx : NoPanic x) (hf : ∀ a, NoPanic (f a)) :
    NoPanic (x >>= f) := by
  cases x with
  | error e => intro h; cases h; exact hx rfl
  | ok a => exact hf a

theorem np_map {x : Except WErr α} (f : α → β) (hx : NoPanic x) : NoPanic (x.map f) := by
  cases x with
  | error e => intro h; cases h; exact hx rfl
  | ok a => exact np_ok _

theorem np_ite {c : Prop} [Decidable c] {a b : Except WErr α} (ha : NoPanic a) (hb : NoPanic b) :
    NoPanic (if c then a else b) := by
  split <;> assumption

/-- a length check: what follows it may use that it passed -/
theorem np_check {c : Prop} [Decidable c] {m : String} {b : Except WErr α} (hb : ¬ c → NoPanic b) :
    NoPanic (if c then .error (.proto m) else b) := by
  split
  · exact np_proto m
  · exact hb ‹_›

theorem np_rd {p : Bytes} {a b : Nat} (h1 : a ≤ b) (h2 : b ≤ p.length) : NoPanic (rd p a b) := by
  unfold rd; rw [slice_eq_some h1 h2]; exact np_ok _

theorem np_rdThen {p : Bytes} {a b : Nat} {f : Nat → Except WErr β} (h2 : b ≤ p.length)
    (hf : ∀ v, NoPanic (f v)) (h1 : a ≤ b := by decide) : NoPanic (rd p a b >>= f) :=
  np_bind (np_rd h1 h2) hf

theorem np_rdStrThen {p : Bytes} {a b : Nat} {msg : String} {f : Bytes → Except WErr β} (h1 : a ≤ b)
    (h2 : b ≤ p.length) (hf : ∀ s, NoPanic (f s)) : NoPanic (rdStr p a b msg >>= f) := by
  unfold rdStr; rw [slice_eq_some h1 h2]
  exact np_bind (np_ite (np_ok _) (np_proto _)) hf

theorem np_readU64 (p : Bytes) : NoPanic (readU64 p) :=
  np_check fun _ => np_rd (by decide) (by omega)

theorem np_rdVal (cfg : Cfg) (bs : Bytes) : NoPanic (rdVal cfg bs) := by
  unfold rdVal
  have h := decode_no_panic cfg.pv bs
  split
  · exact np_ok _
  · rename_i e; exact absurd e h.1
  · rename_i e; exact absurd e h.2
  · exact np_proto _

theorem np_rdSegs (p : Bytes) : ∀ (n off : Nat), off + n * 16 ≤ p.length → NoPanic (rdSegs p n off)
  | 0, _, _ => np_ok _
  | n + 1, off, h =>
    np_rdThen (by omega) (h1 := by omega) fun _ => np_rdThen (by omega) (h1 := by omega) fun _ =>
      np_bind (np_rdSegs p n (off + 16) (by omega)) fun _ => np_ok _

theorem np_armPageWrite (p : Bytes) : NoPanic (armPageWrite p) :=
  np_check fun hl => np_rdThen (by omega) fun _ => by
    rw [slice_eq_some (by omega) (Nat.le_refl _)]; simp only
    rw [if_pos (by simp; omega)]
    exact np_ok _

theorem np_armCreateLabel (p : Bytes) : NoPanic (armCreateLabel p) :=
  np_check fun _ => np_rdThen (by omega) fun _ => np_rdThen (by omega) fun _ =>
    np_check fun _ => np_rdStrThen (by omega) (by omega) fun _ => np_ok _

theorem np_armCreateNode (p : Bytes) : NoPanic (armCreateNode p) :=
  np_check fun _ => np_rdThen (by omega) fun _ => np_rdThen (by omega) fun _ => np_rdThen (by omega) fun _ => np_ok _

theorem np_armAddNodeLabel (p : Bytes) : NoPanic (armAddNodeLabel p) :=
  np_check fun _ => np_rdThen (by omega) fun _ => np_rdThen (by omega) fun _ => np_ok _

theorem np_armRemoveNodeLabel (p : Bytes) : NoPanic (armRemoveNodeLabel p) :=
  np_check fun _ => np_rdThen (by omega) fun _ => np_rdThen (by omega) fun _ => np_ok _

theorem np_armCreateEdge (p : Bytes) : NoPanic (armCreateEdge p) :=
  np_check fun _ => np_rdThen (by omega) fun _ => np_rdThen (by omega) fun _ => np_rdThen (by omega) fun _ => np_ok _

theorem np_armTombstoneNode (p : Bytes) : NoPanic (armTombstoneNode p) :=
  np_check fun _ => np_rdThen (by omega) fun _ => np_ok _

theorem np_armTombstoneEdge (p : Bytes) : NoPanic (armTombstoneEdge p) :=
  np_check fun _ => np_rdThen (by omega) fun _ => np_rdThen (by omega) fun _ => np_rdThen (by omega) fun _ => np_ok _

theorem np_armManifestSwitch (cfg : Cfg) (hk : 16 ≤ cfg.manifestTailCheck) (p : Bytes) :
    NoPanic (armManifestSwitch cfg p) :=
  np_check fun _ => np_rdThen (by omega) fun _ => np_rdThen (by omega) fun count =>
    np_check fun _ => np_bind (np_rdSegs p count 12 (by omega)) fun _ =>
      np_rdThen (by omega) (h1 := by omega) fun _ => np_rdThen (by omega) (h1 := by omega) fun _ => np_ok _

theorem np_armCheckpoint (p : Bytes) : NoPanic (armCheckpoint p) :=
  np_check fun _ => np_rdThen (by omega) fun _ => np_rdThen (by omega) fun _ => np_rdThen (by omega) fun _ =>
    np_rdThen (by omega) fun _ => np_ok _

theorem np_armSetNodeProperty (cfg : Cfg) (p : Bytes) : NoPanic (armSetNodeProperty cfg p) :=
  np_check fun _ => np_rdThen (by omega) fun _ => np_rdThen (by omega) fun _ =>
    np_check fun _ => np_rdStrThen (by omega) (by omega) fun _ => np_bind (np_rdVal _ _) fun _ => np_ok _

theorem np_armSetEdgeProperty (cfg : Cfg) (p : Bytes) : NoPanic (armSetEdgeProperty cfg p) :=
  np_check fun _ => np_rdThen (by omega) fun _ => np_rdThen (by omega) fun _ => np_rdThen (by omega) fun _ =>
    np_rdThen (by omega) fun _ => np_check fun _ => np_rdStrThen (by omega) (by omega) fun _ =>
      np_bind (np_rdVal _ _) fun _ => np_ok _

theorem np_armRemoveNodeProperty (p : Bytes) : NoPanic (armRemoveNodeProperty p) :=
  np_check fun _ => np_rdThen (by omega) fun _ => np_rdThen (by omega) fun _ =>
    np_check fun _ => np_rdStrThen (by omega) (by omega) fun _ => np_ok _

theorem np_armRemoveEdgeProperty (p : Bytes) : NoPanic (armRemoveEdgeProperty p) :=
  np_check fun _ => np_rdThen (by omega) fun _ => np_rdThen (by omega) fun _ => np_rdThen (by omega) fun _ =>
    np_rdThen (by omega) fun _ => np_check fun _ => np_rdStrThen (by omega) (by omega) fun _ => np_ok _

/-- C25 (`rec_decode_total`): no slice expression of `WalRecord::decode_body` panics, on any byte string -/
theorem decodeBody_noPanic (cfg : Cfg) (hk : 16 ≤ cfg.manifestTailCheck) : ∀ body : Bytes,
    NoPanic (decodeBody cfg body)
  | [] => np_proto _
  | _ :: p =>
    np_ite (np_map _ (np_readU64 p)) <| np_ite (np_map _ (np_readU64 p)) <| np_ite (np_armPageWrite p) <|
      np_ite (np_map _ (np_readU64 p)) <| np_ite (np_armCreateLabel p) <| np_ite (np_armCreateNode p) <|
      np_ite (np_armAddNodeLabel p) <| np_ite (np_armRemoveNodeLabel p) <| np_ite (np_armCreateEdge p) <|
      np_ite (np_armTombstoneNode p) <| np_ite (np_armTombstoneEdge p) <| np_ite (np_armManifestSwitch cfg hk p) <|
      np_ite (np_armCheckpoint p) <| np_ite (np_armSetNodeProperty cfg p) <| np_ite (np_armSetEdgeProperty cfg p) <|
      np_ite (np_armRemoveNodeProperty p) <| np_ite (np_armRemoveEdgeProperty p) <| np_proto _

end Nervus.WalRec
