/-
  Proofs.Compare — `<, <=, >, >=` (`compare_values`): the converse law for ALL values (`cv_conv`); on
  well-formed null/NaN-free plain values on whose strings "ordered equal" is text equality (`lawDomain`) they are the
  ORDER BY comparison restricted to comparable classes (`cv_plain`), and `=` holds exactly when that comparison
  says `Equal` (`ce_eq_oc`); `lawDomain_cv`, `lawDomain_ce` and `cv_true` state the two for a pair of the domain, and the
  laws of `Props/C23` (`<=` is `<` or `=`, trichotomy, transitivity) are read off them.
  In lemma names: `cv` = `compare_values`, `clfr` = `compare_lists_for_range`, `cvflr` = `compare_value_for_list_range`,
  `ce` = `cypher_equals`, `oc` = `order_compare`, and from `OrderCompare` `ocnn` = `order_compare_non_null`,
  `clo` = `compare_lists_ordering`.
-/
import Nervus.Proofs.Equality
import Nervus.Proofs.OrderTotal
namespace Nervus
open F64 Value Eval Spec

section
variable (E : Env)

/-- values `<` can order: the comparable classes of `compare_values` -/
def sameClass : Value → Value → Bool
  | .int _, .int _ | .int _, .float _ | .float _, .int _ | .float _, .float _ => true
  | .bool _, .bool _ => true
  | .str _, .str _ => true
  | .list _, .list _ => true
  | _, _ => false

theorem kind_of_sameClass {a b : Value} (h : sameClass a b = true) :
    match a with
    | .int _ | .float _ => isNum b = true
    | .bool _ => ∃ y, b = .bool y
    | .str _ => ∃ y, b = .str y
    | .list _ => ∃ ys, b = .list ys
    | _ => False := by
  unfold sameClass at h
  split at h <;> first | rfl | exact ⟨_, rfl⟩ | cases h

theorem cv_of_not_sameClass (op : CmpOp) {a b : Value} (h : sameClass a b = false) :
    compareValues E op a b = .null := by
  unfold compareValues
  split <;> first | rfl | cases h

theorem cv_numbers (op : CmpOp) (a b : Value) (ha : isNum a = true) (hb : isNum b = true) :
    compareValues E op a b = match Eval.numCmp a b with
      | some o => .bool (op.test o)
      | none => .bool false := by
  obtain ⟨x, rfl⟩ | ⟨x, rfl⟩ := isNum_cases ha <;> obtain ⟨y, rfl⟩ | ⟨y, rfl⟩ := isNum_cases hb <;> rfl

theorem plain_mapsNaNFree : ∀ (v : Value), plain v = true → mapsNaNFree v = true := by
  intro v
  induction v using Value.ind with | step v ih => ?_
  intro h
  cases v with
  | list xs => exact mnfList_iff.2 fun x hx => ih x hx (plainList_mem h x hx)
  | map _ => cases h
  | _ => rfl

theorem cvflr_nonnull (x y : Value) (hx : x ≠ .null) (hy : y ≠ .null) :
    compareValueForListRange E x y = orderCompareNonNull E x y := by
  unfold compareValueForListRange; split <;> first | rfl | contradiction

theorem cvflr_null {y : Value} (hy : y ≠ .null) :
    compareValueForListRange E .null y = none ∧ compareValueForListRange E y .null = none := by
  unfold compareValueForListRange
  constructor <;> split <;> first | rfl | contradiction

theorem clean_ne_null {v : Value} (h : clean v = true) : v ≠ .null := by
  intro e; subst e; cases h

/-- on null/NaN-free plain lists the range comparison is decided by `compare_lists_ordering` -/
theorem clfr_of_clo (op : CmpOp) : ∀ (xs ys : List Value), clean.cleanList xs = true → clean.cleanList ys = true →
    plain.plainList xs = true → plain.plainList ys = true →
    ∃ o, compareListsOrdering E xs ys = some o ∧ compareListsForRange E op xs ys = .bool (op.test o)
  | [], [], _, _, _, _ => ⟨.eq, rfl, rfl⟩
  | [], _ :: _, _, _, _, _ => ⟨.lt, rfl, rfl⟩
  | _ :: _, [], _, _, _, _ => ⟨.gt, rfl, rfl⟩
  | x :: xs, y :: ys, cx, cy, px, py => by
    simp only [clean.cleanList, plain.plainList, Bool.and_eq_true] at cx cy px py
    obtain ⟨o, ho, hr⟩ := clfr_of_clo op xs ys cx.2 cy.2 px.2 py.2
    have nx := clean_ne_null cx.1
    have ny := clean_ne_null cy.1
    have hs := ocnn_some E x y (plain_mapsNaNFree x px.1) (plain_mapsNaNFree y py.1)
    rw [clo_cons, ocElem_nonnull E nx ny]
    simp only [compareListsForRange, cvflr_nonnull E x y nx ny]
    cases h : orderCompareNonNull E x y with
    | none => rw [h] at hs; cases hs
    | some o' =>
      cases o' with
      | eq => exact ⟨o, ho, hr⟩
      | lt => exact ⟨.lt, rfl, rfl⟩
      | gt => exact ⟨.gt, rfl, rfl⟩

theorem orderCompare_list (xs ys : List Value) :
    orderCompare E (.list xs) (.list ys) = (compareListsOrdering E xs ys).getD .eq := rfl

theorem cv_plain (op : CmpOp) (a b : Value) (ca : clean a = true) (cb : clean b = true) (pa : plain a = true)
    (pb : plain b = true) :
    compareValues E op a b = if sameClass a b then .bool (op.test (orderCompare E a b)) else .null := by
  by_cases hs : sameClass a b = true
  · rw [if_pos hs]
    have hk := kind_of_sameClass hs
    cases a with
    | int x | float x => rw [cv_numbers E op _ b rfl hk, numCmp_nonNaN _ b rfl hk ca cb, orderCompare_num E _ b rfl hk]
    | bool x | str x => obtain ⟨y, rfl⟩ := hk; rfl
    | list xs =>
      obtain ⟨ys, rfl⟩ := hk
      obtain ⟨o, ho, hr⟩ := clfr_of_clo E op xs ys ca cb pa pb
      rw [orderCompare_list, ho]; exact hr
    | _ => exact hk.elim
  · rw [if_neg hs, cv_of_not_sameClass E op (Bool.not_eq_true _ ▸ hs)]

/-- what `Spec.strEqOK` (the negated trigger of C23-temporal-string-compare, part 1) gives at a pair of values:
    on their strings ordered-equal coincides with text equality -/
def Coh (a b : List Str) : Prop := ∀ x ∈ a, ∀ y ∈ b, (strCmp E x y = .eq ↔ x = y)

theorem Coh.mono {a b a' b' : List Str} (h : Coh E a b) (ha : ∀ x ∈ a', x ∈ a) (hb : ∀ x ∈ b', x ∈ b) : Coh E a' b' :=
  fun x hx y hy => h x (ha x hx) y (hb y hy)

theorem rank_eq_of_deq {a b : Value} (h : deq a b = true) : rank a = rank b := by
  unfold deq at h
  split at h <;> first | rfl | cases h

theorem rank_eq_of_ceClass_eq {a b : Value} (h : ceClass a = ceClass b) (h4 : ceClass a ≠ 4) : rank a = rank b := by
  have hk := kind_of_ceClass_eq h
  cases a with
  | null => cases hk; rfl
  | int x | float x => obtain ⟨y, rfl⟩ | ⟨y, rfl⟩ := isNum_cases hk <;> rfl
  | list xs | map xs => obtain ⟨ys, rfl⟩ := hk; rfl
  | _ => exact absurd rfl h4

/-- the rank table separates the kinds `=` distinguishes: values of different ranks are never equal -/
theorem ce_of_rank_ne {a b : Value} (ha : a ≠ .null) (hb : b ≠ .null) (h : rank a ≠ rank b) :
    cypherEquals a b = .bool false := by
  have hc : ceClass a ≠ ceClass b ∨ ceClass a = 4 := by
    by_cases h4 : ceClass a = 4
    · exact .inr h4
    · exact .inl fun e => h (rank_eq_of_ceClass_eq e h4)
  rw [ce_other ha hb hc, Bool.eq_false_iff.2 fun hd => h (rank_eq_of_deq hd)]

/-- `=` and `compare_lists_ordering` on two lists whose elements are compared alike by `=` and the ORDER BY
    comparison, the latter never falling back to `Equal` -/
theorem list_eq_clo_of : ∀ (xs ys : List Value),
    (∀ x ∈ xs, ∀ y ∈ ys, cypherEquals x y = .bool (orderCompare E x y == .eq) ∧
      ocElem E x y = some (orderCompare E x y)) →
    cypherEquals (.list xs) (.list ys) = .bool (compareListsOrdering E xs ys == some .eq)
  | [], [], _ | [], _ :: _, _ | _ :: _, [], _ => rfl
  | x :: xs, y :: ys, h => by
    have ih := list_eq_clo_of xs ys fun x hx y hy => h x (.tail _ hx) y (.tail _ hy)
    obtain ⟨he, ho⟩ := h x (.head _) y (.head _)
    rw [clo_cons, ho]
    rw [ce_list] at ih ⊢
    by_cases hl : xs.length = ys.length
    · have hl' : (x :: xs).length = (y :: ys).length := congrArg (· + 1) hl
      rw [if_pos hl] at ih
      rw [if_pos hl', cypherEqualsSeq, he, ih]
      cases orderCompare E x y <;> rfl
    · have hl' : ¬ (x :: xs).length = (y :: ys).length := fun e => hl (Nat.succ.inj e)
      rw [if_neg hl] at ih
      rw [if_neg hl']
      have ih' : ¬ compareListsOrdering E xs ys = some Ordering.eq := by
        intro e; rw [e] at ih; cases ih
      cases orderCompare E x y <;> simp [thenP] <;> exact ih'

theorem Coh.kids {a b x y : Value} (h : Coh E (stringsOf a) (stringsOf b)) (hx : x ∈ a.kids) (hy : y ∈ b.kids) :
    Coh E (stringsOf x) (stringsOf y) :=
  h.mono E (stringsOf_kids hx) (stringsOf_kids hy)

theorem ce_eq_oc : ∀ (a b : Value), clean a = true → clean b = true → plain a = true → plain b = true →
    a.wf = true → b.wf = true → Coh E (stringsOf a) (stringsOf b) →
    cypherEquals a b = .bool (orderCompare E a b == .eq) := by
  intro a
  induction a using Value.ind with | step a ih => ?_
  intro b ca cb pa pb wa wb hS
  by_cases h : rank a = rank b
  · have hk := kind_of_rank_eq h
    cases a with
    | list xs =>
      obtain ⟨ys, rfl⟩ := hk
      obtain ⟨o, ho⟩ := Option.isSome_iff_exists.1
        (clo_some E xs ys (plain_mapsNaNFree (.list xs) pa) (plain_mapsNaNFree (.list ys) pb))
      rw [orderCompare_list, ho, Option.getD, ← Option.some_beq_some, ← ho]
      refine list_eq_clo_of E xs ys fun x hx y hy => ?_
      have px := plainList_mem pa x hx
      have py := plainList_mem pb y hy
      exact ⟨ih x hx y (clean_kids ca x hx) (clean_kids cb y hy) px py (wf_kids wa x hx) (wf_kids wb y hy)
        (hS.kids E hx hy), ocElem_eq_some E x y (plain_mapsNaNFree x px) (plain_mapsNaNFree y py)⟩
    | int x | float x =>
      rw [cypherEquals_num _ b rfl hk wa wb, numCmp_spec_nonNaN _ b rfl hk ca cb, orderCompare_num E _ b rfl hk,
        numCmpNanLast_exact _ b rfl hk wa wb, Option.some_beq_some]
    | bool x => obtain ⟨y, rfl⟩ := hk; cases x <;> cases y <;> rfl
    | str x =>
      obtain ⟨y, rfl⟩ := hk
      have hxy := hS x (.head _) y (.head _)
      show Value.bool (x == y) = .bool (strCmp E x y == .eq)
      congr 1
      by_cases h : x = y
      · rw [hxy.2 h, h]; simp
      · rw [beq_eq_false_iff_ne.2 h, beq_eq_false_iff_ne.2 (mt hxy.1 h)]
    | null => cases ca
    | _ => cases pa
  · have na := clean_ne_null ca
    have nb := clean_ne_null cb
    rw [ce_of_rank_ne na nb h, orderCompare_of_rank_ne E na nb h, beq_eq_false_iff_ne.2 (mt cmpNat_eq.1 h)]

theorem list_eq_clo : ∀ (xs ys : List Value), clean.cleanList xs = true → clean.cleanList ys = true →
    plain.plainList xs = true → plain.plainList ys = true → wfList xs = true → wfList ys = true →
    Coh E (stringsOf (.list xs)) (stringsOf (.list ys)) →
    cypherEquals (.list xs) (.list ys) = .bool (compareListsOrdering E xs ys == some .eq) := by
  intro xs ys cx cy px py wx wy hS
  obtain ⟨o, ho⟩ := Option.isSome_iff_exists.1
    (clo_some E xs ys (plain_mapsNaNFree (.list xs) px) (plain_mapsNaNFree (.list ys) py))
  rw [ce_eq_oc E (.list xs) (.list ys) cx cy px py wx wy hS, orderCompare_list, ho, Option.some_beq_some]; rfl

/-! ### converse: `a < b ⇔ b > a`, `a <= b ⇔ b >= a` — for ALL values -/

def Eval.CmpOp.conv : CmpOp → CmpOp
  | .lt => .gt | .le => .ge | .gt => .lt | .ge => .le

theorem test_conv (op : CmpOp) (o : Ordering) : op.test o = op.conv.test o.swap := by
  cases op <;> cases o <;> rfl

theorem cvflr_swap (x y : Value) :
    compareValueForListRange E x y = (compareValueForListRange E y x).map Ordering.swap := by
  by_cases hx : x = .null <;> by_cases hy : y = .null
  · subst hx hy; rfl
  · subst hx; rw [(cvflr_null E hy).1, (cvflr_null E hy).2]; rfl
  · subst hy; rw [(cvflr_null E hx).1, (cvflr_null E hx).2]; rfl
  · rw [cvflr_nonnull E x y hx hy, cvflr_nonnull E y x hy hx]; exact ocnn_swap E x y

theorem clfr_conv (op : CmpOp) : ∀ (xs ys : List Value),
    compareListsForRange E op xs ys = compareListsForRange E op.conv ys xs
  | [], [] => by simp [compareListsForRange, test_conv op]
  | [], _ :: _ => by simp [compareListsForRange, test_conv op]
  | _ :: _, [] => by simp [compareListsForRange, test_conv op]
  | x :: xs, y :: ys => by
    simp only [compareListsForRange]
    rw [cvflr_swap E x y]
    cases h : compareValueForListRange E y x with
    | none => rfl
    | some o =>
      cases o <;> simp only [Option.map, Ordering.swap]
      · rw [test_conv op]; rfl
      · exact clfr_conv op xs ys
      · rw [test_conv op]; rfl

theorem sameClass_of_isNum {a b : Value} (ha : isNum a = true) (hb : isNum b = true) : sameClass a b = true := by
  obtain ⟨x, rfl⟩ | ⟨x, rfl⟩ := isNum_cases ha <;> obtain ⟨y, rfl⟩ | ⟨y, rfl⟩ := isNum_cases hb <;> rfl

theorem sameClass_comm {a b : Value} (h : sameClass a b = true) : sameClass b a = true := by
  have hk := kind_of_sameClass h
  cases a with
  | int x | float x => exact sameClass_of_isNum hk rfl
  | bool x | str x => obtain ⟨y, rfl⟩ := hk; rfl
  | list xs => obtain ⟨ys, rfl⟩ := hk; rfl
  | _ => exact hk.elim

theorem cv_conv (op : CmpOp) (a b : Value) : compareValues E op a b = compareValues E op.conv b a := by
  by_cases hs : sameClass a b = true
  · have hk := kind_of_sameClass hs
    have num : ∀ a b, isNum a = true → isNum b = true →
        compareValues E op a b = compareValues E op.conv b a := fun a b ha hb => by
      rw [cv_numbers E op a b ha hb, cv_numbers E op.conv b a hb ha, numCmp_swap a b ha hb]
      cases Eval.numCmp b a <;> simp [test_conv op]
    cases a with
    | int x | float x => exact num _ b rfl hk
    | bool x => obtain ⟨y, rfl⟩ := hk; simp only [compareValues]; rw [cmpBool_laws.swap, test_conv op]; simp
    | str x => obtain ⟨y, rfl⟩ := hk; simp only [compareValues]; rw [strCmp_swap, test_conv op]; simp
    | list xs => obtain ⟨ys, rfl⟩ := hk; exact clfr_conv E op xs ys
    | _ => exact hk.elim
  · rw [cv_of_not_sameClass E op (Bool.not_eq_true _ ▸ hs),
      cv_of_not_sameClass E op.conv (Bool.eq_false_iff.2 fun h => hs (sameClass_comm h))]

/-! ### consistency of `<`, `<=`, `>`, `>=` with `=` on null/NaN-free plain values compared as text -/

theorem coh_of_strEqOK (ss : List Str) (h : strEqOK E ss = true) : Coh E ss ss := by
  simp only [strEqOK, List.all_eq_true, beq_iff_eq] at h
  intro x hx y hy
  have := h x hx y hy
  constructor
  · intro e; rw [e] at this; simpa using this.symm
  · intro e; subst e
    cases hc : strCmp E x x <;> simp [hc] at this ⊢

/-- the domain of the ordering laws of C23: well-formed, null/NaN-free, plain values on whose strings
    ordered-equal is text equality and the comparison is transitive (no trigger of C23 holds) -/
def lawDomain (vs : List Value) : Bool :=
  vs.all (fun v => v.wf && clean v && plain v) &&
    (strEqOK E (vs.flatMap stringsOf) && strTransOn E (vs.flatMap stringsOf))

theorem lawDomain_ordOK (vs : List Value) (h : lawDomain E vs = true) : ordOK E vs = true := by
  simp only [lawDomain, Bool.and_eq_true, List.all_eq_true] at h
  simp only [ordOK, Bool.and_eq_true, List.all_eq_true]
  exact ⟨fun v hv => ⟨(h.1 v hv).1.1, plain_mapsNaNFree v (h.1 v hv).2⟩, h.2.2⟩

theorem lawDomain_mem {vs : List Value} (h : lawDomain E vs = true) {v : Value} (hv : v ∈ vs) :
    v.wf = true ∧ clean v = true ∧ plain v = true := by
  simp only [lawDomain, Bool.and_eq_true, List.all_eq_true] at h
  exact ⟨(h.1 v hv).1.1, (h.1 v hv).1.2, (h.1 v hv).2⟩

theorem lawDomain_coh {vs : List Value} (h : lawDomain E vs = true) {a b : Value} (ha : a ∈ vs) (hb : b ∈ vs) :
    Coh E (stringsOf a) (stringsOf b) := by
  simp only [lawDomain, Bool.and_eq_true] at h
  exact (coh_of_strEqOK E _ h.2.1).mono E (fun x hx => List.mem_flatMap.2 ⟨a, ha, hx⟩)
    (fun x hx => List.mem_flatMap.2 ⟨b, hb, hx⟩)

theorem lawDomain_cv {vs : List Value} (h : lawDomain E vs = true) {a b : Value} (ha : a ∈ vs) (hb : b ∈ vs)
    (op : CmpOp) :
    compareValues E op a b = if sameClass a b then .bool (op.test (orderCompare E a b)) else .null := by
  obtain ⟨_, ca, pa⟩ := lawDomain_mem E h ha
  obtain ⟨_, cb, pb⟩ := lawDomain_mem E h hb
  exact cv_plain E op a b ca cb pa pb

theorem lawDomain_ce {vs : List Value} (h : lawDomain E vs = true) {a b : Value} (ha : a ∈ vs) (hb : b ∈ vs) :
    cypherEquals a b = .bool (orderCompare E a b == .eq) := by
  obtain ⟨wa, ca, pa⟩ := lawDomain_mem E h ha
  obtain ⟨wb, cb, pb⟩ := lawDomain_mem E h hb
  exact ce_eq_oc E a b ca cb pa pb wa wb (lawDomain_coh E h ha hb)

theorem sameClass_trans {a b c : Value} (h1 : sameClass a b = true) (h2 : sameClass b c = true) :
    sameClass a c = true := by
  have hb := kind_of_sameClass h1
  have hc := kind_of_sameClass h2
  cases a with
  | int x | float x => obtain ⟨y, rfl⟩ | ⟨y, rfl⟩ := isNum_cases hb <;> exact sameClass_of_isNum rfl hc
  | bool x | str x => obtain ⟨y, rfl⟩ := hb; obtain ⟨z, rfl⟩ := hc; rfl
  | list xs => obtain ⟨ys, rfl⟩ := hb; obtain ⟨zs, rfl⟩ := hc; rfl
  | _ => exact hb.elim

/-- combine `<` (or `>`) with `=`: the Kleene "or" restricted to comparable operands -/
def orEq : Value → Value → Value
  | .bool l, .bool e => .bool (l || e)
  | _, _ => .null

theorem law_eq_le {vs : List Value} (h : lawDomain E vs = true) {a b : Value} (ha : a ∈ vs) (hb : b ∈ vs)
    (he : cypherEquals a b = .bool true) (hc : sameClass a b = true) :
    compareValues E .le a b = .bool true ∧ compareValues E .ge a b = .bool true ∧
    compareValues E .lt a b = .bool false ∧ compareValues E .gt a b = .bool false := by
  have f := lawDomain_cv E h ha hb
  rw [lawDomain_ce E h ha hb] at he
  rw [f .le, f .ge, f .lt, f .gt, hc]
  cases ho : orderCompare E a b <;> simp [ho] at he <;> simp [CmpOp.test]

theorem cv_true {vs : List Value} (h : lawDomain E vs = true) {a b : Value} (ha : a ∈ vs) (hb : b ∈ vs) (op : CmpOp)
    (h1 : compareValues E op a b = .bool true) :
    sameClass a b = true ∧ op.test (orderCompare E a b) = true := by
  rw [lawDomain_cv E h ha hb op] at h1
  cases s : sameClass a b <;> simp only [s, if_true, Bool.false_eq_true, if_false] at h1
  · cases h1
  · exact ⟨rfl, Value.bool.inj h1⟩

end
end Nervus
