/-
  Proofs/BulkAgree.lean — every read of the opened bulk-loaded database agrees with the Spec graph of
  the transactional load of the same input (C30).
-/
import Nervus.Proofs.BulkSpec
import Nervus.Proofs.BulkOpen
namespace Nervus.Storage
open Nervus.GraphSpec (Graph TxOp Op Rel)

/-- valid input for the comparison: what BulkLoader::validate checks, and no external id 0 (the known
    findings C06-external-id-zero / C04-external-id-zero-not-indexed-on-reload) -/
def bulkOK (ns : List BulkNode) (es : List BulkEdge) : Bool :=
  bulkValid ns es && ns.all (fun n => n.ext != 0)

section
variable (ns : List BulkNode) (es : List BulkEdge)

theorem bulkOK_unpack (h : bulkOK ns es = true) :
    bulkValid ns es = true ∧ (ns.map (·.ext)).Nodup ∧ (∀ n ∈ ns, n.ext ≠ 0) ∧
    (∀ e ∈ es, (∃ n ∈ ns, n.ext = e.src) ∧ (∃ n ∈ ns, n.ext = e.dst)) := by
  simp only [bulkOK, Bool.and_eq_true, List.all_eq_true, bne_iff_ne, ne_eq] at h
  obtain ⟨hv, hz⟩ := h
  have hv' := hv
  simp only [bulkValid, Bool.and_eq_true, List.all_eq_true, List.any_eq_true, beq_iff_eq, decide_eq_true_eq] at hv'
  exact ⟨hv, hv'.1, hz, fun e he => hv'.2 e he⟩

/-- the node table BulkLoader::commit writes -/
def bulkI2e : List I2e := ns.map (fun n => ⟨n.ext, ((bulkInterner ns es).getId n.label).getD 0⟩)

theorem bulkI2e_get (n : Nat) (hn : n < ns.length) :
    (bulkI2e ns es)[n]? = some ⟨ns[n].ext, ((bulkInterner ns es).getId ns[n].label).getD 0⟩ := by
  unfold bulkI2e
  rw [List.getElem?_map, List.getElem?_eq_getElem hn]; rfl

theorem bulkI2e_inv (j : Nat) (r : I2e) (h : (bulkI2e ns es)[j]? = some r) :
    ∃ hj : j < ns.length, r.ext = ns[j].ext := by
  unfold bulkI2e at h
  rw [List.getElem?_map] at h
  cases hq : ns[j]? with
  | none => rw [hq] at h; cases h
  | some m =>
    rw [hq] at h; cases h
    obtain ⟨h1, h2⟩ := List.getElem?_eq_some_iff.mp hq
    exact ⟨h1, by rw [h2]⟩

theorem label_interned (n : BulkNode) (hn : n ∈ ns) : n.label ∈ bulkInterner ns es := by
  unfold bulkInterner
  exact fold_internName_mono _ _ _ (fold_internName_mem _ _ _ (List.mem_map.mpr ⟨n, hn, rfl⟩))

theorem rel_interned (e : BulkEdge) (he : e ∈ es) : e.rel ∈ bulkInterner ns es := by
  unfold bulkInterner
  exact fold_internName_mem _ _ _ (List.mem_map.mpr ⟨e, he, rfl⟩)

theorem bulk_getId (nm : Nat) (h : nm ∈ bulkInterner ns es) :
    ∃ i, (bulkInterner ns es).getId nm = some i ∧ (bulkInterner ns es)[i]? = some nm := by
  cases hg : (bulkInterner ns es).getId nm with
  | none => exact absurd h ((getId_none_iff _ nm).mp hg)
  | some i => exact ⟨i, rfl, (getId_some_iff _ nm i (bulkInterner_nodup ns es)).mp hg⟩

/-- what `open` builds from the bulk files, as far as the reads look at it -/
structure IsBulk (b : Engine) : Prop where
  idmap : b.idmap = IdMap.load (bulkI2e ns es)
  interner : b.interner = bulkInterner ns es
  runs : b.runs = []
  segs : b.segs = [(buildForward 0 (bulkEdges ns es)).persist]
  store : b.store = bulkStore ns es
  storeRoot : b.storeRoot = 1
  propsRoot : b.propsRoot = 1

/-- the Spec graph both databases are compared with -/
def bulkGraph : Graph := ({} : Graph).apply (txLoad ns es)

theorem bulkGraph_ext (hnd : (ns.map (·.ext)).Nodup) :
    (bulkGraph ns es).ext = (ns.zipIdx.map (fun p => (p.2, p.1.ext))).reverse := (txLoad_graph ns es hnd).2.2.1

theorem bulkGraph_dead (hnd : (ns.map (·.ext)).Nodup) : (bulkGraph ns es).dead = [] := (txLoad_graph ns es hnd).2.1

theorem zip_mem (n : Nat) (hn : n < ns.length) : (ns[n], n) ∈ ns.zipIdx :=
  List.mem_zipIdx_iff_getElem?.mpr (List.getElem?_eq_getElem hn)

theorem zip_mem_inv (p : BulkNode × Nat) (hp : p ∈ ns.zipIdx) : ∃ h : p.2 < ns.length, ns[p.2] = p.1 := by
  have := List.mem_zipIdx_iff_getElem?.mp hp
  obtain ⟨h1, h2⟩ := List.getElem?_eq_some_iff.mp this
  exact ⟨h1, h2⟩

theorem bulk_nodes {b : Engine} (hb : IsBulk ns es b) (hnd : (ns.map (·.ext)).Nodup) :
    b.nodes = (bulkGraph ns es).nodes ∧ b.nodesSnap = (bulkGraph ns es).nodes ∧
    ∀ n, (bulkGraph ns es).live n = true ↔ n < ns.length := by
  obtain ⟨g1, g2, _⟩ := txLoad_graph ns es hnd
  have hlen : (IdMap.load (bulkI2e ns es)).i2e.length = ns.length := by simp [IdMap.load, bulkI2e]
  have hlen2 : (IdMap.load (bulkI2e ns es)).i2l.length = ns.length := by simp [IdMap.load, bulkI2e]
  have hgn : (bulkGraph ns es).nodes = List.range ns.length := by
    unfold Graph.nodes bulkGraph
    rw [g1, g2]
    apply List.filter_eq_self.mpr; intro n _; rfl
  refine ⟨?_, ?_, ?_⟩
  · unfold Engine.nodes liveNodeIds
    rw [hb.idmap, hb.runs, hlen, hgn]
    apply List.filter_eq_self.mpr; intro n _; rfl
  · unfold Engine.nodesSnap liveNodeIds
    rw [hb.idmap, hb.runs, hlen2, hgn]
    apply List.filter_eq_self.mpr; intro n _; rfl
  · intro n
    rw [live_iff]
    show n < (bulkGraph ns es).next ∧ n ∉ (bulkGraph ns es).dead ↔ _
    unfold bulkGraph
    rw [g1, g2]; simp

theorem bulk_ext_mem (hnd : (ns.map (·.ext)).Nodup) (n x : Nat) :
    (n, x) ∈ (bulkGraph ns es).ext ↔ ∃ r, (bulkI2e ns es)[n]? = some r ∧ r.ext = x := by
  unfold bulkI2e
  rw [bulkGraph_ext ns es hnd]
  simp only [List.mem_reverse, List.mem_map, Prod.mk.injEq, List.getElem?_map, Option.map_eq_some_iff]
  constructor
  · rintro ⟨p, hp, rfl, rfl⟩
    exact ⟨_, ⟨p.1, List.mem_zipIdx_iff_getElem?.mp hp, rfl⟩, rfl⟩
  · rintro ⟨_, ⟨m, hm, rfl⟩, rfl⟩
    exact ⟨(m, n), List.mem_zipIdx_iff_getElem?.mpr hm, rfl, rfl⟩

theorem bulk_ext {b : Engine} (hb : IsBulk ns es b) (hnd : (ns.map (·.ext)).Nodup) (hz : ∀ n ∈ ns, n.ext ≠ 0)
    (n : Nat) (hn : n < ns.length) :
    b.resolveExternal n = (bulkGraph ns es).extOf n := by
  have hi : (IdMap.load (bulkI2e ns es)).i2e[n]? = some ⟨ns[n].ext, ((bulkInterner ns es).getId ns[n].label).getD 0⟩ :=
    bulkI2e_get ns es n hn
  have hid : ((bulkGraph ns es).ext.map (·.1)).Nodup := by
    rw [bulkGraph_ext ns es hnd, List.map_reverse, (List.reverse_perm _).nodup_iff, List.map_map]
    show (ns.zipIdx.map Prod.snd).Nodup
    rw [List.zipIdx_map_snd]; exact List.nodup_range'
  unfold Engine.resolveExternal
  rw [hb.idmap, hi, (extOf_eq_some_iff hid n ns[n].ext).mpr ((bulk_ext_mem ns es hnd n _).mpr ⟨_, bulkI2e_get ns es n hn, rfl⟩)]
  simp [hz _ (List.getElem_mem hn)]

theorem bulk_labels {b : Engine} (hb : IsBulk ns es b) (hnd : (ns.map (·.ext)).Nodup)
    (n : Nat) (hn : n < ns.length) (l : Nat) :
    l ∈ b.nodeLabelNames n ↔ (bulkGraph ns es).hasLabel n l = true := by
  obtain ⟨_, _, _, g4, _⟩ := txLoad_graph ns es hnd
  obtain ⟨i, hi1, hi2⟩ := bulk_getId ns es ns[n].label (label_interned ns es ns[n] (List.getElem_mem hn))
  have hl : (IdMap.load (bulkI2e ns es)).i2l[n]? = some [i] := by
    show ((bulkI2e ns es).map (fun r => [r.label]))[n]? = _
    rw [List.getElem?_map, bulkI2e_get ns es n hn]
    simp [hi1]
  unfold Engine.nodeLabelNames Engine.nodeLabels Graph.hasLabel bulkGraph
  rw [hb.idmap, hb.interner, hl, g4]
  simp only [Option.getD_some, List.filterMap_cons, List.filterMap_nil, Interner.getName, hi2, List.mem_singleton,
    List.contains_eq_mem, decide_eq_true_eq, List.mem_reverse, List.mem_map]
  constructor
  · intro h; subst h
    exact ⟨(ns[n], n), zip_mem ns n hn, rfl⟩
  · rintro ⟨p, hp, hpe⟩
    obtain ⟨h1, h2⟩ := zip_mem_inv ns p hp
    simp only [Prod.mk.injEq] at hpe
    obtain ⟨e1, e2⟩ := hpe
    subst e1
    rw [← e2, ← h2]

theorem bulk_extLookup {b : Engine} (hb : IsBulk ns es b) (hnd : (ns.map (·.ext)).Nodup) (hz : ∀ n ∈ ns, n.ext ≠ 0)
    (x : Nat) : b.lookupInternal x = (bulkGraph ns es).extLookup x := by
  have hmem := bulk_ext_mem ns es hnd
  unfold Engine.lookupInternal Graph.extLookup
  rw [hb.idmap, bulkGraph_dead ns es hnd]
  simp only [List.contains_nil, Bool.not_false, Bool.and_true]
  rw [← lookup_swap]
  refine load_lookup_of_ext _ _ hmem (fun p hp => ?_) ?_ x
  · obtain ⟨r, hr, hx⟩ := (hmem p.1 p.2).mp hp
    obtain ⟨h1, h2⟩ := bulkI2e_inv ns es p.1 r hr
    rw [← hx, h2]; exact hz _ (List.getElem_mem h1)
  · rw [bulkGraph_ext ns es hnd, List.map_reverse, (List.reverse_perm _).nodup_iff, List.map_map]
    show (ns.zipIdx.map (BulkNode.ext ∘ Prod.fst)).Nodup
    rw [← List.map_map, List.zipIdx_map_fst]; exact hnd

/-! ### properties -/

/-- the relationship of the engine a bulk edge stands for (type by ID) -/
def edgeOf (e : BulkEdge) : Edge :=
  ⟨bulkIid ns e.src, ((bulkInterner ns es).getId e.rel).getD 0, bulkIid ns e.dst⟩

def edgeInsM : List ((Edge × Nat) × PV) :=
  es.flatMap (fun e => e.props.map (fun kv => ((edgeOf ns es e, kv.1), kv.2)))

theorem bulkStore_eq :
    bulkStore ns es =
      ((edgeInsM ns es).map (fun p => (SKey.edge p.1.1 p.1.2, p.2))).reverse ++
      ((nodeIns ns.zipIdx).map (fun p => (SKey.node p.1.1 p.1.2, p.2))).reverse := by
  unfold nodeIns edgeInsM
  simp only [List.map_flatMap, List.map_map]
  unfold bulkStore edgeOf
  rw [List.reverse_append]
  rfl

theorem isBulk_visible {b : Engine} (hb : IsBulk ns es b) : b.visibleStore = bulkStore ns es := by
  unfold Engine.visibleStore
  rw [hb.propsRoot, hb.storeRoot, hb.store]; rfl

theorem bulk_nprop {b : Engine} (hb : IsBulk ns es b) (hnd : (ns.map (·.ext)).Nodup) (n k : Nat) :
    b.nodeProp n k = (bulkGraph ns es).nprop n k := by
  obtain ⟨_, _, _, _, g5, _⟩ := txLoad_graph ns es hnd
  unfold Engine.nodeProp Graph.nprop bulkGraph
  rw [hb.runs, isBulk_visible ns es hb, g5, lookup_setAll]
  simp only [npropRuns, Store.get]
  rw [bulkStore_eq, List.lookup_append, ← List.map_reverse, ← List.map_reverse, lookup_map_node_edge, lookup_map_node]
  cases (nodeIns ns.zipIdx).reverse.lookup (n, k) <;> rfl

/-- id and name of a relationship type denote the same bulk edges; an equation of Booleans, the shape
    `lookup_two_keys` and `count_map_congr` take -/
theorem edge_key_iff (e : BulkEdge) (he : e ∈ es) (a r c nm : Nat) (hr : (bulkInterner ns es)[r]? = some nm) :
    (edgeOf ns es e == (⟨a, r, c⟩ : Edge)) = (relOf ns e == (⟨a, nm, c⟩ : Rel)) := by
  obtain ⟨i, hi1, hi2⟩ := bulk_getId ns es e.rel (rel_interned ns es e he)
  have hiff : i = r ↔ e.rel = nm := by
    constructor
    · intro h; subst h; rw [hi2] at hr; cases hr; rfl
    · intro h; subst h; exact name_inj _ (bulkInterner_nodup ns es) i r _ hi2 hr
  rw [Bool.eq_iff_iff]
  simp only [beq_iff_eq, edgeOf, relOf, hi1, Option.getD_some, Edge.mk.injEq, Rel.mk.injEq]
  constructor
  · rintro ⟨h1, h2, h3⟩; exact ⟨h1, hiff.mp h2, h3⟩
  · rintro ⟨h1, h2, h3⟩; exact ⟨h1, hiff.mpr h2, h3⟩

theorem bulk_eprop {b : Engine} (hb : IsBulk ns es b) (hnd : (ns.map (·.ext)).Nodup)
    (r nm a c k : Nat) (hr : b.interner[r]? = some nm) :
    b.edgeProp ⟨a, r, c⟩ k = (bulkGraph ns es).eprop ⟨a, nm, c⟩ k := by
  obtain ⟨_, _, _, _, _, _, g7⟩ := txLoad_graph ns es hnd
  rw [hb.interner] at hr
  unfold Engine.edgeProp Graph.eprop bulkGraph
  rw [hb.runs, isBulk_visible ns es hb, g7, lookup_setAll]
  simp only [epropRuns, Store.get]
  rw [bulkStore_eq, List.lookup_append, ← List.map_reverse, ← List.map_reverse, lookup_map_edge, lookup_map_edge_node]
  simp only [Option.or_none]
  -- the two insertion lists come from the same pairs (edge, key/value)
  let X : List (BulkEdge × (Nat × PV)) := es.flatMap (fun e => e.props.map (fun kv => (e, kv)))
  have hM : edgeInsM ns es = X.map (fun x => ((edgeOf ns es x.1, x.2.1), x.2.2)) := by
    unfold edgeInsM
    simp only [X, List.map_flatMap, List.map_map]; rfl
  have hS : edgeInsSpec ns es = X.map (fun x => ((relOf ns x.1, x.2.1), x.2.2)) := by
    unfold edgeInsSpec
    simp only [X, List.map_flatMap, List.map_map]; rfl
  rw [hM, hS, ← List.map_reverse, ← List.map_reverse]
  have := lookup_two_keys X.reverse (fun x => (edgeOf ns es x.1, x.2.1)) (fun x => (relOf ns x.1, x.2.1))
    (fun x => x.2.2) ((⟨a, r, c⟩ : Edge), k) ((⟨a, nm, c⟩ : Rel), k) (by
      intro x hx
      have hxm : x ∈ X := List.mem_reverse.mp hx
      obtain ⟨e, he, hxe⟩ := List.mem_flatMap.mp hxm
      obtain ⟨kv, _, rfl⟩ := List.mem_map.mp hxe
      have := edge_key_iff ns es e he a r c nm hr
      rw [Bool.eq_iff_iff] at this ⊢
      simp only [beq_iff_eq, Prod.mk.injEq] at this ⊢
      constructor
      · rintro ⟨h1, h2⟩; exact ⟨this.mp h1, h2⟩
      · rintro ⟨h1, h2⟩; exact ⟨this.mpr h1, h2⟩)
  rw [this]
  cases (X.reverse.map (fun x => ((relOf ns x.1, x.2.1), x.2.2))).lookup ((⟨a, nm, c⟩ : Rel), k) <;> rfl

/-! ### neighbours -/

theorem bulkEdges_eq : bulkEdges ns es = es.map (edgeOf ns es) := rfl

theorem count_map_congr {α β γ} [BEq β] [LawfulBEq β] [BEq γ] [LawfulBEq γ] (l : List α) (f : α → β) (f' : α → γ)
    (x : β) (x' : γ) (h : ∀ a ∈ l, (f a == x) = (f' a == x')) : (l.map f).count x = (l.map f').count x' := by
  induction l with
  | nil => rfl
  | cons a as ih =>
    rw [List.map_cons, List.map_cons, List.count_cons, List.count_cons, h a List.mem_cons_self,
      ih (fun b hb => h b (List.mem_cons_of_mem _ hb))]

theorem edgeOf_interned (e : BulkEdge) (he : e ∈ es) : ∃ nm, (bulkInterner ns es)[(edgeOf ns es e).rel]? = some nm := by
  obtain ⟨i, hi1, hi2⟩ := bulk_getId ns es e.rel (rel_interned ns es e he)
  exact ⟨e.rel, by simp only [edgeOf, hi1, Option.getD_some]; exact hi2⟩

/-- the one segment of the bulk database, read in either direction: no run, no blocked edge -/
theorem bulk_read (d : Dir) {b : Engine} (hb : IsBulk ns es b) (n : Nat) (rel : Option Nat) (l0 : List Edge)
    (hl0 : d.seg (buildForward 0 (bulkEdges ns es)).persist n rel = some l0) : d.read b n rel = some l0 := by
  unfold Dir.read
  rw [hb.runs, hb.segs]
  simp only [Dir.runs, List.contains_nil, Bool.false_eq_true, if_false]
  rw [mapM_cons_some, hl0]
  have : l0.filter (fun e => !d.blocked [] [] e) = l0 :=
    List.filter_eq_self.mpr (fun e _ => by rw [d.blocked_nil]; rfl)
  simp [this]

/-- the loaded relationships under an engine-side filter `p` against the Spec relationships under the
    Spec-side filter `q`, when the two filters agree on every interned type -/
theorem bulk_counts {b : Engine} (hb : IsBulk ns es b) (p : Edge → Bool) (q : Rel → Bool)
    (hpq : ∀ r nm a c, (bulkInterner ns es)[r]? = some nm → p ⟨a, r, c⟩ = q ⟨a, nm, c⟩)
    (l0 : List Edge) (hperm : l0.Perm ((bulkEdges ns es).filter p)) :
    (∀ e ∈ l0, ∃ nm, b.interner[e.rel]? = some nm) ∧
    ∀ r nm a c, b.interner[r]? = some nm →
      l0.count ⟨a, r, c⟩ = (((es.map (relOf ns)).reverse).filter q).count ⟨a, nm, c⟩ := by
  constructor
  · intro e he
    have hmem := (List.mem_filter.mp (hperm.mem_iff.mp he)).1
    rw [bulkEdges_eq] at hmem
    obtain ⟨e0, he0, rfl⟩ := List.mem_map.mp hmem
    rw [hb.interner]; exact edgeOf_interned ns es e0 he0
  · intro r nm a c hr
    rw [hb.interner] at hr
    rw [hperm.count_eq, count_filter_ite, count_filter_ite, hpq r nm a c hr]
    split
    · rw [List.count_reverse, bulkEdges_eq]
      exact count_map_congr es _ _ _ _ (fun e he => edge_key_iff ns es e he a r c nm hr)
    · rfl

theorem bulk_out {b : Engine} (hb : IsBulk ns es b) (hnd : (ns.map (·.ext)).Nodup)
    (n : Nat) (rel t : Option Nat) (hm : RelMatch b rel t) :
    ∃ el, b.neighbors n rel = some el ∧ (∀ e ∈ el, ∃ nm, b.interner[e.rel]? = some nm) ∧
      ∀ r nm a c, b.interner[r]? = some nm → el.count ⟨a, r, c⟩ = ((bulkGraph ns es).out n t).count ⟨a, nm, c⟩ := by
  obtain ⟨_, _, _, _, _, g6, _⟩ := txLoad_graph ns es hnd
  obtain ⟨l0, hl0, hperm⟩ := buildForward_neighbors 0 (bulkEdges ns es) n rel
  obtain ⟨h1, h2⟩ := bulk_counts ns es hb _ (fun e => e.src == n && Graph.relOk t e)
    (fun r nm a c hr => by simp only [hm.relOk (hb.interner ▸ bulkInterner_nodup ns es) (hb.interner ▸ hr) a c]) l0 hperm
  refine ⟨l0, ?_, h1, ?_⟩
  · rw [neighbors_eq_dir]
    exact bulk_read ns es Dir.out hb n rel l0 hl0
  · unfold Graph.out bulkGraph
    rw [g6]; exact h2

theorem bulk_inc {b : Engine} (hb : IsBulk ns es b) (hnd : (ns.map (·.ext)).Nodup)
    (n : Nat) (rel t : Option Nat) (hm : RelMatch b rel t) :
    ∃ el, b.incoming Cfg.current n rel = some el ∧ (∀ e ∈ el, ∃ nm, b.interner[e.rel]? = some nm) ∧
      ∀ r nm a c, b.interner[r]? = some nm → el.count ⟨a, r, c⟩ = ((bulkGraph ns es).inc n t).count ⟨a, nm, c⟩ := by
  obtain ⟨_, _, _, _, _, g6, _⟩ := txLoad_graph ns es hnd
  obtain ⟨l0, hl0, hperm⟩ := built_incoming Cfg.current.csrGuard 0 (bulkEdges ns es) n rel (Or.inl (by decide))
  obtain ⟨h1, h2⟩ := bulk_counts ns es hb _ (fun e => e.dst == n && Graph.relOk t e)
    (fun r nm a c hr => by simp only [hm.relOk (hb.interner ▸ bulkInterner_nodup ns es) (hb.interner ▸ hr) a c]) l0 hperm
  refine ⟨l0, ?_, h1, ?_⟩
  · rw [incoming_eq_dir]
    exact bulk_read ns es (Dir.inc Cfg.current.csrGuard) hb n rel l0 hl0
  · unfold Graph.inc bulkGraph
    rw [g6]; exact h2

end

end Nervus.Storage
