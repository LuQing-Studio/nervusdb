/-
  Proofs.CrashLog — how one transaction extends the log: any proper prefix of its records leaves
  the committed list (and everything recovery derives from it) unchanged, the complete block
  appends exactly this transaction; what `scan`, `flatOps`, `logRuns` and the invariants `LogOK`,
  `StoreOK` become on the extended list.
-/
import Nervus.Proofs.CrashRep
namespace Nervus.Crash

def txBody (base : Nat) (tx : Tx) : List Rec :=
  nodeRecs base tx.nodes ++ tx.edges.map .edge ++ tx.props.map .prop

theorem txRecs_eq (t base : Nat) (tx : Tx) : txRecs t base tx = .begin t :: txBody base tx ++ [.commit t] := by
  simp [txRecs, txBody]

theorem nodeRecs_isOp : ∀ (base : Nat) (xs : List Nat), ∀ r ∈ nodeRecs base xs, IsOp r
  | _, [], r, h => by simp [nodeRecs] at h
  | base, x :: xs, r, h => by
    simp [nodeRecs] at h
    rcases h with rfl | h
    · trivial
    · exact nodeRecs_isOp (base + 1) xs r h

theorem txBody_isOp (base : Nat) (tx : Tx) : ∀ r ∈ txBody base tx, IsOp r := by
  intro r h
  simp only [txBody, List.mem_append, List.mem_map] at h
  rcases h with (h | ⟨e, _, rfl⟩) | ⟨q, _, rfl⟩
  · exact nodeRecs_isOp _ _ r h
  · trivial
  · trivial

theorem committed_runP {rs : List Rec} {cs : List CTx} (h : committed rs = .ok cs) :
    ∃ cur pend acc, runP rs none [] [] = .ok (cur, pend, acc) ∧ acc.reverse = cs := by
  rw [committed_eq] at h
  cases hr : runP rs none [] [] with
  | error e => rw [hr] at h; simp [Except.map] at h
  | ok s =>
    rw [hr] at h
    simp only [Except.map, Except.ok.injEq] at h
    exact ⟨s.1, s.2.1, s.2.2, rfl, h⟩

theorem committed_partial_ops {rs0 : List Rec} {cs : List CTx} (h : committed rs0 = .ok cs)
    (t : Nat) (ops : List Rec) (hops : ∀ r ∈ ops, IsOp r) (i : Nat) (hi : i ≤ ops.length + 1) :
    committed (rs0 ++ (Rec.begin t :: ops ++ [Rec.commit t]).take i) = .ok cs := by
  obtain ⟨cur, pend, acc, hr, hacc⟩ := committed_runP h
  rw [committed_eq, runP_append, hr]
  simp only
  cases i with
  | zero => simp [runP, Except.map, hacc]
  | succ i =>
    have : (Rec.begin t :: ops ++ [Rec.commit t]).take (i + 1) = .begin t :: ops.take i := by
      simp only [List.cons_append, List.take_succ_cons, List.cons.injEq, true_and]
      rw [List.take_append_of_le_length (by omega)]
    rw [this, runP_partial _ (fun r hr => hops r (List.mem_of_mem_take hr))]
    simp [Except.map, hacc]

theorem committed_full_ops {rs0 : List Rec} {cs : List CTx} (h : committed rs0 = .ok cs) (t : Nat) (ops : List Rec)
    (hops : ∀ r ∈ ops, IsOp r) :
    committed (rs0 ++ (Rec.begin t :: ops ++ [Rec.commit t])) = .ok (cs ++ [⟨t, ops⟩]) := by
  obtain ⟨cur, pend, acc, hr, hacc⟩ := committed_runP h
  rw [committed_eq, runP_append, hr]
  simp only
  rw [runP_block _ hops]
  simp [Except.map, hacc]

theorem committed_partial {rs0 : List Rec} {cs : List CTx} (h : committed rs0 = .ok cs)
    (t base : Nat) (tx : Tx) (i : Nat) (hi : i ≤ (txBody base tx).length + 1) :
    committed (rs0 ++ (txRecs t base tx).take i) = .ok cs := by
  rw [txRecs_eq]
  exact committed_partial_ops h t _ (txBody_isOp base tx) i hi

theorem committed_full {rs0 : List Rec} {cs : List CTx} (h : committed rs0 = .ok cs) (t base : Nat) (tx : Tx) :
    committed (rs0 ++ txRecs t base tx) = .ok (cs ++ [⟨t, txBody base tx⟩]) := by
  rw [txRecs_eq]
  exact committed_full_ops h t _ (txBody_isOp base tx)

theorem scanOp_isData (s : RScan) (r : Rec) (h : ∀ ep sg pr pt, r ≠ .manifest ep sg pr pt)
    (h' : ∀ up ep pr pt, r ≠ .checkpoint up ep pr pt) : scanOp s r = s := by
  cases r <;> simp [scanOp]
  case manifest ep sg pr pt => exact absurd rfl (h ep sg pr pt)
  case checkpoint up ep pr pt => exact absurd rfl (h' up ep pr pt)

theorem nodeRecs_data : ∀ (base : Nat) (xs : List Nat) (s : RScan), (nodeRecs base xs).foldl scanOp s = s
  | _, [], s => rfl
  | base, x :: xs, s => by simp [nodeRecs, scanOp, nodeRecs_data (base + 1) xs s]

theorem foldl_scanOp_body (s : RScan) (base : Nat) (tx : Tx) : (txBody base tx).foldl scanOp s = s := by
  simp only [txBody, List.foldl_append, nodeRecs_data]
  have h1 : ∀ (es : List Nat) (s : RScan), (es.map Rec.edge).foldl scanOp s = s := by
    intro es; induction es with
    | nil => intro s; rfl
    | cons e es ih => intro s; simp [scanOp, ih]
  have h2 : ∀ (qs : List Nat) (s : RScan), (qs.map Rec.prop).foldl scanOp s = s := by
    intro qs; induction qs with
    | nil => intro s; rfl
    | cons q qs ih => intro s; simp [scanOp, ih]
  rw [h1, h2]

theorem scan_snoc_body (cs : List CTx) (t base : Nat) (tx : Tx) :
    scan (cs ++ [⟨t, txBody base tx⟩]) = { scan cs with maxTxid := max (scan cs).maxTxid t } := by
  simp [scan, List.foldl_append, scanTx, foldl_scanOp_body]

theorem scanOp_maxTxid (s : RScan) (r : Rec) : (scanOp s r).maxTxid = s.maxTxid := by
  cases r with
  | manifest ep segs pr pt => simp only [scanOp]; split <;> rfl
  | checkpoint up ep pr pt => simp only [scanOp]; split <;> rfl
  | _ => rfl

theorem scan_snoc_maxTxid (cs : List CTx) (x : CTx) : (scan (cs ++ [x])).maxTxid = max (scan cs).maxTxid x.txid := by
  have h (ops : List Rec) (s : RScan) : (ops.foldl scanOp s).maxTxid = s.maxTxid :=
    List.foldlRecOn ops scanOp (motive := fun s' => s'.maxTxid = s.maxTxid) rfl fun s' ih r _ =>
      (scanOp_maxTxid s' r).trans ih
  simp only [scan, List.foldl_append, List.foldl_cons, List.foldl_nil, scanTx, h]

theorem flatOps_append (ckpt : Nat) (a b : List CTx) : flatOps ckpt (a ++ b) = flatOps ckpt a ++ flatOps ckpt b := by
  induction a with
  | nil => rfl
  | cons x a ih => by_cases h : x.txid ≤ ckpt <;> simp [flatOps, h, ih]

theorem logRuns_append (ckpt : Nat) (a b : List CTx) : logRuns ckpt (a ++ b) = logRuns ckpt a ++ logRuns ckpt b := by
  induction a with
  | nil => rfl
  | cons x a ih =>
    by_cases h : x.txid ≤ ckpt
    · simp [logRuns, h, ih]
    · by_cases h2 : ((runOf x).edges.isEmpty && (runOf x).props.isEmpty) = true <;> simp [logRuns, h, h2, ih]

theorem nodesOfOps_nodeRecs : ∀ (base : Nat) (xs : List Nat),
    nodesOfOps (nodeRecs base xs) = (List.range xs.length).map (fun j => (getSlot xs j, base + j))
  | _, [] => rfl
  | base, x :: xs => by
    rw [nodeRecs, nodesOfOps, nodesOfOps_nodeRecs (base + 1) xs]
    simp only [List.length_cons, List.range_succ_eq_map, List.map_cons, List.map_map, getSlot]
    congr 1
    apply List.map_congr_left
    intro j _
    simp [getSlot]; omega

theorem nodesOfOps_edges (es : List Nat) : nodesOfOps (es.map Rec.edge) = [] := by
  induction es with
  | nil => rfl
  | cons e es ih => simp [nodesOfOps, ih]

theorem nodesOfOps_props (qs : List Nat) : nodesOfOps (qs.map Rec.prop) = [] := by
  induction qs with
  | nil => rfl
  | cons q qs ih => simp [nodesOfOps, ih]

theorem edgesOf_body (base : Nat) (tx : Tx) : edgesOf (txBody base tx) = tx.edges := by
  have h1 : ∀ (b : Nat) (xs : List Nat) (r : List Rec), edgesOf (nodeRecs b xs ++ r) = edgesOf r := by
    intro b xs; induction xs generalizing b with
    | nil => intro r; rfl
    | cons x xs ih => intro r; simp [nodeRecs, edgesOf, ih]
  have h2 : ∀ (es : List Nat) (r : List Rec), edgesOf (es.map Rec.edge ++ r) = es ++ edgesOf r := by
    intro es; induction es with
    | nil => intro r; rfl
    | cons e es ih => intro r; simp [edgesOf, ih]
  have h3 : ∀ (qs : List Nat), edgesOf (qs.map Rec.prop) = [] := by
    intro qs; induction qs with
    | nil => rfl
    | cons q qs ih => simp [edgesOf, ih]
  simp [txBody, List.append_assoc, h1, h2, h3]

theorem propsOf_body (base : Nat) (tx : Tx) : propsOf (txBody base tx) = tx.props := by
  have h1 : ∀ (b : Nat) (xs : List Nat) (r : List Rec), propsOf (nodeRecs b xs ++ r) = propsOf r := by
    intro b xs; induction xs generalizing b with
    | nil => intro r; rfl
    | cons x xs ih => intro r; simp [nodeRecs, propsOf, ih]
  have h2 : ∀ (es : List Nat) (r : List Rec), propsOf (es.map Rec.edge ++ r) = propsOf r := by
    intro es; induction es with
    | nil => intro r; rfl
    | cons e es ih => intro r; simp [propsOf, ih]
  have h3 : ∀ (qs : List Nat), propsOf (qs.map Rec.prop) = qs := by
    intro qs; induction qs with
    | nil => rfl
    | cons q qs ih => simp [propsOf, ih]
  simp [txBody, List.append_assoc, h1, h2, h3]

theorem logRuns_snoc_body (ckpt : Nat) (cs : List CTx) (t base : Nat) (tx : Tx) (hnle : ¬ t ≤ ckpt) :
    logRuns ckpt (cs ++ [⟨t, txBody base tx⟩]) = logRuns ckpt cs ++
      (if tx.edges.isEmpty && tx.props.isEmpty then [] else [{ txid := t, edges := tx.edges, props := tx.props }]) := by
  rw [logRuns_append]
  simp only [logRuns, runOf, hnle, if_false, edgesOf_body, propsOf_body]

theorem logRuns_snoc_edges (ckpt : Nat) (cs : List CTx) (t base : Nat) (tx : Tx) (hnle : ¬ t ≤ ckpt) :
    (logRuns ckpt (cs ++ [⟨t, txBody base tx⟩])).flatMap (·.edges) = (logRuns ckpt cs).flatMap (·.edges) ++ tx.edges := by
  rw [logRuns_snoc_body _ _ _ _ _ hnle, List.flatMap_append]
  split
  · simp_all
  · simp

theorem logRuns_snoc_props (ckpt : Nat) (cs : List CTx) (t base : Nat) (tx : Tx) (hnle : ¬ t ≤ ckpt) :
    (logRuns ckpt (cs ++ [⟨t, txBody base tx⟩])).flatMap (·.props) = (logRuns ckpt cs).flatMap (·.props) ++ tx.props := by
  rw [logRuns_snoc_body _ _ _ _ _ hnle, List.flatMap_append]
  split
  · simp_all
  · simp

/-- the log invariant after one more committed transaction with a larger id: the conditions on
    the transaction ids carry over, the node list and its replayed part are the caller's -/
theorem LogOK.snoc_tail {T T' : List Tx} {cs : List CTx} {c c' : Nat} (h : LogOK T cs c) (x : CTx)
    (ht : (scan cs).maxTxid < x.txid) (hck : (scan (cs ++ [x])).ckpt ≤ x.txid)
    (nodup : (allNodes T').Nodup) (nozero : 0 ∉ allNodes T') (cle : c' ≤ (allNodes T').length)
    (nodes : nodesOfOps (flatOps (scan (cs ++ [x])).ckpt (cs ++ [x])) =
      seqFrom (allNodes T') c' ((allNodes T').length - c')) : LogOK T' (cs ++ [x]) c' := by
  have hmx := scan_snoc_maxTxid cs x
  refine ⟨nodup, nozero, cle, nodes, by omega, ?_, ?_⟩
  · unfold TxMono
    rw [List.pairwise_append]
    refine ⟨h.mono, by simp, ?_⟩
    intro a ha b hb
    rw [List.mem_singleton.mp hb]
    exact Nat.lt_of_le_of_lt (h.maxle a ha) ht
  · intro a ha
    rw [hmx]
    rcases List.mem_append.mp ha with ha | ha
    · exact Nat.le_trans (h.maxle a ha) (Nat.le_max_left _ _)
    · rw [List.mem_singleton.mp ha]
      exact Nat.le_max_right _ _

/-- the store invariant reads the log only through the manifest (`segs`, `proot`, `ptop` of the
    scan) and the edges and properties of the replayed runs: it carries over to a log with the same
    manifest whose runs hold `es`, `qs` more, for a history that holds the same more -/
theorem StoreOK.extend {T T' : List Tx} {cs cs' : List CTx} {p : PImg} (h : StoreOK T cs p) (es qs : List Nat)
    (hsegs : (scan cs').segs = (scan cs).segs) (hroot : (scan cs').proot = (scan cs).proot)
    (htop : (scan cs').ptop = (scan cs).ptop)
    (hre : (logRuns (scan cs').ckpt cs').flatMap (·.edges) = (logRuns (scan cs).ckpt cs).flatMap (·.edges) ++ es)
    (hrp : (logRuns (scan cs').ckpt cs').flatMap (·.props) = (logRuns (scan cs).ckpt cs).flatMap (·.props) ++ qs)
    (hE : allEdges T' = allEdges T ++ es) (hP : allProps T' = allProps T ++ qs) : StoreOK T' cs' p := by
  refine ⟨by rw [hsegs]; exact h.segs, h.segKeys, h.treeKeys, ?_, ?_, ?_⟩
  · intro e
    rw [hsegs, hre, hE, ← List.append_assoc, List.mem_append, h.edges e, List.mem_append]
  · intro q hq
    rw [hrp] at hq
    rw [hP]
    rcases List.mem_append.mp hq with hq | hq
    · exact List.mem_append_left _ (h.runProps q hq)
    · exact List.mem_append_right _ hq
  · obtain ⟨cov, h1, h2, h3⟩ := h.props
    refine ⟨cov, ?_, by rw [hroot]; exact h2, ?_⟩
    · intro q hq
      rw [hrp]
      rw [hP] at hq
      rcases List.mem_append.mp hq with hq | hq
      · exact (h1 q hq).imp (List.mem_append_left _) id
      · exact Or.inl (List.mem_append_right _ hq)
    · rw [hroot, htop]
      intro hne
      obtain ⟨tr, hf, hto⟩ := h3 hne
      obtain ⟨X, hs, ha, hc⟩ := hto.shape
      exact ⟨tr, hf, ⟨⟨X, hs, fun q hq => by rw [hP]; exact List.mem_append_left _ (ha q hq), hc⟩⟩⟩

theorem getSlot_append_left : ∀ (N M : List Nat) (i : Nat), i < N.length → getSlot (N ++ M) i = getSlot N i
  | [], _, i, h => by simp at h
  | x :: N, M, 0, _ => rfl
  | x :: N, M, i + 1, h => by simpa [getSlot] using getSlot_append_left N M i (by simp at h; omega)

theorem getSlot_append_right : ∀ (N M : List Nat) (j : Nat), getSlot (N ++ M) (N.length + j) = getSlot M j
  | [], M, j => by simp
  | x :: N, M, j => by
    have := getSlot_append_right N M j
    simp only [List.cons_append, List.length_cons]
    rw [show N.length + 1 + j = (N.length + j) + 1 by omega]
    simpa [getSlot] using this

theorem seqFrom_append_left (N M : List Nat) : ∀ (k i : Nat), i + k ≤ N.length → seqFrom (N ++ M) i k = seqFrom N i k
  | 0, _, _ => rfl
  | k + 1, i, h => by
    simp [seqFrom, getSlot_append_left N M i (by omega), seqFrom_append_left N M k (i + 1) (by omega)]

theorem seqFrom_tail (N M : List Nat) : ∀ (k j : Nat), j + k ≤ M.length →
    seqFrom (N ++ M) (N.length + j) k = (List.range k).map (fun a => (getSlot M (j + a), N.length + j + a))
  | 0, _, _ => rfl
  | k + 1, j, h => by
    rw [seqFrom, getSlot_append_right, show N.length + j + 1 = N.length + (j + 1) by omega,
      seqFrom_tail N M k (j + 1) (by omega), List.range_succ_eq_map]
    simp only [List.map_cons, List.map_map, Nat.add_zero, List.cons.injEq, true_and]
    apply List.map_congr_left
    intro a _
    simp only [Function.comp, Prod.mk.injEq]
    exact ⟨by congr 1; omega, by omega⟩

theorem allNodes_snoc (T : List Tx) (tx : Tx) : allNodes (T ++ [tx]) = allNodes T ++ tx.nodes := by
  simp [allNodes]
theorem allEdges_snoc (T : List Tx) (tx : Tx) : allEdges (T ++ [tx]) = allEdges T ++ tx.edges := by
  simp [allEdges]
theorem allProps_snoc (T : List Tx) (tx : Tx) : allProps (T ++ [tx]) = allProps T ++ tx.props := by
  simp [allProps]

structure FreshTx (T : List Tx) (tx : Tx) : Prop where
  nodup : (allNodes T ++ tx.nodes).Nodup
  nozero : 0 ∉ tx.nodes

theorem logOK_snoc {T : List Tx} {cs : List CTx} {c : Nat} (h : LogOK T cs c) (t : Nat) (tx : Tx)
    (ht : (scan cs).maxTxid < t) (hf : FreshTx T tx) :
    LogOK (T ++ [tx]) (cs ++ [⟨t, txBody (allNodes T).length tx⟩]) c := by
  have hck : (scan (cs ++ [⟨t, txBody (allNodes T).length tx⟩])).ckpt = (scan cs).ckpt := by rw [scan_snoc_body]
  have hnle : ¬ t ≤ (scan cs).ckpt := by have := h.ckptle; omega
  refine h.snoc_tail ⟨t, _⟩ ht (by rw [hck]; exact Nat.le_of_lt (Nat.lt_of_not_le hnle)) ?_ ?_ ?_ ?_
  · rw [allNodes_snoc]; exact hf.nodup
  · rw [allNodes_snoc]; simp [h.nozero, hf.nozero]
  · rw [allNodes_snoc]; simp; have := h.cle; omega
  · rw [hck, flatOps_append, nodesOfOps_append, h.nodes, allNodes_snoc]
    have hfl : flatOps (scan cs).ckpt [⟨t, txBody (allNodes T).length tx⟩] = txBody (allNodes T).length tx := by
      simp [flatOps, hnle]
    rw [hfl]
    have hb : nodesOfOps (txBody (allNodes T).length tx) =
        (List.range tx.nodes.length).map (fun j => (getSlot tx.nodes j, (allNodes T).length + j)) := by
      simp [txBody, nodesOfOps_append, nodesOfOps_nodeRecs, nodesOfOps_edges, nodesOfOps_props]
    rw [hb]
    have hlen : (allNodes T ++ tx.nodes).length - c = ((allNodes T).length - c) + tx.nodes.length := by
      simp; have := h.cle; omega
    rw [hlen, seqFrom_append, seqFrom_append_left _ _ _ _ (by have := h.cle; omega)]
    congr 1
    have hc : c + ((allNodes T).length - c) = (allNodes T).length + 0 := by have := h.cle; omega
    rw [hc, seqFrom_tail _ _ _ 0 (by simp)]
    simp

theorem storeOK_snoc {T : List Tx} {cs : List CTx} {p : PImg} (h : StoreOK T cs p) (t base : Nat) (tx : Tx)
    (ht : (scan cs).ckpt < t) : StoreOK (T ++ [tx]) (cs ++ [⟨t, txBody base tx⟩]) p := by
  have hsc := scan_snoc_body cs t base tx
  have hnle : ¬ t ≤ (scan cs).ckpt := by omega
  have hck : (scan (cs ++ [⟨t, txBody base tx⟩])).ckpt = (scan cs).ckpt := by rw [hsc]
  exact h.extend tx.edges tx.props (by rw [hsc]) (by rw [hsc]) (by rw [hsc])
    (by rw [hck, logRuns_snoc_edges _ _ _ _ _ hnle]) (by rw [hck, logRuns_snoc_props _ _ _ _ _ hnle])
    (allEdges_snoc T tx) (allProps_snoc T tx)

theorem pagerOK_extend {N M : List Nat} {c : Nat} {p : PImg} (h : PagerOK N c p) : PagerOK (N ++ M) c p where
  booted := h.booted
  start := h.start
  lo := h.lo
  hi := by simp; have := h.hi; omega
  slots := fun i hi => by rw [h.slots i hi, getSlot_append_left N M i (by have := h.hi; omega)]

end Nervus.Crash
