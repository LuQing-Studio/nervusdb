/-
  The invariant of the backup system `Model.BackupLTS`.  `SrcInv`: how the counters of page file and log stand to each
  other at each writer program point — enough for the source's own pair to recover to everything committed
  (`SrcInv.good`).  `BkInv`: per backup stage, what the copied page file still guarantees against the CURRENT log, each
  clause guarded by the ghost flag (`sawCompact`, `sawCommit`, `sawAny`) that a writer step raises when it could break
  it; at `bWal` the clauses whose flags are still down are the hypotheses of `good_of` for the copied pair.
-/
import Nervus.Model.BackupLTS
namespace Nervus.BackupLTS

structure SrcInv (s : State) : Prop where
  ckpt_le : s.wal.ckpt ≤ s.wal.txs
  store_le : s.pf.store ≤ s.wal.txs
  ckpt_le_store : s.wal.ckpt ≤ s.pf.store
  ckpt_zero : s.wal.msegs = 0 → s.wal.ckpt = 0
  ckpt_le_nodes : s.wal.ckpt ≤ s.pf.nodes
  first_le : s.wal.first ≤ s.wal.ckpt
  index_eq : s.pf.index = if s.hasIndex then s.wal.txs else 0
  mode : match s.mode with
   | .idle => s.pf.nodes = s.wal.txs ∧ s.pf.segs = s.wal.msegs ∧ s.pf.store = s.wal.ckpt
   | .midCommit => s.pf.nodes + 1 = s.wal.txs ∧ s.pf.segs = s.wal.msegs ∧ s.pf.store = s.wal.ckpt
   | .compact1 => s.pf.nodes = s.wal.txs ∧ s.pf.segs = s.wal.msegs + 1 ∧ s.pf.store = s.wal.ckpt ∧ s.wal.ckpt < s.wal.txs
   | .compact2 => s.pf.nodes = s.wal.txs ∧ s.pf.segs = s.wal.msegs + 1 ∧ s.pf.store = s.wal.txs ∧ s.wal.ckpt < s.wal.txs

theorem SrcInv.bounds {s : State} (h : SrcInv s) : s.pf.nodes ≤ s.wal.txs ∧ s.wal.msegs ≤ s.pf.segs := by
  have := h.mode
  split at this <;> omega

def Good (hasIndex : Bool) (pf0 : PF) (w1 : Wal) (c : Nat) : Prop :=
  ∃ v, recover pf0 w1 = some v ∧ Shows hasIndex v c

def BkInv (s : State) : Prop :=
  match s.bk with
  | .none => True
  | .started c0 => c0 ≤ s.wal.txs ∧ (s.sawAny = false → c0 = s.wal.txs)
  | .copiedPf c0 pf0 =>
    c0 ≤ s.wal.txs ∧ (s.sawAny = false → c0 = s.wal.txs) ∧ pf0.nodes ≤ s.wal.txs ∧ pf0.store ≤ s.wal.txs ∧
    (s.sawCompact = false → s.wal.msegs ≤ pf0.segs ∧ s.wal.ckpt ≤ pf0.nodes ∧ (s.wal.msegs = 0 ∨ s.wal.ckpt ≤ pf0.store)) ∧
    (s.hasIndex = true → s.sawCommit = false → pf0.index = s.wal.txs) ∧ (s.hasIndex = false → pf0.index = 0)
  | .done c0 c1 pf0 w1 =>
    c0 ≤ c1 ∧ (s.sawAny = false → c0 = c1) ∧
    (s.sawCompact = false → (s.hasIndex = true → s.sawCommit = false) → Good s.hasIndex pf0 w1 c1)

structure Inv (s : State) : Prop where
  src : SrcInv s
  bk : BkInv s

theorem inv_init (h0 : Bool) : Inv (init h0) :=
  ⟨⟨Nat.le_refl _, Nat.le_refl _, Nat.le_refl _, fun _ => rfl, Nat.le_refl _, Nat.le_refl _,
    by cases h0 <;> rfl, rfl, rfl, rfl⟩, trivial⟩

theorem good_of (hasIndex : Bool) (pf0 : PF) (w : Wal)
    (hsegs : w.msegs ≤ pf0.segs) (hnodes : w.ckpt ≤ pf0.nodes) (hstore : w.msegs = 0 ∨ w.ckpt ≤ pf0.store)
    (hzero : w.msegs = 0 → w.ckpt = 0) (hnodes_le : pf0.nodes ≤ w.txs) (hstore_le : pf0.store ≤ w.txs)
    (hfirst : w.first ≤ w.ckpt) (hidx : pf0.index = if hasIndex then w.txs else 0) : Good hasIndex pf0 w w.txs := by
  refine ⟨_, by rw [recover, if_neg (Nat.not_lt.2 hsegs), if_neg (Nat.not_lt.2 hnodes), if_neg (Nat.not_lt.2 hfirst)],
    ?_⟩
  refine ⟨Nat.max_eq_right hnodes_le, rfl, fun k => ?_, hidx⟩
  simp only [Content.hasProp]
  split
  · have := hzero ‹_›; omega
  · have := hstore.resolve_left ‹_›; omega

/-- the source's own pair of files recovers to everything committed, at every writer program point -/
theorem SrcInv.good {s : State} (h : SrcInv s) : Good s.hasIndex s.pf s.wal s.wal.txs :=
  good_of _ _ _ h.bounds.2 h.ckpt_le_nodes (Or.inr h.ckpt_le_store) h.ckpt_zero h.bounds.1 h.store_le h.first_le
    h.index_eq

/-! The writer's steps touch the backup's bookkeeping only through the `note…` functions: the log grows,
    and a flag is raised that makes the clause the step could break vacuous. -/

theorem bkInv_noteCommit {s : State} (h : BkInv s) (n : Nat) (m : Mode) (pf : PF) :
    BkInv (noteCommit { s with mode := m, wal := { s.wal with txs := s.wal.txs + n }, pf := pf }) := by
  obtain ⟨_, _, _, _, _, bk, sC, sK, sA⟩ := s
  cases bk <;> simp only [BkInv, noteCommit, between, inBackup, Bool.or_false, Bool.or_true] at h ⊢
  case started => exact ⟨Nat.le_add_right_of_le h.1, nofun⟩
  case copiedPf =>
    obtain ⟨hc0, _, hnodes, hstore, hpf, _, hnoidx⟩ := h
    exact ⟨Nat.le_add_right_of_le hc0, nofun, Nat.le_add_right_of_le hnodes, Nat.le_add_right_of_le hstore, hpf,
      fun _ => nofun, hnoidx⟩
  case done => exact h

theorem bkInv_noteCompact {s : State} (h : BkInv s) (c k : Nat) (m : Mode) (pf : PF) :
    BkInv (noteCompact { s with mode := m, wal := { s.wal with ckpt := c, msegs := k }, pf := pf }) := by
  obtain ⟨_, _, _, _, _, bk, sC, sK, sA⟩ := s
  cases bk <;> simp only [BkInv, noteCompact, between, inBackup, Bool.or_false, Bool.or_true] at h ⊢
  case started => exact ⟨h.1, nofun⟩
  case copiedPf =>
    obtain ⟨hc0, _, hnodes, hstore, _, hidx, hnoidx⟩ := h
    exact ⟨hc0, nofun, hnodes, hstore, nofun, hidx, hnoidx⟩
  case done => exact h

theorem bkInv_noteClose {s : State} (h : BkInv s) :
    BkInv (noteClose { s with closed := true, wal := closeWal s.wal }) := by
  obtain ⟨_, _, _, _, _, bk, sC, sK, sA⟩ := s
  cases bk <;> simp only [BkInv, noteClose, closeWal, inBackup, Bool.or_false, Bool.or_true] at h ⊢
  case started => exact ⟨h.1, nofun⟩
  case copiedPf =>
    obtain ⟨h1, _, h⟩ := h
    exact ⟨h1, nofun, h⟩
  case done => exact h

theorem index_succ {b : Bool} {i n : Nat} (h : i = if b then n else 0) :
    (if b then i + 1 else i) = if b then n + 1 else 0 := by
  cases b
  · exact h
  · exact congrArg (· + 1) h

/-- Each writer step changes a few counters: the record update names the clauses of `SrcInv` it touches. -/
theorem inv_step {s s' : State} {l : Label} (hi : Inv s) (hs : step s l = some s') : Inv s' := by
  obtain ⟨h, hbk⟩ := hi
  have hmode := h.mode
  cases l <;> dsimp only [step] at hs <;> split at hs <;> cases hs
  case cW hm =>
    rw [hm.1] at hmode
    exact ⟨{ h with
        ckpt_le := Nat.le_succ_of_le h.ckpt_le
        store_le := Nat.le_succ_of_le h.store_le
        index_eq := index_succ h.index_eq
        mode := And.intro (congrArg (· + 1) hmode.1) hmode.2 },
      bkInv_noteCommit hbk 1 _ _⟩
  case cI hm =>
    rw [hm] at hmode
    exact ⟨{ h with ckpt_le_nodes := Nat.le_succ_of_le h.ckpt_le_nodes, mode := hmode },
      bkInv_noteCommit hbk 0 _ _⟩
  case kP hm =>
    rw [hm.1] at hmode
    exact ⟨{ h with mode := And.intro hmode.1 (And.intro (congrArg (· + 1) hmode.2.1) (And.intro hmode.2.2 hm.2.2)) },
      bkInv_noteCompact hbk _ _ _ _⟩
  case kS hm =>
    rw [hm] at hmode
    exact ⟨{ h with
        store_le := Nat.le_refl _
        ckpt_le_store := h.ckpt_le
        mode := And.intro hmode.1 (And.intro hmode.2.1 (And.intro rfl hmode.2.2.2)) },
      bkInv_noteCompact hbk _ _ _ _⟩
  case kM hm =>
    rw [hm] at hmode
    exact ⟨{ h with
        ckpt_le := Nat.le_refl _
        ckpt_le_store := Nat.le_of_eq hmode.2.2.1.symm
        ckpt_zero := fun h0 => absurd (hmode.2.1.symm.trans h0) (Nat.succ_ne_zero _)
        ckpt_le_nodes := Nat.le_of_eq hmode.1.symm
        first_le := Nat.le_trans h.first_le h.ckpt_le
        mode := And.intro hmode.1 (And.intro rfl hmode.2.2.1) },
      bkInv_noteCompact hbk _ _ _ _⟩
  case close =>
    refine ⟨{ h with first_le := ?_ }, bkInv_noteClose hbk⟩
    show (if s.wal.ckpt = s.wal.txs then s.wal.txs else s.wal.first) ≤ s.wal.ckpt
    split
    · exact Nat.le_of_eq (Eq.symm ‹_›)
    · exact h.first_le
  case reopen => exact ⟨{ h with }, hbk⟩
  -- the backup's own steps bStart, bPf, bWal, bForget leave the source alone; `hb` is the stage each requires
  all_goals rename_i hb; rw [BkInv, hb] at hbk; refine ⟨{ h with }, ?_⟩
  · exact ⟨Nat.le_refl _, fun _ => rfl⟩
  · exact ⟨hbk.1, hbk.2, h.bounds.1, h.store_le,
      fun _ => ⟨h.bounds.2, h.ckpt_le_nodes, Or.inr h.ckpt_le_store⟩,
      fun hx _ => h.index_eq.trans (if_pos hx), fun hx => h.index_eq.trans (if_neg (hx ▸ Bool.false_ne_true))⟩
  · obtain ⟨hc0, hany, hnodes, hstore, hpf, hidx, hnoidx⟩ := hbk
    refine ⟨hc0, hany, fun hk hc => ?_⟩
    obtain ⟨k1, k2, k3⟩ := hpf hk
    refine good_of _ _ s.wal k1 k2 k3 h.ckpt_zero hnodes hstore h.first_le ?_
    cases hx : s.hasIndex
    · exact hnoidx hx
    · exact hidx hx (hc hx)
  · trivial

theorem reach_inv {h0 : Bool} {s : State} (h : Reach (init h0) s) : Inv s := by
  induction h with
  | refl => exact inv_init h0
  | step l _ hs ih => exact inv_step ih hs

theorem reach_of_runTrace {s0 s s' : State} (tr : List Label)
    (h0 : Reach s0 s) (h : runTrace s tr = some s') : Reach s0 s' := by
  induction tr generalizing s with
  | nil => simp [runTrace] at h; subst h; exact h0
  | cons l ls ih =>
    simp only [runTrace] at h
    split at h
    · rename_i s1 hs1; exact ih (Reach.step l h0 hs1) h
    · cases h

end Nervus.BackupLTS
