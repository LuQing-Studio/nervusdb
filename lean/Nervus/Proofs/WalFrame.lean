/-
  The log reader over frames (C17): a frame written by `append` is read back whatever follows it; reading
  decomposes every file into complete valid frames and a tail; fuel is never exhausted.  One `next_record` is
  handled through its closed form on an input split into length field, checksum field and rest
  (`nextRecord_header`), the loop through `IsFrames`, the byte strings that are frames back to back.
-/
import Nervus.Model.WalFrame
import Nervus.Proofs.WalRec
namespace Nervus.WalFrame
open Nervus Nervus.PropVal Nervus.WalRec

/-! ### the checksum fits in a `u32` -/

theorem crcBit_lt {c : Nat} (h : c < 2 ^ 32) : crcBit c < 2 ^ 32 := by
  unfold crcBit
  have h1 : c >>> 1 < 2 ^ 32 := Nat.lt_of_le_of_lt (Nat.shiftRight_le c 1) h
  split
  · exact Nat.xor_lt_two_pow h1 (by decide)
  · exact h1

theorem crcByte_lt {c : Nat} (b : UInt8) (h : c < 2 ^ 32) : crcByte c b < 2 ^ 32 := by
  unfold crcByte
  have hb : b.toNat < 2 ^ 32 := Nat.lt_trans (UInt8.toNat_lt b) (by decide)
  have h0 : c ^^^ b.toNat < 2 ^ 32 := Nat.xor_lt_two_pow h hb
  exact crcBit_lt (crcBit_lt (crcBit_lt (crcBit_lt (crcBit_lt (crcBit_lt (crcBit_lt (crcBit_lt h0)))))))

theorem crcFold_lt (bs : Bytes) : ∀ c, c < 2 ^ 32 → bs.foldl crcByte c < 2 ^ 32 := by
  induction bs with
  | nil => intro c h; exact h
  | cons b bs ih => intro c h; rw [List.foldl_cons]; exact ih _ (crcByte_lt b h)

theorem crc32_lt (bs : Bytes) : crc32 bs < two32 := by
  unfold crc32 two32
  exact Nat.xor_lt_two_pow (crcFold_lt bs _ (by decide)) (by decide)

/-! ### one frame -/

theorem frame_length (body : Bytes) : (frame body).length = 8 + body.length := by
  simp [frame]; omega

theorem frame_append (body rest : Bytes) :
    frame body ++ rest = le4 body.length ++ (le4 (crc32 body) ++ (body ++ rest)) := by simp [frame]

theorem header_split {bs : Bytes} (h : 8 ≤ bs.length) :
    ∃ n c tl, n < two32 ∧ c < two32 ∧ bs = le4 n ++ (le4 c ++ tl) := by
  obtain ⟨n, t1, hn, rfl⟩ := le_split 4 (bs := bs) (by omega)
  obtain ⟨c, tl, hc, rfl⟩ := le_split 4 (bs := t1) (by simp [leBytes_length] at h; omega)
  exact ⟨n, c, tl, hn, hc, rfl⟩

/-- `next_record` in closed form: no `take`/`drop`/length arithmetic is left once the input is written as its
    length field, its checksum field and the rest -/
theorem nextRecord_header (cfg : Cfg) {n c : Nat} (hn : n < two32) (hc : c < two32) (tl : Bytes) :
    nextRecord cfg (le4 n ++ (le4 c ++ tl)) =
      if n > cfg.maxLen then (if cfg.oversizeIsEof then .eof else .err (.tooLarge n))
      else if tl.length < n then .eof
      else if crc32 (tl.take n) ≠ c then .eof
      else match decodeBody cfg.codec (tl.take n) with
        | .ok r => .record r (tl.drop n)
        | .error e => if cfg.undecodableIsEof then .eof else .err (.decode e) := by
  have t4 : (le4 n ++ (le4 c ++ tl)).take 4 = le4 n := List.take_left' (le4_length n)
  have d4 : (le4 n ++ (le4 c ++ tl)).drop 4 = le4 c ++ tl := List.drop_left' (le4_length n)
  have d8 : ∀ k, (le4 n ++ (le4 c ++ tl)).drop (8 + k) = tl.drop k := fun k => by
    simpa using List.drop_length_add_append (l₁ := le4 n ++ le4 c) (l₂ := tl) k
  have e4 : ¬ 4 + (4 + tl.length) < 4 := by omega
  have e8 : ¬ 4 + (4 + tl.length) < 8 := by omega
  have el : 4 + (4 + tl.length) < 8 + n ↔ tl.length < n := by omega
  unfold nextRecord
  simp only [t4, d4, d8 0, d8 n, List.take_left' (le4_length c), leVal_le4 hn, leVal_le4 hc, List.drop_zero,
    List.length_append, le4_length, e4, e8, el, if_false]
  rfl

/-- the cap is tested on the length field before the checksum field is read, so 4..7 bytes can already
    answer `WalRecordTooLarge` -/
theorem nextRecord_lt8 (cfg : Cfg) {bs : Bytes} (h : bs.length < 8) :
    nextRecord cfg bs = .eof ∨ (cfg.oversizeIsEof = false ∧ ∃ n, nextRecord cfg bs = .err (.tooLarge n)) := by
  unfold nextRecord
  by_cases h4 : bs.length < 4
  · exact .inl (if_pos h4)
  rw [if_neg h4]; dsimp only
  by_cases hm : leVal (bs.take 4) > cfg.maxLen
  · rw [if_pos hm]
    cases ho : cfg.oversizeIsEof
    · exact .inr ⟨rfl, _, rfl⟩
    · exact .inl rfl
  · rw [if_neg hm, if_pos h]; exact .inl rfl

/-- the outcomes of `next_record`; a record is returned exactly from a complete valid frame at the head -/
theorem nextRecord_cases (cfg : Cfg) (bs : Bytes) :
    nextRecord cfg bs = .eof ∨
    (cfg.oversizeIsEof = false ∧ ∃ n, nextRecord cfg bs = .err (.tooLarge n)) ∨
    (cfg.undecodableIsEof = false ∧ ∃ w, nextRecord cfg bs = .err (.decode w)) ∨
    ∃ body rest r, bs = frame body ++ rest ∧ body.length ≤ cfg.maxLen ∧ decodeBody cfg.codec body = .ok r ∧
      nextRecord cfg bs = .record r rest := by
  by_cases h8 : bs.length < 8
  · rcases nextRecord_lt8 cfg h8 with h | h
    · exact .inl h
    · exact .inr (.inl h)
  obtain ⟨n, c, tl, hn, hc, rfl⟩ := header_split (Nat.le_of_not_lt h8)
  rw [nextRecord_header cfg hn hc]
  by_cases hm : n > cfg.maxLen
  · rw [if_pos hm]
    cases ho : cfg.oversizeIsEof
    · exact .inr (.inl ⟨rfl, n, rfl⟩)
    · exact .inl rfl
  rw [if_neg hm]
  by_cases hl : tl.length < n
  · exact .inl (if_pos hl)
  rw [if_neg hl]
  by_cases hcrc : crc32 (tl.take n) ≠ c
  · exact .inl (if_pos hcrc)
  rw [if_neg hcrc]
  cases hd : decodeBody cfg.codec (tl.take n) with
  | error e =>
    cases hu : cfg.undecodableIsEof
    · exact .inr (.inr (.inl ⟨rfl, e, rfl⟩))
    · exact .inl rfl
  | ok r =>
    have hbl : (tl.take n).length = n := by rw [List.length_take]; omega
    exact .inr (.inr (.inr ⟨tl.take n, tl.drop n, r,
      by rw [frame_append, hbl, Decidable.of_not_not hcrc, List.take_append_drop], by omega, hd, rfl⟩))

theorem nextRecord_frame (cfg : Cfg) (body rest : Bytes) (r : Rec) (hlen : body.length ≤ cfg.maxLen)
    (hmax : cfg.maxLen < two32) (hdec : decodeBody cfg.codec body = .ok r) :
    nextRecord cfg (frame body ++ rest) = .record r rest := by
  rw [frame_append, nextRecord_header cfg (Nat.lt_of_le_of_lt hlen hmax) (crc32_lt body), if_neg (by omega),
    if_neg (by simp), List.take_left, if_neg (by simp), hdec, List.drop_left]

theorem nextRecord_record_inv (cfg : Cfg) (bs rest : Bytes) (r : Rec) (h : nextRecord cfg bs = .record r rest) :
    ∃ body, bs = frame body ++ rest ∧ body.length ≤ cfg.maxLen ∧ decodeBody cfg.codec body = .ok r := by
  rcases nextRecord_cases cfg bs with h' | ⟨-, _, h'⟩ | ⟨-, _, h'⟩ | ⟨body, _, _, hb, hl, hd, h'⟩ <;> rw [h'] at h <;>
    cases h
  exact ⟨body, hb, hl, hd⟩

theorem nextRecord_rest_lt (cfg : Cfg) (bs rest : Bytes) (r : Rec) (h : nextRecord cfg bs = .record r rest) :
    rest.length + 8 ≤ bs.length := by
  obtain ⟨body, rfl, -, -⟩ := nextRecord_record_inv cfg bs rest r h
  simp [frame_length]; omega

theorem nextRecord_err_inv (cfg : Cfg) (bs : Bytes) (e : RErr) (h : nextRecord cfg bs = .err e) :
    (cfg.oversizeIsEof = false ∧ ∃ n, e = .tooLarge n) ∨ (cfg.undecodableIsEof = false ∧ ∃ w, e = .decode w) := by
  rcases nextRecord_cases cfg bs with h' | ⟨ho, n, h'⟩ | ⟨hu, w, h'⟩ | ⟨_, _, _, -, -, -, h'⟩ <;> rw [h'] at h <;>
    cases h
  · exact .inl ⟨ho, n, rfl⟩
  · exact .inr ⟨hu, w, rfl⟩

/-! ### the read loop -/

theorem readGo_fuel (cfg : Cfg) : ∀ (f1 f2 : Nat) (bs : Bytes), bs.length < f1 → bs.length < f2 →
    readGo cfg f1 bs = readGo cfg f2 bs
  | 0, _, _, h, _ => absurd h (Nat.not_lt_zero _)
  | _, 0, _, _, h => absurd h (Nat.not_lt_zero _)
  | f1 + 1, f2 + 1, bs, h1, h2 => by
    unfold readGo
    cases hn : nextRecord cfg bs with
    | eof => rfl
    | err e => rfl
    | record r rest =>
      have := nextRecord_rest_lt cfg bs rest r hn
      simp only
      rw [readGo_fuel cfg f1 f2 rest (by omega) (by omega)]

theorem readAll_unfold (cfg : Cfg) (bs : Bytes) :
    readAll cfg bs = match nextRecord cfg bs with
      | .eof => ([], .eof bs)
      | .err e => ([], .err e)
      | .record r rest => (r :: (readAll cfg rest).1, (readAll cfg rest).2) := by
  unfold readAll
  rw [readGo]
  cases hn : nextRecord cfg bs with
  | eof => rfl
  | err e => rfl
  | record r rest =>
    have := nextRecord_rest_lt cfg bs rest r hn
    simp only
    rw [readGo_fuel cfg bs.length (rest.length + 1) rest (by omega) (by omega)]

theorem readAll_of_eof {cfg : Cfg} {t : Bytes} (h : nextRecord cfg t = .eof) : readAll cfg t = ([], .eof t) := by
  rw [readAll_unfold, h]

/-! ### sequences of complete valid frames -/

/-- `pre` is exactly a sequence of complete valid frames carrying the records `rs` -/
inductive IsFrames (cfg : Cfg) : Bytes → List Rec → Prop
  | nil : IsFrames cfg [] []
  | cons {body rest : Bytes} {r : Rec} {rs : List Rec} : body.length ≤ cfg.maxLen →
      decodeBody cfg.codec body = .ok r → IsFrames cfg rest rs → IsFrames cfg (frame body ++ rest) (r :: rs)

theorem IsFrames.append {cfg : Cfg} {a b : Bytes} {ra rb : List Rec} (ha : IsFrames cfg a ra) (hb : IsFrames cfg b rb) :
    IsFrames cfg (a ++ b) (ra ++ rb) := by
  induction ha with
  | nil => simpa using hb
  | cons h1 h2 _ ih => rw [List.append_assoc, List.cons_append]; exact IsFrames.cons h1 h2 ih

theorem IsFrames.single {cfg : Cfg} {body : Bytes} {r : Rec} (h1 : body.length ≤ cfg.maxLen)
    (h2 : decodeBody cfg.codec body = .ok r) : IsFrames cfg (frame body) [r] := by
  have := IsFrames.cons h1 h2 (IsFrames.nil (cfg := cfg))
  simpa using this

/-- complete valid frames are read back in order, whatever follows them; `any_tail_read` (C17) is the instance
    `pre` = the written log -/
theorem readAll_frames_append {cfg : Cfg} (hmax : cfg.maxLen < two32) {pre : Bytes} {rs : List Rec}
    (h : IsFrames cfg pre rs) (t : Bytes) :
    readAll cfg (pre ++ t) = (rs ++ (readAll cfg t).1, (readAll cfg t).2) := by
  induction h with
  | nil => simp
  | cons h1 h2 _ ih =>
    rw [List.append_assoc, readAll_unfold, nextRecord_frame cfg _ _ _ h1 hmax h2]
    simp only [ih, List.cons_append]

/-- every file is complete valid frames followed by a tail on which `next_record` does not return a record;
    the frames carry the records read, and the loop stops the way `next_record` answers on the tail -/
theorem readAll_decompose (cfg : Cfg) (bs : Bytes) :
    ∃ pre tail, bs = pre ++ tail ∧ IsFrames cfg pre (readAll cfg bs).1 ∧
      ((nextRecord cfg tail = .eof ∧ (readAll cfg bs).2 = .eof tail) ∨
        ∃ e, nextRecord cfg tail = .err e ∧ (readAll cfg bs).2 = .err e) := by
  rw [readAll_unfold]
  cases hn : nextRecord cfg bs with
  | eof => exact ⟨[], bs, rfl, .nil, .inl ⟨hn, rfl⟩⟩
  | err e => exact ⟨[], bs, rfl, .nil, .inr ⟨e, hn, rfl⟩⟩
  | record r rest =>
    have := nextRecord_rest_lt cfg bs rest r hn
    obtain ⟨body, rfl, hl, hd⟩ := nextRecord_record_inv cfg bs rest r hn
    obtain ⟨pre, tail, rfl, hp, hs⟩ := readAll_decompose cfg rest
    exact ⟨frame body ++ pre, tail, (List.append_assoc ..).symm, .cons hl hd hp, hs⟩
termination_by bs.length
decreasing_by omega

/-- the model's loop budget is never exhausted -/
theorem readAll_no_fuel (cfg : Cfg) : ∀ (n : Nat) (bs : Bytes), bs.length ≤ n → (readAll cfg bs).2 ≠ .err .fuel := by
  intro _ bs _
  obtain ⟨_, tail, -, -, ⟨-, h⟩ | ⟨e, hn, h⟩⟩ := readAll_decompose cfg bs <;> rw [h]
  · nofun
  · rcases nextRecord_err_inv cfg tail e hn with ⟨-, _, rfl⟩ | ⟨-, _, rfl⟩ <;> nofun

theorem nextRecord_tolerant {cfg : Cfg} (h1 : cfg.oversizeIsEof = true) (h2 : cfg.undecodableIsEof = true)
    (bs : Bytes) (e : RErr) : nextRecord cfg bs ≠ .err e := by
  intro h
  rcases nextRecord_err_inv cfg bs e h with ⟨hf, -⟩ | ⟨hf, -⟩
  · rw [h1] at hf; cases hf
  · rw [h2] at hf; cases hf

theorem readAll_tolerant {cfg : Cfg} (h1 : cfg.oversizeIsEof = true) (h2 : cfg.undecodableIsEof = true)
    (bs : Bytes) : ∃ tail, (readAll cfg bs).2 = .eof tail := by
  obtain ⟨_, tail, -, -, ⟨-, h⟩ | ⟨e, hn, -⟩⟩ := readAll_decompose cfg bs
  · exact ⟨tail, h⟩
  · exact absurd hn (nextRecord_tolerant h1 h2 tail e)

end Nervus.WalFrame
