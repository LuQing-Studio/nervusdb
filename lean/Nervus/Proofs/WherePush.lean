/-
  C19, planner side (statements in Props/C19): every entry `extract_predicates` puts into the pushdown
  map is a top-level conjunct `alias.prop = c` of the WHERE (`IsConj`), and a row on which the WHERE is
  true makes each of these conjuncts true — so a pushed-down filter that keeps the rows on which its
  equality is true loses no row of the result.
-/
import Nervus.Model.WherePush
namespace Nervus.WherePush
open Nervus.PlanOps

section
variable {χ κ ρ : Type}

/-- `k = c` is one of the top-level conjuncts of `w` -/
def IsConj : W χ κ → Key → κ → Prop
  | .and a b, k, c => IsConj a k c ∨ IsConj b k c
  | .eqProp k' c', k, c => k' = k ∧ c' = c
  | .other _, _, _ => False

theorem andT_tt (a b : Truth) (h : andT a b = .tt) : a = .tt ∧ b = .tt := by
  cases a <;> cases b <;> simp [andT] at h <;> exact ⟨rfl, rfl⟩

theorem conj_true (S : WSem χ κ ρ) (w : W χ κ) (r : ρ) (h : tv S w r = .tt) (k : Key) (c : κ)
    (hc : IsConj w k c) : S.eqT k c r = .tt := by
  induction w with
  | and a b iha ihb =>
    obtain ⟨ha, hb⟩ := andT_tt _ _ h
    rcases hc with hc | hc
    · exact iha ha hc
    · exact ihb hb hc
  | eqProp k' c' => obtain ⟨rfl, rfl⟩ := hc; exact h
  | other e => exact hc.elim

theorem extract_entries (w : W χ κ) (m : PMap κ) (k : Key) (c : κ) (h : extract w m k = some c) :
    m k = some c ∨ IsConj w k c := by
  induction w generalizing m with
  | and a b iha ihb =>
    rcases ihb (extract a m) h with h' | h'
    · rcases iha m h' with h'' | h''
      · exact Or.inl h''
      · exact Or.inr (Or.inl h'')
    · exact Or.inr (Or.inr h')
  | eqProp k' c' =>
    simp only [extract, PMap.insert] at h
    split at h
    · rename_i hk
      injection h with h
      exact Or.inr ⟨hk.symm, h⟩
    · exact Or.inl h
  | other e => exact Or.inl h

end

/-! ### free variables vs the planner's walker -/

theorem mem_filter_not_contains (xs binds : List String) (x : String) :
    x ∈ xs.filter (fun y => !binds.contains y) ↔ x ∈ xs ∧ x ∉ binds := by
  simp [List.mem_filter]

end Nervus.WherePush
