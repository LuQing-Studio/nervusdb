/-
  The invariant of the writer/reader system `Model.SnapLTS` when `compact` reads the run list under the writer lock
  (`readBeforeLock = false`).  Engine side, `WInv`: at each writer program point, how far every separately published
  component is ahead of the committed transactions (`Eng`).  Reader side, `SInv`: a snapshot that no writer step has
  overlapped (`Snap.clean`) has read an engine at rest, all its reads in the same state (`σ = readUpTo s σ.pc`); once
  complete it shows exactly the transactions below `σ.lo` — its properties only until a compaction sinks into the tree
  under its non-zero root (`stale ∧ root`).
-/
import Nervus.Model.SnapLTS
namespace Nervus.SnapLTS

/-- What the separately published components hold, relative to the committed transactions `0 … committed-1`:
    node table, label table and index are `dn`, `dl`, `di` transactions ahead; `live` are the runs not yet merged into
    the segments; the store has the properties of the segments and of the runs `sunk`. -/
@[reducible] def Eng (s : State) (dn dl di : Nat) (live sunk : List Nat) : Prop :=
  s.nodes = s.committed + dn ∧ s.labels = s.committed + dl ∧ (∀ k, k ∈ live ++ s.segs ↔ k < s.committed) ∧
  (∀ k, k ∈ s.store ↔ k ∈ sunk ++ s.segs) ∧ (∀ k, k ∈ s.index ↔ (s.hasIndex = true ∧ k < s.committed + di))

@[reducible] def WInv (s : State) : Prop :=
  match s.w with
  | .idle => Eng s 0 0 0 s.runs [] ∧ (s.root = false → s.segs = [])
  | .commit 1 => Eng s 0 0 1 s.runs [] ∧ (s.root = false → s.segs = [])
  | .commit 2 => Eng s 1 0 1 s.runs [] ∧ (s.root = false → s.segs = [])
  | .commit 3 => Eng s 1 1 1 s.runs [] ∧ (s.root = false → s.segs = [])
  | .compact 1 => Eng s 0 0 0 s.runs [] ∧ (s.root = false → s.segs = []) ∧ s.cap = some s.runs
  | .compact 2 | .compact 3 => Eng s 0 0 0 s.runs s.runs ∧ (s.root = false → s.segs = []) ∧ s.cap = some s.runs
  | .compact 4 => Eng s 0 0 0 s.runs s.runs ∧ s.root = true ∧ s.cap = some s.runs
  | .compact 5 => Eng s 0 0 0 s.pending s.pending ∧ s.root = true ∧ s.runs = []
  | _ => False

def Snap.clean (σ : Snap) : Prop := σ.dirtyCommit = false ∧ σ.dirtyCompact = false

/-- what the first `k` field reads of an acquisition give when all of them happen in state `s` -/
def readUpTo (s : State) (k : Nat) : Snap :=
  { newSnap s with pc := k, runs := if 2 ≤ k then s.runs else [], segs := if 3 ≤ k then s.segs else [],
                   nlabels := if 4 ≤ k then s.labels else 0, dirtyCommit := false, dirtyCompact := false }

/-- the per-snapshot invariant: a clean incomplete acquisition has so far read the engine at rest, unchanged since its
    first read; a clean complete one holds one committed state -/
def SInv (s : State) (σ : Snap) : Prop :=
  (σ.pc < 5 → σ.clean → s.w = .idle ∧ σ = readUpTo s σ.pc) ∧
  (σ.pc = 5 → σ.clean →
    σ.i2e = σ.lo ∧ σ.nlabels = σ.lo ∧ σ.hi = σ.lo ∧ (∀ k, k ∈ σ.runs ++ σ.segs ↔ k < σ.lo) ∧
    (∀ k, k ∈ σ.idxAtDone ↔ (s.hasIndex = true ∧ k < σ.lo)) ∧
    ((σ.stale && σ.root) = false → ∀ k, k ∈ σ.runs ++ (if σ.root then s.store else []) ↔ k < σ.lo))

structure Inv (s : State) : Prop where
  rbl : s.readBeforeLock = false
  w : WInv s
  snaps : ∀ j σ, s.snaps j = some σ → SInv s σ

theorem inv_init (h0 : Bool) : Inv (init h0) :=
  ⟨rfl, by simp [WInv, init], by intro j σ h; simp [init] at h⟩

@[simp] theorem markAll_snaps (f : Snap → Snap) (s : State) (j : Nat) :
    (markAll f s).snaps j = (s.snaps j).map f := rfl

/-- An incomplete snapshot is marked dirty, which makes its invariant vacuous; a complete one is left as it is, and its
    invariant reads only `store` and `hasIndex` of the state. -/
theorem sinv_touch (s s' : State) (σ : Snap) (f : Snap → Snap)
    (hf : f = touchCommit ∨ f = touchCompact)
    (hstore : s'.store = s.store) (hidx : s'.hasIndex = s.hasIndex) (h : SInv s σ) : SInv s' (f σ) := by
  obtain ⟨hinc, hdone⟩ := h
  by_cases hpc : σ.pc < 5
  · have hd : ¬ (f σ).clean := by
      rcases hf with rfl | rfl <;> simp [touchCommit, touchCompact, hpc, Snap.clean]
    have hpc' : (f σ).pc = σ.pc := by
      rcases hf with rfl | rfl <;> simp [touchCommit, touchCompact, hpc]
    exact ⟨fun _ hc => absurd hc hd, fun h5' => by omega⟩
  · have he : f σ = σ := by
      rcases hf with rfl | rfl <;> simp [touchCommit, touchCompact, hpc]
    rw [he]
    refine ⟨fun h => absurd h hpc, ?_⟩
    intro hp hc
    have := hdone hp hc
    rw [hstore, hidx]; exact this

theorem sinv_sink (s s' : State) (σ : Snap) (hidx : s'.hasIndex = s.hasIndex) (h : SInv s σ) :
    SInv s' (touchSink σ) := by
  obtain ⟨hinc, hdone⟩ := h
  by_cases hpc : σ.pc < 5
  · have hd : ¬ (touchSink σ).clean := by simp [touchSink, hpc, Snap.clean]
    have hpc' : (touchSink σ).pc = σ.pc := by simp [touchSink, hpc]
    exact ⟨fun _ hc => absurd hc hd, fun h5' => by omega⟩
  · simp only [touchSink, hpc, if_false]
    refine ⟨fun h => absurd h hpc, ?_⟩
    intro hp5 hc
    obtain ⟨hn, hl, hhi, he, hix, hprops⟩ := hdone hp5 hc
    refine ⟨hn, hl, hhi, he, by rw [hidx]; exact hix, ?_⟩
    intro hsr
    simp only [Bool.true_and] at hsr
    -- the snapshot has a zero root: it never looks at the store
    have : (σ.stale && σ.root) = false := by simp [hsr]
    have := hprops this
    simpa [hsr] using this

theorem snaps_mark (s e : State) (f : Snap → Snap) (hs : e.snaps = s.snaps)
    (hstep : ∀ σ, SInv s σ → SInv (markAll f e) (f σ))
    (h : ∀ j σ, s.snaps j = some σ → SInv s σ) :
    ∀ j σ, (markAll f e).snaps j = some σ → SInv (markAll f e) σ := by
  intro j σ hj
  simp only [markAll_snaps, hs] at hj
  cases hsj : s.snaps j with
  | none => simp [hsj] at hj
  | some σ0 => simp [hsj] at hj; subst hj; exact hstep σ0 (h j σ0 hsj)

theorem inv_touch {s e : State} (hi : Inv s) (f : Snap → Snap) (hf : f = touchCommit ∨ f = touchCompact)
    (hs : e.snaps = s.snaps) (hstore : e.store = s.store) (hidx : e.hasIndex = s.hasIndex)
    (hrbl : e.readBeforeLock = s.readBeforeLock) (hw : WInv e) : Inv (markAll f e) :=
  ⟨hrbl.trans hi.rbl, hw, snaps_mark s e f hs (fun σ hσ => sinv_touch s _ σ f hf hstore hidx hσ) hi.snaps⟩

theorem inv_commitStep {s s' : State} (hi : Inv s) (hs : step s .commitStep = some s') :
    Inv s' := by
  obtain ⟨hrb, hw, hsn⟩ := hi
  simp only [step] at hs
  split at hs
  · -- walAndIndex
    rename_i hwi
    cases hs
    refine inv_touch ⟨hrb, hw, hsn⟩ _ (Or.inl rfl) rfl rfl rfl rfl ?_
    rw [WInv, hwi] at hw
    obtain ⟨⟨hn, hl, he, hst, hix⟩, hroot⟩ := hw
    refine ⟨⟨hn, hl, he, hst, ?_⟩, hroot⟩
    intro k
    cases hx : s.hasIndex with
    | true =>
      have := hix k
      simp only [hx, true_and] at this
      simp only [if_true, List.mem_cons, this, true_and]; omega
    | false =>
      have := hix k
      simp only [hx, Bool.false_eq_true, false_and, iff_false] at this
      simpa using this
  · rename_i hwi
    cases hs
    refine inv_touch ⟨hrb, hw, hsn⟩ _ (Or.inl rfl) rfl rfl rfl rfl ?_
    rw [WInv, hwi] at hw
    obtain ⟨⟨hn, hl, he, hst, hix⟩, hroot⟩ := hw
    -- the new program point is a literal: `WInv` of the new state reduces to its row
    exact ⟨⟨congrArg (· + 1) hn, hl, he, hst, hix⟩, hroot⟩
  · rename_i hwi
    cases hs
    refine inv_touch ⟨hrb, hw, hsn⟩ _ (Or.inl rfl) rfl rfl rfl rfl ?_
    rw [WInv, hwi] at hw
    obtain ⟨⟨hn, hl, he, hst, hix⟩, hroot⟩ := hw
    exact ⟨⟨hn, congrArg (· + 1) hl, he, hst, hix⟩, hroot⟩
  · -- publishRun: the commit point
    rename_i hwi
    cases hs
    refine inv_touch ⟨hrb, hw, hsn⟩ _ (Or.inl rfl) rfl rfl rfl rfl ?_
    rw [WInv, hwi] at hw
    obtain ⟨⟨hn, hl, he, hst, hix⟩, hroot⟩ := hw
    refine ⟨⟨hn, hl, ?_, hst, hix⟩, hroot⟩
    intro k
    have := he k
    simp only [List.mem_append, List.mem_cons] at this ⊢
    constructor
    · rintro ((h | h) | h)
      · omega
      · have := this.mp (Or.inl h); omega
      · have := this.mp (Or.inr h); omega
    · intro hk
      by_cases hkc : k = s.committed
      · exact Or.inl (Or.inl hkc)
      · rcases this.mpr (by omega) with h | h
        · exact Or.inl (Or.inr h)
        · exact Or.inr h
  · cases hs

theorem inv_compactStep {s s' : State} (hi : Inv s) (hs : step s .compactStep = some s') :
    Inv s' := by
  obtain ⟨hrb, hw, hsn⟩ := hi
  -- `hrb` also rewrites the `readBeforeLock` field of the new state in `hs` to `false`: hence `hrb.symm` below where
  -- `inv_commitStep` has `rfl`
  simp only [step, hrb, Bool.false_eq_true, if_false] at hs
  split at hs
  · rename_i hwi
    split at hs
    · cases hs
    · cases hs
      refine inv_touch ⟨hrb, hw, hsn⟩ _ (Or.inr rfl) rfl rfl rfl hrb.symm ?_
      rw [WInv, hwi] at hw
      exact ⟨hw.1, hw.2, rfl⟩
  · -- sinkProps
    rename_i hwi
    cases hs
    refine ⟨rfl, ?_, ?_⟩
    · simp only [WInv, hwi, markAll] at hw ⊢
      obtain ⟨⟨hn, hl, he, hst, hix⟩, hroot, hcap⟩ := hw
      refine ⟨⟨hn, hl, he, ?_, hix⟩, hroot, hcap⟩
      intro k; have := hst k; simp only [hcap, Option.getD_some, List.mem_append, List.nil_append] at this ⊢; rw [this]
    · exact snaps_mark s _ touchSink rfl (fun σ h => sinv_sink s _ σ rfl h) hsn
  · rename_i hwi
    cases hs
    refine inv_touch ⟨hrb, hw, hsn⟩ _ (Or.inr rfl) rfl rfl rfl hrb.symm ?_
    rw [WInv, hwi] at hw; exact hw
  · rename_i hwi
    cases hs
    refine inv_touch ⟨hrb, hw, hsn⟩ _ (Or.inr rfl) rfl rfl rfl hrb.symm ?_
    rw [WInv, hwi] at hw
    exact ⟨hw.1, rfl, hw.2.2⟩
  · -- clearRuns: `pending` is the captured list = the published runs (read under the lock)
    rename_i hwi
    cases hs
    refine inv_touch ⟨hrb, hw, hsn⟩ _ (Or.inr rfl) rfl rfl rfl hrb.symm ?_
    rw [WInv, hwi] at hw
    obtain ⟨h, hroot, hcap⟩ := hw
    simp only [hcap, Option.getD_some]
    exact ⟨h, hroot, rfl⟩
  · rename_i hwi
    cases hs
    refine inv_touch ⟨hrb, hw, hsn⟩ _ (Or.inr rfl) rfl rfl rfl hrb.symm ?_
    rw [WInv, hwi] at hw
    obtain ⟨⟨hn, hl, he, hst, hix⟩, hroot, hruns⟩ := hw
    refine ⟨⟨hn, hl, ?_, ?_, hix⟩, by simp [hroot]⟩
    · intro k; have := he k; simpa [hruns] using this
    · intro k; have := hst k; simpa using this
  · cases hs

theorem inv_setSnap {s : State} (hi : Inv s) (j : Nat) (x : Option Snap)
    (hx : ∀ σ, x = some σ → SInv s σ) : Inv (setSnap s j x) := by
  refine ⟨hi.rbl, hi.w, fun i σ h => ?_⟩
  simp only [setSnap] at h
  by_cases hij : i = j
  · simp [hij] at h; exact hx σ h
  · simp [hij] at h; exact hi.snaps i σ h

/-- a read in the middle of a clean acquisition extends what has been read so far -/
theorem sinv_next {s : State} {σ σ' : Snap} {k : Nat} (h : SInv s σ) (hpc : σ.pc = k) (hk : k + 1 < 5)
    (hpc' : σ'.pc = k + 1) (hc : σ'.clean → σ.clean) (he : σ = readUpTo s k → σ' = readUpTo s (k + 1)) : SInv s σ' := by
  refine ⟨fun _ hcl => ?_, fun h5 => by omega⟩
  obtain ⟨hidle, e⟩ := h.1 (by omega) (hc hcl)
  exact ⟨hidle, hpc' ▸ he (hpc ▸ e)⟩

theorem inv_readStep {s s' : State} (j : Nat) (hi : Inv s) (hs : step s (.readStep j) = some s') :
    Inv s' := by
  obtain ⟨hrb, hw, hsn⟩ := hi
  simp only [step] at hs
  split at hs
  · -- scanI2e
    cases hs
    refine inv_setSnap ⟨hrb, hw, hsn⟩ j _ ?_
    intro σ hσ
    cases hσ
    refine ⟨fun _ hc => ?_, fun h => absurd h (Nat.ne_of_beq_eq_false rfl)⟩
    simp only [Snap.clean, newSnap] at hc
    have hidle : s.w = .idle := by
      cases hwc : s.w with
      | idle => rfl
      | commit k => simp [hwc, isCommit] at hc
      | compact k => simp [hwc, isCompact] at hc
    exact ⟨hidle, by rw [newSnap, hidle]; rfl⟩
  · rename_i σ hsj
    have hσ := hsn j σ hsj
    split at hs
    · rename_i hpc
      cases hs
      exact inv_setSnap ⟨hrb, hw, hsn⟩ j _ fun σ' hσ' =>
        Option.some.inj hσ' ▸ sinv_next hσ hpc (by decide) rfl id fun e => by subst e; rfl
    · rename_i hpc
      cases hs
      exact inv_setSnap ⟨hrb, hw, hsn⟩ j _ fun σ' hσ' =>
        Option.some.inj hσ' ▸ sinv_next hσ hpc (by decide) rfl id fun e => by subst e; rfl
    · rename_i hpc
      cases hs
      exact inv_setSnap ⟨hrb, hw, hsn⟩ j _ fun σ' hσ' =>
        Option.some.inj hσ' ▸ sinv_next hσ hpc (by decide) rfl id fun e => by subst e; rfl
    · -- readRoots: the acquisition completes
      rename_i hpc
      cases hs
      refine inv_setSnap ⟨hrb, hw, hsn⟩ j _ ?_
      intro σ' hσ'; cases hσ'
      refine ⟨fun h => absurd h (Nat.not_le_of_gt (Nat.le_of_ble_eq_true rfl)), ?_⟩
      intro _ hc
      obtain ⟨hidle, e⟩ := hσ.1 (by omega) hc
      rw [hpc] at e; subst e
      simp only [WInv, hidle] at hw
      obtain ⟨⟨hn, hl, he, hst, hix⟩, hroot⟩ := hw
      refine ⟨hn, hl, rfl, he, hix, fun _ k => ?_⟩
      show k ∈ s.runs ++ (if s.root then s.store else []) ↔ k < s.committed
      cases hr : s.root with
      | false =>
        have hc' := he k
        simp only [hroot hr, List.append_nil] at hc'
        simpa using hc'
      | true =>
        have hc' := he k
        simp only [List.mem_append] at hc' ⊢
        simp only [if_true, hst k]; exact hc'
    · cases hs

theorem inv_dropSnap {s s' : State} (j : Nat) (hi : Inv s) (hs : step s (.dropSnap j) = some s') :
    Inv s' := by
  obtain ⟨hrb, hw, hsn⟩ := hi
  simp only [step] at hs
  split at hs
  · cases hs; exact inv_setSnap ⟨hrb, hw, hsn⟩ j none nofun
  · cases hs

theorem reach_inv {h0 : Bool} {s : State} (h : Reach (init h0) s) : Inv s := by
  induction h with
  | refl => exact inv_init h0
  | step l _ hs ih =>
    cases l with
    | commitStep => exact inv_commitStep ih hs
    | compactStep => exact inv_compactStep ih hs
    | compactRead =>
      have := ih.rbl
      simp [step, this] at hs
    | readStep j => exact inv_readStep j ih hs
    | dropSnap j => exact inv_dropSnap j ih hs

theorem reach_of_runTrace {s0 s s' : State} (tr : List Label)
    (h0 : Reach s0 s) (h : runTrace s tr = some s') : Reach s0 s' := by
  induction tr generalizing s with
  | nil => simp [runTrace] at h; subst h; exact h0
  | cons l ls ih =>
    simp only [runTrace] at h
    split at h
    · rename_i s1 hs1; exact ih (Reach.step l h0 hs1) h
    · cases h

end Nervus.SnapLTS
