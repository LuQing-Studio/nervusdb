/-
  Proofs.Equality — `cypher_equals` on all well-formed values: three-valued (`cypherEquals_tri`), symmetric
  (`ce_symm`), transitive (`ce_trans`), reflexive on null/NaN-free values (`ce_refl`); on numbers it is
  equality of the exact values (`cypherEquals_num`, by `numCmp_eq_spec` of `Proofs/Num`); on key-sorted maps it is the
  element-wise comparison of aligned entries (`cypherEquals_map`).  The case split of every proof is by `ceClass`:
  which arm of `cypher_equals` takes the pair.  Also: the derived `==` is symmetric.
-/
import Nervus.Proofs.Num
import Nervus.Proofs.ListBasics
namespace Nervus
open F64 Value Eval Spec

def isTri : Value → Bool
  | .bool _ | .null => true
  | _ => false

theorem tri_triValue (t : Tri) : tri (triValue t) = t := by
  cases t <;> rfl

theorem eqStep_tri (e r : Value) (hr : isTri r = true) : isTri (eqStep e r) = true := by
  cases e with
  | bool b => cases b <;> simp only [eqStep] <;> first | exact hr | rfl
  | null => cases r <;> first | rfl | (rename_i b; cases b <;> rfl)
  | _ => rfl

theorem eqStep_true {e r : Value} : eqStep e r = .bool true ↔ e = .bool true ∧ r = .bool true := by
  cases e with
  | bool b => cases b <;> simp [eqStep]
  | null => cases r <;> simp [eqStep] <;> rename_i b <;> cases b <;> simp
  | _ => simp [eqStep]

theorem eqStep_false_right (e : Value) (he : isTri e = true) : eqStep e (.bool false) = .bool false := by
  cases e with
  | bool b => cases b <;> rfl
  | null => rfl
  | _ => simp [isTri] at he

/-- `null`, numbers, lists and maps have arms of their own in `cypher_equals`; every other pair goes to the
    derived `==` -/
def ceClass : Value → Nat
  | .null => 0
  | .int _ | .float _ => 1
  | .list _ => 2
  | .map _ => 3
  | _ => 4

theorem kind_of_ceClass_eq {a b : Value} (h : ceClass a = ceClass b) :
    match a with
    | .null => b = .null
    | .int _ | .float _ => isNum b = true
    | .list _ => ∃ ys, b = .list ys
    | .map _ => ∃ ys, b = .map ys
    | _ => True := by
  have hb : match ceClass b with
      | 0 => b = .null | 1 => isNum b = true | 2 => ∃ ys, b = .list ys | 3 => ∃ ys, b = .map ys | _ => True := by
    cases b <;> first | rfl | exact ⟨_, rfl⟩ | trivial
  rw [← h] at hb
  cases a <;> first | exact hb | trivial

theorem ce_null_right (a : Value) : cypherEquals a .null = .null := by cases a <;> rfl

/-- outside its own arms `cypher_equals` is the derived `==` -/
theorem ce_other {a b : Value} (ha : a ≠ .null) (hb : b ≠ .null) (h : ceClass a ≠ ceClass b ∨ ceClass a = 4) :
    cypherEquals a b = .bool (deq a b) := by
  unfold cypherEquals
  split <;> first | rfl | contradiction | exact h.elim (absurd rfl) nofun

theorem vidx_eq_of_deq {a b : Value} (h : deq a b = true) : vidx a = vidx b := by
  unfold deq at h
  split at h <;> first | rfl | cases h

theorem ceClass_eq_of_deq {a b : Value} (h : deq a b = true) : ceClass a = ceClass b := by
  unfold deq at h
  split at h <;> first | rfl | cases h

theorem eq_of_deq_other {a b : Value} (hc : ceClass a = 4) (h : deq a b = true) : a = b := by
  unfold deq at h
  split at h <;> first | exact congrArg _ (eq_of_beq h) | (cases hc; done) | (cases h; done) | skip
  rw [Bool.and_eq_true] at h
  rw [eq_of_beq h.1, eq_of_beq h.2]

theorem ce_tri_other {a b : Value} (h : ceClass a ≠ ceClass b ∨ ceClass a ≠ 2 ∧ ceClass a ≠ 3) :
    isTri (cypherEquals a b) = true := by
  unfold cypherEquals
  split <;> first | rfl | (split <;> rfl) | exact h.elim (absurd rfl) (fun h => absurd rfl h.1) |
    exact h.elim (absurd rfl) (fun h => absurd rfl h.2)

theorem ce_list (xs ys : List Value) :
    cypherEquals (.list xs) (.list ys) = if xs.length = ys.length then cypherEqualsSeq xs ys else .bool false := by
  simp only [cypherEquals, bne_iff_ne, ne_eq, ite_not]

theorem seq_tri : ∀ (a b : List Value), isTri (cypherEqualsSeq a b)
  | [], _ | _ :: _, [] => by simp [cypherEqualsSeq, isTri]
  | _ :: xs, _ :: ys => eqStep_tri _ _ (seq_tri xs ys)

theorem map_tri : ∀ (a b : List (Str × Value)), isTri (cypherEqualsMap a b)
  | [], b => by simp [cypherEqualsMap, isTri]
  | (k, x) :: xs, b => by
    simp only [cypherEqualsMap]
    cases lookup k b with
    | none => rfl
    | some y => exact eqStep_tri _ _ (map_tri xs b)

theorem cypherEquals_tri (a b : Value) : isTri (cypherEquals a b) := by
  by_cases h : ceClass a = ceClass b
  · have hb := kind_of_ceClass_eq h
    cases a with
    | list xs => obtain ⟨ys, rfl⟩ := hb; rw [ce_list]; split <;> first | exact seq_tri xs ys | rfl
    | map xs =>
      obtain ⟨ys, rfl⟩ := hb
      simp only [cypherEquals]; split <;> first | exact map_tri xs ys | rfl
    | _ => exact ce_tri_other (.inr ⟨nofun, nofun⟩)
  · exact ce_tri_other (.inl h)

/-! ### key-sorted association lists (`BTreeMap`) -/

def KLt (a b : Str × Value) : Prop := bytesLt a.1 b.1 = true

theorem keysSorted_iff : ∀ (l : List (Str × Value)), keysSorted l = true ↔ l.Pairwise KLt
  | [] => by simp [keysSorted]
  | [_] => by simp [keysSorted]
  | (k, v) :: (k', v') :: rest => by
    simp only [keysSorted, Bool.and_eq_true, keysSorted_iff ((k', v') :: rest), List.pairwise_cons]
    constructor
    · rintro ⟨h1, h2, h3⟩
      refine ⟨?_, h2, h3⟩
      intro a ha
      rcases List.mem_cons.1 ha with rfl | ha
      · exact h1
      · exact bytesLt_trans _ _ _ h1 (h2 a ha)
    · rintro ⟨h1, h2, h3⟩
      exact ⟨h1 (k', v') (by simp), h2, h3⟩

def keysOf (l : List (Str × Value)) : List Str := l.map Prod.fst

theorem lookup_eq_list_lookup (k : Str) (l : List (Str × Value)) : lookup k l = l.lookup k := by
  induction l with
  | nil => rfl
  | cons p rest ih =>
    rw [lookup, ih, List.lookup_cons]
    cases k == p.1 <;> rfl

theorem lookup_eq_none_iff (k : Str) (l : List (Str × Value)) : lookup k l = none ↔ k ∉ keysOf l := by
  rw [lookup_eq_list_lookup]
  constructor
  · intro h hk
    obtain ⟨p, hp, rfl⟩ := List.mem_map.mp hk
    obtain ⟨v, hv⟩ := lookup_isSome_of_mem hp
    rw [h] at hv; cases hv
  · exact fun h => lookup_eq_none_of_not_mem_keys fun p hp e => h (List.mem_map.mpr ⟨p, hp, e⟩)

/-- in a key-sorted list the entry found for a key that heads a suffix is that suffix's head -/
theorem lookup_mid (k : Str) (y : Value) (pre rest : List (Str × Value))
    (h : (pre ++ (k, y) :: rest).Pairwise KLt) : lookup k (pre ++ (k, y) :: rest) = some y := by
  rw [lookup_eq_list_lookup]
  refine lookup_eq_some_of_mem_nodup (List.pairwise_map.mpr (h.imp fun hab e => ?_))
    (List.mem_append_right _ List.mem_cons_self)
  rw [KLt, e, bytesLt_irrefl] at hab; cases hab

/-- two strictly sorted lists of byte strings of one length, one holding every member of the other, are equal:
    with no member twice the other inclusion follows by counting, and a sorted list is determined by its members -/
theorem sorted_subset_eq {l r : List Str} (hl : l.Pairwise (fun a b => bytesLt a b = true))
    (hr : r.Pairwise (fun a b => bytesLt a b = true)) (hs : l ⊆ r) (hlen : l.length = r.length) : l = r := by
  have nd : ∀ {l : List Str}, l.Pairwise (fun a b => bytesLt a b = true) → l.Nodup :=
    fun h => h.imp fun h e => by rw [e, bytesLt_irrefl] at h; cases h
  have hs' : r ⊆ l := fun k => covers_of_length_ge l r (nd hl) (fun _ => @hs _) (Nat.le_of_eq hlen.symm) k
  exact List.Perm.eq_of_pairwise (fun a b _ _ h1 h2 => by rw [bytesLt_asymm a b h1] at h2; cases h2) hl hr
    ((List.perm_ext_iff_of_nodup (nd hl) (nd hr)).2 fun a => ⟨@hs a, @hs' a⟩)

theorem keysOf_pairwise {l : List (Str × Value)} (h : l.Pairwise KLt) :
    (keysOf l).Pairwise (fun a b => bytesLt a b = true) := by
  unfold keysOf; rw [List.pairwise_map]; exact h


/-! ### `=` on numbers -/

/-- `float_equals_int` is `compare_int_float` saying `Equal`, and `false` on a NaN -/
theorem floatEqualsInt_eq (f : Nat) (i : Int) :
    floatEqualsInt f i = ((if fNaN f then none else some (cmpIntFloat i (ofBits f))) == some .eq) := by
  unfold floatEqualsInt fNaN
  cases hx : ofBits f with
  | nan => rfl
  | inf s =>
    cases s <;> simp [cmpIntFloat, ofBits_two63, ofBits_negTwo63, F64.le, F64.lt, F64.cmp, isNaN, isFinite, cmpTK, tier]
  | fin s m e => simp [isNaN, isFinite]

theorem cypherEquals_num (a b : Value) (ha : isNum a = true) (hb : isNum b = true) (wa : a.wf = true) (wb : b.wf = true) :
    cypherEquals a b = .bool (Spec.numCmp a b == some .eq) := by
  rw [← numCmp_eq_spec a b ha hb wa wb]
  obtain ⟨x, rfl⟩ | ⟨x, rfl⟩ := isNum_cases ha <;> obtain ⟨y, rfl⟩ | ⟨y, rfl⟩ := isNum_cases hb <;>
    simp only [cypherEquals, Eval.numCmp, floatEqualsInt_eq]
  · congr 1
    by_cases h : x = y
    · subst h; simp [cmpInt]
    · have : cmpInt x y ≠ .eq := by rw [Ne, cmpInt_eq]; exact h
      have e1 : (x == y) = false := by simpa using h
      rw [e1]; simp [this]
  · split <;> first | rfl | (cases cmpIntFloat y (ofBits x) <;> rfl)
  · by_cases h : (fNaN x || fNaN y) = true
    · have : ((ofBits x).isNaN || (ofBits y).isNaN) = true := h
      simp [h, F64.cmp, this]
    · simp only [h, Bool.false_eq_true, if_false, F64.eqv]


/-! ### maps: `cypher_equals_map` on key-sorted maps is the element-wise comparison of aligned entries -/

def valsOf (l : List (Str × Value)) : List Value := l.map Prod.snd

theorem map_missing : ∀ (l r : List (Str × Value)), (∃ kv ∈ l, kv.1 ∉ keysOf r) → cypherEqualsMap l r = .bool false
  | [], _, h => by obtain ⟨kv, hk, _⟩ := h; simp at hk
  | (k, x) :: l', r, h => by
    simp only [cypherEqualsMap]
    cases hl : lookup k r with
    | none => rfl
    | some y =>
      have : ∃ kv ∈ l', kv.1 ∉ keysOf r := by
        obtain ⟨kv, hk, hn⟩ := h
        rcases List.mem_cons.1 hk with e | hk
        · subst e
          have := (lookup_eq_none_iff k r).2 hn; rw [hl] at this; cases this
        · exact ⟨kv, hk, hn⟩
      rw [map_missing l' r this]
      exact eqStep_false_right _ (cypherEquals_tri x y)

theorem map_aligned : ∀ (l r pre : List (Str × Value)), keysOf l = keysOf r → (pre ++ r).Pairwise KLt →
    cypherEqualsMap l (pre ++ r) = cypherEqualsSeq (valsOf l) (valsOf r)
  | [], r, pre, hk, _ => by
    cases r with
    | nil => rfl
    | cons _ _ => simp [keysOf] at hk
  | (k, x) :: l', r, pre, hk, hs => by
    cases r with
    | nil => simp [keysOf] at hk
    | cons e r' =>
      obtain ⟨k', y⟩ := e
      simp only [keysOf, List.map_cons, List.cons.injEq] at hk
      obtain ⟨rfl, hk'⟩ := hk
      simp only [cypherEqualsMap, lookup_mid k y pre r' hs, valsOf, List.map_cons, cypherEqualsSeq]
      have hs' : ((pre ++ [(k, y)]) ++ r').Pairwise KLt := by simpa using hs
      have := map_aligned l' r' (pre ++ [(k, y)]) hk' hs'
      simp only [List.append_assoc, List.singleton_append] at this
      rw [this]; rfl

theorem map_char (l r : List (Str × Value)) (hl : l.Pairwise KLt) (hr : r.Pairwise KLt)
    (hlen : l.length = r.length) :
    cypherEqualsMap l r = if keysOf l = keysOf r then cypherEqualsSeq (valsOf l) (valsOf r) else .bool false := by
  by_cases hk : keysOf l = keysOf r
  · simp only [hk, if_true]
    simpa using map_aligned l r [] hk (by simpa using hr)
  · simp only [hk, if_false]
    apply map_missing
    apply Classical.byContradiction
    intro hne
    apply hk
    apply sorted_subset_eq (keysOf_pairwise hl) (keysOf_pairwise hr)
    · intro k hkl
      apply Classical.byContradiction
      intro hkr
      obtain ⟨kv, hkv, rfl⟩ := List.mem_map.1 hkl
      exact hne ⟨kv, hkv, hkr⟩
    · simpa [keysOf] using hlen

theorem cypherEquals_map (l r : List (Str × Value)) (hl : keysSorted l = true) (hr : keysSorted r = true) :
    cypherEquals (.map l) (.map r) =
      if l.length = r.length ∧ keysOf l = keysOf r then cypherEqualsSeq (valsOf l) (valsOf r) else .bool false := by
  simp only [cypherEquals]
  by_cases hlen : l.length = r.length
  · have : (l.length != r.length) = false := by simpa using hlen
    rw [this]
    simp only [Bool.false_eq_true, if_false, hlen, true_and]
    exact map_char l r ((keysSorted_iff l).1 hl) ((keysSorted_iff r).1 hr) hlen
  · have : (l.length != r.length) = true := by simpa using hlen
    simp [this, hlen]

/-! ### `cypher_equals_sequence`, given the law for the elements -/

theorem seq_symm_of : ∀ (xs ys : List Value), (∀ x ∈ xs, ∀ y ∈ ys, cypherEquals x y = cypherEquals y x) →
    cypherEqualsSeq xs ys = cypherEqualsSeq ys xs
  | [], ys, _ => by cases ys <;> rfl
  | x :: xs, ys, h => by
    cases ys with
    | nil => rfl
    | cons y ys =>
      simp only [cypherEqualsSeq]
      rw [h x (by simp) y (by simp), seq_symm_of xs ys (fun a ha b hb => h a (by simp [ha]) b (by simp [hb]))]

theorem seq_refl_of : ∀ (xs : List Value), (∀ x ∈ xs, cypherEquals x x = .bool true) →
    cypherEqualsSeq xs xs = .bool true
  | [], _ => rfl
  | x :: xs, h => by
    simp only [cypherEqualsSeq]
    rw [h x (by simp), seq_refl_of xs (fun a ha => h a (by simp [ha]))]; rfl

theorem seq_trans_of : ∀ (xs ys zs : List Value), xs.length = ys.length → ys.length = zs.length →
    (∀ x ∈ xs, ∀ y ∈ ys, ∀ z ∈ zs, cypherEquals x y = .bool true → cypherEquals y z = .bool true →
      cypherEquals x z = .bool true) →
    cypherEqualsSeq xs ys = .bool true → cypherEqualsSeq ys zs = .bool true → cypherEqualsSeq xs zs = .bool true
  | [], ys, zs, _, _, _, _, _ => by cases zs <;> rfl
  | x :: xs, ys, zs, l1, l2, h, h1, h2 => by
    cases ys with
    | nil => simp at l1
    | cons y ys =>
      cases zs with
      | nil => simp at l2
      | cons z zs =>
        simp only [cypherEqualsSeq, eqStep_true] at h1 h2 ⊢
        exact ⟨h x (by simp) y (by simp) z (by simp) h1.1 h2.1,
          seq_trans_of xs ys zs (by simpa using l1) (by simpa using l2)
            (fun a ha b hb c hc => h a (by simp [ha]) b (by simp [hb]) c (by simp [hc])) h1.2 h2.2⟩


/-! ### the derived `==` is symmetric -/

mutual
theorem deq_symm : ∀ (a b : Value), deq a b = deq b a
  | a, b => by
    by_cases h : vidx a = vidx b
    · have hb := ctor_of_vidx_eq h
      cases a with
      | null => cases hb; rfl
      | float x => obtain ⟨y, rfl⟩ := hb; exact eqv_symm _ _
      | list xs => obtain ⟨ys, rfl⟩ := hb; exact deqList_symm xs ys
      | map xs => obtain ⟨ys, rfl⟩ := hb; exact deqMap_symm xs ys
      | path n e => obtain ⟨n', e', rfl⟩ := hb; simp only [deq]; rw [BEq.comm (a := n), BEq.comm (a := e)]
      | _ => obtain ⟨y, rfl⟩ := hb; exact BEq.comm
    · rw [Bool.eq_false_iff.2 (mt vidx_eq_of_deq h), Bool.eq_false_iff.2 (mt vidx_eq_of_deq (Ne.symm h))]
theorem deqList_symm : ∀ (a b : List Value), deqList a b = deqList b a
  | [], [] | [], _ :: _ | _ :: _, [] => rfl
  | x :: xs, y :: ys => by simp only [deqList]; rw [deq_symm x y, deqList_symm xs ys]
theorem deqMap_symm : ∀ (a b : List (Str × Value)), deqMap a b = deqMap b a
  | [], [] | [], _ :: _ | _ :: _, [] => rfl
  | (k, x) :: xs, (k', y) :: ys => by
    simp only [deqMap]; rw [deq_symm x y, deqMap_symm xs ys, BEq.comm (a := k)]
end

/-! ### `=` is symmetric on all well-formed values -/

theorem ce_symm : ∀ (a b : Value), a.wf = true → b.wf = true → cypherEquals a b = cypherEquals b a := by
  intro a
  induction a using Value.ind with | step a ih => ?_
  intro b wa wb
  by_cases ha : a = .null
  · subst ha; rw [ce_null_right]; rfl
  by_cases hb : b = .null
  · subst hb; rw [ce_null_right]; rfl
  have sub : ∀ x ∈ a.kids, ∀ y ∈ b.kids, cypherEquals x y = cypherEquals y x :=
    fun x hx y hy => ih x hx y (wf_kids wa x hx) (wf_kids wb y hy)
  by_cases h : ceClass a = ceClass b ∧ ceClass a ≠ 4
  · have hk := kind_of_ceClass_eq h.1
    cases a with
    | int x | float x => rw [cypherEquals_num _ b rfl hk wa wb, cypherEquals_num b _ hk rfl wb wa, numCmp_spec_swap]
    | list xs =>
      obtain ⟨ys, rfl⟩ := hk
      rw [ce_list, ce_list]
      by_cases hl : xs.length = ys.length
      · rw [if_pos hl, if_pos hl.symm]
        exact seq_symm_of xs ys sub
      · rw [if_neg hl, if_neg (Ne.symm hl)]
    | map l =>
      obtain ⟨r, rfl⟩ := hk
      simp only [wf, Bool.and_eq_true] at wa wb
      rw [cypherEquals_map l r wa.1 wb.1, cypherEquals_map r l wb.1 wa.1]
      by_cases h : l.length = r.length ∧ keysOf l = keysOf r
      · rw [if_pos h, if_pos ⟨h.1.symm, h.2.symm⟩]
        exact seq_symm_of _ _ sub
      · rw [if_neg h, if_neg (fun e => h ⟨e.1.symm, e.2.symm⟩)]
    | _ => first | exact absurd rfl ha | exact absurd rfl h.2
  · rw [ce_other ha hb (by omega), ce_other hb ha (by omega), deq_symm]

theorem listAll_symm : ∀ (xs : List Value), wfList xs = true → ∀ x ∈ xs, ∀ y, y.wf = true →
    cypherEquals x y = cypherEquals y x :=
  fun xs h x hx y => ce_symm x y (wf_kids (v := .list xs) h x hx)


/-! ### `=` is transitive on all well-formed values -/

theorem ce_list_true {xs ys : List Value} (h : cypherEquals (.list xs) (.list ys) = .bool true) :
    xs.length = ys.length ∧ cypherEqualsSeq xs ys = .bool true := by
  rw [ce_list] at h
  split at h
  · exact ⟨‹_›, h⟩
  · cases h

theorem ce_list_of {xs ys : List Value} (hl : xs.length = ys.length) (h : cypherEqualsSeq xs ys = .bool true) :
    cypherEquals (.list xs) (.list ys) = .bool true := by
  rw [ce_list, if_pos hl, h]

theorem ceClass_eq_of_true {a b : Value} (h : cypherEquals a b = .bool true) :
    a ≠ .null ∧ b ≠ .null ∧ ceClass a = ceClass b := by
  have ha : a ≠ .null := fun e => by subst e; cases h
  have hb : b ≠ .null := fun e => by subst e; rw [ce_null_right] at h; cases h
  refine ⟨ha, hb, Classical.byContradiction fun hne => ?_⟩
  rw [ce_other ha hb (.inl hne)] at h
  exact hne (ceClass_eq_of_deq (Value.bool.inj h))

theorem eq_of_ce_other {a b : Value} (hc : ceClass a = 4) (h : cypherEquals a b = .bool true) : a = b := by
  obtain ⟨ha, hb, _⟩ := ceClass_eq_of_true h
  rw [ce_other ha hb (.inr hc)] at h
  exact eq_of_deq_other hc (Value.bool.inj h)

theorem ce_trans : ∀ (a b c : Value), a.wf = true → b.wf = true → c.wf = true →
    cypherEquals a b = .bool true → cypherEquals b c = .bool true → cypherEquals a c = .bool true := by
  intro a
  induction a using Value.ind with | step a ih => ?_
  intro b c wa wb wc h1 h2
  have e1 := (ceClass_eq_of_true h1).2.2
  have hb := kind_of_ceClass_eq e1
  have hc := kind_of_ceClass_eq (e1.trans (ceClass_eq_of_true h2).2.2)
  have sub : ∀ x ∈ a.kids, ∀ y ∈ b.kids, ∀ z ∈ c.kids, cypherEquals x y = .bool true →
      cypherEquals y z = .bool true → cypherEquals x z = .bool true :=
    fun x hx y hy z hz => ih x hx y z (wf_kids wa x hx) (wf_kids wb y hy) (wf_kids wc z hz)
  cases a with
  | null => cases h1
  | int x | float x =>
    rw [cypherEquals_num _ b rfl hb wa wb] at h1
    rw [cypherEquals_num b c hb hc wb wc] at h2
    rw [cypherEquals_num _ c rfl hc wa wc]
    exact congrArg _ (numCmp_spec_trans _ b c (Value.bool.inj h1) (Value.bool.inj h2))
  | list xs =>
    obtain ⟨ys, rfl⟩ := hb; obtain ⟨zs, rfl⟩ := hc
    obtain ⟨l1, s1⟩ := ce_list_true h1
    obtain ⟨l2, s2⟩ := ce_list_true h2
    exact ce_list_of (l1.trans l2) (seq_trans_of xs ys zs l1 l2 sub s1 s2)
  | map l =>
    obtain ⟨m, rfl⟩ := hb; obtain ⟨r, rfl⟩ := hc
    simp only [wf, Bool.and_eq_true] at wa wb wc
    rw [cypherEquals_map l m wa.1 wb.1] at h1
    rw [cypherEquals_map m r wb.1 wc.1] at h2
    rw [cypherEquals_map l r wa.1 wc.1]
    split at h1 <;> first | cases h1 | skip
    split at h2 <;> first | cases h2 | skip
    rename_i c1 c2
    rw [if_pos ⟨c1.1.trans c2.1, c1.2.trans c2.2⟩]
    exact seq_trans_of (valsOf l) (valsOf m) (valsOf r) (by simpa [valsOf] using c1.1) (by simpa [valsOf] using c2.1) sub h1 h2
  | _ => cases eq_of_ce_other rfl h1; exact h2

theorem listAll_trans : ∀ (xs : List Value), wfList xs = true → ∀ x ∈ xs, ∀ y z, y.wf = true → z.wf = true →
    cypherEquals x y = .bool true → cypherEquals y z = .bool true → cypherEquals x z = .bool true :=
  fun xs h x hx y z => ce_trans x y z (wf_kids (v := .list xs) h x hx)

theorem mapAll_trans : ∀ (l : List (Str × Value)), wfMap l = true → ∀ x ∈ valsOf l, ∀ y z, y.wf = true →
    z.wf = true → cypherEquals x y = .bool true → cypherEquals y z = .bool true → cypherEquals x z = .bool true :=
  fun _ h x hx y z => ce_trans x y z (wfMap_mem h x hx)


/-! ### `=` is reflexive on well-formed values without null and NaN -/

theorem ce_refl : ∀ (a : Value), a.wf = true → Spec.clean a = true → cypherEquals a a = .bool true := by
  intro a
  induction a using Value.ind with | step a ih => ?_
  intro wa ca
  have sub : ∀ x ∈ a.kids, cypherEquals x x = .bool true := fun x hx => ih x hx (wf_kids wa x hx) (clean_kids ca x hx)
  cases a with
  | list xs => exact ce_list_of rfl (seq_refl_of xs sub)
  | map l =>
    simp only [wf, Bool.and_eq_true] at wa
    rw [cypherEquals_map l l wa.1 wa.1, if_pos ⟨rfl, rfl⟩]
    exact seq_refl_of _ sub
  | null => cases ca
  | int x => simp [cypherEquals]
  | float x =>
    have h : (ofBits x).isNaN = false := by simpa [Spec.clean] using ca
    have h' : fNaN x = false := h
    simp [cypherEquals, h', eqv_refl _ h]
  | _ =>
    refine (ce_other ?_ ?_ (.inr rfl)).trans ?_
    · nofun
    · nofun
    · simp [deq]

theorem listAll_refl : ∀ (xs : List Value), wfList xs = true → Spec.clean.cleanList xs = true →
    ∀ x ∈ xs, cypherEquals x x = .bool true :=
  fun xs h c x hx => ce_refl x (wf_kids (v := .list xs) h x hx) (clean_kids (v := .list xs) c x hx)

theorem mapAll_refl : ∀ (l : List (Str × Value)), wfMap l = true → Spec.clean.cleanMap l = true →
    ∀ x ∈ valsOf l, cypherEquals x x = .bool true :=
  fun l h c x hx => ce_refl x (wfMap_mem h x hx) (clean_kids (v := .map l) c x hx)

end Nervus
