/-
  Proofs.Num — numbers (Int and Float) compared as the exact values they denote: the model's comparisons
  (`Eval.numCmp` of `<` and `=`, `numCmpNanLast` of ORDER BY) and the Spec's (`Spec.numCmp`) are all the comparison
  `cmpTK` of the dyadic values `numF` (`numCmpNanLast_exact`, `numCmp_eq`, `spec_numCmp`), which differ only in what a
  NaN does; hence they agree on well-formed numbers (`numCmp_eq_spec`) and inherit antisymmetry and transitivity.
-/
import Nervus.Proofs.Derived
import Nervus.Spec.Findings
import Nervus.Spec.CypherValue
namespace Nervus
open F64 Value Eval Spec

/-- the Spec's value of a number, made total (NaN for non-numbers, never used there) -/
def numF (a : Value) : F64 := (Spec.numVal a).getD .nan

def isNum : Value → Bool
  | .int _ | .float _ => true
  | _ => false

theorem isNum_cases {a : Value} (h : isNum a = true) : (∃ i, a = .int i) ∨ ∃ b, a = .float b := by
  cases a <;> first | exact .inl ⟨_, rfl⟩ | exact .inr ⟨_, rfl⟩ | cases h

theorem numCmpNanLast_swap (a b : Value) (ha : isNum a) (hb : isNum b) :
    numCmpNanLast a b = (numCmpNanLast b a).swap := by
  obtain ⟨x, rfl⟩ | ⟨x, rfl⟩ := isNum_cases ha <;> obtain ⟨y, rfl⟩ | ⟨y, rfl⟩ := isNum_cases hb <;>
    simp only [numCmpNanLast]
  · exact cmpInt_laws.swap x y
  · by_cases h : fNaN y <;> simp [h]
  · by_cases h : fNaN x <;> simp [h]
  · exact cmpTK_laws.swap _ _

theorem ofBits_of_fNaN {b : Nat} (h : fNaN b = true) : ofBits b = .nan := by
  unfold fNaN at h; cases hh : ofBits b <;> simp_all [isNaN]

theorem numCmpNanLast_exact (a b : Value) (ha : isNum a) (hb : isNum b) (wa : a.wf) (wb : b.wf) :
    numCmpNanLast a b = cmpTK (numF a) (numF b) := by
  obtain ⟨x, rfl⟩ | ⟨x, rfl⟩ := isNum_cases ha <;> obtain ⟨y, rfl⟩ | ⟨y, rfl⟩ := isNum_cases hb <;>
    simp only [wf, i64Ok, Bool.and_eq_true, decide_eq_true_eq] at wa wb <;> simp only [numCmpNanLast, numF, Spec.numVal, Option.getD]
  · exact (cmpTK_exact_exact x y).symm
  · by_cases h : fNaN y
    · rw [if_pos h, ofBits_of_fNaN h]; rfl
    · rw [if_neg h]
      exact cmpIntFloat_exact x wa.1 wa.2 _ (by simpa [fNaN] using h)
  · by_cases h : fNaN x
    · rw [if_pos h, ofBits_of_fNaN h]; rfl
    · rw [if_neg h, cmpIntFloat_exact y wb.1 wb.2 _ (by simpa [fNaN] using h), ← cmpTK_laws.swap]
  · rfl

theorem numCmp_eq (a b : Value) (ha : isNum a) (hb : isNum b) :
    Eval.numCmp a b = if (numF a).isNaN || (numF b).isNaN then none else some (numCmpNanLast a b) := by
  obtain ⟨x, rfl⟩ | ⟨x, rfl⟩ := isNum_cases ha <;> obtain ⟨y, rfl⟩ | ⟨y, rfl⟩ := isNum_cases hb
  · rfl
  · show (if fNaN y then _ else _) = if fNaN y then _ else _
    split <;> simp [numCmpNanLast, *]
  · show (if fNaN x then _ else _) = if (fNaN x || false) then _ else _
    split <;> simp [numCmpNanLast, *]
  · rfl

theorem spec_numCmp (a b : Value) (ha : isNum a) (hb : isNum b) : Spec.numCmp a b = F64.cmp (numF a) (numF b) := by
  obtain ⟨x, rfl⟩ | ⟨x, rfl⟩ := isNum_cases ha <;> obtain ⟨y, rfl⟩ | ⟨y, rfl⟩ := isNum_cases hb <;> rfl

theorem isNaN_exact (i : Int) : (exact i).isNaN = false := rfl

theorem fNaN_iff (b : Nat) : fNaN b = (ofBits b).isNaN := rfl

theorem numCmp_eq_spec (a b : Value) (ha : isNum a = true) (hb : isNum b = true) (wa : a.wf = true) (wb : b.wf = true) :
    Eval.numCmp a b = Spec.numCmp a b := by
  rw [numCmp_eq a b ha hb, numCmpNanLast_exact a b ha hb wa wb, spec_numCmp a b ha hb]; rfl

theorem numF_notNaN {a : Value} (ha : isNum a) (ca : clean a = true) : (numF a).isNaN = false := by
  obtain ⟨x, rfl⟩ | ⟨x, rfl⟩ := isNum_cases ha
  · rfl
  · simpa [clean, numF, Spec.numVal] using ca

theorem numCmp_nonNaN (a b : Value) (ha : isNum a = true) (hb : isNum b = true) (ca : clean a = true)
    (cb : clean b = true) : Eval.numCmp a b = some (numCmpNanLast a b) := by
  rw [numCmp_eq a b ha hb, numF_notNaN ha ca, numF_notNaN hb cb]; rfl

theorem numCmp_spec_nonNaN (a b : Value) (ha : isNum a = true) (hb : isNum b = true) (ca : clean a = true)
    (cb : clean b = true) : Spec.numCmp a b = some (cmpTK (numF a) (numF b)) := by
  rw [spec_numCmp a b ha hb, F64.cmp, numF_notNaN ha ca, numF_notNaN hb cb]; rfl

theorem numCmp_swap (a b : Value) (ha : isNum a = true) (hb : isNum b = true) :
    Eval.numCmp a b = (Eval.numCmp b a).map Ordering.swap := by
  rw [numCmp_eq a b ha hb, numCmp_eq b a hb ha, numCmpNanLast_swap a b ha hb, Bool.or_comm]
  split <;> rfl

theorem eqv_symm (x y : F64) : F64.eqv x y = F64.eqv y x := by
  unfold F64.eqv
  rw [f64cmp_plaws.swap x y]
  cases F64.cmp y x with
  | none => rfl
  | some o => cases o <;> rfl

theorem numCmp_spec_swap (a b : Value) : (Spec.numCmp a b == some .eq) = (Spec.numCmp b a == some .eq) := by
  unfold Spec.numCmp
  cases Spec.numVal a <;> cases Spec.numVal b <;> try rfl
  rename_i x y
  exact eqv_symm x y

theorem numCmp_spec_trans (a b c : Value) (h1 : (Spec.numCmp a b == some .eq) = true)
    (h2 : (Spec.numCmp b c == some .eq) = true) : (Spec.numCmp a c == some .eq) = true := by
  unfold Spec.numCmp at *
  cases ha : Spec.numVal a <;> cases hb : Spec.numVal b <;> cases hc : Spec.numVal c <;> simp_all
  exact f64cmp_plaws.trans _ _ _ .eq .eq h1 h2 (by simp) (by simp)

end Nervus
