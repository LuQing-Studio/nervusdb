/-
  Proofs.CrashInv — what the operations through a handle keep: `SafeFS` (every crash image of the
  files represents one of the given lists), logs that are stable under power loss (`WalStable`),
  the handle invariant `InvOpen` (files and memory agree on the committed list `T`) with the
  updates of files and memory it allows, `TailPre`, and what a handle in the invariant shows
  (`content_of_inv`).
-/
import Nervus.Proofs.CrashRep
import Nervus.Proofs.CrashPager
namespace Nervus.Crash

def SafeFS (Ts : List (List Tx)) (fs : FS) : Prop :=
  ∀ mode : CrashMode, ∃ T ∈ Ts, Rep T (fs.crashP mode) (fs.crashW mode)

structure WalQuiet (fs : FS) : Prop where
  wdur : fs.wdur = fs.wf.length
  ren : fs.ren = none

theorem WalQuiet.crashW {fs : FS} (h : WalQuiet fs) (mode : CrashMode) : fs.crashW mode = fs.wf := by
  cases mode with
  | proc => rfl
  | power sel wk lose =>
    simp only [FS.crashW, h.ren]
    rw [h.wdur, List.take_of_length_le (by omega)]

theorem step_pager_wal (fs : FS) (s : Step) (h : PagerStep s) :
    (fs.step s).wf = fs.wf ∧ (fs.step s).wdur = fs.wdur ∧ (fs.step s).ren = fs.ren := by
  cases s <;> simp [PagerStep] at h <;> simp [FS.step]

theorem steps_pager_wal (S : List Step) (hS : ∀ s ∈ S, PagerStep s) (fs : FS) :
    (fs.steps S).wf = fs.wf ∧ (fs.steps S).wdur = fs.wdur ∧ (fs.steps S).ren = fs.ren := by
  induction S generalizing fs with
  | nil => simp [FS.steps]
  | cons s S ih =>
    have h1 := step_pager_wal fs s (hS s (by simp))
    have h2 := ih (fun s' hs' => hS s' (by simp [hs'])) (fs.step s)
    simp only [FS.steps, List.foldl] at h2 ⊢
    exact ⟨h2.1.trans h1.1, h2.2.1.trans h1.2.1, h2.2.2.trans h1.2.2⟩

theorem take_pager_wal (S : List Step) (hS : ∀ s ∈ S, PagerStep s) (fs : FS) (n : Nat) :
    (fs.steps (S.take n)).wf = fs.wf ∧ (fs.steps (S.take n)).wdur = fs.wdur ∧ (fs.steps (S.take n)).ren = fs.ren :=
  steps_pager_wal _ (fun s hs => hS s (List.mem_of_mem_take hs)) fs

/-- every image of the log that a power loss may leave has the same committed list `cs`: the
    durable prefix may be followed by unsynced complete records of an unfinished transaction -/
structure WalStable (cs : List CTx) (fs : FS) : Prop where
  ren : fs.ren = none
  wdur : fs.wdur ≤ fs.wf.length
  stable : ∀ n, fs.wdur ≤ n → committed (readAll (fs.wf.take n)) = .ok cs

theorem WalStable.of_quiet {cs : List CTx} {fs : FS} (hq : WalQuiet fs) (hcom : committed (readAll fs.wf) = .ok cs) :
    WalStable cs fs :=
  ⟨hq.ren, by rw [hq.wdur]; exact Nat.le_refl _, fun n hn => by rw [List.take_of_length_le (by rw [← hq.wdur]; exact hn)]; exact hcom⟩

theorem WalStable.com {cs : List CTx} {fs : FS} (h : WalStable cs fs) : committed (readAll fs.wf) = .ok cs := by
  have := h.stable fs.wf.length h.wdur
  rwa [List.take_length] at this

theorem WalStable.crashW {cs : List CTx} {fs : FS} (h : WalStable cs fs) (mode : CrashMode) :
    ∃ n, fs.wdur ≤ n ∧ fs.crashW mode = fs.wf.take n := by
  cases mode with
  | proc => exact ⟨fs.wf.length, h.wdur, by simp [FS.crashW]⟩
  | power sel wk lose => exact ⟨fs.wdur + wk, Nat.le_add_right _ _, by simp [FS.crashW, h.ren]⟩

/-- cutting the log back keeps it stable, provided what is left has the same committed list (the
    cut may go below the durable prefix) -/
theorem WalStable.wt {cs : List CTx} {fs : FS} (h : WalStable cs fs) (n : Nat)
    (hn : committed (readAll (fs.wf.take n)) = .ok cs) : WalStable cs (fs.step (.wt n)) := by
  refine ⟨h.ren, ?_, fun k hk => ?_⟩
  · show min fs.wdur n ≤ (fs.wf.take n).length
    rw [List.length_take]; have := h.wdur; omega
  · show committed (readAll ((fs.wf.take n).take k)) = .ok cs
    have hk' : min fs.wdur n ≤ k := hk
    rw [List.take_take]
    by_cases hd : fs.wdur ≤ min k n
    · exact h.stable _ hd
    · rw [show min k n = n by omega]; exact hn

theorem WalStable.congr {cs : List CTx} {g g' : FS} (h : WalStable cs g) (hw : g'.wf = g.wf) (hd : g'.wdur = g.wdur)
    (hr : g'.ren = g.ren) : WalStable cs g' :=
  ⟨hr.trans h.ren, by rw [hd, hw]; exact h.wdur, fun n hn => by rw [hw]; exact h.stable n (hd ▸ hn)⟩

/-- an open handle between two operations: files and memory agree on the committed list `T` -/
structure InvOpen (T : List Tx) (fs : FS) (m : Mem) (cs : List CTx) (c : Nat) : Prop where
  pj : Inert fs.pj
  wal : WalStable cs fs
  log : LogOK T cs c
  pager : PagerOK (allNodes T) c fs.pd
  store : StoreOK T cs fs.pd
  full : fs.pd.hdr.i2eLen = (allNodes T).length
  mpm : SameKey fs.pd.hdr m.pm
  mbm : fs.pd.bm ≤ m.bm
  mlen : m.idLen = (allNodes T).length
  mstart : m.idStart = fs.pd.hdr.i2eStart
  mexts : m.exts = allNodes T
  mruns : m.runs = logRuns (scan cs).ckpt cs
  msegs : m.segs = (scan cs).segs.map (fun k => (k, segEdges fs.pd k))
  mroot : m.proot = (scan cs).proot
  mptop : m.ptop = (scan cs).ptop
  mepoch : m.epoch = (scan cs).epoch
  mtxid : (scan cs).maxTxid < m.nextTxid
  mwal : m.walOpen = true

/-- the log has no torn tail, or the next append cuts it off (C17's repair) -/
def TailPre (cfg : Cfg) (fs : FS) (m : Mem) : Prop :=
  validLen fs.wf = fs.wf.length ∨ (cfg.tailTolerant && !m.tailChecked) = true

theorem InvOpen.pv {T : List Tx} {fs : FS} {m : Mem} {cs : List CTx} {c : Nat} (h : InvOpen T fs m cs c) :
    fs.pv = fs.pd := pv_inert fs h.pj

theorem InvOpen.rep {T : List Tx} {fs : FS} {m : Mem} {cs : List CTx} {c : Nat} (h : InvOpen T fs m cs c) :
    Rep T fs.pd fs.wf := ⟨cs, c, h.wal.com, h.log, h.pager, h.store⟩

theorem msegs_keys {T : List Tx} {fs : FS} {m : Mem} {cs : List CTx} {c : Nat} (h : InvOpen T fs m cs c) :
    m.segs.map (·.1) = (scan cs).segs := by
  rw [h.msegs, List.map_map]
  exact List.map_id' _

theorem safeFS_of_stable {T : List Tx} {fs : FS} {cs : List CTx} {c : Nat} (hpj : Inert fs.pj) (hw : WalStable cs fs)
    (hlog : LogOK T cs c) (hp : PagerOK (allNodes T) c fs.pd) (hs : StoreOK T cs fs.pd) : SafeFS [T] fs := by
  intro mode
  obtain ⟨n, hn, hW⟩ := hw.crashW mode
  refine ⟨T, by simp, cs, c, ?_, hlog, ?_, ?_⟩
  · rw [hW]; exact hw.stable n hn
  · rw [crashP_inert fs hpj]; exact hp
  · rw [crashP_inert fs hpj]; exact hs

theorem safeFS_of_rep {T : List Tx} {fs : FS} (hpj : Inert fs.pj) (hq : WalQuiet fs) (h : Rep T fs.pd fs.wf) :
    SafeFS [T] fs := by
  obtain ⟨cs, c, hcom, hlog, hp, hs⟩ := h
  exact safeFS_of_stable hpj (WalStable.of_quiet hq hcom) hlog hp hs

theorem safeFS_mono {A B : List (List Tx)} {fs : FS} (h : SafeFS A fs) (hab : ∀ T ∈ A, T ∈ B) : SafeFS B fs := by
  intro mode
  obtain ⟨T, hT, hr⟩ := h mode
  exact ⟨T, hab T hT, hr⟩

theorem InvOpen.safeFS {T : List Tx} {fs : FS} {m : Mem} {cs : List CTx} {c : Nat} (h : InvOpen T fs m cs c) : SafeFS [T] fs :=
  safeFS_of_stable h.pj h.wal h.log h.pager h.store

/-- the invariant needs the transaction counter only to stay above the log and does not look at
    the tail flag; it looks at the files only through the durable page image, the inertness of the
    unsynced operations and the stability of the log -/
theorem InvOpen.of_mem {T : List Tx} {fs g : FS} {m : Mem} {cs : List CTx} {c : Nat} (h : InvOpen T fs m cs c)
    (n : Nat) (hn : m.nextTxid ≤ n) (b : Bool) (hgj : Inert g.pj) (hgd : g.pd = fs.pd) (hgw : WalStable cs g) :
    InvOpen T g { m with nextTxid := n, tailChecked := b } cs c :=
  { pj := hgj, wal := hgw, log := h.log, pager := hgd ▸ h.pager, store := hgd ▸ h.store, full := hgd ▸ h.full,
    mpm := hgd ▸ h.mpm, mbm := hgd ▸ h.mbm, mlen := h.mlen, mstart := hgd ▸ h.mstart, mexts := h.mexts, mruns := h.mruns,
    msegs := hgd ▸ h.msegs, mroot := h.mroot, mptop := h.mptop, mepoch := h.mepoch,
    mtxid := Nat.lt_of_lt_of_le h.mtxid hn, mwal := h.mwal }

theorem InvOpen.of_cut {T : List Tx} {g g' : FS} {mm : Mem} {cs : List CTx} {c : Nat} (h : InvOpen T g mm cs c) (b : Bool)
    (hgj : Inert g'.pj) (hgd : g'.pd = g.pd) (hgw : WalStable cs g') : InvOpen T g' { mm with tailChecked := b } cs c :=
  h.of_mem mm.nextTxid (Nat.le_refl _) b hgj hgd hgw

theorem InvOpen.bump {T : List Tx} {fs : FS} {m : Mem} {cs : List CTx} {c : Nat} (h : InvOpen T fs m cs c) :
    InvOpen T fs (applyUpd m .bumpTxid) cs c :=
  h.of_mem (m.nextTxid + 1) (Nat.le_succ _) m.tailChecked h.pj rfl h.wal

theorem spec_run_eq (T : List Tx) : Spec.run T = ⟨allNodes T, allEdges T, allProps T⟩ := by
  induction T with
  | nil => rfl
  | cons tx T ih => simp [Spec.run, ih, allNodes, allEdges, allProps]

/-- what a handle shows on any page-file image whose segments / tree / runs make up `T` -/
theorem content_of_store {T : List Tx} {m : Mem} {cs : List CTx} {p : PImg} (hst : StoreOK T cs p)
    (mexts : m.exts = allNodes T) (mruns : m.runs = logRuns (scan cs).ckpt cs)
    (msegs : m.segs = (scan cs).segs.map (fun k => (k, segEdges p k))) (mroot : m.proot = (scan cs).proot)
    (mptop : m.ptop = (scan cs).ptop) :
    Spec.Content.same (content m p) (Spec.run T) := by
  rw [spec_run_eq]
  refine ⟨mexts, ?_, ?_⟩
  · intro e
    have : m.segs.flatMap (·.2) = (scan cs).segs.flatMap (segEdges p) := by
      rw [msegs, List.flatMap_map]
    simp only [content, this, mruns]
    exact hst.edges e
  · intro q
    obtain ⟨cov, hc1, hc2, hc3⟩ := hst.props
    by_cases hr : (scan cs).proot = 0
    · simp only [content, mroot, hr, if_true, List.append_nil, mruns]
      constructor
      · exact hst.runProps q
      · intro hq
        rcases hc1 q hq with h' | h'
        · exact h'
        · rw [hc2 hr] at h'; simp at h'
    · obtain ⟨tr, hf, hto⟩ := hc3 hr
      obtain ⟨X, hsh, hall, hcov⟩ := hto.shape
      obtain ⟨pids, hl⟩ := hsh.leaves
      have hfind : p.trees.find? (fun t => t.key == (scan cs).proot) = some tr := hf
      have hent : treeEntries tr = X.flatten := by simp [treeEntries, hl, entries_mkLeaves]
      have hhas := treeHas_iff hfind hsh
      simp only [content, mroot, hr, if_false, mptop, hfind, hent, mruns, List.mem_append, List.mem_filter, hhas]
      constructor
      · rintro (h' | ⟨h1, _⟩)
        · exact hst.runProps q h'
        · exact hall q h1
      · intro hq
        rcases hc1 q hq with h' | h'
        · exact Or.inl h'
        · right
          obtain ⟨h1, h2⟩ := hcov q h'
          exact ⟨h1, h1, h2⟩

theorem content_of_inv {T : List Tx} {fs : FS} {m : Mem} {cs : List CTx} {c : Nat} (h : InvOpen T fs m cs c) :
    Spec.Content.same (content m fs.pv) (Spec.run T) := by
  rw [h.pv]
  exact content_of_store h.store h.mexts h.mruns h.msegs h.mroot h.mptop

end Nervus.Crash
