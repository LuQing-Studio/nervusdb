/-
  C31, `insert` on the graph.  `Conn` (all layers closed; base layer symmetric, duplicate-free, without
  self-links, connected) is kept by the insert of a new id into an index of at most `2m` vectors: a
  base-layer list has fewer entries than there are stored ids (`Conn.deg_lt`), so `truncate` never
  fires and every back-link appends.  The layer loop is followed with `Mid`: the layers still to do
  are as before the insert, the base layer once done is as `L0New` says; `layer_adj` is the adjacency
  after one iteration in closed form.  The new node then hangs on a neighbour, both ways.
-/
import Nervus.Proofs.HnswTop
namespace Nervus.Hnsw

variable {V D : Type}

/-! ### the graph store as a map -/

theorem getNbrs_setNbrs (ix : Index V) (l n : Nat) (xs : List Nat) (l' n' : Nat) :
    getNbrs (setNbrs ix l n xs) l' n' = if l' = l ∧ n' = n then xs else getNbrs ix l' n' := by
  show (match (((l, n), xs) :: ix.adj).lookup (l', n') with | some l => l | none => []) = _
  rw [List.lookup_cons]
  by_cases h : l' = l ∧ n' = n
  · rw [if_pos h, h.1, h.2, beq_self_eq_true]
  · rw [if_neg h, beq_eq_false_iff_ne.mpr fun e => h (Prod.mk.inj e)]; rfl

theorem setNbrs_vecs (ix : Index V) (l n : Nat) (xs : List Nat) : (setNbrs ix l n xs).vecs = ix.vecs := rfl

/-- what one back-link does to a neighbour list -/
def backlinked (m id : Nat) (nn : List Nat) : List Nat :=
  if nn.contains id then nn
  else if (nn ++ [id]).length > m * 2 then (nn ++ [id]).take m else nn ++ [id]

theorem backlink_meta (m l id : Nat) (ix : Index V) (n : Nat) :
    (backlink m l id ix n).vecs = ix.vecs ∧ (backlink m l id ix n).entry = ix.entry ∧
      (backlink m l id ix n).maxLayer = ix.maxLayer := by
  unfold backlink; simp only []; split <;> exact ⟨rfl, rfl, rfl⟩

theorem getNbrs_backlink (m l id : Nat) (ix : Index V) (n l' n' : Nat) :
    getNbrs (backlink m l id ix n) l' n' =
      if l' = l ∧ n' = n then backlinked m id (getNbrs ix l n) else getNbrs ix l' n' := by
  unfold backlink backlinked
  simp only []
  by_cases hc : (getNbrs ix l n).contains id = true
  · rw [if_pos hc, if_pos hc]
    split
    · next h => rw [h.1, h.2]
    · rfl
  · rw [if_neg hc, if_neg hc, getNbrs_setNbrs]

theorem foldl_backlink_meta (m l id : Nat) (ns : List Nat) (ix : Index V) :
    (ns.foldl (backlink m l id) ix).vecs = ix.vecs ∧ (ns.foldl (backlink m l id) ix).entry = ix.entry ∧
      (ns.foldl (backlink m l id) ix).maxLayer = ix.maxLayer :=
  List.foldlRecOn ns _ (motive := fun a : Index V => a.vecs = ix.vecs ∧ a.entry = ix.entry ∧ a.maxLayer = ix.maxLayer)
    ⟨rfl, rfl, rfl⟩ fun a ih n _ =>
      have h := backlink_meta m l id a n
      ⟨h.1.trans ih.1, h.2.1.trans ih.2.1, h.2.2.trans ih.2.2⟩

theorem getNbrs_foldl_backlink (m l id : Nat) :
    ∀ (ns : List Nat) (ix : Index V), ns.Nodup → ∀ l' n',
      getNbrs (ns.foldl (backlink m l id) ix) l' n' =
        if l' = l ∧ n' ∈ ns then backlinked m id (getNbrs ix l n') else getNbrs ix l' n' := by
  intro ns
  induction ns with
  | nil => intro ix _ l' n'; simp
  | cons n ns ih =>
    intro ix hnd l' n'
    rw [List.nodup_cons] at hnd
    rw [List.foldl_cons, ih _ hnd.2]
    simp only [getNbrs_backlink]
    by_cases hl : l' = l
    · subst hl
      by_cases hn : n' = n
      · subst hn; simp [hnd.1]
      · by_cases hin : n' ∈ ns <;> simp [hn, hin]
    · simp [hl]

/-- the adjacency after the iteration of step 4 at layer `l`: the new node's list, and one back-link
    in the list of each of its neighbours -/
theorem layer_adj (m l id : Nat) (ixc : Index V) {nbrs : List Nat} (hnd : nbrs.Nodup) (hid : id ∉ nbrs)
    (l' n' : Nat) :
    getNbrs (nbrs.foldl (backlink m l id) (setNbrs ixc l id nbrs)) l' n' =
      if l' = l then
        if n' = id then nbrs else if n' ∈ nbrs then backlinked m id (getNbrs ixc l n') else getNbrs ixc l n'
      else getNbrs ixc l' n' := by
  rw [getNbrs_foldl_backlink m l id nbrs _ hnd]
  simp only [getNbrs_setNbrs]
  by_cases hl : l' = l
  · subst hl
    by_cases hn : n' = id
    · subst hn; simp [hid]
    · by_cases hin : n' ∈ nbrs <;> simp [hn, hin]
  · simp [hl]

theorem mem_backlinked {m id : Nat} {nn : List Nat} {j : Nat} (h : j ∈ backlinked m id nn) : j = id ∨ j ∈ nn := by
  unfold backlinked at h
  split at h
  · exact Or.inr h
  · split at h
    · have := (List.take_sublist _ _).subset h
      rcases List.mem_append.mp this with h1 | h1
      · exact Or.inr h1
      · simp only [List.mem_singleton] at h1; exact Or.inl h1
    · rcases List.mem_append.mp h with h1 | h1
      · exact Or.inr h1
      · simp only [List.mem_singleton] at h1; exact Or.inl h1

theorem backlinked_append {m id : Nat} {nn : List Nat} (hid : id ∉ nn) (hlen : nn.length + 1 ≤ m * 2) :
    backlinked m id nn = nn ++ [id] := by
  unfold backlinked
  have : nn.contains id = false := by simpa using hid
  simp only [this, Bool.false_eq_true, if_false, List.length_append, List.length_singleton]
  have : ¬ nn.length + 1 > m * 2 := by omega
  simp [this]

/-! ### reachability is monotone in the adjacency -/

theorem reach_mono {ix ix' : Index V} {layer : Nat}
    (h : ∀ i j, j ∈ getNbrs ix layer i → j ∈ getNbrs ix' layer i) {i j : Nat} (hr : Reach ix layer i j) :
    Reach ix' layer i j := by
  induction hr with
  | refl => exact Reach.refl _
  | step hj _ ih => exact Reach.step (h _ _ hj) ih

theorem reach_trans {ix : Index V} {layer : Nat} {i j k : Nat} (h1 : Reach ix layer i j) (h2 : Reach ix layer j k) :
    Reach ix layer i k := by
  induction h1 with
  | refl => exact h2
  | step hj _ ih => exact Reach.step hj (ih h2)

/-! ### the invariant -/

/-- the graph `insert` maintains for first-time inserts while no list can exceed `2m` -/
structure Conn (ix : Index V) : Prop where
  keys : (ix.vecs.map (·.1)).Nodup
  entry : match ix.entry with
    | some e => e ∈ storedIds ix
    | none => ix.vecs = []
  closedAll : ∀ l i j, j ∈ getNbrs ix l i → j ∈ storedIds ix
  sym0 : ∀ i j, j ∈ getNbrs ix 0 i → i ∈ getNbrs ix 0 j
  nodup0 : ∀ i, (getNbrs ix 0 i).Nodup ∧ i ∉ getNbrs ix 0 i
  conn0 : ∀ i j, i ∈ storedIds ix → j ∈ storedIds ix → Reach ix 0 i j

theorem Conn.connected0 {ix : Index V} (h : Conn ix) : Connected0 ix :=
  ⟨fun _ _ j hj => h.closedAll 0 _ j hj, h.conn0⟩

theorem Conn.entry_none {ix : Index V} (h : Conn ix) (he : ix.entry = none) : storedIds ix = [] := by
  have := h.entry
  rw [he] at this
  simp only at this
  unfold storedIds; rw [this]; rfl

section step
variable {sp : Space V D} {p : Params} {ix : Index V} {id : Nat} {v : V}

/-- what holds of the intermediate index while `insert` walks down the layers -/
structure G (ix : Index V) (id : Nat) (v : V) (ixc : Index V) : Prop where
  vecs : ixc.vecs = (id, v) :: ix.vecs
  closed : ∀ l i j, j ∈ getNbrs ixc l i → j = id ∨ j ∈ storedIds ix

/-- the base layer after its iteration: the new node's list, one appended back-link per neighbour;
    neighbours are missing only when nothing else is stored -/
def L0New (ix : Index V) (id : Nat) (ixc : Index V) : Prop :=
  ∃ nbrs : List Nat, (storedIds ix ≠ [] → nbrs ≠ []) ∧ nbrs.Nodup ∧ (∀ n, n ∈ nbrs → n ∈ storedIds ix) ∧
    ∀ n, getNbrs ixc 0 n =
      if n = id then nbrs else if n ∈ nbrs then getNbrs ix 0 n ++ [id] else getNbrs ix 0 n

/-- the intermediate index while step 4 still has the layers `ls` before it: these are untouched,
    and the base layer, once it is behind, is as `L0New` says -/
structure Mid (ix : Index V) (id : Nat) (v : V) (ls : List Nat) (ixc : Index V) : Prop where
  g : G ix id v ixc
  todo : ∀ l, l ∈ ls → ∀ n, getNbrs ixc l n = getNbrs ix l n
  base : 0 ∉ ls → L0New ix id ixc

/-- a stored node is linked to stored nodes other than itself, each once -/
theorem Conn.deg_lt {ix : Index V} (hc : Conn ix) {n : Nat} (hn : n ∈ storedIds ix) :
    (getNbrs ix 0 n).length < (storedIds ix).length :=
  length_lt_of_misses (hc.nodup0 n).1 (hc.closedAll 0 n) (hc.nodup0 n).2 hn

theorem selectNeighbors_facts (sp : Space V D) (found : List (D × Nat)) (m : Nat)
    (hnd : (found.map (·.2)).Nodup) (hne : found ≠ []) :
    (selectNeighbors sp found m).Nodup ∧ selectNeighbors sp found m ≠ [] ∧
      ∀ n, n ∈ selectNeighbors sp found m → n ∈ found.map (·.2) := by
  unfold selectNeighbors
  have hperm := sortPairs_perm sp found
  have hsub := takeAtLeastOne_sublist m (sortPairs sp found)
  refine ⟨?_, ?_, ?_⟩
  · exact ((hperm.map (·.2)).nodup_iff.mpr hnd).sublist (hsub.map _)
  · have : sortPairs sp found ≠ [] := by
      intro h; rw [h] at hperm; exact hne (List.Perm.eq_nil hperm.symm)
    have := takeAtLeastOne_ne_nil m _ this
    intro h; apply this
    exact List.map_eq_nil_iff.mp h
  · intro n hn
    exact (hperm.map (·.2)).subset ((hsub.map _).subset hn)

/-- one iteration of step 4: the layer `l` moves from before the loop to behind it -/
theorem layer_step (hc : Conn ix) (hid : id ∉ storedIds ix) (hm : (storedIds ix).length ≤ p.m * 2)
    (hefc : 1 ≤ p.efC) (l : Nat) (ls : List Nat) (hl : l ∉ ls) (ixc : Index V) (eps : List Nat)
    (found : List (D × Nat)) (hmid : Mid ix id v (l :: ls) ixc)
    (hne : eps ≠ []) (heps : ∀ e, e ∈ eps → e ∈ storedIds ix)
    (hs : searchLayer sp ixc v eps p.efC l = .ok found) :
    let nbrs := selectNeighbors sp found p.m
    Mid ix id v ls (nbrs.foldl (backlink p.m l id) (setNbrs ixc l id nbrs)) ∧
      found.map (·.2) ≠ [] ∧ (∀ e, e ∈ found.map (·.2) → e ∈ storedIds ix) := by
  intro nbrs
  have hun := hmid.todo l List.mem_cons_self
  have hcl : ∀ i, i ∈ storedIds ix → ∀ j, j ∈ getNbrs ixc l i → j ∈ storedIds ix := by
    intro i _ j hj; rw [hun] at hj; exact hc.closedAll l i j hj
  obtain ⟨hfU, _, g2, g3⟩ := searchLayer_sound (P := (· ∈ storedIds ix)) eps p.efC l heps hcl found hs
  have hfne : found ≠ [] := g3 hefc hne
  obtain ⟨n1, n2, n3⟩ := selectNeighbors_facts sp found p.m g2 hfne
  have hnU : ∀ n, n ∈ nbrs → n ∈ storedIds ix := fun n hn => hfU n (n3 n hn)
  have hget := layer_adj p.m l id ixc n1 fun h => hid (hnU id h)
  refine ⟨⟨⟨(foldl_backlink_meta ..).1.trans hmid.g.vecs, fun l' i j hj => ?_⟩, fun l' hl' n => ?_, fun h0 => ?_⟩,
    fun h => hfne (List.map_eq_nil_iff.mp h), hfU⟩
  · rw [hget] at hj
    by_cases hl' : l' = l
    · rw [if_pos hl'] at hj
      by_cases hi : i = id
      · rw [if_pos hi] at hj; exact Or.inr (hnU j hj)
      · rw [if_neg hi] at hj
        by_cases hin : i ∈ nbrs
        · rw [if_pos hin] at hj; exact (mem_backlinked hj).elim Or.inl (hmid.g.closed l i j)
        · rw [if_neg hin] at hj; exact hmid.g.closed l i j hj
    · rw [if_neg hl'] at hj; exact hmid.g.closed l' i j hj
  · rw [hget, if_neg fun (e : l' = l) => hl (e ▸ hl')]; exact hmid.todo l' (List.mem_cons_of_mem _ hl') n
  · by_cases hl0 : l = 0
    · subst hl0
      refine ⟨nbrs, fun _ => n2, n1, hnU, fun n => ?_⟩
      rw [hget, if_pos rfl, hun]
      -- no list can exceed `2m`: the truncation branch of the back-link does not fire
      by_cases hn : n ∈ nbrs
      · rw [if_pos hn, if_pos hn, backlinked_append (fun hin => hid (hc.closedAll 0 n id hin))]
        have := hc.deg_lt (hnU n hn)
        omega
      · rw [if_neg hn, if_neg hn]
    · -- the base layer was done before and this iteration leaves it alone
      obtain ⟨nb, a1, a2, a3, a4⟩ := hmid.base fun h => (List.mem_cons.mp h).elim (fun e => hl0 e.symm) h0
      exact ⟨nb, a1, a2, a3, fun n => (hget 0 n).trans ((if_neg fun e => hl0 e.symm).trans (a4 n))⟩

theorem insertLayers_inv (hc : Conn ix) (hid : id ∉ storedIds ix) (hm : (storedIds ix).length ≤ p.m * 2)
    (hefc : 1 ≤ p.efC) :
    ∀ (ls : List Nat) (ixc ix' : Index V) (eps : List Nat), ls.Nodup → Mid ix id v ls ixc →
      eps ≠ [] → (∀ e, e ∈ eps → e ∈ storedIds ix) →
      insertLayers sp p id v ls ixc eps = .ok ix' → Mid ix id v [] ix' ∧ ix'.entry = ixc.entry := by
  intro ls
  induction ls with
  | nil =>
    intro ixc ix' eps _ hmid _ _ hr
    cases hr
    exact ⟨hmid, rfl⟩
  | cons l ls ih =>
    intro ixc ix' eps hnd hmid hne heps hr
    rw [List.nodup_cons] at hnd
    unfold insertLayers at hr
    cases hs : searchLayer sp ixc v eps p.efC l with
    | error e => rw [hs] at hr; simp at hr
    | ok found =>
      rw [hs] at hr
      obtain ⟨s1, s2, s3⟩ := layer_step (sp := sp) hc hid hm hefc l ls hnd.1 ixc eps found hmid hne heps hs
      obtain ⟨r1, r2⟩ := ih _ ix' _ hnd.2 s1 s2 s3 hr
      exact ⟨r1, r2.trans (foldl_backlink_meta ..).2.1⟩

end step

theorem layersDown_zero_nodup (hi : Nat) : (layersDown hi 0).Nodup ∧ 0 ∈ layersDown hi 0 := by
  unfold layersDown
  constructor
  · show List.Pairwise (· ≠ ·) _
    rw [List.pairwise_reverse, List.pairwise_map]
    exact List.pairwise_lt_range.imp (fun h => by simp only [Nat.add_zero, ne_eq]; omega)
  · rw [List.mem_reverse, List.mem_map]
    exact ⟨0, List.mem_range.mpr (by omega), rfl⟩

theorem mem_storedIds_cons {ix ix1 : Index V} {id : Nat} {v : V} (h : ix1.vecs = (id, v) :: ix.vecs) (j : Nat) :
    j ∈ storedIds ix1 ↔ (j = id ∨ j ∈ storedIds ix) := by
  rw [mem_storedIds, mem_storedIds, h]
  simp only [List.lookup_cons]
  by_cases h : j = id
  · subst h; simp
  · have : (j == id) = false := by simpa using h
    simp [this, h]

theorem conn_of_layers {ix ix1 : Index V} {id : Nat} {v : V} (hc : Conn ix) (hid : id ∉ storedIds ix)
    (hg : G ix id v ix1) (h0 : L0New ix id ix1)
    (hent : match ix1.entry with | some e => e = id ∨ e ∈ storedIds ix | none => False) :
    Conn ix1 ∧ ∀ j, j ∈ storedIds ix1 ↔ (j = id ∨ j ∈ storedIds ix) := by
  have hst := mem_storedIds_cons hg.vecs
  obtain ⟨nbrs, b1, b2, b3, b4⟩ := h0
  have hidn : id ∉ nbrs := fun h => hid (b3 id h)
  have hnew : ∀ i, id ∉ getNbrs ix 0 i := fun i h => hid (hc.closedAll 0 i id h)
  -- the links of the new base layer: the old ones, and both ways between the new node and its neighbours
  have hmem : ∀ i j, j ∈ getNbrs ix1 0 i ↔
      (j ∈ getNbrs ix 0 i ∨ (i = id ∧ j ∈ nbrs) ∨ (j = id ∧ i ∈ nbrs)) := by
    intro i j
    rw [b4]
    by_cases hi : i = id
    · subst hi
      have : j ∉ getNbrs ix 0 i := fun h => hnew j (hc.sym0 i j h)
      simp [this, hidn]
    · by_cases hin : i ∈ nbrs <;> simp [hi, hin]
  have hmono : ∀ i j, j ∈ getNbrs ix 0 i → j ∈ getNbrs ix1 0 i := fun i j h => (hmem i j).mpr (Or.inl h)
  refine ⟨⟨?_, ?_, fun l i j hj => (hst j).mpr (hg.closed l i j hj),
    fun i j hj => (hmem j i).mpr (((hmem i j).mp hj).imp (hc.sym0 i j) Or.symm), fun i => ⟨?_, fun h => ?_⟩, ?_⟩, hst⟩
  · rw [hg.vecs]
    simp only [List.map_cons, List.nodup_cons]
    refine ⟨?_, hc.keys⟩
    intro hin
    apply hid
    unfold storedIds; rw [mem_dedupIds]; exact hin
  · cases he : ix1.entry with
    | none => rw [he] at hent; exact hent.elim
    | some e => rw [he] at hent; simp only; exact (hst e).mpr hent
  · rw [b4]
    by_cases hi : i = id
    · rw [if_pos hi]; exact b2
    · rw [if_neg hi]
      by_cases hin : i ∈ nbrs
      · rw [if_pos hin]
        exact List.nodup_append.mpr ⟨(hc.nodup0 i).1, List.pairwise_singleton _ _,
          fun a ha b hb e => hnew i (List.mem_singleton.mp hb ▸ e ▸ ha)⟩
      · rw [if_neg hin]; exact (hc.nodup0 i).1
  · rcases (hmem i i).mp h with h | h | h
    · exact (hc.nodup0 i).2 h
    · exact hidn (h.1 ▸ h.2)
    · exact hidn (h.1 ▸ h.2)
  · -- connectivity: old paths survive, and the new node hangs on a neighbour, which it has as soon as
    -- anything else is stored
    have hold : ∀ i j, i ∈ storedIds ix → j ∈ storedIds ix → Reach ix1 0 i j :=
      fun i j hi hj => reach_mono hmono (hc.conn0 i j hi hj)
    have hnb : ∀ {k}, k ∈ storedIds ix → ∃ n0, n0 ∈ nbrs ∧ n0 ∈ storedIds ix := fun hk =>
      (List.exists_mem_of_ne_nil nbrs (b1 (List.ne_nil_of_mem hk))).imp fun n0 h => ⟨h, b3 n0 h⟩
    intro i j hi hj
    rcases (hst i).mp hi with rfl | hi
    · rcases (hst j).mp hj with rfl | hj
      · exact Reach.refl _
      · obtain ⟨n0, hn0, hn0U⟩ := hnb hj
        exact Reach.step ((hmem _ n0).mpr (Or.inr (Or.inl ⟨rfl, hn0⟩))) (hold n0 j hn0U hj)
    · rcases (hst j).mp hj with rfl | hj
      · obtain ⟨n0, hn0, hn0U⟩ := hnb hi
        exact reach_trans (hold i n0 hi hn0U)
          (Reach.step ((hmem n0 _).mpr (Or.inr (Or.inr ⟨rfl, hn0⟩))) (Reach.refl _))
      · exact hold i j hi hj

theorem getNbrs_foldl_setEmpty (id : Nat) (ls : List Nat) (a : Index V) (h : ∀ l n, getNbrs a l n = []) :
    ∀ l n, getNbrs (ls.foldl (fun a l => setNbrs a l id []) a) l n = [] :=
  List.foldlRecOn ls _ (motive := fun a : Index V => ∀ l n, getNbrs a l n = []) h fun a ih x _ l' n' => by
    rw [getNbrs_setNbrs]; split
    · rfl
    · exact ih l' n'

theorem foldl_setEmpty_vecs (id : Nat) (ls : List Nat) (a : Index V) :
    (ls.foldl (fun a l => setNbrs a l id []) a).vecs = a.vecs :=
  List.foldlRecOn ls _ (motive := fun b : Index V => b.vecs = a.vecs) rfl fun _ ih _ _ => ih

/-- `hm`: with at most `2m` vectors stored no adjacency list can exceed `2m`, so the truncation
    branch of the back-link cannot fire; `hid`: a first-time insert -/
theorem insert_conn (sp : Space V D) (p : Params) (ix : Index V) (hc : Conn ix) (id : Nat) (v : V)
    (level : Nat) (hid : id ∉ storedIds ix) (hm : (storedIds ix).length ≤ p.m * 2) (hefc : 1 ≤ p.efC)
    (ix' : Index V) (h : insert sp p ix id v level = .ok ix') :
    Conn ix' ∧ ∀ j, j ∈ storedIds ix' ↔ (j = id ∨ j ∈ storedIds ix) := by
  unfold insert at h
  simp only [] at h
  split at h
  next he =>
    -- nothing is stored: the new node gets empty lists, which is `L0New` with no neighbour
    simp only [Except.ok.injEq] at h
    have hU := hc.entry_none he
    have hempty : ∀ l n, getNbrs ix l n = [] := by
      intro l n
      cases hl : getNbrs ix l n with
      | nil => rfl
      | cons j js =>
        have := hc.closedAll l n j (by rw [hl]; exact List.mem_cons_self)
        rw [hU] at this; cases this
    have hget : ∀ l n, getNbrs ix' l n = [] := fun l n => by
      rw [← h]
      exact getNbrs_foldl_setEmpty id _ ({ ix with vecs := (id, v) :: ix.vecs } : Index V) hempty l n
    refine conn_of_layers hc hid ⟨by rw [← h]; exact foldl_setEmpty_vecs id _ _, fun l i j hj => ?_⟩
      ⟨[], fun h => absurd hU h, List.nodup_nil, fun _ h => (nomatch h), fun n => ?_⟩ (by rw [← h]; exact Or.inl rfl)
    · rw [hget] at hj; cases hj
    · rw [hget, hempty]; simp
  next e he =>
    have heU : e ∈ storedIds ix := by have := hc.entry; rw [he] at this; exact this
    split at h
    next err hgv => cases h
    next ve hgv =>
      split at h
      next err hd => cases h
      next cur hd =>
        have hcurU : cur.2 ∈ storedIds ix :=
          greedyDown_in (P := (· ∈ storedIds ix)) (ix := ({ ix with vecs := (id, v) :: ix.vecs } : Index V))
            (fun l i _ j _ hj _ => hc.closedAll l i j hj) _ _ _ heU hd
        split at h
        next err hil => cases h
        next ix1 hil =>
          -- the index with the new vector but the old graph: every layer is still before the loop
          obtain ⟨hnd, h0in⟩ := layersDown_zero_nodup level
          have hmid : Mid ix id v (layersDown level 0) ({ ix with vecs := (id, v) :: ix.vecs } : Index V) :=
            ⟨⟨rfl, fun l i j hj => Or.inr (hc.closedAll l i j hj)⟩, fun _ _ _ => rfl, fun h => absurd h0in h⟩
          obtain ⟨r1, r2⟩ := insertLayers_inv (sp := sp) hc hid hm hefc (layersDown level 0) _ ix1
            [cur.2] hnd hmid (List.cons_ne_nil _ _) (fun e' he' => List.mem_singleton.mp he' ▸ hcurU) hil
          have hl0 := r1.base List.not_mem_nil
          split at h
          · simp only [Except.ok.injEq] at h
            subst h
            -- only `entry` / `maxLayer` differ from `ix1`
            exact conn_of_layers hc hid ⟨r1.g.vecs, r1.g.closed⟩ hl0 (Or.inl rfl)
          · simp only [Except.ok.injEq] at h
            subst h
            exact conn_of_layers hc hid r1.g hl0 (by rw [r2.trans he]; exact Or.inr heU)

theorem conn_empty : Conn (Index.empty : Index V) := by
  refine ⟨List.nodup_nil, rfl, ?_, ?_, ?_, ?_⟩
  · intro l i j hj; simp [getNbrs, Index.empty] at hj
  · intro i j hj; simp [getNbrs, Index.empty] at hj
  · intro i; simp [getNbrs, Index.empty]
  · intro i j hi; simp [storedIds, Index.empty, dedupIds] at hi

end Nervus.Hnsw
