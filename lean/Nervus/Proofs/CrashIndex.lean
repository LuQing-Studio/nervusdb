/-
  Proofs.CrashIndex — the index writes of a commit do not touch the files the crash theorems are
  about: the files (without the index) after a death at step n of an indexed commit are those of
  the plain commit after a death at the corresponding step.
-/
import Nervus.Model.IndexSteps
import Nervus.Proofs.CrashMain
namespace Nervus.Crash

theorem isteps_fs : ∀ (S : List IStep) (g : IFS), (g.steps S).fs = g.fs.steps (baseSteps S)
  | [], _ => rfl
  | s :: S, g => by
    have h1 : g.steps (s :: S) = (g.step s).steps S := rfl
    rw [h1, isteps_fs S]
    cases s with
    | base b => cases b <;> rfl
    | ixLeaf es => rfl
    | ixCat => rfl

theorem icrash_fs (g : IFS) (c : ICrash) : (g.crash c).fs = g.fs.crash c.mode := rfl

theorem baseSteps_append (a b : List IStep) : baseSteps (a ++ b) = baseSteps a ++ baseSteps b := by
  induction a with
  | nil => rfl
  | cons s a ih => cases s <;> simp [baseSteps, ih]

theorem baseSteps_map (l : List Step) : baseSteps (l.map IStep.base) = l := by
  induction l with
  | nil => rfl
  | cons s l ih => simp [baseSteps, ih]

theorem baseSteps_none (X : List IStep) (h : ∀ s ∈ X, ∀ b, s ≠ .base b) : baseSteps X = [] := by
  induction X with
  | nil => rfl
  | cons s X ih =>
    cases s with
    | base b => exact absurd rfl (h _ (by simp) b)
    | ixLeaf es => exact ih (fun s hs => h s (by simp [hs]))
    | ixCat => exact ih (fun s hs => h s (by simp [hs]))

/-- a prefix of the spliced list is, on the files, a prefix of the plain list -/
theorem baseSteps_take (A B : List Step) (X : List IStep) (hX : ∀ s ∈ X, ∀ b, s ≠ .base b) (n : Nat) :
    baseSteps ((A.map IStep.base ++ X ++ B.map IStep.base).take n) = (A ++ B).take (plainStep A.length X.length n) := by
  unfold plainStep
  by_cases h1 : n ≤ A.length
  · simp only [h1, if_true]
    rw [List.append_assoc, List.take_append_of_le_length (by simpa using h1), ← List.map_take, baseSteps_map,
      List.take_append_of_le_length h1]
  · simp only [h1, if_false]
    by_cases h2 : n ≤ A.length + X.length
    · simp only [h2, if_true]
      rw [List.take_append_of_le_length (by simp; omega)]
      have : (A.map IStep.base ++ X).take n = A.map IStep.base ++ X.take (n - A.length) := by
        rw [List.take_append, List.take_of_length_le (by simp; omega)]; simp
      rw [this, baseSteps_append, baseSteps_map, baseSteps_none _ (fun s hs => hX s (List.mem_of_mem_take hs)), List.append_nil]
      simp
    · simp only [h2, if_false]
      have : (A.map IStep.base ++ X ++ B.map IStep.base).take n = A.map IStep.base ++ X ++ (B.take (n - A.length - X.length)).map IStep.base := by
        rw [List.take_append]
        have hl : (A.map IStep.base ++ X).length ≤ n := by simp; omega
        rw [List.take_of_length_le hl, List.map_take]
        simp [Nat.sub_sub]
      rw [this, baseSteps_append, baseSteps_append, baseSteps_map, baseSteps_map, baseSteps_none X hX, List.append_nil]
      rw [List.take_append]
      have hA : A.take (n - X.length) = A := List.take_of_length_le (by omega)
      rw [hA]
      congr 2
      omega

/-- the files after a death inside an indexed commit are those after a death inside the plain
    commit (at the corresponding step, in the same crash mode) -/
theorem indexedDeath_fs (cfg : Cfg) (fs : FS) (ixd : List (Nat × Nat)) (ops : List HOp) (tx : Tx) (ixs : List (Nat × Nat))
    (n : Nat) (c : ICrash) :
    ∃ n', (indexedDeath cfg fs ixd ops tx ixs n c).fs = (⟨ops, .inCommit tx n', c.mode⟩ : Round).after cfg fs := by
  generalize hs : runOps cfg (run (openA cfg fs.pv fs.wf) .none fs {}).fs (run (openA cfg fs.pv fs.wf) .none fs {}).mem ops = s
  have hX : ∀ s' ∈ (if ixs.isEmpty then [] else [IStep.ixLeaf ixs, IStep.ixCat]), ∀ b, s' ≠ IStep.base b := by
    intro s' hs' b
    by_cases he : ixs.isEmpty = true <;> simp [he] at hs'
    rcases hs' with rfl | rfl <;> simp
  have htake := baseSteps_take ((ioSteps (commitA cfg s.2 s.1.pv s.1.wf tx)).take (commitPos cfg s.2 s.1.wf tx))
    ((ioSteps (commitA cfg s.2 s.1.pv s.1.wf tx)).drop (commitPos cfg s.2 s.1.wf tx)) _ hX n
  rw [List.take_append_drop] at htake
  refine ⟨plainStep ((ioSteps (commitA cfg s.2 s.1.pv s.1.wf tx)).take (commitPos cfg s.2 s.1.wf tx)).length
    (if ixs.isEmpty then [] else [IStep.ixLeaf ixs, IStep.ixCat]).length n, ?_⟩
  simp only [indexedDeath, Round.after, hs, icrash_fs, isteps_fs, run_crash_fs]
  unfold commitIxSteps
  simp only []
  rw [htake]

theorem afterRounds_snoc (cfg : Cfg) : ∀ (rounds : List Round) (fs : FS) (r : Round),
    afterRounds cfg fs (rounds ++ [r]) = r.after cfg (afterRounds cfg fs rounds)
  | [], _, _ => rfl
  | x :: rounds, fs, r => by
    show afterRounds cfg (x.after cfg fs) (rounds ++ [r]) = _
    rw [afterRounds_snoc cfg rounds]
    rfl

end Nervus.Crash
