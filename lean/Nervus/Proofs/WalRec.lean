/-
  WalRecord codec (C25): what `encode_body` returns `Ok` for, `decode_body` reads back, for every record kind
  (`rec_roundtrip_cfg`, by `simp` with one slice lemma per field width), in every configuration whose encoder
  never writes what its decoder refuses (`Coherent`); `encode_body` is `Ok` on the records that fit the wire.
  The value codec enters through `decode_encode_append` and `decode_no_panic` only.
-/
import Nervus.Model.WalRec
import Nervus.Proofs.PropValRoundtrip
namespace Nervus.WalRec
open Nervus Nervus.PropVal

@[simp] theorem le4_length (n : Nat) : (le4 n).length = 4 := leBytes_length 4 n
@[simp] theorem le8_length (n : Nat) : (le8 n).length = 8 := leBytes_length 8 n
theorem leVal_le4 {n : Nat} (h : n < two32) : leVal (le4 n) = n :=
  leVal_leBytes 4 n (by unfold two32 at h; omega)
theorem leVal_le8 {n : Nat} (h : n < two64) : leVal (le8 n) = n :=
  leVal_leBytes 8 n (by unfold two64 at h; omega)

theorem slice_le4 (n : Nat) (post : Bytes) (a b : Nat) : slice (le4 n ++ post) (a + 4) (b + 4) = slice post a b := by
  simpa using slice_skip (le4 n) post a b
theorem slice_le8 (n : Nat) (post : Bytes) (a b : Nat) : slice (le8 n ++ post) (a + 8) (b + 8) = slice post a b := by
  simpa using slice_skip (le8 n) post a b
theorem slice_le4_take (n : Nat) (post : Bytes) : slice (le4 n ++ post) 0 4 = some (le4 n) := by
  simpa using slice_take (le4 n) post
theorem slice_le8_take (n : Nat) (post : Bytes) : slice (le8 n ++ post) 0 8 = some (le8 n) := by
  simpa using slice_take (le8 n) post
theorem slice_le4_whole (n : Nat) : slice (le4 n) 0 4 = some (le4 n) := by
  simpa using slice_whole (le4 n)
theorem slice_le8_whole (n : Nat) : slice (le8 n) 0 8 = some (le8 n) := by
  simpa using slice_whole (le8 n)
theorem drop_le4 (n : Nat) (post : Bytes) (a : Nat) : (le4 n ++ post).drop (a + 4) = post.drop a := by
  simpa [Nat.add_comm] using List.drop_length_add_append (l₁ := le4 n) (l₂ := post) a

/-! ### value codec, packaged -/

/-- nesting the configured decoder accepts -/
def Fits (cfg : PropVal.Cfg) (n : Nat) : Prop := ∀ m, cfg.maxDepth = some m → n ≤ m

theorem decode_encode_append (cfg : PropVal.Cfg) (v : PV) (rest : Bytes) (hw : v.wf = true) (hf : Fits cfg v.nesting) :
    decode cfg (encode v ++ rest) = .ok v := by
  unfold decode decodeRes
  rw [rt_pv cfg v _ 0 rest (by simp; omega) hw (by intro m hm; have := hf m hm; omega)]
  rfl

theorem decode_no_panic (cfg : PropVal.Cfg) (bs : Bytes) :
    decode cfg bs ≠ .error .panic ∧ decode cfg bs ≠ .error .fuel := by
  have g := decodeRes_good cfg bs
  unfold decode
  cases h : (decodeRes cfg bs).val with
  | ok a => simp [Except.map]
  | error e =>
    simp only [Except.map]
    constructor
    · intro hc; apply g.noPanic; rw [h]; cases hc; rfl
    · intro hc; apply g.noFuel; rw [h]; cases hc; rfl

/-! ### reading fields of an encoded payload -/

theorem rdSegs_skip (x post : Bytes) : ∀ (n off : Nat), rdSegs (x ++ post) n (off + x.length) = rdSegs post n off
  | 0, _ => rfl
  | n + 1, off => by
    simp only [rdSegs, rd, Nat.add_right_comm off x.length, slice_skip, rdSegs_skip x post n (off + 16)]

theorem rdSegs_le4 (v : Nat) (post : Bytes) (n off : Nat) : rdSegs (le4 v ++ post) n (off + 4) = rdSegs post n off := by
  simpa using rdSegs_skip (le4 v) post n off
theorem rdSegs_le8 (v : Nat) (post : Bytes) (n off : Nat) : rdSegs (le8 v ++ post) n (off + 8) = rdSegs post n off := by
  simpa using rdSegs_skip (le8 v) post n off

theorem encSegs_length : ∀ (segs : List (Nat × Nat)), (encSegs segs).length = segs.length * 16
  | [] => rfl
  | (i, m) :: t => by simp [encSegs, encSegs_length t]; omega

theorem slice_encSegs (segs : List (Nat × Nat)) (post : Bytes) (a b : Nat) :
    slice (encSegs segs ++ post) (segs.length * 16 + a) (segs.length * 16 + b) = slice post a b := by
  simpa [encSegs_length, Nat.add_comm] using slice_skip (encSegs segs) post a b

/-! ### round trip -/

/-- the codec configurations in which the encoder never writes what the decoder refuses: a nesting limit only
    together with the guard in `encode_body`, and a ManifestSwitch length check that asks for no more than the
    16 bytes written behind the segments -/
def Coherent (cfg : Cfg) : Prop :=
  (cfg.pv.maxDepth = none ∨ cfg.encodeChecksNesting = true) ∧ cfg.manifestTailCheck ≤ 16

theorem encStr_ok {s out : Bytes} (h : encStr s = .ok out) : s.length < two32 ∧ out = le4 s.length ++ s := by
  unfold encStr at h
  split at h
  · injection h with h; exact ⟨by assumption, h.symm⟩
  · cases h

theorem encVal_ok {cfg : Cfg} (hc : Coherent cfg) {v : PV} {out : Bytes} (h : encVal cfg v = .ok out) :
    v.wf = true ∧ Fits cfg.pv v.nesting ∧ out = encode v := by
  unfold encVal at h
  by_cases hg : nestingRefused cfg v = true
  · rw [if_pos hg] at h; cases h
  · rw [if_neg hg] at h
    unfold encodeChecked at h
    by_cases hw : v.wf = true
    · rw [if_pos hw] at h
      simp only [Except.ok.injEq] at h
      refine ⟨hw, ?_, h.symm⟩
      intro m hm
      rcases hc.1 with hn | hn
      · rw [hn] at hm; cases hm
      · unfold nestingRefused at hg; rw [hn, hm] at hg; simp at hg; exact hg
    · rw [if_neg hw] at h; cases h

attribute [local simp] armPageWrite armCreateLabel armCreateNode armAddNodeLabel armRemoveNodeLabel armCreateEdge
  armTombstoneNode armTombstoneEdge armManifestSwitch armCheckpoint armSetNodeProperty armSetEdgeProperty
  armRemoveNodeProperty armRemoveEdgeProperty

attribute [local simp] Generated.walTagBeginTx Generated.walTagCommitTx Generated.walTagPageWrite
  Generated.walTagPageFree Generated.walTagCreateLabel Generated.walTagCreateNode Generated.walTagAddNodeLabel
  Generated.walTagRemoveNodeLabel Generated.walTagCreateEdge Generated.walTagTombstoneNode
  Generated.walTagTombstoneEdge Generated.walTagManifestSwitch Generated.walTagCheckpoint
  Generated.walTagSetNodeProperty Generated.walTagSetEdgeProperty Generated.walTagRemoveNodeProperty
  Generated.walTagRemoveEdgeProperty

theorem u32_iff {n : Nat} : u32 n = true ↔ n < two32 := by simp [u32]
theorem u64_iff {n : Nat} : u64 n = true ↔ n < two64 := by simp [u64]

theorem map_ok {ε α β : Type} {x : Except ε α} {f : α → β} {b : β} (h : x.map f = .ok b) :
    ∃ a, x = .ok a ∧ b = f a := by
  cases x with
  | error e => cases h
  | ok a => cases h; exact ⟨a, rfl, rfl⟩

theorem rdVal_encode {cfg : Cfg} {v : PV} (hw : v.wf = true) (hf : Fits cfg.pv v.nesting) :
    rdVal cfg (encode v) = .ok v := by
  have := decode_encode_append cfg.pv v [] hw hf
  rw [List.append_nil] at this
  unfold rdVal; rw [this]


attribute [local simp] decodeBody Rec.tag Rec.wf u32_iff u64_iff readU64 rd rdStr slice_le4 slice_le8 slice_le4_take
  slice_le8_take slice_le4_whole slice_le8_whole slice_take slice_whole drop_le4 leVal_le4 leVal_le8 bind Except.bind pure
  Except.pure Except.map rdSegs_le4 rdSegs_le8 encSegs_length

theorem rdSegs_encSegs : ∀ (segs : List (Nat × Nat)) (post : Bytes), (∀ x ∈ segs, x.1 < two64 ∧ x.2 < two64) →
    rdSegs (encSegs segs ++ post) segs.length 0 = .ok segs
  | [], _, _ => rfl
  | (i, m) :: t, post, h => by
    have hi := h (i, m) (by simp)
    have ih := rdSegs_encSegs t post fun x hx => h x (by simp [hx])
    simp [encSegs, rdSegs, hi, ih]

/-- C25, record round trip, all 17 kinds: whatever `encode_body` produced, `decode_body` reads back -/
theorem rec_roundtrip_cfg (cfg : Cfg) (hc : Coherent cfg) (r : Rec) (hw : r.wf = true) (body : Bytes)
    (he : encodeBody cfg r = .ok body) : decodeBody cfg body = .ok r := by
  obtain ⟨p, hp, rfl⟩ := map_ok he
  cases r with
  | beginTx t => cases hp; simp at hw; simp [hw]
  | commitTx t => cases hp; simp at hw; simp [hw]
  | pageWrite p page => cases hp; simp at hw; simp [hw.1, ← hw.2, Nat.add_comm 8]
  | pageFree p => cases hp; simp at hw; simp [hw]
  | createLabel name l =>
    obtain ⟨ks, hs, rfl⟩ := map_ok hp
    obtain ⟨hlen, rfl⟩ := encStr_ok hs
    simp at hw; simp (disch := omega) [hw, Nat.add_comm 8, if_neg]
  | createNode e l i => cases hp; simp at hw; simp [hw]
  | addNodeLabel n l => cases hp; simp at hw; simp [hw]
  | removeNodeLabel n l => cases hp; simp at hw; simp [hw]
  | createEdge s r d => cases hp; simp at hw; simp [hw]
  | tombstoneNode n => cases hp; simp at hw; simp [hw]
  | tombstoneEdge s r d => cases hp; simp at hw; simp [hw]
  | checkpoint a b c d => cases hp; simp at hw; simp [hw]
  | removeNodeProperty n k =>
    obtain ⟨ks, hs, rfl⟩ := map_ok hp
    obtain ⟨hlen, rfl⟩ := encStr_ok hs
    simp at hw; simp (disch := omega) [hw, Nat.add_comm 8, if_neg]
  | removeEdgeProperty s r d k =>
    obtain ⟨ks, hs, rfl⟩ := map_ok hp
    obtain ⟨hlen, rfl⟩ := encStr_ok hs
    simp at hw; simp (disch := omega) [hw, Nat.add_comm 16, if_neg]
  | setNodeProperty n k v =>
    simp only [encodePayload] at hp
    split at hp
    · cases hp
    · rename_i ks hs
      obtain ⟨vb, hv, rfl⟩ := map_ok hp
      obtain ⟨hlen, rfl⟩ := encStr_ok hs
      obtain ⟨hvw, hvf, rfl⟩ := encVal_ok hc hv
      simp at hw; simp (disch := omega) [hw, rdVal_encode hvw hvf, Nat.add_comm 8, if_neg]
  | setEdgeProperty s r d k v =>
    simp only [encodePayload] at hp
    split at hp
    · cases hp
    · rename_i ks hs
      obtain ⟨vb, hv, rfl⟩ := map_ok hp
      obtain ⟨hlen, rfl⟩ := encStr_ok hs
      obtain ⟨hvw, hvf, rfl⟩ := encVal_ok hc hv
      simp at hw; simp (disch := omega) [hw, rdVal_encode hvw hvf, Nat.add_comm 16, if_neg]
  | manifestSwitch e segs pr sr =>
    simp only [encodePayload] at hp
    split at hp
    · cases hp
      have hk := hc.2
      simp at hw
      have hs := rdSegs_encSegs segs (le8 pr ++ le8 sr) fun x hx => hw.1.1.2 x.1 x.2 hx
      have h4 : slice (encSegs segs ++ (le8 pr ++ le8 sr)) (segs.length * 16) (segs.length * 16 + 8) = _ :=
        slice_encSegs segs _ 0 8
      have h5 := slice_encSegs segs (le8 pr ++ le8 sr) 8 16
      simp (disch := omega) [hs, h4, h5, Nat.add_comm 12, if_neg]
    · cases hp

theorem encStr_of_lt {s : Bytes} (h : s.length < two32) : encStr s = .ok (le4 s.length ++ s) := by
  simp [encStr, h]

theorem encVal_of {cfg : Cfg} {v : PV} (hw : v.wf = true) (hn : nestingRefused cfg v = false) :
    encVal cfg v = .ok (encode v) := by
  simp [encVal, hn, encodeChecked, hw]

theorem encodeBody_ok (cfg : Cfg) (r : Rec) (hw : r.wf = true) (hf : r.fitsWire cfg = true) :
    ∃ body, encodeBody cfg r = .ok body := by
  cases r <;> simp [Rec.fitsWire] at hf <;> simp [Rec.wf] at hw <;>
    simp [encodeBody, encodePayload, Except.map, hf, encStr_of_lt, encVal_of, hw]

end Nervus.WalRec
