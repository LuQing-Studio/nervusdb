/-
  Operator lemmas for C11 (one per plan operator, over all graphs / tables): the model's operator on an input
  table equals the corresponding step of the reference semantics.  Here: scan + label filter, WHERE, UNWIND,
  projection, DISTINCT.  The section numbers are those of the statements `op1 … op10` in Props/C11.
-/
import Nervus.Proofs.CypherBase
namespace Nervus.Cy
open Nervus.Cy

variable (A : Algebra) (env : Env)

theorem Row.set_append_fresh (acc : Row) (a : String) (v : Val) (h : a ∉ acc.cols) :
    acc.set a v = acc ++ [(a, v)] := by
  fun_induction Row.set acc a v with
  | case1 => rfl
  | case2 y w rest x v hy => simp_all [Row.cols, eq_of_beq hy]
  | case3 y w rest x v hy ih => simp_all [Row.cols]

theorem flatMap_if_nil {α β} (l : List α) (c : α → Bool) (f : α → List β) :
    (l.flatMap fun x => if c x = true then [] else f x) = (l.filter fun x => !c x).flatMap f := by
  induction l with
  | nil => rfl
  | cons x xs ih =>
    simp only [List.flatMap_cons, List.filter_cons, ih]
    cases c x <;> simp

theorem Row.get_of_not_mem_cols (r : Row) (a : String) (h : a ∉ r.cols) : r.get a = none := by
  induction r with
  | nil => rfl
  | cons p rest ih =>
    obtain ⟨y, w⟩ := p
    simp only [Row.cols, List.map_cons, List.mem_cons, not_or] at h
    simp [Row.get_cons, h.1, ih h.2]

theorem matchPath_fresh_steps (used : List RelId) (r : Row) (a : String) (ha : a ∉ r.cols) (ls : List String)
    (steps : List (RelPat × NodePat)) :
    Spec.matchPath A env used r ⟨⟨some a, ls, []⟩, steps⟩ =
      (env.g.nodes.filter fun n => ls.all (env.g.hasLabel n.id)).flatMap fun n =>
        Spec.matchSteps A env used n.id (r ++ [(a, Val.node n.id)]) steps := by
  simp only [Spec.matchPath, Spec.nodeOk, Spec.propsOk, List.all_nil, Bool.and_true, Spec.bind,
    Row.get_of_not_mem_cols r a ha, Row.set_append_fresh r a _ ha]
  rw [flatMap_if_nil]
  simp

/-! ### 1. node scan + label filter -/

theorem evalBool_labelConjunct (r : Row) (a : String) (id : Nat) (l : String) (hr : r.get a = some (.node id)) :
    evalBool A env r (.bool .or (.isNull (.var a)) (.hasLabel (.var a) l)) = env.g.hasLabel id l := by
  simp only [evalBool, eval, hr, hasLabelVal]
  have : (Val.node id == Val.null) = false := by simp
  rw [this, boolOp_or_bool]
  cases env.g.hasLabel id l <;> simp

def scanRows (a : String) (l : Option String) : Table :=
  (env.g.nodes.filter fun n => match l with | some l => n.labels.contains l | none => true).map
    fun n => [(a, Val.node n.id)]

def labelOK (x : String) (ls : List String) (r : Row) : Bool :=
  ls.all fun l => evalBool A env r (.bool .or (.isNull (.var x)) (.hasLabel (.var x) l))

theorem filter_const_true {α} (l : List α) : l.filter (fun _ => true) = l :=
  List.filter_eq_self.mpr fun _ _ => rfl

theorem exec_andChain (P : Plan) (R : Table) (h : Exec.exec A env P = .ok R) (es : List Expr) :
    Exec.exec A env (match Compile.andChain es with | some e => .filter P e | none => P) =
      .ok (R.filter fun r => es.all (evalBool A env r)) := by
  cases hc : Compile.andChain es with
  | none => rw [(andChain_nil_iff es).mp hc]; simpa [filter_const_true] using h
  | some e =>
    simp only [Exec.exec, h, bind, Except.bind, pure, Except.pure]
    exact congrArg _ (List.filter_congr fun r _ => evalBool_andChain A env r es e hc)

theorem exec_applyLabelFilters (P : Plan) (R : Table) (h : Exec.exec A env P = .ok R) (x : String) (ls : List String) :
    Exec.exec A env (Compile.applyLabelFilters P x ls) = .ok (R.filter (labelOK A env x ls)) :=
  (exec_andChain A env P R h _).trans (by simp only [List.all_map]; rfl)

theorem labelOK_node (r : Row) (a : String) (id : Nat) (ls : List String) (hr : r.get a = some (.node id)) :
    labelOK A env a ls r = ls.all (env.g.hasLabel id) :=
  all_congr_mem fun l _ => evalBool_labelConjunct A env r a id l hr

/-- NodeScan takes the first label only (`compile_pattern_chain`: `src_labels.first()`); the label Filter tests all of
    them again -/
theorem scanRows_labelOK (hg : env.g.NodesDistinct) (a : String) (ls : List String) :
    (scanRows env a ls.head?).filter (labelOK A env a ls) =
      (env.g.nodes.filter fun n => ls.all (env.g.hasLabel n.id)).map fun n => [(a, Val.node n.id)] := by
  unfold scanRows
  rw [List.filter_map, List.filter_filter]
  congr 1
  apply List.filter_congr
  intro n hn
  simp only [Function.comp, labelOK_node A env _ a n.id ls (Row.get_singleton a _)]
  cases ls with
  | nil => rfl
  | cons l ls =>
    simp only [List.head?_cons, List.all_cons, ← Graph.hasLabel_of_mem hg hn l]
    cases env.g.hasLabel n.id l <;> simp

/-! ### 3. WHERE -/

theorem where_correct (i : Plan) (e : Expr) (T : Table) (h : Exec.exec A env i = .ok T) :
    Exec.exec A env (.filter i e) = .ok (T.filter (evalBool A env · e)) := by
  simp [Exec.exec, h, bind, Except.bind, pure, Except.pure]

/-! ### 10. UNWIND -/

theorem unwind_correct (i : Plan) (e : Expr) (x : String) (T : Table) (h : Exec.exec A env i = .ok T) :
    Exec.exec A env (.unwind i e x) = .ok (Spec.denoteUnwind A env e x T) := by
  simp only [Exec.exec, h, bind, Except.bind, pure, Except.pure, Exec.unwind, Spec.denoteUnwind]
  congr 2

/-! ### 4. projection -/

theorem foldl_set_eq_append (ps : List (String × Val)) (acc : Row)
    (hnd : (ps.map (·.1)).Nodup) (hdis : ∀ a ∈ ps.map (·.1), a ∉ acc.cols) :
    ps.foldl (fun out (p : String × Val) => out.set p.1 p.2) acc = acc ++ ps := by
  induction ps generalizing acc with
  | nil => simp
  | cons p ps ih =>
    obtain ⟨a, v⟩ := p
    simp only [List.map_cons, List.nodup_cons] at hnd
    simp only [List.foldl_cons]
    rw [Row.set_append_fresh acc a v (hdis a (by simp))]
    rw [ih (acc ++ [(a, v)]) hnd.2]
    · simp
    · intro b hb
      simp only [Row.cols, List.map_append, List.map_cons, List.map_nil, List.mem_append, List.mem_singleton,
        not_or]
      refine ⟨?_, ?_⟩
      · simpa [Row.cols] using hdis b (by simp [hb])
      · rintro rfl; exact hnd.1 hb

theorem projectRow_eq_map (r : Row) (projs : List (String × Expr)) (hnd : (projs.map (·.1)).Nodup) :
    Exec.projectRow A env r projs = projs.map fun p => (p.1, eval A env r p.2) := by
  have hm : (projs.map fun p => (p.1, eval A env r p.2)).map (·.1) = projs.map (·.1) := by
    simp [List.map_map, Function.comp_def]
  have h := foldl_set_eq_append (projs.map fun p => (p.1, eval A env r p.2)) []
    (by rw [hm]; exact hnd) (by intro a _; simp [Row.cols])
  simp only [List.nil_append] at h
  rw [← h, Exec.projectRow, List.foldl_map]

theorem project_correct (i : Plan) (items : List Item) (T : Table) (h : Exec.exec A env i = .ok T)
    (hplain : items.any Spec.isAgg = false) (hnd : (items.map (·.alias)).Nodup) :
    Exec.exec A env (.project i (items.map fun it => (it.alias, Compile.itemExprOf it.expr))) =
      .ok ((Spec.projectRows A env ⟨false, items, [], none, none⟩ T).map (·.1)) := by
  simp only [Exec.exec, h, bind, Except.bind, pure, Except.pure, Spec.projectRows, hplain,
    Bool.false_eq_true, ↓reduceIte, List.map_map]
  congr 1
  apply List.map_congr_left
  intro r _
  have hm : (items.map fun it => (it.alias, Compile.itemExprOf it.expr)).map (·.1) = items.map (·.alias) := by
    simp [List.map_map, Function.comp_def]
  rw [projectRow_eq_map A env r _ (by rw [hm]; exact hnd)]
  simp only [Function.comp, List.map_map]
  apply List.map_congr_left
  intro it hit
  have : Spec.isAgg it = false := by
    have := List.any_eq_false.mp hplain it hit
    simpa using this
  obtain ⟨ex, al⟩ := it
  cases ex with
  | plain e => simp [Spec.itemVal, Compile.itemExprOf]
  | agg k a => simp [Spec.isAgg] at this

/-! ### 7. DISTINCT -/

theorem Row.eq_of_cols_vals {r r' : Row} (hc : r.cols = r'.cols) (hv : r.vals = r'.vals) : r = r' := by
  induction r generalizing r' with
  | nil => cases r' <;> simp_all [Row.cols]
  | cons p rest ih =>
    cases r' with
    | nil => simp [Row.cols] at hc
    | cons q rest' =>
      obtain ⟨a, v⟩ := p
      obtain ⟨b, w⟩ := q
      simp only [Row.cols, List.map_cons, List.cons.injEq, Row.vals] at hc hv
      obtain ⟨rfl, hc⟩ := hc
      obtain ⟨rfl, hv⟩ := hv
      rw [ih (r' := rest') hc hv]

theorem dedupBy_subset {α β} [BEq β] (f : α → β) (l : List α) : ∀ x ∈ Spec.dedupBy f l, x ∈ l := by
  induction l with
  | nil => intro x hx; cases hx
  | cons y ys ih =>
    intro x hx
    simp only [Spec.dedupBy, List.mem_cons, List.mem_filter] at hx
    rcases hx with rfl | ⟨hx, _⟩
    · simp
    · exact List.mem_cons_of_mem _ (ih x hx)

/-- `execute_distinct` keys by the value lists, the reference by the row: the same on tables whose rows all have
    the same columns — what a Project delivers -/
theorem distinct_correct (T : List (Row × Row)) (hcols : ∀ x ∈ T, ∀ y ∈ T, x.1.cols = y.1.cols) :
    Exec.distinct (T.map (·.1)) = (Spec.dedupBy (·.1) T).map (·.1) := by
  induction T with
  | nil => rfl
  | cons x xs ih =>
    have ih' := ih (fun a ha b hb => hcols a (List.mem_cons_of_mem _ ha) b (List.mem_cons_of_mem _ hb))
    simp only [List.map_cons, Exec.distinct, Spec.dedupBy, ih', List.cons.injEq, true_and]
    rw [List.filter_map]
    congr 1
    apply List.filter_congr
    intro y hy
    have hyx : y ∈ xs := dedupBy_subset _ _ y hy
    have hc : y.1.cols = x.1.cols := hcols y (List.mem_cons_of_mem _ hyx) x (by simp)
    simp only [Function.comp]
    rw [Bool.eq_iff_iff]
    simp only [bne_iff_ne, ne_eq]
    constructor
    · intro hv hh; exact hv (by rw [hh])
    · intro hne hv; exact hne (Row.eq_of_cols_vals hc hv)

end Nervus.Cy
