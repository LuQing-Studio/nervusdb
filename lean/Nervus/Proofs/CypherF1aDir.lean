/-
  C11 on F1a, a single hop in any direction: `MATCH (a:La)-[ev:T…]->(d:Ld)`, `<-[…]-` or `-[…]-` as the first clause,
  then core clauses.  Model side: plan, rows and compile-time scope of the hop.  Reference side: the rows of the chain.
  The two are related by `HRelE` per anchor row (operator lemma 2), and the WHERE push-down is undone under the
  following filter.
-/
import Nervus.Proofs.CypherF1a
import Nervus.Proofs.CypherBag
namespace Nervus.Cy
open Nervus.Cy Nervus.Cy.Compile

variable (A : Algebra) (env : Env)

/-! ### the reference rows of `(a:la)` followed by `steps` -/

def specStep (a : String) (steps : List (RelPat × NodePat)) (r : Row) : Table :=
  match r.get a with
  | some (.node id) => (Spec.matchSteps A env [] id r steps).map (·.1)
  | _ => []

theorem spec_chain_rows (hg : env.g.NodesDistinct) (a : String) (la : List String) (steps : List (RelPat × NodePat)) :
    Spec.denoteMatch A env false [⟨⟨some a, la, []⟩, steps⟩] [[]] =
      (nodeRows A env a la []).flatMap (specStep A env a steps) := by
  rw [node_rows_eq A env hg a la, List.flatMap_map, denoteMatch_single,
    matchPath_fresh_steps A env [] [] a (by simp [Row.cols]), List.map_flatMap]
  simp [specStep, Row.get_singleton]

/-! ### the three directions -/

def stepDir (g : Graph) (dir : Dir) (r : Row) (s : Nat) (rels : List String) (ev : Option String) (d : String)
    (dl : List String) (pa : String) : Table :=
  match dir with
  | .out => Exec.stepOut g r s rels ev d dl (some pa)
  | .inn => Exec.stepIn g r s rels ev d dl (some pa)
  | .both => Exec.stepBoth g r s rels ev d dl (some pa)

def stepRowD (dir : Dir) (a : String) (rels : List String) (ev : Option String) (d : String) (dl : List String)
    (pa : String) (r : Row) : Table :=
  match r.get a with
  | some (.node s) => stepDir env.g dir r s rels ev d dl pa
  | _ => []

theorem joinPathOpt_get (row : Row) (pa c : String) (s t : Nat) (e : RelId) (hcp : c ≠ pa) :
    (Exec.joinPathOpt row (some pa) s e t).get c = row.get c := by
  simp only [Exec.joinPathOpt, Exec.joinPath]
  split <;> exact Row.get_set_ne _ pa c _ hcp

theorem withOpt_get (row : Row) (ev : Option String) (c : String) (v : Val) (hce : ∀ y, ev = some y → c ≠ y) :
    (Exec.withOpt row ev v).get c = row.get c := by
  cases ev with
  | none => rfl
  | some y => exact Row.get_set_ne _ y c _ (hce y rfl)

theorem stepDir_get (g : Graph) (dir : Dir) (r : Row) (s : Nat) (rels : List String) (ev : Option String)
    (d : String) (dl : List String) (pa : String) (c : String) (hcd : c ≠ d) (hcp : c ≠ pa)
    (hce : ∀ y, ev = some y → c ≠ y) : ∀ x ∈ stepDir g dir r s rels ev d dl pa, x.get c = r.get c := by
  have hgen : ∀ cands tgt frm, ∀ x ∈ stepGen g cands tgt frm r ev d dl pa, x.get c = r.get c := by
    intro cands tgt frm x hx
    obtain ⟨e, _, he⟩ := List.mem_filterMap.mp hx
    split at he
    · cases he
    · cases he
      rw [joinPathOpt_get _ pa c _ _ _ hcp, withOpt_get _ ev c _ hce, Row.get_set_ne _ d c _ hcd]
  intro x hx
  cases dir with
  | out =>
    obtain ⟨e, _, he⟩ := List.mem_filterMap.mp hx
    split at he
    · cases he
    · cases he
      rw [joinPathOpt_get _ pa c _ _ _ hcp, Row.get_set_ne _ d c _ hcd, withOpt_get _ ev c _ hce]
  | inn => exact hgen _ _ _ x hx
  | both =>
    rcases List.mem_append.mp ((stepBoth_perm g r s rels ev d dl pa).mem_iff.mp hx) with h | h
    · exact hgen _ _ _ x h
    · exact hgen _ _ _ x h

/-- operator lemma 2 on every anchor row `[(a, n)]`: its hidden column is absent, and `used` is empty -/
theorem hop_dir_rel (hnp : NoParallel env.g) (dir : Dir) (a d pa : String) (ev : Option String) (rels : List String)
    (hrels : rels.Nodup) (dl : List String) (T0 : Table) (hT0 : ∀ r ∈ T0, ∃ id, r = [(a, Val.node id)])
    (ha : a ≠ pa) (hd : d ≠ pa) (hev : ∀ x, ev = some x → x ≠ pa ∧ x ≠ d ∧ x ≠ a) :
    HRelE pa (T0.flatMap (stepRowD env dir a rels ev d dl pa))
      (T0.flatMap (specStep A env a [(⟨ev, rels, dir, []⟩, ⟨some d, dl, []⟩)])) := by
  unfold HRelE
  rw [List.map_flatMap]
  apply tableEquiv_flatMap
  intro r hr
  obtain ⟨id, rfl⟩ := hT0 r hr
  have hget : ∀ x, x ≠ a → Row.get [(a, Val.node id)] x = none := by
    intro x hx
    have : (x == a) = false := by simpa using hx
    simp [Row.get, List.lookup, this]
  have hpr : PathRel [(a, Val.node id)] pa [] := by simp [PathRel, hget pa ha.symm]
  have herase : eraseCol pa [(a, Val.node id)] = [(a, Val.node id)] := by
    apply eraseCol_of_not_mem; simpa [Row.cols] using ha.symm
  have hev' : ∀ x, ev = some x → x ≠ pa ∧ x ≠ d ∧ Row.get [(a, Val.node id)] x = none :=
    fun x hx => ⟨(hev x hx).1, (hev x hx).2.1, hget x (hev x hx).2.2⟩
  simp only [stepRowD, specStep, Row.get_singleton, stepDir]
  cases dir with
  | out =>
    have := expand_out_row A env hnp [(a, Val.node id)] id rels hrels ev d pa dl [] hpr hd hev'
    rw [herase] at this
    exact ⟨_, this, RowsEquiv.refl _⟩
  | inn =>
    have := expand_in_row A env hnp [(a, Val.node id)] id rels hrels ev d pa dl [] hpr hd hev'
    rw [herase] at this
    exact this
  | both =>
    have := expand_both_row A env hnp [(a, Val.node id)] id rels hrels ev d pa dl [] hpr hd hev'
    rw [herase] at this
    exact this

/-- the hidden path alias of the first chain of a query -/
def pa0 : String := (genPath {}).1

abbrev hopPat (a : String) (la : List String) (ev : Option String) (rels : List String) (d : String)
    (dl : List String) : PathPat := ⟨⟨some a, la, []⟩, [(⟨ev, rels, .out, []⟩, ⟨some d, dl, []⟩)]⟩

abbrev hopPatD (dir : Dir) (a : String) (la : List String) (ev : Option String) (rels : List String) (d : String)
    (dl : List String) : PathPat := ⟨⟨some a, la, []⟩, [(⟨ev, rels, dir, []⟩, ⟨some d, dl, []⟩)]⟩

def hopPlanD (dir : Dir) (a : String) (la : List String) (ev : Option String) (rels : List String) (d : String)
    (dl : List String) (preds : Preds) (pa : String) : Plan :=
  let h := applyFilters (mkHop dir (nodePlan a la preds) a rels ev d dl false (some pa)) d preds
  match ev with | some ea => applyFilters h ea preds | none => h

theorem compileChain_hopD (dir : Dir) (a d : String) (la dl rels : List String) (ev : Option String) (preds : Preds) :
    (compileChain none (hopPatD dir a la ev rels d dl) preds [] {}).1 = hopPlanD dir a la ev rels d dl preds pa0 := by
  rw [compileChain_named, hops_single]; rfl

theorem expandOut_flatMap (g : Graph) (src : String) (rels : List String) (edge : Option String) (dst : String)
    (dl : List String) (path : Option String) (T : Table) (h : ∀ r ∈ T, ∃ id, r.get src = some (.node id)) :
    Exec.expandOut g src rels edge dst dl path T = .ok (T.flatMap fun r =>
      match r.get src with
      | some (.node s) => Exec.stepOut g r s rels edge dst dl path
      | _ => []) := by
  induction T with
  | nil => rfl
  | cons r rest ih =>
    obtain ⟨id, hid⟩ := h r (by simp)
    simp only [Exec.expandOut, hid, ih (fun x hx => h x (List.mem_cons_of_mem _ hx)), bind, Except.bind, pure,
      Except.pure, List.flatMap_cons]

/-- `hsrc`: MatchOut fails on a source that is neither a node nor null (`expandOut`); the other two drop the row -/
theorem exec_mkHop (dir : Dir) (P : Plan) (T : Table) (hP : Exec.exec A env P = .ok T) (a d pa : String)
    (hsrc : ∀ r ∈ T, ∃ id, r.get a = some (.node id)) (dl rels : List String) (ev : Option String) (pre : Bool) :
    Exec.exec A env (mkHop dir P a rels ev d dl pre (some pa)) =
      .ok (T.flatMap (stepRowD env dir a rels ev d dl pa)) := by
  cases dir with
  | out =>
    simp only [mkHop, Exec.exec, hP, bind, Except.bind]
    rw [expandOut_flatMap _ _ _ _ _ _ _ _ hsrc]
    rfl
  | inn => simp only [mkHop, Exec.exec, hP, bind, Except.bind, pure, Except.pure]; rfl
  | both => simp only [mkHop, Exec.exec, hP, bind, Except.bind, pure, Except.pure]; rfl

theorem nodeRows_get (a : String) (la : List String) (preds : Preds) :
    ∀ r ∈ nodeRows A env a la preds, ∃ id, r.get a = some (.node id) := fun r hr =>
  (nodeRows_shape A env a la preds r hr).elim fun id h => ⟨id, h ▸ Row.get_singleton a _⟩

def hopRows (dir : Dir) (a : String) (la : List String) (ev : Option String) (rels : List String) (d : String)
    (dl : List String) (pa : String) (preds : Preds) : Table :=
  (((nodeRows A env a la preds).flatMap (stepRowD env dir a rels ev d dl pa)).filter (pushedOK A env d preds)).filter
    (match ev with | some ea => pushedOK A env ea preds | none => fun _ => true)

theorem exec_hopPlanD (dir : Dir) (a d pa : String) (la dl rels : List String) (ev : Option String) (preds : Preds) :
    Exec.exec A env (hopPlanD dir a la ev rels d dl preds pa) = .ok (hopRows A env dir a la ev rels d dl pa preds) := by
  have hx := exec_applyFilters A env _ _ (exec_mkHop A env dir _ _ (exec_nodePlan A env a la preds) a d pa
    (nodeRows_get A env a la preds) dl rels ev false) d preds
  unfold hopPlanD hopRows
  cases ev with
  | none => rw [filter_const_true]; exact hx
  | some ea => exact exec_applyFilters A env _ _ hx ea preds

theorem hopRows_nil (dir : Dir) (a : String) (la : List String) (ev : Option String) (rels : List String)
    (d : String) (dl : List String) (pa : String) :
    hopRows A env dir a la ev rels d dl pa [] = (nodeRows A env a la []).flatMap (stepRowD env dir a rels ev d dl pa) := by
  unfold hopRows
  cases ev <;> simp only [pushedOK_nil, filter_const_true]

/-- an internal path alias stays out of the compile-time scope (`extract_output_var_kinds` skips it), so no
    `path` kind enters and `KOk` survives the hop -/
theorem KOk.matchKinds {K : Kinds} {s : List String} (h : KOk K s) (a d pa : String) (ev : Option String)
    (hpa : isInternalPath pa = true) : KOk (matchKinds K a ev d (some pa)) (s ++ [a] ++ [d] ++ ev.toList) := by
  have h2 := (h.merge a .node ⟨by simp, by simp⟩).merge d .node ⟨by simp, by simp⟩
  unfold Compile.matchKinds
  cases ev with
  | none => simpa [hpa] using h2
  | some e => simpa [hpa] using h2.merge e .rel ⟨by simp, by simp⟩

theorem outKinds_mkHop (dir : Dir) (P : Plan) (a d : String) (rels dl : List String) (ev : Option String)
    (pre : Bool) (pa : Option String) :
    outKinds (mkHop dir P a rels ev d dl pre pa) = matchKinds (outKinds P) a ev d pa := by
  cases dir <;> rfl

theorem pa0_internal : isInternalPath pa0 = true := by decide +kernel

theorem KOk_hopD (dir : Dir) (a d : String) (la dl rels : List String) (ev : Option String) (preds : Preds) :
    KOk (outKinds (hopPlanD dir a la ev rels d dl preds pa0)) ([a] ++ ev.toList ++ [d]) := by
  have : outKinds (hopPlanD dir a la ev rels d dl preds pa0) = matchKinds [(a, Kind.node)] a ev d (some pa0) := by
    unfold hopPlanD
    cases ev <;> simp only [outKinds_applyFilters, outKinds_mkHop, outKinds_nodePlan]
  rw [this]
  exact ((KOk_singleton a).matchKinds a d pa0 ev pa0_internal).congr fun v => by cases ev <;> simp [or_comm]

/-! ### push-down does not change what the following WHERE keeps -/

theorem filter_flatMap_filter {α β} (l : List α) (p : α → Bool) (f : α → List β) (w : β → Bool)
    (h : ∀ r ∈ l, ∀ x ∈ f r, w x = true → p r = true) :
    ((l.filter p).flatMap f).filter w = (l.flatMap f).filter w := by
  induction l with
  | nil => rfl
  | cons r rest ih =>
    have ih' := ih (fun r' hr' => h r' (List.mem_cons_of_mem _ hr'))
    by_cases hp : p r = true
    · simp only [List.filter_cons, hp, ↓reduceIte, List.flatMap_cons, List.filter_append, ih']
    · simp only [List.filter_cons, hp, Bool.false_eq_true, ↓reduceIte, List.flatMap_cons, List.filter_append, ih']
      have : (f r).filter w = [] := by
        rw [List.filter_eq_nil_iff]
        intro x hx hw
        exact hp (h r (by simp) x hx hw)
      rw [this, List.nil_append]

/-- under the following `Filter w` the rows of the plan with push-down equal those of the plan without: the filters
    on `d` / `ev` are implied by `w`; so is the filter on `a` below the expansion, because a hop keeps `a`'s binding -/
theorem hop_pushdown_elimD (hsym : EqSymm A) (dir : Dir) (a d pa : String) (la dl rels : List String)
    (ev : Option String) (had : a ≠ d) (hap : a ≠ pa) (hae : ∀ e, ev = some e → a ≠ e) (w : Expr) :
    (hopRows A env dir a la ev rels d dl pa (extractPredicates w [])).filter (evalBool A env · w) =
      (hopRows A env dir a la ev rels d dl pa []).filter (evalBool A env · w) := by
  rw [hopRows_nil]
  unfold hopRows nodeRows
  rw [filter_filter_implied _ _ _ (by
        intro x hw
        cases ev with
        | none => rfl
        | some ea => exact pushedOK_of_where A env hsym ea w x hw),
      filter_filter_implied _ _ _ (pushedOK_of_where A env hsym d w), pushedOK_nil, filter_const_true,
      filter_filter_comm _ (pushedOK A env a _), filter_flatMap_filter]
  intro r _ x hx hw
  unfold stepRowD at hx
  split at hx
  · rename_i s hs
    rw [← pushedOK_congr A env a w x r (stepDir_get env.g dir r s rels ev d dl pa a had hap hae x hx)]
    exact pushedOK_of_where A env hsym a w x hw
  · cases hx

end Nervus.Cy
