/-
  Proofs.F64 — the comparison of the dyadic model is a total preorder (`cmpTK_laws`: lexicographic in
  `(tier, skey)`), and `compare_int_float` (evaluator_compare.rs: range check, compare with the truncation, then
  with the dropped fraction) computes the comparison of the exact values (`cmpIntFloat_exact`): both sides are
  scaled by `2^1074`, where every double is an integer, and the rest is the integer fact `cmp_trunc_core`.
-/
import Nervus.Proofs.Cmp
import Nervus.Model.Eval
namespace Nervus
open F64 Value Eval

theorem cmpTK_eq (a b : F64) : cmpTK a b = (cmpNat (tier a) (tier b)).then (cmpInt (skey a) (skey b)) := by
  unfold cmpTK cmpNat
  by_cases h1 : tier a < tier b <;> by_cases h2 : tier b < tier a <;> by_cases h3 : tier a = tier b <;>
    simp [h1, h2, h3, Ordering.then] <;> omega

theorem cmpTK_laws : CmpLaws cmpTK := by
  have h := CmpLaws.lex (α := F64) cmpNat_laws cmpInt_laws tier skey
  have e : cmpTK = fun x y => (cmpNat (tier x) (tier y)).then (cmpInt (skey x) (skey y)) := by
    funext a b; exact cmpTK_eq a b
  rw [e]; exact h

theorem eqv_refl (x : F64) (h : x.isNaN = false) : F64.eqv x x = true := by
  simp [F64.eqv, F64.cmp, h, cmpTK_laws.refl]

/-- `compare_int_float` in integers: `K` is the float and `i * P` the integer scaled by `P = 2^1074`, `t` the
    truncation of the float, `r` the dropped fraction (scaled), `B = 2^63` -/
theorem cmp_trunc_core (i t r K P B : Int) (hP : 0 < P) (hK : K = t * P + r) (hr1 : -P < r) (hr2 : r < P)
    (hi1 : -B ≤ i) (hi2 : i < B) :
    (if B * P ≤ K then Ordering.lt else if K < -(B * P) then .gt else if i < t then .lt else if t < i then .gt
      else if t * P < K then .lt else if K < t * P then .gt else .eq) = cmpInt (i * P) K := by
  have h1 : (i + 1) * P ≤ B * P := Int.mul_le_mul_of_nonneg_right (by omega) (Int.le_of_lt hP)
  have h2 : (-B) * P ≤ i * P := Int.mul_le_mul_of_nonneg_right hi1 (Int.le_of_lt hP)
  rw [Int.add_mul, Int.one_mul] at h1
  rw [Int.neg_mul] at h2
  unfold cmpInt
  by_cases c1 : B * P ≤ K
  · simp only [c1, if_true]; rw [if_pos (by omega)]
  · by_cases c2 : K < -(B * P)
    · simp only [c1, c2, if_true, if_false]; rw [if_neg (by omega), if_neg (by omega)]
    · by_cases c3 : i < t
      · have : (i + 1) * P ≤ t * P := Int.mul_le_mul_of_nonneg_right (by omega) (Int.le_of_lt hP)
        rw [Int.add_mul, Int.one_mul] at this
        simp only [c1, c2, c3, if_true, if_false]; rw [if_pos (by omega)]
      · by_cases c4 : t < i
        · have : (t + 1) * P ≤ i * P := Int.mul_le_mul_of_nonneg_right (by omega) (Int.le_of_lt hP)
          rw [Int.add_mul, Int.one_mul] at this
          simp only [c1, c2, c3, c4, if_true, if_false]; rw [if_neg (by omega), if_neg (by omega)]
        · have : i = t := by omega
          subst this
          simp only [c1, c2, c3, if_false]
          by_cases c5 : i * P < K <;> by_cases c6 : K < i * P <;> by_cases c7 : i * P = K <;>
            simp [c5, c6, c7] <;> omega

/-- 2^n as an integer; kept folded so that the closed power 2^1074 is never evaluated -/
def Pn (n : Nat) : Int := ((2 ^ n : Nat) : Int)

theorem Pn_pos (n : Nat) : 0 < Pn n := Int.natCast_pos.2 (Nat.two_pow_pos n)

theorem Pn_add (a b : Nat) : Pn (a + b) = Pn a * Pn b := by
  unfold Pn; rw [Nat.pow_add, Int.natCast_mul]

theorem key_eq (s : Bool) (m e : Nat) : key s m e = (if s then -((m : Int) * Pn e) else (m : Int) * Pn e) := by
  unfold key Pn; rw [Int.natCast_mul]

theorem int_trunc (n m e : Nat) :
    ∃ r : Int, (m : Int) * Pn e =
      (((if e ≥ n then m * 2 ^ (e - n) else m / 2 ^ (n - e)) : Nat) : Int) * Pn n + r ∧ 0 ≤ r ∧ r < Pn n := by
  by_cases h : e ≥ n
  · refine ⟨0, ?_, by omega, Pn_pos n⟩
    simp only [h, if_true, Int.add_zero]
    have : e = (e - n) + n := by omega
    rw [Int.natCast_mul, Int.mul_assoc]
    conv => lhs; rw [this, Pn_add]
    rfl
  · simp only [h, if_false]
    have hD : Pn (n - e) * Pn e = Pn n := by rw [← Pn_add]; congr 1; omega
    refine ⟨((m % 2 ^ (n - e) : Nat) : Int) * Pn e, ?_, ?_, ?_⟩
    · rw [← hD, ← Int.mul_assoc, ← Int.add_mul]
      congr 1
      unfold Pn
      rw [← Int.natCast_mul, ← Int.natCast_add, Nat.div_add_mod']
    · exact Int.mul_nonneg (Int.natCast_nonneg _) (Int.le_of_lt (Pn_pos e))
    · rw [← hD]
      apply Int.mul_lt_mul_of_pos_right _ (Pn_pos e)
      unfold Pn
      exact Int.ofNat_lt.2 (Nat.mod_lt _ (Nat.two_pow_pos _))

theorem trunc_decomp (s : Bool) (m e : Nat) :
    ∃ r : Int, key s m e = truncInt (.fin s m e) * Pn 1074 + r ∧ -Pn 1074 < r ∧ r < Pn 1074 := by
  obtain ⟨r, h1, h2, h3⟩ := int_trunc 1074 m e
  have hP := Pn_pos 1074
  rw [key_eq]
  cases s
  · refine ⟨r, ?_, by omega, h3⟩
    simp only [truncInt, Bool.false_eq_true, if_false]
    exact h1
  · refine ⟨-r, ?_, by omega, by omega⟩
    simp only [truncInt, if_true]
    rw [h1, Int.neg_mul]; omega

theorem skey_exact (i : Int) : skey (exact i) = i * Pn 1074 := by
  show key (decide (i < 0)) i.natAbs 1074 = _
  rw [key_eq]
  by_cases h : i < 0
  · simp only [h, decide_true, if_true]
    rw [Int.ofNat_natAbs_of_nonpos (by omega), Int.neg_mul, Int.neg_neg]
  · simp only [h, decide_false, Bool.false_eq_true, if_false]
    rw [Int.natAbs_of_nonneg (by omega)]


theorem tier_exact (i : Int) : tier (exact i) = 1 := rfl

theorem cmpTK_exact_exact (x y : Int) : cmpTK (exact x) (exact y) = cmpInt x y := by
  rw [cmpTK_eq, tier_exact, tier_exact, skey_exact, skey_exact, cmpNat_laws.refl]
  exact cmpInt_congr (Int.mul_lt_mul_right (Pn_pos _)) (Int.mul_eq_mul_right_iff (Int.ne_of_gt (Pn_pos _)))

theorem ofBits_two63 : ofBits 0x43E0000000000000 = .fin false 4503599627370496 1085 := by decide
theorem ofBits_negTwo63 : ofBits 0xC3E0000000000000 = .fin true 4503599627370496 1085 := by decide

theorem Pn_1085 : (4503599627370496 : Int) * Pn 1085 = 9223372036854775808 * Pn 1074 := by
  have e : (1085 : Nat) = 11 + 1074 := rfl
  have p11 : Pn 11 = 2048 := by decide
  rw [e, Pn_add, p11]; omega

theorem le_fin (s : Bool) (m e : Nat) (t : Bool) (n f : Nat) :
    F64.le (.fin s m e) (.fin t n f) = decide (key s m e ≤ key t n f) := by
  simp only [F64.le, F64.cmp, isNaN, Bool.or_self, Bool.false_eq_true, if_false, cmpTK, tier,
    Nat.lt_irrefl, skey]
  unfold cmpInt
  by_cases h1 : key s m e < key t n f <;> by_cases h2 : key s m e = key t n f <;> simp [h1, h2] <;> omega

theorem lt_fin (s : Bool) (m e : Nat) (t : Bool) (n f : Nat) :
    F64.lt (.fin s m e) (.fin t n f) = decide (key s m e < key t n f) := by
  simp only [F64.lt, F64.cmp, isNaN, Bool.or_self, Bool.false_eq_true, if_false, cmpTK, tier,
    Nat.lt_irrefl, skey]
  unfold cmpInt
  by_cases h1 : key s m e < key t n f <;> by_cases h2 : key s m e = key t n f <;> simp [h1, h2]

theorem cmpIntFloat_exact (i : Int) (h1 : -9223372036854775808 ≤ i) (h2 : i < 9223372036854775808)
    (f : F64) (hf : f.isNaN = false) : cmpIntFloat i f = cmpTK (exact i) f := by
  cases f with
  | nan => simp [isNaN] at hf
  | inf b =>
    cases b <;>
      simp [cmpIntFloat, ofBits_two63, ofBits_negTwo63, F64.le, F64.lt, F64.cmp, isNaN, cmpTK, tier, exact]
  | fin s m e =>
    obtain ⟨r, hK, hr1, hr2⟩ := trunc_decomp s m e
    have core := cmp_trunc_core i (truncInt (.fin s m e)) r (key s m e) (Pn 1074) 9223372036854775808
      (Pn_pos _) hK hr1 hr2 h1 h2
    have ex : ∀ t : Int, key (decide (t < 0)) t.natAbs 1074 = t * Pn 1074 := skey_exact
    have k63 : key false 4503599627370496 1085 = 9223372036854775808 * Pn 1074 := by
      rw [key_eq]; simpa using Pn_1085
    have km63 : key true 4503599627370496 1085 = -(9223372036854775808 * Pn 1074) := by
      rw [key_eq]; simpa using Pn_1085
    rw [cmpTK_eq, tier_exact, skey_exact, show skey (.fin s m e) = key s m e from rfl]
    simp only [tier, cmpNat, Nat.lt_irrefl, if_false, if_true, Ordering.then]
    rw [← core]
    simp only [cmpIntFloat, ofBits_two63, ofBits_negTwo63, exact, le_fin, lt_fin, ex, k63, km63,
      decide_eq_true_eq]

end Nervus
