/-
  C31, blob layer: splitting into page payloads and concatenating them is the
  identity for every page payload size ≥ 1; word encoding round-trips; decoding page by page loses
  words whenever the payload size is not a multiple of 4 and the value crosses a page.
-/
import Nervus.Model.HnswBlob
import Nervus.Proofs.LeBytes
namespace Nervus.HnswBlob
open Nervus

theorem chunksAux_flatten (P : Nat) (hP : 1 ≤ P) (fuel : Nat) : ∀ (l : Bytes), l.length ≤ fuel →
    (chunksAux P fuel l).flatten = l := by
  induction fuel with
  | zero => intro l h; cases List.eq_nil_of_length_eq_zero (Nat.le_zero.mp h); rfl
  | succ fuel ih =>
    intro l h
    unfold chunksAux
    cases l with
    | nil => rfl
    | cons a as =>
      rw [if_neg (by simp), List.flatten_cons,
        ih _ (by simp only [List.length_drop, List.length_cons] at *; omega)]
      exact List.take_append_drop P (a :: as)

theorem readBlob_writeBlob (P : Nat) (hP : 1 ≤ P) (data : Bytes) : readBlob (writeBlob P data) = data := by
  unfold readBlob writeBlob chunks
  cases data with
  | nil => rfl
  | cons a as =>
    simp only [List.isEmpty_cons, Bool.false_eq_true, if_false]
    exact chunksAux_flatten P hP _ _ (Nat.le_refl _)

theorem leBytes4 (w : Nat) : ∃ a b c d, leBytes 4 w = [a, b, c, d] := by
  unfold leBytes leBytes leBytes leBytes leBytes
  exact ⟨_, _, _, _, rfl⟩

theorem decode_encode (ws : List Nat) (h : ∀ w, w ∈ ws → w < 2 ^ 32) : decodeWords (encodeWords ws) = ws := by
  induction ws with
  | nil => rfl
  | cons w ws ih =>
    unfold encodeWords
    rw [List.flatMap_cons]
    obtain ⟨a, b, c, d, hb⟩ := leBytes4 w
    have hv : leVal [a, b, c, d] = w := by
      rw [← hb]; exact leVal_leBytes 4 w (by have := h w List.mem_cons_self; omega)
    rw [hb]
    show leVal [a, b, c, d] :: decodeWords (encodeWords ws) = w :: ws
    rw [hv, ih fun x hx => h x (List.mem_cons_of_mem _ hx)]

theorem encodeWords_length (ws : List Nat) : (encodeWords ws).length = 4 * ws.length := by
  induction ws with
  | nil => rfl
  | cons w ws ih =>
    unfold encodeWords at *
    rw [List.flatMap_cons, List.length_append, leBytes_length, ih, List.length_cons]; omega

theorem roundTrip_concat (P : Nat) (hP : 1 ≤ P) (ws : List Nat) (hw : ∀ w, w ∈ ws → w < 2 ^ 32) :
    roundTrip false P ws = .ok ws := by
  unfold roundTrip getWords
  rw [readBlob_writeBlob P hP, encodeWords_length]
  have : (4 * ws.length % 4 != 0) = false := by simp
  simp only [this, Bool.false_eq_true, if_false]
  rw [decode_encode ws hw]

/-! ### decoding page by page -/

theorem decodeWords_length : ∀ (b : Bytes), (decodeWords b).length = b.length / 4
  | [] => by simp [decodeWords]
  | [_] => by simp [decodeWords]
  | [_, _] => by simp [decodeWords]
  | [_, _, _] => by simp [decodeWords]
  | a :: b :: c :: d :: rest => by
    simp only [decodeWords, List.length_cons, decodeWords_length rest]; omega

def sumQ (pages : List Bytes) : Nat := (pages.map (fun p => p.length / 4)).sum

theorem perPage_length (pages : List Bytes) : (pages.flatMap decodeWords).length = sumQ pages := by
  induction pages with
  | nil => rfl
  | cons p ps ih =>
    rw [List.flatMap_cons, List.length_append, ih, decodeWords_length]
    simp [sumQ]

theorem sumQ_cons (p : Bytes) (ps : List Bytes) : sumQ (p :: ps) = p.length / 4 + sumQ ps := rfl

theorem sumQ_chunksAux_le (P : Nat) (fuel : Nat) : ∀ (l : Bytes), sumQ (chunksAux P fuel l) ≤ l.length / 4 := by
  induction fuel with
  | zero => intro l; exact Nat.zero_le _
  | succ fuel ih =>
    intro l
    unfold chunksAux
    cases l with
    | nil => exact Nat.zero_le _
    | cons a as =>
      rw [if_neg (by simp), sumQ_cons]
      have ih := ih (List.drop P (a :: as))
      have h1 : (List.take P (a :: as)).length + (List.drop P (a :: as)).length = (a :: as).length := by
        rw [← List.length_append, List.take_append_drop]
      omega

/-- a full first page of `P` bytes, `P` not a multiple of 4, wastes its last `P % 4` bytes -/
theorem div4_split_lt (P n : Nat) (hP4 : P % 4 ≠ 0) (h : P < 4 * n) : P / 4 + (4 * n - P) / 4 < n := by
  omega

theorem perPage_loses_words (P : Nat) (hP4 : P % 4 ≠ 0) (ws : List Nat) (hcross : P < 4 * ws.length)
    (r : List Nat) (h : roundTrip true P ws = .ok r) : r.length < ws.length := by
  unfold roundTrip getWords at h
  split at h
  · cases h
  · rw [if_pos rfl] at h
    cases h
    rw [perPage_length]
    have hlen := encodeWords_length ws
    unfold writeBlob chunks
    cases hd : encodeWords ws with
    | nil => rw [hd] at hlen; exact absurd hcross (by rw [← hlen]; exact Nat.not_lt_zero _)
    | cons a as =>
      rw [hd] at hlen
      -- the first page is full (`P` bytes), the rest holds the other `4 * |ws| - P` bytes
      rw [if_neg (by simp)]
      show sumQ (chunksAux P (as.length + 1) (a :: as)) < ws.length
      unfold chunksAux
      rw [if_neg (by simp), sumQ_cons, List.length_take, Nat.min_eq_left (by omega)]
      have hrest := sumQ_chunksAux_le P as.length (List.drop P (a :: as))
      rw [List.length_drop, hlen] at hrest
      exact Nat.lt_of_le_of_lt (Nat.add_le_add_left hrest _) (div4_split_lt P ws.length hP4 hcross)

end Nervus.HnswBlob
