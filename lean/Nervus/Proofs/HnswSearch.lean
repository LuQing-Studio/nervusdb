/-
  C31, `search_layer`.  `SLInv`, relative to any set `P` of ids that contains the entry points and is
  closed under the layer's adjacency, holds through the three loops for any distance
  (`searchLayer_sound`).  When `ef` is at least the size of such a set, a new id always finds room in
  `nearest` (`nearest_has_room`, a pigeonhole), so nothing is ever popped from it, and `CInv` holds as well: every
  visited id is in `nearest`, and one that is no longer a candidate has all its neighbours visited.
  At either exit of the loop the result then holds everything reachable (`searchLayer_complete`).
-/
import Nervus.Proofs.HnswHeap
namespace Nervus.Hnsw

variable {V D : Type}

def GoodPair (sp : Space V D) (ix : Index V) (q : V) (h : D × Nat) : Prop :=
  ∃ v, ix.vecs.lookup h.2 = some v ∧ h.1 = sp.dist q v

theorem getVec_ok {ix : Index V} {i : Nat} {v : V} (h : getVec ix i = .ok v) : ix.vecs.lookup i = some v := by
  unfold getVec at h
  split at h
  · cases h; assumption
  · cases h

theorem contains_false_iff {l : List Nat} {a : Nat} : l.contains a = false ↔ a ∉ l := by
  simp

/-- the optional `nearest.pop()` after a push -/
def trunc (sp : Space V D) (ef : Nat) (nearest : List (D × Nat)) : List (D × Nat) :=
  if nearest.length > ef then
    (match popMax sp nearest with | some (_, r) => r | none => nearest) else nearest

theorem trunc_of_le {sp : Space V D} {ef : Nat} {l : List (D × Nat)} (h : l.length ≤ ef) : trunc sp ef l = l :=
  if_neg (Nat.not_lt.mpr h)

theorem trunc_cases (sp : Space V D) (ef : Nat) (l : List (D × Nat)) :
    trunc sp ef l = l ∨ ∃ x, ef < l.length ∧ (x :: trunc sp ef l).Perm l := by
  unfold trunc
  split
  · next hlen =>
    cases hp : popMax sp l with
    | none => exact Or.inl rfl
    | some xr => exact Or.inr ⟨xr.1, hlen, popMax_perm sp l xr.1 xr.2 hp⟩
  · exact Or.inl rfl

theorem trunc_ne_nil (sp : Space V D) (ef : Nat) (l : List (D × Nat)) (hef : 1 ≤ ef) (hl : l ≠ []) :
    trunc sp ef l ≠ [] := by
  rcases trunc_cases sp ef l with h | ⟨x, hlen, hp⟩
  · rwa [h]
  · intro hr
    have := hp.length_eq
    rw [hr, List.length_singleton] at this
    omega

/-! ### the code of the three loops, one turn at a time -/

theorem slInit_cons {sp : Space V D} {ix : Index V} {q : V} {ep : Nat} {eps : List Nat} {st st' : SL D}
    (h : slInit sp ix q (ep :: eps) st = .ok st') :
    (ep ∈ st.visited ∧ slInit sp ix q eps st = .ok st') ∨
    (ep ∉ st.visited ∧ ∃ v, ix.vecs.lookup ep = some v ∧ slInit sp ix q eps
      ⟨(sp.dist q v, ep) :: st.cands, ep :: st.visited, (sp.dist q v, ep) :: st.nearest⟩ = .ok st') := by
  unfold slInit at h
  by_cases hc : st.visited.contains ep = true
  · rw [if_pos hc] at h; exact Or.inl ⟨List.contains_iff_mem.mp hc, h⟩
  · rw [if_neg hc] at h
    refine Or.inr ⟨fun hm => hc (List.contains_iff_mem.mpr hm), ?_⟩
    cases hg : getVec ix ep with
    | error e => rw [hg] at h; cases h
    | ok v => rw [hg] at h; exact ⟨v, getVec_ok hg, h⟩

/-- one turn of `for &n in &neighbors`: an id seen before is skipped; a new one is pushed (and the
    greatest of `nearest` popped if that makes `ef + 1`) or, when `nearest` is full, only marked -/
theorem slVisit_cons {sp : Space V D} {ix : Index V} {q : V} {ef n : Nat} {ns : List Nat} {st st' : SL D}
    (h : slVisit sp ix q ef (n :: ns) st = .ok st') :
    (n ∈ st.visited ∧ slVisit sp ix q ef ns st = .ok st') ∨
    (n ∉ st.visited ∧ ∃ v, ix.vecs.lookup n = some v ∧
      (slVisit sp ix q ef ns ⟨(sp.dist q v, n) :: st.cands, n :: st.visited,
          trunc sp ef ((sp.dist q v, n) :: st.nearest)⟩ = .ok st' ∨
       (ef ≤ st.nearest.length ∧ slVisit sp ix q ef ns { st with visited := n :: st.visited } = .ok st'))) := by
  unfold slVisit at h
  by_cases hc : st.visited.contains n = true
  · rw [if_pos hc] at h; exact Or.inl ⟨List.contains_iff_mem.mp hc, h⟩
  · rw [if_neg hc] at h
    refine Or.inr ⟨fun hm => hc (List.contains_iff_mem.mpr hm), ?_⟩
    cases hg : getVec ix n with
    | error e => rw [hg] at h; cases h
    | ok v =>
      rw [hg] at h
      refine ⟨v, getVec_ok hg, ?_⟩
      dsimp only at h
      -- the two pushing branches of the model are one expression: `trunc` unfolds to their inline `if`
      by_cases hroom : st.nearest.length < ef
      · rw [if_pos hroom] at h; exact Or.inl h
      · rw [if_neg hroom] at h
        cases hpk : peekMax sp st.nearest with
        | none => rw [hpk] at h; cases h
        | some mx =>
          rw [hpk] at h
          dsimp only at h
          by_cases hlt : sp.lt (sp.dist q v) mx.1 = true
          · rw [if_pos hlt] at h; exact Or.inl h
          · rw [if_neg hlt] at h; exact Or.inr ⟨Nat.le_of_not_lt hroom, h⟩

/-- one turn of `while let Some(c) = candidates.pop()`: stop with `nearest` — no candidate left, or
    `nearest` full — or expand some candidate `c` and go on -/
theorem slLoop_succ {sp : Space V D} {ix : Index V} {q : V} {ef layer fuel : Nat} {st : SL D}
    {r : List (D × Nat)} (h : slLoop sp ix q ef layer (fuel + 1) st = .ok r) :
    (r = st.nearest ∧ (st.cands = [] ∨ ef ≤ st.nearest.length)) ∨
    ∃ c rest st', (c :: rest).Perm st.cands ∧
      slVisit sp ix q ef (getNbrs ix layer c.2) { st with cands := rest } = .ok st' ∧
      slLoop sp ix q ef layer fuel st' = .ok r := by
  unfold slLoop at h
  cases hp : popMin sp st.cands with
  | none => rw [hp] at h; cases h; exact Or.inl ⟨rfl, Or.inl (popMin_none sp _ hp)⟩
  | some cr =>
    rw [hp] at h
    simp only at h
    split at h
    · cases h
    · split at h
      · next hbr =>
        cases h
        exact Or.inl ⟨rfl, Or.inr (of_decide_eq_true (Bool.and_eq_true_iff.mp hbr).2)⟩
      · split at h
        · cases h
        · next st' hv => exact Or.inr ⟨cr.1, cr.2, st', popMin_perm sp _ _ _ hp, hv, h⟩

/-! ### what holds of a `search_layer` state -/

/-- `P` is any set of ids containing the entry points and closed under the layer's adjacency -/
structure SLInv (sp : Space V D) (ix : Index V) (q : V) (P : Nat → Prop) (st : SL D) : Prop where
  vis : ∀ i, i ∈ st.visited → P i
  cands : ∀ h, h ∈ st.cands → h.2 ∈ st.visited ∧ GoodPair sp ix q h
  near : ∀ h, h ∈ st.nearest → h.2 ∈ st.visited ∧ GoodPair sp ix q h
  nodup : (st.nearest.map (·.2)).Nodup

section inv
variable {sp : Space V D} {ix : Index V} {q : V} {P : Nat → Prop} {st : SL D}

theorem SLInv.empty : SLInv sp ix q P ⟨[], [], []⟩ :=
  ⟨fun _ h => (nomatch h), fun _ h => (nomatch h), fun _ h => (nomatch h), List.nodup_nil⟩

theorem SLInv.visitOnly (h : SLInv sp ix q P st) {n : Nat} (hP : P n) :
    SLInv sp ix q P { st with visited := n :: st.visited } :=
  ⟨fun i hi => (List.mem_cons.mp hi).elim (fun e => e ▸ hP) (h.vis i),
   fun x hx => ⟨List.mem_cons_of_mem _ (h.cands x hx).1, (h.cands x hx).2⟩,
   fun x hx => ⟨List.mem_cons_of_mem _ (h.near x hx).1, (h.near x hx).2⟩, h.nodup⟩

theorem SLInv.push (h : SLInv sp ix q P st) {n : Nat} {v : V} (hn : n ∉ st.visited) (hP : P n)
    (hv : ix.vecs.lookup n = some v) :
    SLInv sp ix q P ⟨(sp.dist q v, n) :: st.cands, n :: st.visited, (sp.dist q v, n) :: st.nearest⟩ := by
  have h1 := h.visitOnly hP
  have hnew : n ∈ n :: st.visited ∧ GoodPair sp ix q (sp.dist q v, n) := ⟨List.mem_cons_self, v, hv, rfl⟩
  refine ⟨h1.vis, fun x hx => ?_, fun x hx => ?_, List.nodup_cons.mpr ⟨fun hin => ?_, h.nodup⟩⟩
  · rcases List.mem_cons.mp hx with rfl | hx
    · exact hnew
    · exact h1.cands x hx
  · rcases List.mem_cons.mp hx with rfl | hx
    · exact hnew
    · exact h1.near x hx
  · obtain ⟨x, hx, hx2⟩ := List.mem_map.mp hin
    have hx2 : x.2 = n := hx2
    exact hn (hx2 ▸ (h.near x hx).1)

theorem SLInv.trunc (h : SLInv sp ix q P st) (ef : Nat) :
    SLInv sp ix q P { st with nearest := trunc sp ef st.nearest } := by
  rcases trunc_cases sp ef st.nearest with he | ⟨x, _, hp⟩
  · rw [he]; exact h
  · refine ⟨h.vis, h.cands, fun y hy => h.near y (hp.subset (List.mem_cons_of_mem _ hy)), ?_⟩
    exact (List.nodup_cons.mp ((hp.map (·.2)).nodup_iff.mpr h.nodup)).2

theorem near_ids_subset (h : SLInv sp ix q P st) : ∀ i, i ∈ st.nearest.map (·.2) → i ∈ st.visited := by
  intro i hi
  obtain ⟨x, hx, rfl⟩ := List.mem_map.mp hi
  exact (h.near x hx).1

end inv

/-! ### the three loops -/

/-- in the loop over the entry points the three collections hold the same ids -/
def InitInv (st : SL D) : Prop := st.cands = st.nearest ∧ st.visited = st.nearest.map (·.2)

theorem slInit_inv {sp : Space V D} {ix : Index V} {q : V} {P : Nat → Prop} :
    ∀ (eps : List Nat) (st st' : SL D), SLInv sp ix q P st → InitInv st → (∀ e, e ∈ eps → P e) →
      slInit sp ix q eps st = .ok st' →
      SLInv sp ix q P st' ∧ InitInv st' ∧ (∀ e, e ∈ eps → e ∈ st'.visited) ∧
        (∀ i, i ∈ st.visited → i ∈ st'.visited) := by
  intro eps
  induction eps with
  | nil => intro st st' h hi _ hr; cases hr; exact ⟨h, hi, fun _ he => (nomatch he), fun _ hv => hv⟩
  | cons ep eps ih =>
    intro st st' h hi hP hr
    have hPs : ∀ e, e ∈ eps → P e := fun e he => hP e (List.mem_cons_of_mem _ he)
    rcases slInit_cons hr with ⟨hv, hr⟩ | ⟨hn, v, hv, hr⟩
    · obtain ⟨h1, h2, h3, h4⟩ := ih st st' h hi hPs hr
      exact ⟨h1, h2, fun e he => (List.mem_cons.mp he).elim (fun e' => e' ▸ h4 ep hv) (h3 e), h4⟩
    · obtain ⟨h1, h2, h3, h4⟩ := ih _ st' (h.push hn (hP ep List.mem_cons_self) hv)
        ⟨congrArg _ hi.1, congrArg _ hi.2⟩ hPs hr
      exact ⟨h1, h2, fun e he => (List.mem_cons.mp he).elim (fun e' => e' ▸ h4 ep List.mem_cons_self) (h3 e),
        fun i hi' => h4 i (List.mem_cons_of_mem _ hi')⟩

theorem slVisit_inv {sp : Space V D} {ix : Index V} {q : V} {P : Nat → Prop} (ef : Nat) :
    ∀ (ns : List Nat) (st st' : SL D), SLInv sp ix q P st → (∀ n, n ∈ ns → P n) →
      slVisit sp ix q ef ns st = .ok st' →
      SLInv sp ix q P st' ∧ (∀ i, i ∈ st.visited → i ∈ st'.visited) ∧ (∀ n, n ∈ ns → n ∈ st'.visited) ∧
        (1 ≤ ef → st.nearest ≠ [] → st'.nearest ≠ []) := by
  intro ns
  induction ns with
  | nil => intro st st' h _ hr; cases hr; exact ⟨h, fun _ hi => hi, fun _ hn => (nomatch hn), fun _ hne => hne⟩
  | cons n ns ih =>
    intro st st' h hP hr
    have hPns : ∀ m, m ∈ ns → P m := fun m hm => hP m (List.mem_cons_of_mem _ hm)
    have hPn := hP n List.mem_cons_self
    -- one turn: `n` is visited afterwards and nothing visited is forgotten
    obtain ⟨st1, h1, hmono, hn1, hne1, hr1⟩ : ∃ st1 : SL D, SLInv sp ix q P st1 ∧
        (∀ i, i ∈ st.visited → i ∈ st1.visited) ∧ n ∈ st1.visited ∧
        (1 ≤ ef → st.nearest ≠ [] → st1.nearest ≠ []) ∧ slVisit sp ix q ef ns st1 = .ok st' := by
      rcases slVisit_cons hr with ⟨hv, hr⟩ | ⟨hn, v, hv, hr | ⟨_, hr⟩⟩
      · exact ⟨st, h, fun _ hi => hi, hv, fun _ hne => hne, hr⟩
      · exact ⟨_, (h.push hn hPn hv).trunc ef, fun _ hi => List.mem_cons_of_mem _ hi, List.mem_cons_self,
          fun hef _ => trunc_ne_nil sp ef _ hef (List.cons_ne_nil _ _), hr⟩
      · exact ⟨_, h.visitOnly hPn, fun _ hi => List.mem_cons_of_mem _ hi, List.mem_cons_self,
          fun _ hne => hne, hr⟩
    obtain ⟨g1, g2, g3, g4⟩ := ih st1 st' h1 hPns hr1
    exact ⟨g1, fun i hi => g2 i (hmono i hi),
      fun m hm => (List.mem_cons.mp hm).elim (fun e => e ▸ g2 n hn1) (g3 m),
      fun hef hne => g4 hef (hne1 hef hne)⟩

theorem slLoop_inv {sp : Space V D} {ix : Index V} {q : V} {P : Nat → Prop} (ef layer : Nat)
    (hcl : ∀ i, P i → ∀ j, j ∈ getNbrs ix layer i → P j) :
    ∀ (fuel : Nat) (st : SL D) (r : List (D × Nat)), SLInv sp ix q P st →
      slLoop sp ix q ef layer fuel st = .ok r →
      (∀ i, i ∈ r.map (·.2) → P i) ∧ (∀ h, h ∈ r → GoodPair sp ix q h) ∧ (r.map (·.2)).Nodup ∧
        (1 ≤ ef → st.nearest ≠ [] → r ≠ []) := by
  intro fuel
  induction fuel with
  | zero => intro _ _ _ hr; cases hr
  | succ fuel ih =>
    intro st r h hr
    rcases slLoop_succ hr with ⟨rfl, _⟩ | ⟨c, rest, st', hperm, hv, hr⟩
    · exact ⟨fun i hi => h.vis i (near_ids_subset h i hi), fun x hx => (h.near x hx).2, h.nodup, fun _ hne => hne⟩
    · have hst : SLInv sp ix q P { st with cands := rest } :=
        ⟨h.vis, fun x hx => h.cands x (hperm.subset (List.mem_cons_of_mem _ hx)), h.near, h.nodup⟩
      have hc := h.cands c (hperm.subset List.mem_cons_self)
      obtain ⟨h1, _, _, h4⟩ := slVisit_inv ef _ _ st' hst (hcl c.2 (h.vis _ hc.1)) hv
      obtain ⟨g0, g1, g2, g3⟩ := ih st' r h1 hr
      exact ⟨g0, g1, g2, fun hef hne => g3 hef (h4 hef hne)⟩

theorem searchLayer_sound {sp : Space V D} {ix : Index V} {q : V} {P : Nat → Prop} (eps : List Nat)
    (ef layer : Nat) (hP : ∀ e, e ∈ eps → P e)
    (hcl : ∀ i, P i → ∀ j, j ∈ getNbrs ix layer i → P j) (r : List (D × Nat))
    (hr : searchLayer sp ix q eps ef layer = .ok r) :
    (∀ i, i ∈ r.map (·.2) → P i) ∧ (∀ h, h ∈ r → GoodPair sp ix q h) ∧ (r.map (·.2)).Nodup ∧
      (1 ≤ ef → eps ≠ [] → r ≠ []) := by
  unfold searchLayer at hr
  split at hr
  · cases hr
  · next st hi =>
    obtain ⟨h1, h2, h3, _⟩ := slInit_inv eps _ st .empty ⟨rfl, rfl⟩ hP hi
    obtain ⟨g0, g1, g2, g3⟩ := slLoop_inv ef layer hcl _ st r h1 hr
    refine ⟨g0, g1, g2, fun hef hne => g3 hef fun hnil => ?_⟩
    obtain ⟨e, he⟩ := List.exists_mem_of_ne_nil eps hne
    have := h3 e he
    rw [h2.2, hnil] at this
    cases this

/-! ### completeness of `search_layer` when `ef` is at least the number of stored vectors -/

inductive Reach (ix : Index V) (layer : Nat) : Nat → Nat → Prop
  | refl (i : Nat) : Reach ix layer i i
  | step {i j k : Nat} : j ∈ getNbrs ix layer i → Reach ix layer j k → Reach ix layer i k

def ClosedAt (ix : Index V) (layer : Nat) (vis : List Nat) (i : Nat) : Prop :=
  ∀ j, j ∈ getNbrs ix layer i → j ∈ vis

theorem reach_in_set {ix : Index V} {layer : Nat} {P : Nat → Prop}
    (hcl : ∀ i, P i → ∀ j, j ∈ getNbrs ix layer i → P j) {i u : Nat} (hr : Reach ix layer i u) (hi : P i) :
    P u := by
  induction hr with
  | refl => exact hi
  | step hj _ ih => exact ih (hcl _ hi _ hj)

/-- `exempt` is the candidate popped by the current turn of `slLoop`: no longer in `cands`, its
    neighbours not all visited until `slVisit` is through with them -/
structure CInv (ix : Index V) (layer : Nat) (exempt : Option Nat) (st : SL D) : Prop where
  cov : ∀ i, i ∈ st.visited → i ∈ st.nearest.map (·.2)
  closed : ∀ i, i ∈ st.visited → some i ≠ exempt → i ∉ st.cands.map (·.2) → ClosedAt ix layer st.visited i

/-- with `ef ≥ |U|` a freshly visited id always finds room in `nearest` -/
theorem nearest_has_room {sp : Space V D} {ix : Index V} {q : V} {U : List Nat} {st : SL D} {ef n : Nat}
    (h : SLInv sp ix q (· ∈ U) st) (hef : U.length ≤ ef) (hn : n ∉ st.visited) (hU : n ∈ U) :
    st.nearest.length < ef := by
  have := length_lt_of_misses h.nodup (fun x hx => h.vis x (near_ids_subset h x hx))
    (fun hx => hn (near_ids_subset h n hx)) hU
  rw [List.length_map] at this
  exact Nat.lt_of_lt_of_le this hef

theorem slVisit_complete {sp : Space V D} {ix : Index V} {q : V} {U : List Nat} (ef layer : Nat) (c : Nat)
    (hef : U.length ≤ ef) :
    ∀ (ns : List Nat) (st st' : SL D), SLInv sp ix q (· ∈ U) st → CInv ix layer (some c) st →
      (∀ n, n ∈ ns → n ∈ U) → slVisit sp ix q ef ns st = .ok st' → CInv ix layer (some c) st' := by
  intro ns
  induction ns with
  | nil => intro st st' _ hc _ hr; cases hr; exact hc
  | cons n ns ih =>
    intro st st' h hc hU hr
    have hUns : ∀ m, m ∈ ns → m ∈ U := fun m hm => hU m (List.mem_cons_of_mem _ hm)
    have hUn := hU n List.mem_cons_self
    rcases slVisit_cons hr with ⟨_, hr⟩ | ⟨hn, v, hv, hr | ⟨hfull, _⟩⟩
    · exact ih st st' h hc hUns hr
    · -- there is room: pushed, nothing popped
      rw [trunc_of_le (Nat.succ_le_of_lt (nearest_has_room h hef hn hUn))] at hr
      refine ih _ st' (h.push hn hUn hv) ⟨fun i hi => ?_, fun i hi hne hnc => ?_⟩
        hUns hr
      · exact (List.mem_cons.mp hi).elim (fun e => e ▸ List.mem_cons_self)
          fun hi => List.mem_cons_of_mem _ (hc.cov i hi)
      · have hnc := not_or.mp (fun hin => hnc (List.mem_cons.mpr hin))
        rcases List.mem_cons.mp hi with rfl | hi
        · exact absurd rfl hnc.1
        · exact fun j hj => List.mem_cons_of_mem _ (hc.closed i hi hne hnc.2 j hj)
    · exact absurd (nearest_has_room h hef hn hUn) (Nat.not_lt.mpr hfull)

theorem slLoop_complete {sp : Space V D} {ix : Index V} {q : V} {U : List Nat} (ef layer : Nat)
    (hef : U.length ≤ ef)
    (hcl : ∀ i, i ∈ U → ∀ j, j ∈ getNbrs ix layer i → j ∈ U) :
    ∀ (fuel : Nat) (st : SL D) (r : List (D × Nat)), SLInv sp ix q (· ∈ U) st → CInv ix layer none st →
      slLoop sp ix q ef layer fuel st = .ok r →
      ∀ i, i ∈ st.visited → ∀ u, Reach ix layer i u → u ∈ r.map (·.2) := by
  intro fuel
  induction fuel with
  | zero => intro _ _ _ _ hr; cases hr
  | succ fuel ih =>
    intro st r h hc hr
    rcases slLoop_succ hr with ⟨rfl, hnil | hfull⟩ | ⟨c, rest, st', hperm, hv, hr⟩
    · -- no candidate left: every visited id has all its neighbours visited
      intro i hi u hu
      refine hc.cov u (reach_in_set (P := (· ∈ st.visited)) (fun i' hi' => ?_) hu hi)
      exact hc.closed i' hi' (fun e => nomatch e) (by rw [hnil]; exact List.not_mem_nil)
    · -- early exit: `nearest` already holds `ef ≥ |U|` distinct stored ids, i.e. all of them
      intro i hi u hu
      refine covers_of_length_ge _ U h.nodup (fun x hx => h.vis x (near_ids_subset h x hx)) ?_ u
        (reach_in_set (P := (· ∈ U)) hcl hu (h.vis i hi))
      rw [List.length_map]; exact Nat.le_trans hef hfull
    · have hcv := h.cands c (hperm.subset List.mem_cons_self)
      have hst : SLInv sp ix q (· ∈ U) { st with cands := rest } :=
        ⟨h.vis, fun x hx => h.cands x (hperm.subset (List.mem_cons_of_mem _ hx)), h.near, h.nodup⟩
      have hcst : CInv ix layer (some c.2) { st with cands := rest } := by
        refine ⟨hc.cov, fun i hi hne hnc => hc.closed i hi (fun e => nomatch e) fun hin => ?_⟩
        rcases List.mem_cons.mp ((hperm.map (·.2)).symm.subset hin) with h1 | h1
        · exact hne (congrArg some h1)
        · exact hnc h1
      have hnb : ∀ n, n ∈ getNbrs ix layer c.2 → n ∈ U := hcl c.2 (h.vis _ hcv.1)
      obtain ⟨h1, hmono, hall, _⟩ := slVisit_inv ef _ _ st' hst hnb hv
      have hc1 := slVisit_complete ef layer c.2 hef _ _ st' hst hcst hnb hv
      -- the expanded candidate is closed now: all its neighbours were visited
      have hc2 : CInv ix layer none st' := by
        refine ⟨hc1.cov, fun i hi _ hnc => ?_⟩
        by_cases hic : i = c.2
        · exact hic ▸ hall
        · exact hc1.closed i hi (fun e => hic (Option.some.inj e)) hnc
      exact fun i hi u hu => ih st' r h1 hc2 hr i (hmono i hi) u hu

theorem searchLayer_complete {sp : Space V D} {ix : Index V} {q : V} {U : List Nat} (eps : List Nat)
    (ef layer : Nat) (hef : U.length ≤ ef) (hP : ∀ e, e ∈ eps → e ∈ U)
    (hcl : ∀ i, i ∈ U → ∀ j, j ∈ getNbrs ix layer i → j ∈ U) (r : List (D × Nat))
    (hr : searchLayer sp ix q eps ef layer = .ok r) :
    ∀ e, e ∈ eps → ∀ u, Reach ix layer e u → u ∈ r.map (·.2) := by
  unfold searchLayer at hr
  split at hr
  · cases hr
  · next st hi =>
    obtain ⟨h1, h2, h3, _⟩ := slInit_inv eps _ st .empty ⟨rfl, rfl⟩ hP hi
    -- every visited id is still a candidate
    have hc : CInv ix layer none st :=
      ⟨fun i hi => h2.2 ▸ hi, fun i hi _ hnc => absurd (h2.1 ▸ h2.2 ▸ hi) hnc⟩
    exact fun e he u hu => slLoop_complete ef layer hef hcl _ st r h1 hc hr e (h3 e he) u hu

end Nervus.Hnsw
