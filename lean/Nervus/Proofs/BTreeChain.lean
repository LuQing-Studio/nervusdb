/-
  C26: the leaf chain.  Order facts along a segment, and the cursor functions
  (`settle` = inner loop of cursor_lower_bound, `nextLeaf` = the leaving part of advance,
  `collect` = the scan loop) computed along a segment.
-/
import Nervus.Proofs.ListBasics
import Nervus.Proofs.BTreeInv
set_option linter.unusedSectionVars false
namespace Nervus.BTree
open Nervus KO

variable {κ : Type} [KeyOrd κ] [LawfulKeyOrd κ]

theorem contents_cons (pg : Pg κ) (p : Nat) (ps : List Nat) :
    contents pg (p :: ps) = entriesOf pg p ++ contents pg ps := by
  simp [contents]

theorem contents_append (pg : Pg κ) (A B : List Nat) :
    contents pg (A ++ B) = contents pg A ++ contents pg B := by
  simp [contents]

theorem contents_congr {pg pg' : Pg κ} {X : List Nat} (h : ∀ p ∈ X, pg' p = pg p) :
    contents pg' X = contents pg X :=
  flatMap_congr_mem fun p hp => by rw [entriesOf, entriesOf, h p hp]

theorem contents_upd_notin (pg : Pg κ) (p : Nat) (n : Node κ) (X : List Nat) (h : p ∉ X) :
    contents (upd pg p n) X = contents pg X :=
  contents_congr fun _ hq => upd_other _ _ _ _ fun e => h (e ▸ hq)

theorem entriesOf_leaf {pg : Pg κ} {p : Nat} {es : List (κ × Nat)} {b r : Nat} (h : pg p = some (.leaf es b r)) :
    entriesOf pg p = es := by
  rw [entriesOf, h]

theorem rightOf_leaf {pg : Pg κ} {p r : Nat} (h : rightOf pg p = some r) :
    ∃ es b, pg p = some (.leaf es b r) := by
  unfold rightOf at h
  split at h
  · next es b r' hp => cases h; exact ⟨es, b, hp⟩
  · cases h

theorem Seg_zero {pg : Pg κ} {G : GMap κ} {alo : Option κ} {ps : List Nat} {z : Nat} {zhi : Option κ}
    (h : Seg pg G 0 alo ps z zhi) : ps = [] ∧ z = 0 ∧ alo = zhi := by
  cases ps with
  | nil => exact ⟨rfl, h.1.symm, h.2⟩
  | cons p ps => obtain ⟨hp, hpos, _⟩ := h; rw [hp] at hpos; exact absurd hpos (Nat.lt_irrefl 0)

/-- a segment that ends at a page (`0 < z`) lies below every key of that page's range; one that ends the chain
    (`z = 0`) has no such key to be compared with -/
theorem Seg_order {pg : Pg κ} {root next : Nat} {g : Ghost κ} (wf : WF pg root next g) :
    ∀ (ps : List Nat) (a : Nat) (alo : Option κ) (z : Nat) (zlo : Option κ), Seg pg g.G a alo ps z zlo →
      (∀ e ∈ contents pg ps, bLo alo e.1) ∧
      (0 < z → ∀ k, bLo zlo k → bLo alo k ∧ ∀ e ∈ contents pg ps, Lt e.1 k) := by
  intro ps
  induction ps with
  | nil => intro a alo z zlo h; exact ⟨nofun, fun _ k hk => ⟨h.2 ▸ hk, nofun⟩⟩
  | cons p ps ih =>
    intro a alo z zlo h
    obtain ⟨_, _, hi, r, hG, _, hn, hrest⟩ := h
    obtain ⟨es, b, r', hp, _, hin⟩ := wf.leaf p alo hi hG
    have hle := (wf.rng p 0 alo hi hG).2.2
    obtain ⟨ih1, ih2⟩ := ih r hi z zlo hrest
    rw [contents_cons, entriesOf_leaf hp]
    cases hi with
    | none =>
      -- the last leaf of the chain: nothing follows it
      obtain ⟨rfl, rfl, _⟩ := Seg_zero ((hn rfl) ▸ hrest)
      exact ⟨fun e he => (hin e (by simpa [contents] using he)).1, fun hz => absurd hz (Nat.lt_irrefl 0)⟩
    | some h =>
      refine ⟨fun e he => (List.mem_append.mp he).elim (fun he => (hin e he).1) fun he => bLo_of_bLe hle (ih1 e he),
        fun hz k hk => ?_⟩
      obtain ⟨hhk, hlt⟩ := ih2 hz k hk
      exact ⟨bLo_of_bLe hle hhk, fun e he => (List.mem_append.mp he).elim
        (fun he => lt_of_lt_of_le (hin e he).2 hhk) (hlt e)⟩

theorem Seg_after_hi {pg : Pg κ} {root next : Nat} {g : Ghost κ} (wf : WF pg root next g)
    (ps : List Nat) (r : Nat) (hi : Option κ) (hn : hi = none → r = 0)
    (h : Seg pg g.G r hi ps 0 none) : ∀ e ∈ contents pg ps, ∀ k, bHi k hi → Lt k e.1 := by
  intro e he k hk
  cases hi with
  | none =>
    obtain ⟨rfl, _⟩ := Seg_zero ((hn rfl) ▸ h)
    cases he
  | some h' => exact lt_of_lt_of_le hk ((Seg_order wf ps r (some h') 0 none h).1 e he)

/-! ### cursor functions along a segment -/

theorem Seg_next {pg : Pg κ} {G : GMap κ} {r p : Nat} {hi : Option κ} {ps : List Nat}
    (h : Seg pg G r hi (p :: ps) 0 none) :
    r = p ∧ p ≠ 0 ∧ ∃ es b r' hi', pg p = some (.leaf es b r') ∧ contents pg (p :: ps) = es ++ contents pg ps ∧
      Seg pg G r' hi' ps 0 none := by
  obtain ⟨hp, hpos, hi', r', _, hr, _, hrest⟩ := h
  obtain ⟨es, b, hleaf⟩ := rightOf_leaf hr
  exact ⟨hp.symm, Nat.ne_of_gt hpos, es, b, r', hi', hleaf, by rw [contents_cons, entriesOf_leaf hleaf], hrest⟩

theorem nextLeaf_collect (c : Cfg) (hc : c.Std) (pages : PageMap (Node κ)) (G : GMap κ) :
    ∀ (B : List Nat) (r : Nat) (hi : Option κ) (f1 f2 : Nat), Seg pages.get G r hi B 0 none → B.length < f1 → B.length ≤ f2 →
      ∃ o, nextLeaf c pages f1 r = .ok o ∧
        match o with
        | none => contents pages.get B = []
        | some nxt => collect c pages f2 nxt = .ok (contents pages.get B) := by
  intro B
  induction B with
  | nil =>
    intro r hi f1 f2 h hf1 _
    obtain ⟨f, rfl⟩ := Nat.exists_eq_succ_of_ne_zero (Nat.ne_zero_of_lt hf1)
    exact ⟨none, by simp [nextLeaf, show r = 0 from h.1], rfl⟩
  | cons p ps ih =>
    intro r hi f1 f2 h hf1 hf2
    obtain ⟨rfl, hne, es, b, r', hi', hleaf, hcont, hrest⟩ := Seg_next h
    obtain ⟨f, rfl⟩ := Nat.exists_eq_succ_of_ne_zero (Nat.ne_zero_of_lt hf1)
    obtain ⟨f2', rfl⟩ := Nat.exists_eq_succ_of_ne_zero (Nat.ne_zero_of_lt hf2)
    simp only [List.length_cons, Nat.succ_lt_succ_iff, Nat.succ_le_succ_iff] at hf1 hf2
    rw [hcont]
    by_cases hes : 0 < es.length
    · refine ⟨some ⟨r, es, r', 0⟩, by simp only [nextLeaf, hne, if_false, hleaf, hes, if_true], ?_⟩
      -- the scan loop takes this leaf and leaves it in the same way
      obtain ⟨o, ho, hrec⟩ := ih r' hi' (f2' + 1) f2' hrest (Nat.lt_succ_of_le hf2) hf2
      cases o with
      | none => simp only [collect, hes, if_true, ho, List.drop_zero, hrec, List.append_nil]
      | some nxt => simp only [collect, hes, if_true, ho, hrec, List.drop_zero]
    · obtain rfl : es = [] := List.eq_nil_of_length_eq_zero (Nat.eq_zero_of_not_pos hes)
      obtain ⟨o, ho, hrec⟩ := ih r' hi' f (f2' + 1) hrest hf1 (Nat.le_succ_of_le hf2)
      exact ⟨o, by simp only [nextLeaf, hne, if_false, hleaf, List.length_nil, Nat.lt_irrefl, hc.adv, if_true, ho],
        by rw [List.nil_append]; exact hrec⟩

theorem collect_spec (c : Cfg) (hc : c.Std) (pages : PageMap (Node κ)) (G : GMap κ)
    (B : List Nat) (p : Nat) (es : List (κ × Nat)) (r s : Nat) (hi : Option κ) (fuel : Nat)
    (hseg : Seg pages.get G r hi B 0 none) (hs : s < es.length) (hf : B.length < fuel) :
    collect c pages fuel ⟨p, es, r, s⟩ = .ok (es.drop s ++ contents pages.get B) := by
  obtain ⟨f, rfl⟩ := Nat.exists_eq_succ_of_ne_zero (Nat.ne_zero_of_lt hf)
  obtain ⟨o, ho, hrec⟩ := nextLeaf_collect c hc pages G B r hi (f + 1) f hseg hf (Nat.le_of_lt_succ hf)
  cases o with
  | none => simp only [collect, hs, if_true, ho, hrec, List.append_nil]
  | some nxt => simp only [collect, hs, if_true, ho, hrec]

theorem settle_collect_spec (c : Cfg) (hc : c.Std) (pages : PageMap (Node κ)) (G : GMap κ) :
    ∀ (B : List Nat) (p : Nat) (es : List (κ × Nat)) (r s : Nat) (hi : Option κ) (fuel fuel2 : Nat),
      Seg pages.get G r hi B 0 none → B.length < fuel → B.length < fuel2 →
      ∃ cur, settle pages fuel ⟨p, es, r, s⟩ = .ok cur ∧
        collect c pages fuel2 cur = .ok (es.drop s ++ contents pages.get B) ∧
        cur.es[cur.slot]? = (es.drop s ++ contents pages.get B).head? := by
  intro B
  induction B with
  | nil =>
    intro p es r s hi fuel fuel2 hseg hf hf2
    have hr : r = 0 := hseg.1
    subst hr
    cases fuel with
    | zero => simp at hf
    | succ f =>
    cases fuel2 with
    | zero => simp at hf2
    | succ f2 =>
      by_cases hlt : s < es.length
      · refine ⟨⟨p, es, 0, s⟩, ?_, ?_, ?_⟩
        · simp [settle, hlt]
        · simp [collect, hlt, nextLeaf, contents]
        · simp [contents, List.head?_drop]
      · refine ⟨⟨p, es, 0, s⟩, ?_, ?_, ?_⟩
        · simp [settle, hlt]
        · have : es.drop s = [] := List.drop_eq_nil_of_le (by omega)
          simp [collect, hlt, contents, this]
        · have : es.drop s = [] := List.drop_eq_nil_of_le (by omega)
          simp [contents, this, List.getElem?_eq_none (by omega : es.length ≤ s)]
  | cons q qs ih =>
    intro p es r s hi fuel fuel2 hseg hf hf2
    cases fuel with
    | zero => simp at hf
    | succ f =>
      by_cases hlt : s < es.length
      · refine ⟨⟨p, es, r, s⟩, ?_, ?_, ?_⟩
        · have hne0 : es.length ≠ 0 := Nat.ne_of_gt (Nat.zero_lt_of_lt hlt)
          simp only [settle, hlt, hne0, ne_eq, not_false_eq_true, and_self, if_true]
        · exact collect_spec c hc pages G (q :: qs) p es r s hi fuel2 hseg hlt hf2
        · have hne : es.drop s ≠ [] := by
            intro h; have := List.drop_eq_nil_iff.mp h; omega
          rw [head?_append_of_ne_nil _ hne, List.head?_drop]
      · obtain ⟨rfl, hne, es', b', r', hi', hleaf, hcq, hrest⟩ := Seg_next hseg
        obtain ⟨cur, h1, h2, h3⟩ := ih r es' r' 0 hi' f fuel2 hrest (by simp at hf; omega) (by simp at hf2; omega)
        have hcont : es.drop s ++ contents pages.get (r :: qs) = es'.drop 0 ++ contents pages.get qs := by
          rw [List.drop_eq_nil_of_le (by omega), hcq]; rfl
        refine ⟨cur, ?_, ?_, ?_⟩
        · simp only [settle, hlt, and_false, if_false, hne, hleaf]
          exact h1
        · rw [hcont]; exact h2
        · rw [hcont]; exact h3

end Nervus.BTree
