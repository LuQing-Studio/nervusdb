/-
  C11 on F1b: `MATCH (a:La) OPTIONAL MATCH (a)-[ev:T…]-(d:Ld)` (any direction), the model side of the OPTIONAL MATCH
  step: it compiles to `OptionalWhereFixup` of the node plan and one hop from the bound variable over that plan
  (`optPlan`); the outer table is the node rows of CypherF1a (pairwise distinct, `nodeRows_nodup`: what
  `optionalFixup_correct` asks); the null aliases are characterised (`mem_optionalAliases`).  Put together in `C11_F1b_compile` / `C11_F1b_rows` (Props/C11);
  the reference side of the step is not treated.
-/
import Nervus.Proofs.CypherF1aDir
namespace Nervus.Cy
open Nervus.Cy Nervus.Cy.Compile

variable (A : Algebra) (env : Env)

/-- the hidden path alias of the second chain of a query whose first chain is a single named node -/
def pa1 : String := (genPath { nextAnon := 1 }).1

/-- the filtered side of the OptionalWhereFixup: one hop from the bound variable over the existing plan -/
def optHop (dir : Dir) (a : String) (la : List String) (ev : Option String) (rels : List String) (d : String)
    (dl : List String) : Plan :=
  mkHop dir (nodePlan a la []) a rels ev d dl true (some pa1)

/-- on a plan that binds the pattern's start variable as a node: no re-anchoring, the chain is compiled over the
    plan -/
theorem compileMatch_bound (P : Plan) (p : PathPat) (a : String) (hstart : p.start.var = some a)
    (hb : boundAsNode (outKinds P) a = true) (hv : validatePattern p (outKinds P) = .ok ()) (preds : Preds) (s : St) :
    compileMatch (some P) [p] preds s = .ok (compileChain (some P) p preds (outKinds P) s) := by
  have hre : maybeReanchor p (outKinds P) = p := by
    unfold maybeReanchor
    split
    · rfl
    · simp [hstart, hb]
  rw [compileMatch_single]
  simp only [hre, hv, hstart, hb, Except.bind, Bool.true_or, ↓reduceIte]

theorem compileMatch_optHop (dir : Dir) (a d : String) (la dl rels : List String) (ev : Option String)
    (had : a ≠ d) (hev : ∀ e, ev = some e → e ≠ a) :
    compileMatch (some (nodePlan a la [])) [hopPatD dir a [] ev rels d dl] [] { nextAnon := 1 } =
      .ok (compileChain (some (nodePlan a la [])) (hopPatD dir a [] ev rels d dl) [] [(a, Kind.node)] { nextAnon := 1 }) := by
  have h := compileMatch_bound (nodePlan a la []) (hopPatD dir a [] ev rels d dl) a rfl
  rw [outKinds_nodePlan] at h
  refine h (by simp [boundAsNode, List.lookup]) ?_ [] _
  have hda : (d == a) = false := by simpa using fun h : d = a => had h.symm
  cases ev with
  | none => simp [validatePattern, List.lookup, hda, bind, Except.bind, pure, Except.pure]
  | some e =>
    have hea : (e == a) = false := by simpa using hev e rfl
    simp [validatePattern, List.lookup, hda, hea, bind, Except.bind, pure, Except.pure]

theorem compileChain_optHop (dir : Dir) (a d : String) (la dl rels : List String) (ev : Option String) :
    (compileChain (some (nodePlan a la [])) (hopPatD dir a [] ev rels d dl) [] [(a, Kind.node)] { nextAnon := 1 }).1 =
      optHop dir a la ev rels d dl := by
  rw [compileChain_named, hops_single]
  cases ev <;> simp [chainStart, optHop, pa1, boundAsNode, List.lookup, applyFilters, applyLabelFilters, andChain]

def optAliases (dir : Dir) (a : String) (la : List String) (ev : Option String) (rels : List String) (d : String)
    (dl : List String) : List String :=
  optionalAliases [hopPatD dir a [] ev rels d dl] [(a, Kind.node)] (outKinds (optHop dir a la ev rels d dl))

def optPlan (dir : Dir) (a : String) (la : List String) (ev : Option String) (rels : List String) (d : String)
    (dl : List String) : Plan :=
  .optionalWhereFixup (nodePlan a la []) (optHop dir a la ev rels d dl) (optAliases dir a la ev rels d dl)

/-- an OPTIONAL MATCH that no WHERE follows is wrapped into the fixup at once -/
theorem compileClauses_optMatch (pats : List PathPat) (rest : Query) (l : Loop)
    (hnw : ∀ w q, rest ≠ .where_ w :: q) :
    compileClauses (.match_ true pats :: rest) l =
      (compileMatch l.plan pats [] l.st).bind fun ps => compileClauses rest
        { plan := some (.optionalWhereFixup (l.plan.getD .returnOne) ps.1
            (optionalAliases pats (match l.plan with | some p => outKinds p | none => []) (outKinds ps.1))),
          st := ps.2 } := by
  rw [compileClauses]
  · simp only [↓reduceIte]
    rfl
  · exact fun w q h => hnw w q h

/-! ### the outer rows of the fixup plan: `nodeRows A env a la []` -/

def nodeRows0 (a : String) (la : List String) : Table :=
  ((scanRows env a la.head?).filter (pushedOK A env a [])).filter (labelOK A env a la)

/-! ### the null aliases -/

theorem lookup_isSome_iff_mem_keys {β} (m : List (String × β)) (x : String) : (m.lookup x).isSome = true ↔ x ∈ m.map (·.1) := by
  rw [List.lookup_isSome_iff, List.mem_map]
  exact ⟨fun ⟨p, hp, e⟩ => ⟨p, hp, (eq_of_beq e).symm⟩, fun ⟨p, hp, e⟩ => ⟨p, hp, e ▸ beq_self_eq_true _⟩⟩

theorem lookup_foldl_insertSorted (xs : List String) (acc : List (String × Unit)) (x : String) :
    ((xs.foldl (fun (m : List (String × Unit)) a => insertSorted m a ()) acc).lookup x).isSome =
      (xs.contains x || (acc.lookup x).isSome) := by
  induction xs generalizing acc with
  | nil => simp
  | cons y ys ih =>
    simp only [List.foldl_cons, ih, lookup_insertSorted, List.contains_cons]
    by_cases h : x = y
    · subst h; simp
    · have : (x == y) = false := by simpa using h
      simp [this]

theorem mem_optionalAliases (pats : List PathPat) (before after : Kinds) (x : String) :
    x ∈ optionalAliases pats before after ↔
      (x ∈ pats.flatMap (fun p => p.start.var.toList ++ p.steps.flatMap fun (rp, np) => np.var.toList ++ rp.var.toList) ∨
        (after.lookup x).isSome = true) ∧ before.lookup x = none := by
  unfold optionalAliases
  rw [← lookup_isSome_iff_mem_keys, lookup_foldl_insertSorted]
  simp only [List.lookup, Option.isSome_none, Bool.or_false, List.contains_eq_mem, List.mem_filter,
    decide_eq_true_eq, List.mem_append, lookup_isSome_iff_mem_keys, Option.isNone_iff_eq_none]

theorem pa1_internal : isInternalPath pa1 = true := by decide +kernel

end Nervus.Cy
