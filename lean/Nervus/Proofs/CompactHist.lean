/-
  Proofs/CompactHist.lean — compaction at arbitrary positions of a history (C05, history level):
  an engine that compacts and an engine that never does, fed the same transactions, answer every read
  alike (`Eqv`, `hist_eqv`), as long as every compaction starts from a `compactSafe` state and no published
  run removes a property whose value sits in the store (`compactHistSafe`).  At the end: the same relation
  holds between an engine and the engine `open` rebuilds from its files (`eqv_runsEq`).
-/
import Nervus.Model.Triggers
import Nervus.Proofs.IdEq
import Nervus.Proofs.EngineCompactE
import Nervus.Proofs.Staging
import Nervus.Proofs.EngineReplay
namespace Nervus.Storage
open Nervus.GraphSpec (TxOp Op)
open Nervus.StorageTriggers (storeHasN storeHasE)

/-! ### the relation between the two engines -/

/-- every read interface answers alike (neighbour lists as multisets; the whole property maps follow
    from the single-key reads: `nodeProps_lookup`, `edgeProps_lookup`) -/
structure Eqv (c : Cfg) (s u : Engine) : Prop where
  idmap : IdEq s.idmap u.idmap
  interner : s.interner = u.interner
  vecs : s.vecs = u.vecs
  tomb : ∀ n, isTombNode s.runs n = isTombNode u.runs n
  out : ∀ n rel, PermOpt (s.neighbors n rel) (u.neighbors n rel)
  inc : ∀ n rel, PermOpt (s.incoming c n rel) (u.incoming c n rel)
  nprop : ∀ n k, s.nodeProp n k = u.nodeProp n k
  eprop : ∀ e k, s.edgeProp e k = u.edgeProp e k

theorem Eqv.refl (c : Cfg) (s : Engine) : Eqv c s s :=
  ⟨IdEq.refl _, rfl, rfl, fun _ => rfl, fun _ _ => PermOpt.refl _, fun _ _ => PermOpt.refl _, fun _ _ => rfl,
   fun _ _ => rfl⟩

/-- the part of the state the reads of `Eqv` look at, besides the idmap -/
structure RFrame (s s' : Engine) : Prop where
  runs : s'.runs = s.runs
  segs : s'.segs = s.segs
  store : s'.store = s.store
  root : s'.propsRoot = s.propsRoot
  storeRoot : s'.storeRoot = s.storeRoot

theorem RFrame.refl (s : Engine) : RFrame s s := ⟨rfl, rfl, rfl, rfl, rfl⟩
theorem RFrame.trans {a b c : Engine} (h1 : RFrame a b) (h2 : RFrame b c) : RFrame a c :=
  ⟨h2.runs.trans h1.runs, h2.segs.trans h1.segs, h2.store.trans h1.store, h2.root.trans h1.root,
   h2.storeRoot.trans h1.storeRoot⟩

theorem Eqv.congr {c : Cfg} {s u s1 u1 : Engine} (h : Eqv c s u) (fs : RFrame s s1) (fu : RFrame u u1)
    (hm : IdEq s1.idmap u1.idmap) (hi : s1.interner = u1.interner) (hv : s1.vecs = u1.vecs) : Eqv c s1 u1 := by
  refine ⟨hm, hi, hv, ?_, ?_, ?_, ?_, ?_⟩
  · intro n; rw [fs.runs, fu.runs]; exact h.tomb n
  · intro n rel; rw [neighbors_eq]; unfold Engine.neighborsFlushed; rw [fs.runs, fs.segs, fu.runs, fu.segs]; exact h.out n rel
  · intro n rel; rw [incoming_eq]; unfold Engine.incomingFlushed; rw [fs.runs, fs.segs, fu.runs, fu.segs]; exact h.inc n rel
  · intro n k; unfold Engine.nodeProp
    rw [fs.runs, fu.runs, visibleStore_congr fs.store fs.root fs.storeRoot, visibleStore_congr fu.store fu.root fu.storeRoot]
    exact h.nprop n k
  · intro e k; unfold Engine.edgeProp
    rw [fs.runs, fu.runs, visibleStore_congr fs.store fs.root fs.storeRoot, visibleStore_congr fu.store fu.root fu.storeRoot]
    exact h.eprop e k

/-! ### staging a transaction on the two engines -/

/-- the two engines stage the same transaction under different txids: every `compact` consumes one -/
structure TCor (t t' : Txn) : Prop where
  created : t.created = t'.created
  addL : t.addL = t'.addL
  delL : t.delL = t'.delL
  mt : t.mt = t'.mt
  vecs : t.vecs = t'.vecs

theorem TCor.retag (t : Txn) (x : Nat) : TCor t { t with txid := x } := ⟨rfl, rfl, rfl, rfl, rfl⟩

theorem TCor.eq_retag {t t' : Txn} (h : TCor t t') : t' = { t with txid := t'.txid } := by
  obtain ⟨h1, h2, h3, h4, h5⟩ := h
  cases t; cases t'
  simp only at h1 h2 h3 h4 h5
  rw [h1, h2, h3, h4, h5]

theorem StageFrame.rframe {s s' : Engine} (h : StageFrame s s') : RFrame s s' :=
  ⟨h.runs, h.segs, h.store, h.propsRoot, h.storeRoot⟩

theorem gocl_cor (s u : Engine) (l : Nat) (h : s.interner = u.interner) :
    (s.getOrCreateLabel l).1.interner = (u.getOrCreateLabel l).1.interner ∧
    (s.getOrCreateLabel l).2 = (u.getOrCreateLabel l).2 := by
  unfold Engine.getOrCreateLabel
  rw [h]
  cases u.interner.getId l with
  | some _ => exact ⟨h, rfl⟩
  | none => exact ⟨rfl, rfl⟩

theorem gocl_vecs (s : Engine) (l : Nat) : (s.getOrCreateLabel l).1.vecs = s.vecs := by
  unfold Engine.getOrCreateLabel
  split <;> rfl

theorem intern_cor (s u : Engine) (lab : Option Nat) (hi : s.interner = u.interner)
    (hm : IdEq s.idmap u.idmap) (hv : s.vecs = u.vecs) :
    (internLabel s lab).1.interner = (internLabel u lab).1.interner ∧ (internLabel s lab).2 = (internLabel u lab).2 ∧
    (internLabel s lab).1.vecs = (internLabel u lab).1.vecs ∧
    IdEq (internLabel s lab).1.idmap (internLabel u lab).1.idmap := by
  cases lab with
  | none => exact ⟨hi, rfl, hv, hm⟩
  | some l =>
    obtain ⟨c1, c2⟩ := gocl_cor s u l hi
    refine ⟨c1, c2, (gocl_vecs s l).trans (hv.trans (gocl_vecs u l).symm), ?_⟩
    show IdEq (s.getOrCreateLabel l).1.idmap (u.getOrCreateLabel l).1.idmap
    rw [(StageFrame.gocl s l).idmap, (StageFrame.gocl u l).idmap]; exact hm

theorem createNode_cor (E E' : Engine) (t : Txn) (x y L : Nat) (hm : IdEq E.idmap E'.idmap) :
    ({ t with txid := x } : Txn).createNode E' y L =
      (t.createNode E y L).map (fun r => ({ r.1 with txid := x }, r.2)) := by
  unfold Txn.createNode Engine.lookupInternal IdMap.nextId
  rw [hm.lookup y, hm.i2e]
  split
  · rfl
  · split <;> rfl

def StCor (st su : Engine × Txn) : Prop :=
  st.1.interner = su.1.interner ∧ st.1.vecs = su.1.vecs ∧ TCor st.2 su.2

theorem stepTx_cor (c : Cfg) (st su : Engine × Txn) (op : TxOp) (h : StCor st su)
    (hm : IdEq st.1.idmap su.1.idmap) : StCor (stepTx c st op) (stepTx c su op) := by
  obtain ⟨s, t⟩ := st
  obtain ⟨u, t'⟩ := su
  obtain ⟨hi, hv, ht⟩ := h
  simp only at hi hm hv ht
  -- the second transaction is the first one under another txid, and every WriteTxn method keeps the txid
  obtain ⟨x, rfl⟩ : ∃ x, t' = { t with txid := x } := ⟨_, ht.eq_retag⟩
  have G : ∀ (l : Nat) (f : Txn → Nat → Txn), (∀ t i, f { t with txid := x } i = { f t i with txid := x }) →
      StCor ((s.getOrCreateLabel l).1, f t (s.getOrCreateLabel l).2)
        ((u.getOrCreateLabel l).1, f { t with txid := x } (u.getOrCreateLabel l).2) := by
    intro l f hf
    obtain ⟨c1, c2⟩ := gocl_cor s u l hi
    exact ⟨c1, by rw [gocl_vecs, gocl_vecs, hv], by rw [← c2, hf]; exact TCor.retag _ x⟩
  cases op with
  | node y lab =>
    obtain ⟨c1, c2, hv', hm'⟩ := intern_cor s u lab hi hm hv
    simp only [stepTx]
    rw [← c2, createNode_cor _ _ t x y _ hm']
    cases t.createNode (internLabel s lab).1 y (internLabel s lab).2 with
    | none => exact ⟨c1, hv', TCor.retag t x⟩
    | some r => exact ⟨c1, hv', TCor.retag r.1 x⟩
  | labelAdd n l => exact G l (fun t i => t.addNodeLabel n i) (fun _ _ => rfl)
  | labelDel n l => exact G l (fun t i => t.removeNodeLabel n i) (fun _ _ => rfl)
  | edge a l b => exact G l (fun t i => t.createEdge ⟨a, i, b⟩) (fun _ _ => rfl)
  | tombEdge a l b => exact G l (fun t i => t.tombstoneEdge ⟨a, i, b⟩) (fun _ _ => rfl)
  | eprop a l b k v => exact G l (fun t i => t.setEdgeProp ⟨a, i, b⟩ k v) (fun _ _ => rfl)
  | epropDel a l b k => exact G l (fun t i => t.removeEdgeProp ⟨a, i, b⟩ k) (fun _ _ => rfl)
  | tombNode n => exact ⟨hi, hv, TCor.retag _ x⟩
  | nprop n k v => exact ⟨hi, hv, TCor.retag _ x⟩
  | npropDel n k => exact ⟨hi, hv, TCor.retag _ x⟩
  | vec n v =>
    show StCor (t.setVector c s n v) (Txn.setVector c u { t with txid := x } n v)
    unfold Txn.setVector
    cases c.vecStaged with
    | true => exact ⟨hi, hv, TCor.retag _ x⟩
    | false => exact ⟨hi, congrArg (upsert n v) hv, TCor.retag t x⟩

theorem fold_cor (c : Cfg) (ops : List TxOp) : ∀ (st su : Engine × Txn), StCor st su →
    IdEq st.1.idmap su.1.idmap → StCor (ops.foldl (stepTx c) st) (ops.foldl (stepTx c) su) := by
  induction ops with
  | nil => intro st su h _; exact h
  | cons op ops ih =>
    intro st su h hm
    exact ih _ _ (stepTx_cor c st su op h hm)
      (by rw [(StageFrame.step c st op).idmap, (StageFrame.step c su op).idmap]; exact hm)

/-! ### commit on the two engines -/

theorem contains_congr {α} [BEq α] [LawfulBEq α] {l l' : List α} (h : ∀ a, a ∈ l ↔ a ∈ l') (a : α) :
    l.contains a = l'.contains a := by
  rw [Bool.eq_iff_iff]; simp [h a]

theorem RunEq.push {r r' : Run} (h : RunEq r r') (d : Dir) {a b : Option (List Edge)} (hp : PermOpt a b)
    (n : Nat) (rel : Option Nat) : PermOpt (d.push r n rel a) (d.push r' n rel b) := by
  unfold Dir.push
  rw [contains_congr h.tombNodes n]
  split
  · exact PermOpt.refl _
  · rcases hp with ⟨ha, hb⟩ | ⟨l, l', ha, hb, hp⟩
    · rw [ha, hb]; exact Or.inl ⟨rfl, rfl⟩
    · rw [ha, hb]
      refine Or.inr ⟨_, _, rfl, rfl, List.Perm.append ?_ ?_⟩
      · exact (h.edges.filter _).filter _
      · have : (fun e => !d.blocked r.tombNodes r.tombEdges e) = (fun e => !d.blocked r'.tombNodes r'.tombEdges e) := by
          funext e; unfold Dir.blocked
          rw [contains_congr h.tombNodes, contains_congr h.tombEdges]
        rw [this]; exact hp.filter _

theorem commit_err_eq (c : Cfg) (s : Engine) (t : Txn) (m : IdMap) (e : IdMap.Err)
    (h : applyIdmap s.idmap t.created t.addL t.delL = (m, some e)) :
    (s.commit c t).1 = { s with wal := s.wal ++ t.walRecords c (t.mt.freeze t.txid), idmap := m } := by
  unfold Engine.commit
  simp only [h]

/-- no published run removes a property whose value sits in the store -/
def removalsClear (s : Engine) : Bool :=
  s.runs.all (fun r => r.nDel.all (fun k => !storeHasN s k) && r.eDel.all (fun k => !storeHasE s k))

/-- `hu`: the engine that never compacts has no property tree, so none of its reads falls through a removal;
    only `s` needs `removalsClear` -/
theorem commit_eqv (c : Cfg) {s u : Engine} {t t' : Txn} (hE : Eqv c s u) (hT : TCor t t')
    (hu : u.propsRoot = 0) (hclear : removalsClear (s.commit c t).1 = true) :
    Eqv c (s.commit c t).1 (u.commit c t').1 := by
  obtain ⟨x, rfl⟩ : ∃ x, t' = { t with txid := x } := ⟨_, hT.eq_retag⟩
  obtain ⟨a1, a2⟩ := applyIdmap_ideq hE.idmap t.created t.addL t.delL
  cases hp : applyIdmap s.idmap t.created t.addL t.delL with
  | mk m err =>
  cases hq : applyIdmap u.idmap t.created t.addL t.delL with
  | mk m' err' =>
  rw [hp, hq] at a1 a2
  simp only at a1 a2
  subst a2
  cases err with
  | some e =>
    rw [commit_err_eq c s t m e hp, commit_err_eq c u { t with txid := x } m' e hq]
    exact hE.congr ⟨rfl, rfl, rfl, rfl, rfl⟩ ⟨rfl, rfl, rfl, rfl, rfl⟩ a1 hE.interner hE.vecs
  | none =>
    rw [commit_ok_eq c s t m hp] at hclear ⊢
    rw [commit_ok_eq c u { t with txid := x } m' hq]
    have hvec : (committed c s t m).vecs = (committed c u { t with txid := x } m').vecs := by
      show t.vecs.foldl _ s.vecs = t.vecs.foldl _ u.vecs
      rw [hE.vecs]
    -- the published run is the same up to its txid, which no read looks at
    by_cases he : (t.mt.freeze t.txid).isEmpty = true
    · exact hE.congr ⟨if_pos he, rfl, rfl, rfl, rfl⟩ ⟨if_pos he, rfl, rfl, rfl, rfl⟩ a1 hE.interner hvec
    · have hr : (committed c s t m).runs = t.mt.freeze t.txid :: s.runs := if_neg he
      have hr' : (committed c u { t with txid := x } m').runs = t.mt.freeze x :: u.runs := if_neg he
      simp only [removalsClear, hr, List.all_cons, Bool.and_eq_true, List.all_eq_true, Bool.not_eq_true'] at hclear
      refine ⟨a1, hE.interner, hvec, ?_, ?_, ?_, ?_, ?_⟩
      · intro n; rw [hr, hr', isTombNode_cons, isTombNode_cons, hE.tomb n]; rfl
      · intro n rel
        rw [neighbors_cons s _ _ hr rfl, neighbors_cons u _ _ hr' rfl]
        exact (RunEq.refl _).push _ (hE.out n rel) n rel
      · intro n rel
        rw [incoming_cons c s _ _ hr rfl, incoming_cons c u _ _ hr' rfl]
        exact (RunEq.refl _).push _ (hE.inc n rel) n rel
      · intro n k
        have h := hE.nprop n k
        rw [nodeProp_eq_kind, nodeProp_eq_kind] at h ⊢
        rw [PKind.node.read_cons s _ _ hr rfl rfl rfl (Or.inr hclear.1.1),
          PKind.node.read_cons u _ _ hr' rfl rfl rfl (Or.inl hu), h]; rfl
      · intro e k
        have h := hE.eprop e k
        rw [edgeProp_eq_kind, edgeProp_eq_kind] at h ⊢
        rw [PKind.edge.read_cons s _ _ hr rfl rfl rfl (Or.inr hclear.1.2),
          PKind.edge.read_cons u _ _ hr' rfl rfl rfl (Or.inl hu), h]; rfl

theorem tx_eqv (c : Cfg) {s u : Engine} (hE : Eqv c s u) (hu : u.propsRoot = 0) (ops : List TxOp) (b : Bool)
    (hclear : removalsClear (runTx c s ops b) = true) :
    Eqv c (runTx c s ops b) (runTx c u ops b) ∧ (runTx c u ops b).propsRoot = 0 := by
  obtain ⟨hi, hv, ht⟩ := fold_cor c ops s.beginWrite u.beginWrite ⟨hE.interner, hE.vecs, rfl, rfl, rfl, rfl, rfl⟩
    hE.idmap
  have fs := StageFrame.staged c s ops
  have fu := StageFrame.staged c u ops
  have hE1 := hE.congr fs.rframe fu.rframe (by rw [fs.idmap, fu.idmap]; exact hE.idmap) hi hv
  refine ⟨?_, (TxFrame.runTx c u ops b).propsRoot.trans hu⟩
  unfold runTx at hclear ⊢
  cases b with
  | false => exact hE1
  | true => exact commit_eqv c hE1 ht (fu.propsRoot.trans hu) hclear

theorem runTx_rootOK (c : Cfg) {s : Engine} (h : RootOK s) (ops : List TxOp) (b : Bool) : RootOK (runTx c s ops b) :=
  have f := TxFrame.runTx c s ops b
  h.congr f.store f.propsRoot f.storeRoot

/-! ### compaction on one of them -/

theorem compact_eqv (c : Cfg) (hg : c.csrGuard = true) (hown : c.compactOwnLast = true)
    (hflag : c.rootAfterInserts = true) {s u : Engine}
    (hE : Eqv c s u) (hroot : RootOK s) (hs : compactSafe c s = true) : Eqv c (s.compact c) u := by
  obtain ⟨hnt, hnd, hed, hclear⟩ := compactSafe_unpack c s hs
  have hid := compact_keeps c s
  refine ⟨(IdEq.of_eq hid.1).trans hE.idmap, hid.2.1.trans hE.interner, hid.2.2.trans hE.vecs, ?_, ?_, ?_, ?_, ?_⟩
  · intro n
    rw [← hE.tomb n, isTombNode_noNodeTombs s.runs hnt n]
    cases he : s.runs.isEmpty with
    | true =>
      rw [compact_noop c s he]; exact isTombNode_noNodeTombs s.runs hnt n
    | false => rw [(compact_fields c s he).1]; rfl
  · intro n rel; exact (compact_neighbors_E c s hnt (Or.inl hown) (segsClear_spec hclear).1 n rel).trans (hE.out n rel)
  · intro n rel; exact (compact_incoming_E c s hnt (Or.inl hown) (Or.inl hg) (segsClear_spec hclear).2 n rel).trans (hE.inc n rel)
  · intro n k; rw [compact_nodeProp c hflag s hnd hroot]; exact hE.nprop n k
  · intro e k; rw [compact_edgeProp c hflag s hed hroot]; exact hE.eprop e k

/-! ### histories -/

/-- every compaction of the history starts from a `compactSafe` state, and after every transaction no
    published removal sits over a store value (decidable: it runs the model) -/
def compactHistSafe (c : Cfg) : Engine → List Op → Bool
  | _, [] => true
  | s, .tx ops b :: h => removalsClear (runTx c s ops b) && compactHistSafe c (runTx c s ops b) h
  | s, .compact :: h => compactSafe c s && compactHistSafe c (s.compact c) h
  | _, _ :: _ => false

def notCompact : Op → Bool
  | .compact => false
  | _ => true

def dropCompactions (h : List Op) : List Op := h.filter notCompact

/-- whatever the root splits (`c.rootMoves` is free): `compact` reads the root after its insert loops -/
theorem hist_rootOK (c : Cfg) (hflag : c.rootAfterInserts = true) : ∀ (h : List Op) (s : Engine), RootOK s →
    compactHistSafe c s h = true → ∃ s', h.foldlM (runOp c) s = .ok s' ∧ RootOK s' := by
  intro h
  induction h with
  | nil => intro s hs _; exact ⟨s, rfl, hs⟩
  | cons op h ih =>
    intro s hs hsafe
    cases op with
    | tx ops b =>
      simp only [compactHistSafe, Bool.and_eq_true] at hsafe
      obtain ⟨s', h1, h2⟩ := ih _ (runTx_rootOK _ hs ops b) hsafe.2
      exact ⟨s', by rw [List.foldlM_cons]; exact h1, h2⟩
    | compact =>
      simp only [compactHistSafe, Bool.and_eq_true] at hsafe
      obtain ⟨s', h1, h2⟩ := ih _ (hs.compact c hflag) hsafe.2
      exact ⟨s', by rw [List.foldlM_cons]; exact h1, h2⟩
    | close => simp [compactHistSafe] at hsafe
    | reopen => simp [compactHistSafe] at hsafe

theorem hist_eqv (c : Cfg) (hg : c.csrGuard = true) (hown : c.compactOwnLast = true)
    (hflag : c.rootAfterInserts = true) :
    ∀ (h : List Op) (s u : Engine), Eqv c s u → RootOK s → u.propsRoot = 0 →
    compactHistSafe c s h = true →
    ∃ s' u', h.foldlM (runOp c) s = .ok s' ∧ (dropCompactions h).foldlM (runOp c) u = .ok u' ∧ Eqv c s' u' ∧
      RootOK s' := by
  intro h
  induction h with
  | nil => intro s u hE hR _ _; exact ⟨s, u, rfl, rfl, hE, hR⟩
  | cons op h ih =>
    intro s u hE hR hu hs
    cases op with
    | tx ops b =>
      simp only [compactHistSafe, Bool.and_eq_true] at hs
      obtain ⟨hE', hu'⟩ := tx_eqv c hE hu ops b hs.1
      obtain ⟨s', u', h1, h2, h3⟩ := ih _ _ hE' (runTx_rootOK c hR ops b) hu' hs.2
      refine ⟨s', u', ?_, ?_, h3⟩
      · rw [List.foldlM_cons]; exact h1
      · show ((Op.tx ops b :: h).filter notCompact).foldlM (runOp c) u = _
        rw [List.filter_cons_of_pos (by rfl), List.foldlM_cons]; exact h2
    | compact =>
      simp only [compactHistSafe, Bool.and_eq_true] at hs
      obtain ⟨s', u', h1, h2, h3⟩ := ih _ _ (compact_eqv c hg hown hflag hE hR hs.1) (hR.compact c hflag) hu hs.2
      refine ⟨s', u', ?_, ?_, h3⟩
      · rw [List.foldlM_cons]; exact h1
      · show ((Op.compact :: h).filter notCompact).foldlM (runOp c) u = _
        rw [List.filter_cons_of_neg (by simp [notCompact])]; exact h2
    | close => simp [compactHistSafe] at hs
    | reopen => simp [compactHistSafe] at hs

theorem Eqv.symm {c : Cfg} {s u : Engine} (h : Eqv c s u) : Eqv c u s :=
  ⟨h.idmap.symm, h.interner.symm, h.vecs.symm, fun n => (h.tomb n).symm, fun n rel => (h.out n rel).symm,
   fun n rel => (h.inc n rel).symm, fun n k => (h.nprop n k).symm, fun e k => (h.eprop e k).symm⟩

theorem Eqv.trans {c : Cfg} {a b d : Engine} (h1 : Eqv c a b) (h2 : Eqv c b d) : Eqv c a d :=
  ⟨h1.idmap.trans h2.idmap, h1.interner.trans h2.interner, h1.vecs.trans h2.vecs,
   fun n => (h1.tomb n).trans (h2.tomb n), fun n rel => (h1.out n rel).trans (h2.out n rel),
   fun n rel => (h1.inc n rel).trans (h2.inc n rel), fun n k => (h1.nprop n k).trans (h2.nprop n k),
   fun e k => (h1.eprop e k).trans (h2.eprop e k)⟩

/-- the whole read API of Model/Engine.lean -/
theorem Eqv.reads {c : Cfg} {s u : Engine} (h : Eqv c s u) :
    s.nodes = u.nodes ∧ s.nodesSnap = u.nodesSnap ∧ s.isTombstoned = u.isTombstoned ∧
    (∀ n rel, PermOpt (s.neighbors n rel) (u.neighbors n rel)) ∧
    (∀ n rel, PermOpt (s.incoming c n rel) (u.incoming c n rel)) ∧
    (∀ n k, s.nodeProp n k = u.nodeProp n k) ∧ (∀ e k, s.edgeProp e k = u.edgeProp e k) ∧
    (∀ n k, (s.nodeProps n).lookup k = (u.nodeProps n).lookup k) ∧
    (∀ e k, (s.edgeProps e).lookup k = (u.edgeProps e).lookup k) ∧
    s.nodeLabels = u.nodeLabels ∧ s.nodeLabelNames = u.nodeLabelNames ∧ s.resolveExternal = u.resolveExternal ∧
    s.lookupInternal = u.lookupInternal ∧ s.interner = u.interner ∧ s.vecNodes = u.vecNodes := by
  have hl : s.nodeLabels = u.nodeLabels := by funext n; unfold Engine.nodeLabels; rw [h.idmap.i2l]
  refine ⟨?_, ?_, ?_, h.out, h.inc, h.nprop, h.eprop,
    (fun n k => by rw [nodeProps_lookup, nodeProps_lookup]; exact h.nprop n k),
    (fun e k => by rw [edgeProps_lookup, edgeProps_lookup]; exact h.eprop e k), hl, ?_, ?_, ?_, h.interner, ?_⟩
  · unfold Engine.nodes liveNodeIds; rw [h.idmap.i2e]
    apply List.filter_congr; intro n _; rw [h.tomb n]
  · unfold Engine.nodesSnap liveNodeIds; rw [h.idmap.i2l]
    apply List.filter_congr; intro n _; rw [h.tomb n]
  · funext n; exact h.tomb n
  · funext n; unfold Engine.nodeLabelNames; rw [hl, h.interner]
  · funext n; unfold Engine.resolveExternal; rw [h.idmap.i2e]
  · funext x; exact h.idmap.lookup x
  · unfold Engine.vecNodes; rw [h.vecs]
    apply List.filter_congr; intro n _; rw [h.tomb n]

theorem dropCompactions_insert (h₁ h₂ : List Op) :
    dropCompactions (h₁ ++ [.compact] ++ h₂) = dropCompactions (h₁ ++ h₂) := by
  simp [dropCompactions, List.filter_append, notCompact]

end Nervus.Storage

namespace Nervus.Storage

/-! ### the engine before and after `open`: same segments, store and root, read-equivalent run lists and
    idmaps no caller can tell apart answer every read alike -/

theorem Dir.read_runsEq (d : Dir) {rs rs' : List Run} (h : RunsEq rs rs') (x : Engine) (n : Nat) (rel : Option Nat) :
    PermOpt (d.read { x with runs := rs } n rel) (d.read { x with runs := rs' } n rel) := by
  induction h with
  | nil => exact PermOpt.refl _
  | @cons r r' rs rs' hr _ ih =>
    rw [d.read_cons { x with runs := rs } { x with runs := r :: rs } r rfl rfl,
      d.read_cons { x with runs := rs' } { x with runs := r' :: rs' } r' rfl rfl]
    exact hr.push d ih n rel

theorem eqv_runsEq (c : Cfg) {x y : Engine} (hr : RunsEq x.runs y.runs) (h1 : x.segs = y.segs)
    (h2 : x.store = y.store) (h3 : x.propsRoot = y.propsRoot) (h4 : x.storeRoot = y.storeRoot)
    (hm : IdEq x.idmap y.idmap)
    (hi : x.interner = y.interner) (hv : x.vecs = y.vecs) : Eqv c x y := by
  refine ⟨hm, hi, hv, fun n => RunsEq.isTombNode hr n, ?_, ?_, ?_, ?_⟩
  · intro n rel
    rw [neighbors_eq_dir, neighbors_eq_dir]
    have := Dir.out.read_runsEq hr x n rel
    have e2 : Dir.out.read { x with runs := y.runs } n rel = Dir.out.read y n rel := by unfold Dir.read; rw [h1]
    rw [e2] at this; exact this
  · intro n rel
    rw [incoming_eq_dir, incoming_eq_dir]
    have := (Dir.inc c.csrGuard).read_runsEq hr x n rel
    have e2 : (Dir.inc c.csrGuard).read { x with runs := y.runs } n rel = (Dir.inc c.csrGuard).read y n rel := by
      unfold Dir.read; rw [h1]
    rw [e2] at this; exact this
  · intro n k; unfold Engine.nodeProp; rw [RunsEq.npropRuns hr, visibleStore_congr h2 h3 h4]
  · intro e k; unfold Engine.edgeProp; rw [RunsEq.epropRuns hr, visibleStore_congr h2 h3 h4]

end Nervus.Storage
