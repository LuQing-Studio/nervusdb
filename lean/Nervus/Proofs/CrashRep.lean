/-
  Proofs.CrashRep — the representation invariant `Rep T p w` ("page file `p` and log `w` represent
  the committed transaction list `T`") and the node-table slots it speaks of.
-/
import Nervus.Proofs.CrashPlan
import Nervus.Proofs.CrashImg
import Nervus.Proofs.CrashTreeM
namespace Nervus.Crash

def allNodes (T : List Tx) : List Nat := T.flatMap (·.nodes)
def allEdges (T : List Tx) : List Nat := T.flatMap (·.edges)
def allProps (T : List Tx) : List Nat := T.flatMap (·.props)

/-- creation has completed: meta page, catalog and the two reserved indexes are durable -/
structure Booted (p : PImg) : Prop where
  init : p.hdr.init = true
  len : 2 ≤ p.len
  nextPage : 2 ≤ p.hdr.nextPage
  bm : 2 ≤ p.bm
  catRoot : p.hdr.catRoot ≠ 0
  cat : ∃ es, p.cat = some es ∧ es.length = 2 ∧ ∀ r ∈ es, r ∈ p.idx

/-- segment lookup as `open` performs it (`CsrSegment::load` of a manifest entry) -/
def segFind (p : PImg) (k : Nat) : Option SegImg := p.segs.find? (fun s => s.key == k && s.complete)
def segEdges (p : PImg) (k : Nat) : List Nat := ((segFind p k).map (·.edges)).getD []
def treeFind (p : PImg) (k : Nat) : Option TreeImg := p.trees.find? (fun t => t.key == k)

def TxMono (cs : List CTx) : Prop := cs.Pairwise (fun a b => a.txid < b.txid)

/-- what the committed transactions of the log must look like: the node records that recovery
    still replays (transactions after the checkpoint) are positions `c …` of the node list -/
structure LogOK (T : List Tx) (cs : List CTx) (c : Nat) : Prop where
  nodup : (allNodes T).Nodup
  nozero : 0 ∉ allNodes T
  cle : c ≤ (allNodes T).length
  nodes : nodesOfOps (flatOps (scan cs).ckpt cs) = seqFrom (allNodes T) c ((allNodes T).length - c)
  ckptle : (scan cs).ckpt ≤ (scan cs).maxTxid
  mono : TxMono cs
  maxle : ∀ tx ∈ cs, tx.txid ≤ (scan cs).maxTxid

/-- the live property tree of the manifest: a sorted chain of leaves (one leaf entered directly,
    or several under an internal root: `top`) whose keys are properties of `T` (`allowed`) and
    include, with their value blobs, the `covered` ones -/
structure TreeOK (allowed covered : List Nat) (top : Bool) (t : TreeImg) : Prop where
  shape : ∃ X, TreeShape t X top ∧ (∀ q ∈ X.flatten, q ∈ allowed) ∧ (∀ q ∈ covered, q ∈ X.flatten ∧ q ∈ t.blobs)

/-- the shape of the live tree a compaction works on: its fixed leaves `Xi` (all but the last one),
    whether it has an internal root, and the first key of the last leaf (what the root knows of it) -/
structure LiveP where
  top : Bool := false
  Xi : List (List Nat) := []
  hd : Nat := 0

/-- the live tree during a compaction: the chain `Xi ++ [last]`; only the last leaf is rewritten,
    and under an internal root (`Xi ≠ []`) its first key stays -/
structure LiveOK (allowed covered : List Nat) (lv : LiveP) (t : TreeImg) (last : List Nat) : Prop where
  shape : TreeShape t (lv.Xi ++ [last]) lv.top
  hd : lv.Xi ≠ [] → last.headD 0 = lv.hd
  allowed : ∀ q ∈ (lv.Xi ++ [last]).flatten, q ∈ allowed
  covered : ∀ q ∈ covered, q ∈ (lv.Xi ++ [last]).flatten ∧ q ∈ t.blobs

theorem LiveOK.treeOK {allowed covered : List Nat} {lv : LiveP} {t : TreeImg} {last : List Nat}
    (h : LiveOK allowed covered lv t last) : TreeOK allowed covered lv.top t :=
  ⟨⟨_, h.shape, h.allowed, h.covered⟩⟩

theorem TreeOK.live {allowed covered : List Nat} {top : Bool} {t : TreeImg} (h : TreeOK allowed covered top t) :
    ∃ lv last, lv.top = top ∧ LiveOK allowed covered lv t last := by
  obtain ⟨X, hs, h1, h2⟩ := h.shape
  have hX : X = X.dropLast ++ [X.getLast hs.ne] := (List.dropLast_concat_getLast hs.ne).symm
  refine ⟨⟨top, X.dropLast, (X.getLast hs.ne).headD 0⟩, X.getLast hs.ne, rfl, ?_⟩
  exact ⟨by show TreeShape t (X.dropLast ++ [X.getLast hs.ne]) top; rw [← hX]; exact hs, fun _ => rfl,
    by show ∀ q ∈ (X.dropLast ++ [X.getLast hs.ne]).flatten, _; rw [← hX]; exact h1,
    by show ∀ q ∈ covered, q ∈ (X.dropLast ++ [X.getLast hs.ne]).flatten ∧ _; rw [← hX]; exact h2⟩

/-- segments and property tree of the manifest hold, together with the runs the log still
    replays, exactly the edges and properties of `T` -/
structure StoreOK (T : List Tx) (cs : List CTx) (p : PImg) : Prop where
  segs : ∀ k ∈ (scan cs).segs, (segFind p k).isSome
  segKeys : ∀ s ∈ p.segs, s.key < p.hdr.nextPage ∧ s.key < p.bm
  treeKeys : ∀ t ∈ p.trees, t.key < p.hdr.nextPage ∧ t.key < p.bm
  edges : ∀ e, e ∈ (scan cs).segs.flatMap (segEdges p) ++ (logRuns (scan cs).ckpt cs).flatMap (·.edges) ↔ e ∈ allEdges T
  runProps : ∀ q ∈ (logRuns (scan cs).ckpt cs).flatMap (·.props), q ∈ allProps T
  props : ∃ covered, (∀ q ∈ allProps T, q ∈ (logRuns (scan cs).ckpt cs).flatMap (·.props) ∨ q ∈ covered) ∧
    ((scan cs).proot = 0 → covered = []) ∧
    ((scan cs).proot ≠ 0 → ∃ t, treeFind p (scan cs).proot = some t ∧ TreeOK (allProps T) covered (scan cs).ptop t)

/-- the node table on disk is a prefix of the node list that covers everything the log no longer
    replays (`c` nodes) -/
structure PagerOK (N : List Nat) (c : Nat) (p : PImg) : Prop where
  booted : Booted p
  start : p.hdr.i2eStart = 0 → p.hdr.i2eLen = 0
  lo : c ≤ p.hdr.i2eLen
  hi : p.hdr.i2eLen ≤ N.length
  slots : ∀ i, i < p.hdr.i2eLen → getSlot p.i2e i = getSlot N i

def Rep (T : List Tx) (p : PImg) (w : List Frag) : Prop :=
  ∃ cs c, committed (readAll w) = .ok cs ∧ LogOK T cs c ∧ PagerOK (allNodes T) c p ∧ StoreOK T cs p

theorem Rep.booted {T : List Tx} {p : PImg} {w : List Frag} (h : Rep T p w) : Booted p := by
  obtain ⟨_, _, _, _, hp, _⟩ := h
  exact hp.booted

theorem getSlot_setSlot_eq : ∀ (xs : List Nat) (i v : Nat), getSlot (setSlot xs i v) i = v
  | [], 0, v => rfl
  | [], i + 1, v => by simp [setSlot, getSlot, getSlot_setSlot_eq [] i v]
  | _ :: xs, 0, v => rfl
  | x :: xs, i + 1, v => by simp [setSlot, getSlot, getSlot_setSlot_eq xs i v]

theorem getSlot_nil (i : Nat) : getSlot [] i = 0 := by cases i <;> rfl

theorem getSlot_setSlot_ne : ∀ (xs : List Nat) (i j v : Nat), i ≠ j → getSlot (setSlot xs j v) i = getSlot xs i
  | [], 0, 0, v, h => absurd rfl h
  | [], 0, j + 1, v, _ => by simp [setSlot, getSlot]
  | [], i + 1, 0, v, _ => by simp [setSlot, getSlot]
  | [], i + 1, j + 1, v, h => by
    have := getSlot_setSlot_ne [] i j v (by omega)
    simp [setSlot, getSlot, this]
  | x :: xs, 0, 0, v, h => absurd rfl h
  | x :: xs, 0, j + 1, v, _ => by simp [setSlot, getSlot]
  | x :: xs, i + 1, 0, v, _ => by simp [setSlot, getSlot]
  | x :: xs, i + 1, j + 1, v, h => by
    have := getSlot_setSlot_ne xs i j v (by omega)
    simp [setSlot, getSlot, this]

theorem range_map_getSlot_eq_take (N : List Nat) (xs : List Nat) (l : Nat) (hl : l ≤ N.length)
    (h : ∀ i, i < l → getSlot xs i = getSlot N i) : (List.range l).map (getSlot xs) = N.take l := by
  induction l with
  | zero => simp
  | succ l ih =>
    rw [List.range_succ, List.map_append, ih (by omega) (fun i hi => h i (by omega))]
    rw [take_succ_getSlot N l (by omega)]
    simp [h l (by omega)]

end Nervus.Crash
