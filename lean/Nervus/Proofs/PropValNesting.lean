/-
  Nested inputs (C25).  The pinned decoder's recursion depth is bounded only by the input: `n` nested one-element
  lists (`5n + 1` bytes) reach depth `n`, for every `n` (the counterexample family of `C25_counterexample_depth`).
  A decoder with a nesting limit `m` refuses `nestEmpty n` — `n + 1` containers, no scalar inside — once `m ≤ n`.
-/
import Nervus.Proofs.PropValRoundtrip
namespace Nervus.PropVal
open Nervus

theorem Res.depth_bind_zero {α β : Type} (r : Res α) (k : α → Res β) (hk : ∀ a, (k a).depth = 0) :
    (r.bind k).depth = r.depth := by
  unfold Res.bind
  cases r.val with
  | error e => rfl
  | ok a => simp [hk a]

theorem readU32_one (t : UInt8) (rest : Bytes) : readU32 (t :: 1 :: 0 :: 0 :: 0 :: rest) 1 = some 1 := by
  simp [readU32, slice, leVal]

theorem nest_depth : ∀ (n fuel d : Nat), n < fuel → (decodeRec Cfg.pinned fuel d (nestBytes n)).depth = d + n
  | 0, fuel + 1, d, _ => by rw [nestBytes, decodeRec_null]; exact Nat.max_zero d
  | n + 1, fuel + 1, d, h => by
    rw [nestBytes, decodeRec_list, Res.enter_depth]
    unfold decList
    rw [show tooDeep Cfg.pinned d = false from rfl, if_neg Bool.false_ne_true, if_neg (by simp), readU32_one]
    simp only [Res.alloc_depth, List.drop_succ_cons, List.drop_zero]
    rw [Res.depth_bind_zero _ _ (fun _ => rfl)]
    unfold loopList
    rw [Res.depth_bind_zero _ _ (fun a => by unfold loopList; rfl), nest_depth n fuel (d + 1) (by omega)]
    omega

theorem nestBytes_length (n : Nat) : (nestBytes n).length = 5 * n + 1 := by
  induction n with
  | zero => rfl
  | succ n ih => simp [nestBytes, ih]; omega

/-- `nestEmpty n` is `n + 1` containers deep: a decoder that stops at depth `m` refuses it from depth `d` on
    as soon as `m ≤ d + n` -/
theorem decodeRec_nestEmpty_tooDeep {cfg : Cfg} {m : Nat} (hm : cfg.maxDepth = some m) :
    ∀ (n fuel d : Nat) (rest : Bytes), (encode (nestEmpty n)).length < fuel → m ≤ d + n →
      (decodeRec cfg fuel d (encode (nestEmpty n) ++ rest)).val = .error .tooDeep
  | _, 0, _, _, h, _ => absurd h (Nat.not_lt_zero _)
  | n, fuel + 1, d, rest, hf, hmd => by
    by_cases htd : tooDeep cfg d = true
    · cases n <;>
        (rw [nestEmpty, encode, List.cons_append, decodeRec_list, Res.enter_val]; unfold decList; rw [if_pos htd]; rfl)
    · cases n with
      | zero => unfold tooDeep at htd; rw [hm] at htd; simp at htd; omega
      | succ n =>
        -- `[] ++ rest`: what `encodeL` of the one-element list leaves behind the element once reassociated
        have ih := decodeRec_nestEmpty_tooDeep hm n fuel (d + 1) ([] ++ rest)
          (by simp [nestEmpty, encode, encodeL, leBytes_length] at hf; omega) (by omega)
        rw [nestEmpty, encode, List.cons_append, List.append_assoc, decodeRec_list, Res.enter_val,
          decList_enc cfg _ d _ (PVList.cons (nestEmpty n) .nil).len _ (show 1 < two32 by decide) (by simpa using htd)]
        simp only [encodeL, List.append_assoc, PVList.len, loopList, Res.bind_val, ih]

theorem decode_nestEmpty_tooDeep {cfg : Cfg} {m : Nat} (hm : cfg.maxDepth = some m) (n : Nat) (h : m ≤ n) :
    decode cfg (encode (nestEmpty n)) = .error .tooDeep := by
  have := decodeRec_nestEmpty_tooDeep hm n _ 0 [] (Nat.lt_succ_self _) (by omega)
  rw [List.append_nil] at this
  unfold decode decodeRes; rw [this]; rfl

end Nervus.PropVal
