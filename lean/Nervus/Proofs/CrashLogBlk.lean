/-
  Proofs.CrashLogBlk — the log block shared by commit and compaction, as blocks (`Proofs/CrashBlk`):
  the tail cut of the first append through a handle, then the records of one transaction block.
  Every crash image has the old or the extended committed list (`LogSafe`); with rollback a failed
  append is undone; where the block ends (`LogBlockEnd`) the records are in the log, unsynced, and
  cutting them off again restores the old stable log.
-/
import Nervus.Proofs.CrashBlk
import Nervus.Proofs.CrashInv
import Nervus.Proofs.CrashLog
namespace Nervus.Crash

theorem steps_ww (fs : FS) (l : List Frag) :
    (fs.steps (l.map Step.ww)).wf = fs.wf ++ l ∧ (fs.steps (l.map Step.ww)).wdur = fs.wdur ∧
    (fs.steps (l.map Step.ww)).ren = fs.ren ∧ (fs.steps (l.map Step.ww)).pd = fs.pd ∧
    (fs.steps (l.map Step.ww)).pj = fs.pj := by
  induction l generalizing fs with
  | nil => simp [FS.steps]
  | cons f l ih =>
    have := ih (fs.step (.ww f))
    simp only [List.map_cons, FS.steps, List.foldl] at this ⊢
    simpa [FS.step] using this

/-- the tail cut of the first append through a handle (C17's repair), as steps -/
def cutSteps (cfg : Cfg) (ws : WS) : List Step :=
  if (cfg.tailTolerant && !ws.checked) = true ∧ ws.valid < ws.len then [Step.wt ws.valid] else []

/-! ### the appended records as actions (with their error paths) -/

theorem appendA_nocut_eq (cfg : Cfg) (ws : WS) (r : Rec) (ho : ws.isOpen = true)
    (hc : (cfg.tailTolerant && !ws.checked) = false) :
    (appendA cfg ws r).1 = [.io (.ww (.len r)) (if cfg.walRollback then [Step.wt ws.len] else []),
        .io (.ww (.crc r)) (if cfg.walRollback then [Step.wt ws.len] else []),
        .io (.ww (.body r)) (if cfg.walRollback then [Step.wt ws.len] else [])] ∧
    (appendA cfg ws r).2 = { ws with len := ws.len + 3 } := by
  simp [appendA, ho, hc]

/-- the three fragment writes of each record; on failure the start of that record is restored -/
def wwActs (cfg : Cfg) : Nat → List Rec → List Action
  | _, [] => []
  | start, r :: rs =>
    [.io (.ww (.len r)) (if cfg.walRollback then [Step.wt start] else []),
     .io (.ww (.crc r)) (if cfg.walRollback then [Step.wt start] else []),
     .io (.ww (.body r)) (if cfg.walRollback then [Step.wt start] else [])] ++ wwActs cfg (start + 3) rs

theorem appendsA_eq_wwActs (cfg : Cfg) : ∀ (recs : List Rec) (ws : WS), ws.isOpen = true →
    (cfg.tailTolerant && !ws.checked) = false → (appendsA cfg ws recs).1 = wwActs cfg ws.len recs
  | [], _, _, _ => rfl
  | r :: recs, ws, ho, hc => by
    obtain ⟨ha, hw⟩ := appendA_nocut_eq cfg ws r ho hc
    have ih := appendsA_eq_wwActs cfg recs (appendA cfg ws r).2 (by rw [hw]; exact ho) (by rw [hw]; exact hc)
    show (appendA cfg ws r).1 ++ (appendsA cfg (appendA cfg ws r).2 recs).1 = _
    rw [ih, ha, hw]
    rfl

def cutActs (cfg : Cfg) (ws : WS) : List Action :=
  if (cfg.tailTolerant && !ws.checked) = true then
    (if ws.valid < ws.len then [ioA (.wt ws.valid)] else []) ++ [memA .tailChecked]
  else []

/-- where the records start after the cut -/
def startOf (cfg : Cfg) (ws : WS) : Nat :=
  if (cfg.tailTolerant && !ws.checked) = true then min ws.len ws.valid else ws.len

theorem appendsA_eq (cfg : Cfg) (r : Rec) (recs : List Rec) (ws : WS) (ho : ws.isOpen = true) :
    (appendsA cfg ws (r :: recs)).1 = cutActs cfg ws ++ wwActs cfg (startOf cfg ws) (r :: recs) := by
  by_cases hc : (cfg.tailTolerant && !ws.checked) = true
  · have h1 : (appendA cfg ws r).2.isOpen = true := by simp [appendA, ho]
    have h2 : (cfg.tailTolerant && !(appendA cfg ws r).2.checked) = false := by
      have : (appendA cfg ws r).2.checked = true := by simp [appendA, ho, hc]
      simp [this]
    have hlen : (appendA cfg ws r).2.len = min ws.len ws.valid + 3 := by simp [appendA, ho, hc]
    show (appendA cfg ws r).1 ++ (appendsA cfg (appendA cfg ws r).2 recs).1 = _
    rw [appendsA_eq_wwActs cfg recs _ h1 h2, hlen]
    simp only [cutActs, startOf, hc, if_true, wwActs]
    by_cases hv : ws.valid < ws.len <;> simp [appendA, ho, hc, hv]
  · have hc' : (cfg.tailTolerant && !ws.checked) = false := by simpa using hc
    rw [appendsA_eq_wwActs cfg (r :: recs) ws ho hc']
    simp [cutActs, startOf, hc']

theorem ioSteps_wwActs (cfg : Cfg) : ∀ (start : Nat) (recs : List Rec),
    ioSteps (wwActs cfg start recs) = (frames recs).map Step.ww ∧ failOf (wwActs cfg start recs) = none ∧
    memUpds (wwActs cfg start recs) = []
  | _, [] => ⟨rfl, rfl, rfl⟩
  | start, r :: rs => by
    obtain ⟨h1, h2, h3⟩ := ioSteps_wwActs cfg (start + 3) rs
    simp [wwActs, ioSteps, failOf, memUpds, frames, h1, h2, h3]

theorem onFail_wwActs (cfg : Cfg) : ∀ (recs : List Rec) (start i f : Nat), i < recs.length → f < 3 →
    onFailAt (wwActs cfg start recs) (3 * i + f) = (if cfg.walRollback then [Step.wt (start + 3 * i)] else []) ∧
    memBefore (wwActs cfg start recs) (3 * i + f) = []
  | [], _, i, _, hi, _ => by simp at hi
  | r :: recs, start, 0, f, _, hf => by
    have : f = 0 ∨ f = 1 ∨ f = 2 := by omega
    rcases this with rfl | rfl | rfl <;> simp [wwActs, onFailAt, memBefore]
  | r :: recs, start, i + 1, f, hi, hf => by
    obtain ⟨h1, h2⟩ := onFail_wwActs cfg recs (start + 3) i f (by simpa using hi) hf
    have hidx : 3 * (i + 1) + f = (3 * i + f) + 3 := by omega
    rw [hidx]
    simp only [wwActs, List.cons_append, List.nil_append, onFailAt, memBefore]
    rw [h1, h2]
    refine ⟨?_, rfl⟩
    by_cases hr : cfg.walRollback = true <;> simp [hr] <;> omega

theorem onFail_appendsA_nocut (cfg : Cfg) : ∀ (recs : List Rec) (ws : WS) (i f : Nat), ws.isOpen = true →
    (cfg.tailTolerant && !ws.checked) = false → i < recs.length → f < 3 →
    onFailAt (appendsA cfg ws recs).1 (3 * i + f) = (if cfg.walRollback then [Step.wt (ws.len + 3 * i)] else []) ∧
    memBefore (appendsA cfg ws recs).1 (3 * i + f) = []
  | recs, ws, i, f, ho, hc, hi, hf => by
    rw [appendsA_eq_wwActs cfg recs ws ho hc]
    exact onFail_wwActs cfg recs ws.len i f hi hf

theorem ioSteps_cutActs (cfg : Cfg) (ws : WS) :
    ioSteps (cutActs cfg ws) = cutSteps cfg ws ∧ failOf (cutActs cfg ws) = none := by
  unfold cutActs cutSteps
  by_cases hc : (cfg.tailTolerant && !ws.checked) = true <;> by_cases hv : ws.valid < ws.len <;>
    simp [hc, hv, ioSteps, failOf]

theorem appendsA_isOpen (cfg : Cfg) : ∀ (recs : List Rec) (ws : WS), ws.isOpen = true → (appendsA cfg ws recs).2.isOpen = true
  | [], _, ho => ho
  | r :: recs, ws, ho => appendsA_isOpen cfg recs (appendA cfg ws r).2 (by simp [appendA, ho])

def LogSafe (cs cs' : List CTx) (pd : PImg) (g : FS) : Prop :=
  ∀ mode, g.crashP mode = pd ∧
    (committed (readAll (g.crashW mode)) = .ok cs ∨ committed (readAll (g.crashW mode)) = .ok cs')

theorem LogSafe.safeFS {cs cs' : List CTx} {pd : PImg} {g : FS} {T T' : List Tx} {c c' : Nat} (h : LogSafe cs cs' pd g)
    (hlog : LogOK T cs c) (hp : PagerOK (allNodes T) c pd) (hs : StoreOK T cs pd)
    (hlog' : LogOK T' cs' c') (hp' : PagerOK (allNodes T') c' pd) (hs' : StoreOK T' cs' pd) : SafeFS [T, T'] g := by
  intro mode
  obtain ⟨hP, hW | hW⟩ := h mode
  · exact ⟨T, by simp, cs, c, hW, hlog, hP ▸ hp, hP ▸ hs⟩
  · exact ⟨T', by simp, cs', c', hW, hlog', hP ▸ hp', hP ▸ hs'⟩

theorem logSafe_of_stable {cs cs' : List CTx} {g : FS} (hpj : Inert g.pj) (hw : WalStable cs g) : LogSafe cs cs' g.pd g := by
  intro mode
  obtain ⟨n, hn, hW⟩ := hw.crashW mode
  exact ⟨crashP_inert g hpj mode, Or.inl (hW ▸ hw.stable n hn)⟩

/-- appending one fragment adds one crash image of the log: the whole log -/
theorem LogSafe.ww {cs cs' : List CTx} {pd : PImg} {g : FS} (h : LogSafe cs cs' pd g) (f : Frag)
    (hnew : committed (readAll (g.wf ++ [f])) = .ok cs ∨ committed (readAll (g.wf ++ [f])) = .ok cs') :
    LogSafe cs cs' pd (g.step (.ww f)) := by
  intro mode
  refine ⟨(h mode).1, ?_⟩
  cases mode with
  | proc => exact hnew
  | power sel wk lose =>
    have := (h (.power sel wk lose)).2
    simp only [FS.crashW, FS.step] at this ⊢
    split
    · simpa [*] using this
    · by_cases hle : g.wdur + wk ≤ g.wf.length
      · rw [List.take_append_of_le_length hle]
        simpa [*] using this
      · rw [List.take_of_length_le (by simp; omega)]
        exact hnew

theorem safeAlong_ww {cs cs' : List CTx} {pd : PImg} : ∀ (l : List Frag) {g : FS}, LogSafe cs cs' pd g →
    (∀ j, j ≤ l.length → committed (readAll (g.wf ++ l.take j)) = .ok cs ∨ committed (readAll (g.wf ++ l.take j)) = .ok cs') →
    SafeAlong (LogSafe cs cs' pd) g (l.map Step.ww)
  | [], _, h, _ => safeAlong_nil h
  | f :: l, g, h, hl => safeAlong_cons h <| safeAlong_ww l (h.ww f (hl 1 (by simp))) fun j hj => by
      have := hl (j + 1) (by simpa using hj)
      simpa [FS.step] using this

/-- the tail cut of the first append through a handle: safe; if the cut itself fails nothing
    has happened; afterwards the log is clean and starts where the records will be written -/
theorem blk_cut {cfg : Cfg} {T : List Tx} {g : FS} {mm : Mem} {cs cs' : List CTx} {c : Nat}
    (h : InvOpen T g mm cs c) (ht : TailPre cfg g mm) :
    Blk (LogSafe cs cs' g.pd) (fun g' m' => InvOpen T g' m' cs c ∧ TailPre cfg g' m') (cutActs cfg (mm.ws g.wf)) g mm
      (fun g0 m0 => (∃ b, m0 = { mm with tailChecked := b }) ∧ g0.pj = g.pj ∧ g0.pd = g.pd ∧ WalStable cs g0 ∧
        validLen g0.wf = g0.wf.length ∧ g0.wf.length = startOf cfg (mm.ws g.wf)) := by
  -- three programs: no cut armed; armed on a clean log (the flag only); armed on a torn tail (one truncation)
  unfold cutActs startOf
  have hvl := validLen_le g.wf
  have hs0 : LogSafe cs cs' g.pd g := logSafe_of_stable h.pj h.wal
  by_cases hc : (cfg.tailTolerant && !(mm.ws g.wf).checked) = true
  · rw [if_pos hc, if_pos hc]
    by_cases hv : validLen g.wf < g.wf.length
    · rw [if_pos (show (mm.ws g.wf).valid < (mm.ws g.wf).len from hv)]
      have hst0 : WalStable cs (g.step (.wt (validLen g.wf))) :=
        h.wal.wt _ (by rw [take_validLen, readAll_frames]; exact h.wal.com)
      refine .io _ _ hs0 ⟨h, Or.inr hc⟩ <| .mem _ <| .nil (logSafe_of_stable (g := g.step (.wt (validLen g.wf))) h.pj hst0)
        ⟨⟨true, rfl⟩, rfl, rfl, hst0, ?_, ?_⟩
      · show validLen (g.wf.take (validLen g.wf)) = (g.wf.take (validLen g.wf)).length
        rw [take_validLen, validLen_eq, readAll_frames, frames_length]
      · show (g.wf.take (validLen g.wf)).length = min g.wf.length (validLen g.wf)
        rw [List.length_take, Nat.min_comm]
    · rw [if_neg (show ¬ (mm.ws g.wf).valid < (mm.ws g.wf).len from hv)]
      exact .mem _ <| .nil hs0 ⟨⟨true, rfl⟩, rfl, rfl, h.wal, by omega, show g.wf.length = min g.wf.length (validLen g.wf) by omega⟩
  · rw [if_neg hc, if_neg hc]
    exact .nil hs0 ⟨⟨mm.tailChecked, rfl⟩, rfl, rfl, h.wal, ht.resolve_right hc, rfl⟩

/-- the records of a transaction block written to a clean log: every crash image has the old
    committed list, or — all fragments there — the list extended by the block; with rollback, an
    error at any write takes the log back to the start of the record being written, which leaves
    complete unsynced records of the unfinished block behind the old log.  `recs` is a variable tied
    by `hrecs` so that `txRecs …` and `manifestRecs …` fit without being unfolded. -/
theorem blk_ww {cfg : Cfg} {cs : List CTx} {fs0 : FS} (m0 : Mem)
    (t : Nat) (ops : List Rec) (hops : ∀ r ∈ ops, IsOp r) (recs : List Rec) (hrecs : Rec.begin t :: ops ++ [Rec.commit t] = recs)
    (hin : Inert fs0.pj) (hst : WalStable cs fs0) (hcl : validLen fs0.wf = fs0.wf.length) :
    Blk (LogSafe cs (cs ++ [⟨t, ops⟩]) fs0.pd)
      (fun g m' => cfg.walRollback = true →
        m' = m0 ∧ g.pj = fs0.pj ∧ g.pd = fs0.pd ∧ WalStable cs g ∧ validLen g.wf = g.wf.length)
      (wwActs cfg fs0.wf.length recs) fs0 m0
      (fun g m' => m' = m0 ∧ g.wf = fs0.wf ++ frames recs ∧ g.wdur = fs0.wdur ∧ g.ren = fs0.ren ∧ g.pd = fs0.pd ∧ g.pj = fs0.pj ∧
        committed (readAll g.wf) = .ok (cs ++ [⟨t, ops⟩])) := by
  obtain ⟨w1, w2, w3⟩ := ioSteps_wwActs cfg fs0.wf.length recs
  have hR : recs.length = ops.length + 2 := by rw [← hrecs]; simp
  have hwf0 : fs0.wf = frames (readAll fs0.wf) := clean_eq_frames _ hcl
  have hpart : ∀ j, j < 3 * recs.length → committed (readAll (fs0.wf ++ (frames recs).take j)) = .ok cs := by
    intro j hj
    rw [hwf0, readAll_append_take, ← hrecs]
    exact committed_partial_ops hst.com t ops hops (j / 3) (by omega)
  have hfull : committed (readAll (fs0.wf ++ frames recs)) = .ok (cs ++ [⟨t, ops⟩]) := by
    rw [hwf0, readAll_frames_append, readAll_frames, ← hrecs]
    exact committed_full_ops hst.com t ops hops
  refine ⟨w2, ?_, ?_, ?_⟩
  · rw [w1]
    refine safeAlong_ww (frames recs) (logSafe_of_stable hin hst) fun j hj => ?_
    by_cases hj' : j < 3 * recs.length
    · exact Or.inl (hpart j hj')
    · rw [List.take_of_length_le (by rw [frames_length]; omega)]
      exact Or.inr hfull
  · intro k hk hroll
    rw [w1, List.length_map, frames_length] at hk
    obtain ⟨q1, q2⟩ := onFail_wwActs cfg recs fs0.wf.length (k / 3) (k % 3) (Nat.div_lt_of_lt_mul hk) (Nat.mod_lt _ (by decide))
    rw [Nat.div_add_mod] at q1 q2
    rw [q1, q2, hroll, if_pos rfl, w1, ← List.map_take, show ∀ (g : FS) (s : Step), g.steps [s] = g.step s from fun _ _ => rfl]
    obtain ⟨hw, hd, hr, hpd, hpj⟩ := steps_ww fs0 ((frames recs).take k)
    generalize fs0.steps (((frames recs).take k).map Step.ww) = g at hw hd hr hpd hpj
    have hjR : k / 3 < recs.length := Nat.div_lt_of_lt_mul hk
    have hwf' : (g.step (.wt (fs0.wf.length + 3 * (k / 3)))).wf = fs0.wf ++ (frames recs).take (3 * (k / 3)) := by
      simp only [FS.step, hw]; exact take_append_take fs0.wf (frames recs) k (3 * (k / 3)) (by omega)
    have hwd' : (g.step (.wt (fs0.wf.length + 3 * (k / 3)))).wdur = fs0.wdur := by
      simp only [FS.step, hd]; have := hst.wdur; omega
    refine ⟨rfl, hpj, hpd, ⟨hr.trans hst.ren, by rw [hwd', hwf']; have := hst.wdur; simp; omega, ?_⟩, ?_⟩
    · intro n hn
      rw [hwd'] at hn
      rw [hwf']
      by_cases hle : n ≤ fs0.wf.length
      · rw [List.take_append_of_le_length hle]; exact hst.stable n hn
      · rw [List.take_append, List.take_of_length_le (by omega), List.take_take]
        exact hpart _ (by omega)
    · rw [hwf', ← frames_take, hwf0, ← frames_append]
      have := validLen_frames_append (readAll fs0.wf ++ recs.take (k / 3)) []
      simp [validLen] at this
      rw [this, frames_length, List.length_append, List.length_take]
  · rw [w1, w3]
    obtain ⟨hw, hd, hr, hpd, hpj⟩ := steps_ww fs0 (frames recs)
    exact ⟨rfl, hw, hd, hr, hpd, hpj, hw ▸ hfull⟩

/-- where a log block ends: the records are in the log (unsynced), which is clean and has the
    extended committed list; cutting it back to `start` gives a clean log that is stable at the old
    list -/
structure LogBlockEnd (cs cs' : List CTx) (start : Nat) (g : FS) (mm : Mem) (g1 : FS) (m1 : Mem) : Prop where
  mem : ∃ b, m1 = { mm with tailChecked := b }
  pj : g1.pj = g.pj
  pd : g1.pd = g.pd
  com : committed (readAll g1.wf) = .ok cs'
  clean : validLen g1.wf = g1.wf.length
  back : WalStable cs (g1.step (.wt start))
  backClean : validLen (g1.wf.take start) = (g1.wf.take start).length

/-- the log block of an operation (tail cut, then the records of one transaction block): every
    crash image has the page file as it was and the old or the extended committed list; with
    rollback, an injected error at any step undoes the append — files and handle satisfy the
    invariant for the same list, the log has no torn tail (or the cut is still armed) -/
theorem blk_logBlock {cfg : Cfg} {T : List Tx} {g : FS} {mm : Mem} {cs : List CTx} {c : Nat}
    (h : InvOpen T g mm cs c) (ht : TailPre cfg g mm) (t : Nat) (ops : List Rec) (hops : ∀ r ∈ ops, IsOp r)
    (recs : List Rec) (hrecs : Rec.begin t :: ops ++ [Rec.commit t] = recs) :
    Blk (LogSafe cs (cs ++ [⟨t, ops⟩]) g.pd)
      (fun g' m' => cfg.walRollback = true → InvOpen T g' m' cs c ∧ TailPre cfg g' m')
      (cutActs cfg (mm.ws g.wf) ++ wwActs cfg (startOf cfg (mm.ws g.wf)) recs) g mm
      (LogBlockEnd cs (cs ++ [⟨t, ops⟩]) (startOf cfg (mm.ws g.wf)) g mm) := by
  refine ((blk_cut h ht).mono (fun _ hs => hs) (fun _ _ hf _ => hf) (fun _ _ hq => hq)).append
    fun g0 m0 ⟨⟨b, hm0⟩, hpj0, hpd0, hst0, hcl0, hlen0⟩ => ?_
  subst hm0
  rw [← hlen0, ← hpd0]
  refine (blk_ww _ t ops hops recs hrecs (hpj0 ▸ h.pj) hst0 hcl0).mono (fun _ hs => hs) ?_ ?_
  · intro g' m' hF hroll
    obtain ⟨rfl, e1, e2, e3, e4⟩ := hF hroll
    exact ⟨h.of_cut b (e1 ▸ hpj0 ▸ h.pj) (e2.trans hpd0) e3, Or.inl e4⟩
  · rintro g1 m1 ⟨rfl, e1, e2, e3, e4, e5, e6⟩
    have hcut : g1.wf.take g0.wf.length = g0.wf := by rw [e1, List.take_left' rfl]
    refine ⟨⟨b, rfl⟩, e5.trans hpj0, e4.trans hpd0, e6, ?_, hst0.congr hcut (by show min g1.wdur _ = _; rw [e2]; exact Nat.min_eq_left hst0.wdur) e3, ?_⟩
    · rw [e1, clean_eq_frames _ hcl0, ← frames_append, validLen_eq, readAll_frames, frames_length]
    · rw [hcut]; exact hcl0

end Nervus.Crash
