/-
  C12, "the last assignment wins": the staged write log of a transaction is the ordered list of the
  `set_*_property` calls actually issued; after commit every (entity, key) holds the value of the LAST call that
  names it.  Consequences: `update_refines_set_prop_rows` (Props/C12) needs no "distinct target" / "value differs"
  proviso, and a write may be elided only when its value equals the value visible in `committed ⊕ staged so far` —
  comparing with the pre-statement snapshot is unsound.
-/
import Nervus.Proofs.CypherUpdateRows
namespace Nervus.Cy
open Nervus.Cy

/-! ### property maps -/

theorem lookup_map_replace_ne (ps : Props) (k k' : String) (v : Scalar) (hne : k' ≠ k) :
    (ps.map fun (p : String × Scalar) => if p.1 == k then (p.1, v) else (p.1, p.2)).lookup k' = ps.lookup k' := by
  induction ps with
  | nil => rfl
  | cons p rest ih =>
    obtain ⟨k0, v0⟩ := p
    rw [List.map_cons]
    split
    next h =>
      have h : k0 = k := eq_of_beq h
      rw [h, List.lookup, List.lookup, ih, beq_eq_false_iff_ne.mpr hne]
    next => rw [List.lookup, List.lookup, ih]

theorem lookup_setKey (ps : Props) (k k' : String) (v : Scalar) :
    (Spec.setKey ps k v).lookup k' = if k' = k then some v else ps.lookup k' := by
  induction ps with
  | nil => 
    simp only [Spec.setKey, List.any_nil, Bool.false_eq_true, ↓reduceIte, List.nil_append, List.lookup]
    cases h : k' == k
    · exact (if_neg (beq_eq_false_iff_ne.mp h)).symm
    · exact (if_pos (eq_of_beq h)).symm
  | cons p rest ih =>
    obtain ⟨k0, v0⟩ := p
    by_cases hk : k0 = k
    · subst hk
      simp only [Spec.setKey, List.any_cons, BEq.rfl, Bool.true_or, ↓reduceIte, List.map_cons, List.lookup]
      cases h : k' == k0
      · simp only [beq_eq_false_iff_ne.mp h, ↓reduceIte]
        exact lookup_map_replace_ne rest k0 k' v (beq_eq_false_iff_ne.mp h)
      · simp only [eq_of_beq h, ↓reduceIte]
    · have hs : Spec.setKey ((k0, v0) :: rest) k v = (k0, v0) :: Spec.setKey rest k v := by
        simp only [Spec.setKey, List.any_cons, beq_eq_false_iff_ne.mpr hk, Bool.false_or, List.map_cons,
          Bool.false_eq_true, ↓reduceIte, List.cons_append]
        split <;> rfl
      rw [hs, List.lookup, List.lookup, ih]
      cases h : k' == k0
      · rfl
      · have h : k' = k0 := eq_of_beq h
        exact (if_neg (h ▸ hk)).symm

theorem lookup_setKey_or (ps : Props) (k k' : String) (v : Scalar) :
    (Spec.setKey ps k v).lookup k' = (if k == k' then some v else none).or (ps.lookup k') := by
  rw [lookup_setKey]
  by_cases h : k' = k
  · simp [h]
  · simp [h, Ne.symm h]

/-! ### the value visible for (entity, key) -/

def nodeVal (g : Graph) (n : Nat) (k : String) : Option Scalar := (Spec.propsOf g (.node n)).lookup k
def relVal (g : Graph) (r : RelId) (k : String) : Option Scalar := (Spec.propsOf g (.rel r)).lookup k

/-! ### the staged write log: plain assignments -/

open Update in
def isSet : Update.TxOp → Bool
  | .setNodeProp .. => true | .setEdgeProp .. => true | _ => false

def stepNode (n : Nat) (k : String) (acc : Option Scalar) : Update.TxOp → Option Scalar
  | .setNodeProp n' k' v => if n' == n && k' == k then some v else acc
  | _ => acc

def stepRel (r : RelId) (k : String) (acc : Option Scalar) : Update.TxOp → Option Scalar
  | .setEdgeProp r' k' v => if r' == r && k' == k then some v else acc
  | _ => acc

def lastNodeSet (ops : List Update.TxOp) (n : Nat) (k : String) : Option Scalar := ops.foldl (stepNode n k) none
def lastRelSet (ops : List Update.TxOp) (r : RelId) (k : String) : Option Scalar := ops.foldl (stepRel r k) none

theorem stepNode_or (n : Nat) (k : String) (acc : Option Scalar) (op : Update.TxOp) :
    stepNode n k acc op = (stepNode n k none op).or acc := by
  cases op <;> simp only [stepNode, Option.none_or]
  split <;> rfl

theorem stepRel_or (r : RelId) (k : String) (acc : Option Scalar) (op : Update.TxOp) :
    stepRel r k acc op = (stepRel r k none op).or acc := by
  cases op <;> simp only [stepRel, Option.none_or]
  split <;> rfl

theorem nodeVal_applyOp (g : Graph) (op : Update.TxOp) (hop : isSet op = true) (n : Nat) (k : String)
    (hn : (g.node? n).isSome = true) :
    nodeVal (Update.applyOp g op) n k = (stepNode n k none op).or (nodeVal g n k) ∧
    ((Update.applyOp g op).node? n).isSome = true := by
  cases op with
  | setNodeProp n' k' v =>
    obtain ⟨nd, hnd⟩ := Option.isSome_iff_exists.mp hn
    have h := node?_updNode g n' n (fun nd => { nd with props := Spec.setKey nd.props k' v }) fun _ => rfl
    simp only [Update.applyOp, stepNode, nodeVal, Spec.propsOf, h, hnd, Option.map_some, Option.isSome_some, and_true]
    cases n' == n
    · rfl
    · exact lookup_setKey_or nd.props k' k v
  | setEdgeProp r k' v => exact ⟨rfl, hn⟩
  | _ => cases hop

theorem relVal_applyOp (g : Graph) (op : Update.TxOp) (hop : isSet op = true) (r : RelId) (k : String)
    (hr : (g.rel? r).isSome = true) :
    relVal (Update.applyOp g op) r k = (stepRel r k none op).or (relVal g r k) ∧
    ((Update.applyOp g op).rel? r).isSome = true := by
  cases op with
  | setEdgeProp r' k' v =>
    obtain ⟨e, he⟩ := Option.isSome_iff_exists.mp hr
    have h := rel?_updRel g r' r (fun e => { e with props := Spec.setKey e.props k' v }) fun _ => rfl
    simp only [Update.applyOp, stepRel, relVal, Spec.propsOf, h, he, Option.map_some, Option.isSome_some, and_true]
    cases r' == r
    · rfl
    · exact lookup_setKey_or e.props k' k v
  | setNodeProp n k' v => exact ⟨rfl, hr⟩
  | _ => cases hop

/-- committing a log call by call: if every call changes the observed value `val` as one step of the fold `step`
    says — a step that either overrides or keeps what was there — the committed value is what the fold over the
    whole log says -/
theorem applyOps_fold {β : Type} (val : Graph → Option β) (ok : Graph → Prop)
    (step : Option β → Update.TxOp → Option β)
    (hor : ∀ acc op, step acc op = (step none op).or acc) (ops : List Update.TxOp)
    (hstep : ∀ op ∈ ops, ∀ G, ok G →
      val (Update.applyOp G op) = (step none op).or (val G) ∧ ok (Update.applyOp G op))
    (g : Graph) (hg : ok g) :
    val (Update.applyOps g ops) = (ops.foldl step none).or (val g) ∧ ok (Update.applyOps g ops) := by
  have hfold : ∀ (ops : List Update.TxOp) acc, ops.foldl step acc = (ops.foldl step none).or acc := by
    intro ops
    induction ops with
    | nil => intro acc; rfl
    | cons op rest ih =>
      intro acc
      rw [List.foldl_cons, List.foldl_cons, ih, ih (step none op), hor acc, Option.or_assoc]
  induction ops generalizing g with
  | nil => exact ⟨rfl, hg⟩
  | cons op rest ih =>
    obtain ⟨h1, h2⟩ := hstep op (List.mem_cons_self ..) g hg
    obtain ⟨h3, h4⟩ := ih (fun o ho => hstep o (List.mem_cons_of_mem _ ho)) (Update.applyOp g op) h2
    refine ⟨?_, h4⟩
    rw [Update.applyOps, List.foldl_cons, ← Update.applyOps, h3, h1, List.foldl_cons, hfold rest (step none op),
      Option.or_assoc]

theorem last_assignment_wins_node (ops : List Update.TxOp) (hops : ∀ op ∈ ops, isSet op = true) (g : Graph)
    (n : Nat) (k : String) (hn : (g.node? n).isSome = true) :
    nodeVal (Update.applyOps g ops) n k = (lastNodeSet ops n k).or (nodeVal g n k) ∧
      ((Update.applyOps g ops).node? n).isSome = true :=
  applyOps_fold (nodeVal · n k) (fun G => (G.node? n).isSome = true) (stepNode n k) (stepNode_or n k) ops
    (fun op hop G hG => nodeVal_applyOp G op (hops op hop) n k hG) g hn

theorem last_assignment_wins_rel (ops : List Update.TxOp) (hops : ∀ op ∈ ops, isSet op = true) (g : Graph)
    (r : RelId) (k : String) (hr : (g.rel? r).isSome = true) :
    relVal (Update.applyOps g ops) r k = (lastRelSet ops r k).or (relVal g r k) ∧
      ((Update.applyOps g ops).rel? r).isSome = true :=
  applyOps_fold (relVal · r k) (fun G => (G.rel? r).isSome = true) (stepRel r k) (stepRel_or r k) ops
    (fun op hop G hG => relVal_applyOp G op (hops op hop) r k hG) g hr

/-! ### SET x.k = e over every table, node and relationship targets, with the issued log made explicit -/

variable (A : Algebra) (params : List (String × Val))

def USimR (g : Graph) (next : Nat) (m : Update.St) (sp : Spec.St) : Prop :=
  USim g next m sp ∧ sp.g.rels.Pairwise fun a b => a.id ≠ b.id

/-- the `set_*_property` call one row of `SET x.k = e` issues -/
def assignOf (g : Graph) (x k : String) (e : Expr) (r : Row) : Option Update.TxOp :=
  match Update.toProp (eval A { g, params } r e), r.get x with
  | .ok pv, some (.node n) => some (.setNodeProp n k pv)
  | .ok pv, some (.rel ed) => some (.setEdgeProp ed k pv)
  | _, _ => none

theorem setPropertyRow_rel (g : Graph) (m : Update.St) (r : Row) (x k : String) (e : Expr) (ed : RelId) (pv : Scalar)
    (hx : r.get x = some (.rel ed)) (hv : Update.toProp (eval A { g, params } r e) = .ok pv)
    (hnn : (pv == .null) = false) :
    ∃ u', Update.setPropertyRow A params g [(x, k, e)] m ⟨r, []⟩ = .ok
      ({ m with ops := m.ops ++ [.setEdgeProp ed k pv], count := m.count + 1 }, u') := by
  simp only [Update.setPropertyRow, List.forIn_cons, List.forIn_nil, ev_noOverlay, hv, bind, Except.bind, pure,
    Except.pure, Update.rowNode, Update.rowRel, hx, hnn, Update.URow.ent, List.lookup, Bool.false_eq_true, ↓reduceIte]
  exact ⟨_, rfl⟩

theorem set_prop_row_rel {g : Graph} {next : Nat} {m : Update.St} {sp : Spec.St} (hR : USimR g next m sp)
    (r : Row) (x k : String) (e : Expr) (ed : RelId) (pv : Scalar)
    (hx : r.get x = some (.rel ed)) (hv : Update.toProp (eval A { g, params } r e) = .ok pv) (hnn : pv ≠ .null) :
    ∃ m' u' sp', Update.setPropertyRow A params g [(x, k, e)] m ⟨r, []⟩ = .ok (m', u') ∧
      Spec.applySetItems A params g r sp [.prop x k e] = .ok sp' ∧ USimR g next m' sp' ∧
      m'.ops = m.ops ++ [.setEdgeProp ed k pv] := by
  obtain ⟨u', hu'⟩ := setPropertyRow_rel A params g m r x k e ed pv hx hv (beq_eq_false_iff_ne.mpr hnn)
  refine ⟨_, u', _, hu', ?_,
    ⟨hR.1.step [.setEdgeProp ed k pv] 0 1 _ (sp.c.total_propsSet 1) hR.1.distinct,
     updRel_distinct sp.g ed _ (fun _ => rfl) hR.2⟩, rfl⟩
  · rw [applySetItems_one, setItem_prop A params g r sp x k e (.rel ed) _ 1 (by rw [hx]; rfl)
      (writeProp_storable _ k _ pv hv hnn), setProps_propsOf_rel sp.g hR.2 ed (Spec.setKey · k pv)]
    rfl

theorem assignOf_isSet (g : Graph) (x k : String) (e : Expr) (T : Table) :
    ∀ op ∈ T.filterMap (assignOf A params g x k e), isSet op = true := by
  intro op hop
  obtain ⟨r, _, hr⟩ := List.mem_filterMap.mp hop
  unfold assignOf at hr
  split at hr <;> simp at hr <;> subst hr <;> rfl

end Nervus.Cy
