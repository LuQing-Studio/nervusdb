/-
  Proofs/StoreRoot.lean — the root of the property tree (C05, seed C05-seed1): the page the engine takes
  for the root (`propsRoot`: reads, manifest, checkpoint) must be the page that IS the root of the tree
  (`storeRoot`); `BTree::insert` may move the root on any insert of the property sinking.
-/
import Nervus.Proofs.ListBasics
import Nervus.Model.Engine
namespace Nervus.Storage

/-- the engine's root is the root of the property tree, and there is no entry without a root -/
structure RootOK (s : Engine) : Prop where
  eq : s.propsRoot = s.storeRoot
  empty : s.propsRoot = 0 → s.store = []

def rootOK (s : Engine) : Bool := s.propsRoot == s.storeRoot && (s.propsRoot != 0 || s.store.isEmpty)

theorem rootOK_iff (s : Engine) : rootOK s = true ↔ RootOK s := by
  simp only [rootOK, Bool.and_eq_true, beq_iff_eq, Bool.or_eq_true, bne_iff_ne, ne_eq, List.isEmpty_iff]
  constructor
  · rintro ⟨h1, h2⟩
    refine ⟨h1, fun h0 => ?_⟩
    rcases h2 with h | h
    · exact absurd h0 h
    · exact h
  · rintro ⟨h1, h2⟩
    refine ⟨h1, ?_⟩
    by_cases h0 : s.propsRoot = 0
    · exact Or.inr (h2 h0)
    · exact Or.inl h0

theorem RootOK.empty' : RootOK {} := ⟨rfl, fun _ => rfl⟩

theorem RootOK.congr {s s' : Engine} (h : RootOK s) (h1 : s'.store = s.store) (h2 : s'.propsRoot = s.propsRoot)
    (h3 : s'.storeRoot = s.storeRoot) : RootOK s' :=
  ⟨by rw [h2, h3]; exact h.eq, fun h0 => by rw [h1]; exact h.empty (h2 ▸ h0)⟩

theorem visibleStore_ok {s : Engine} (h : RootOK s) : s.visibleStore = s.store := by
  unfold Engine.visibleStore
  by_cases h0 : s.propsRoot = 0
  · rw [h.empty h0]; simp
  · have hb : (s.propsRoot == 0) = false := by simpa using h0
    have he : (s.propsRoot == s.storeRoot) = true := by simpa using h.eq
    rw [hb, he]; rfl

/-- what the sinking loops append to the tree -/
def sunkOf (s : Engine) : Store :=
  (Engine.sinkProps (·.nprops) s.runs).map (fun p => (SKey.node p.1.1 p.1.2, p.2)) ++
  (Engine.sinkProps (·.eprops) s.runs).map (fun p => (SKey.edge p.1.1 p.1.2, p.2))

/-- the old entries that survive the sinking: all of them, or (replace_property_entry) those whose key
    is not sunk again -/
def keptOf (c : Cfg) (s : Engine) : Store :=
  if c.sinkReplaces then s.store.filter (fun p => !(sunkOf s).any (·.1 == p.1)) else s.store

/-- `BTree::create` (no root yet) / `BTree::load(current_root)`: the root before the insert loops of the sinking -/
def rootBefore (s : Engine) : Nat := if s.propsRoot == 0 then s.storeRoot + 1 else s.propsRoot

/-- `tree.root()` after the loops: any insert may split the root and allocate a new root page -/
def rootAfter (c : Cfg) (s : Engine) : Nat :=
  if c.rootMoves s.store.length (sunkOf s).length then max (rootBefore s) s.storeRoot + 1 else rootBefore s

/-- the state after a compaction that had something to compact, as a function of the new segment, the
    property tree, the checkpoint txid, the root the engine keeps and the root the tree has -/
def compactedWith (s : Engine) (seg : Seg) (st : Store) (upTo root sr : Nat) : Engine :=
  { s with segStore := seg :: s.segStore, store := st, storeRoot := sr,
           wal := s.wal ++ [.beginTx s.nextTxid,
                            .manifestSwitch (s.epoch + 1) ((seg :: s.segs).map (·.id)) root,
                            .checkpoint upTo (s.epoch + 1) root, .commitTx s.nextTxid],
           nextTxid := s.nextTxid + 1, nextSegId := s.nextSegId + 1,
           ckptTxid := upTo, propsRoot := root, runs := [],
           segs := seg :: s.segs, epoch := s.epoch + 1 }

/-- what `compact` computes when there is a run: the root the engine keeps is read where the source reads
    `tree.root()` (`c.rootAfterInserts`), and nothing moves when nothing is sunk -/
theorem compact_eq (c : Cfg) (s : Engine) (h : s.runs.isEmpty = false) :
    s.compact c = compactedWith s
      (buildForward s.nextSegId (collectRunEdges (!c.compactOwnLast) s.runs [] [])).persist
      (sunkOf s ++ keptOf c s) (s.runs.foldl (fun m r => max m r.txid) 0)
      (if (sunkOf s).isEmpty then s.propsRoot else if c.rootAfterInserts then rootAfter c s else rootBefore s)
      (if (sunkOf s).isEmpty then s.storeRoot else rootAfter c s) := by
  unfold Engine.compact compactedWith rootAfter rootBefore keptOf sunkOf
  rw [h]
  rfl

theorem compact_noop (c : Cfg) (s : Engine) (h : s.runs.isEmpty = true) : s.compact c = s := by
  unfold Engine.compact; rw [h]; rfl

theorem compact_store (c : Cfg) (s : Engine) (h : s.runs.isEmpty = false) :
    (s.compact c).store = sunkOf s ++ keptOf c s := by
  rw [compact_eq c s h]; rfl

theorem compact_store_lookup (c : Cfg) (s : Engine) (h : s.runs.isEmpty = false) (key : SKey) :
    (s.compact c).store.lookup key = (sunkOf s ++ s.store).lookup key := by
  rw [compact_store c s h, List.lookup_append, List.lookup_append]
  cases hs : (sunkOf s).lookup key with
  | some v => rfl
  | none =>
    simp only [Option.none_or]
    unfold keptOf
    split
    · apply lookup_filter_of_keep
      intro _
      rw [Bool.not_eq_true', List.any_eq_false]
      intro r hr hrq
      have := List.lookup_eq_none_iff.mp hs r hr
      rw [beq_iff_eq.mp hrq] at this
      simp at this
    · rfl

theorem keptOf_noSunk (c : Cfg) (s : Engine) (h : sunkOf s = []) : keptOf c s = s.store := by
  unfold keptOf
  rw [h]
  split
  · apply List.filter_eq_self.mpr; intro a _; rfl
  · rfl

theorem rootAfter_ne_zero (c : Cfg) (s : Engine) : rootAfter c s ≠ 0 := by
  unfold rootAfter rootBefore
  split
  · exact Nat.succ_ne_zero _
  · split
    · exact Nat.succ_ne_zero _
    · next h0 => simpa using h0

/-- **the root after `compact`**: when the source reads `tree.root()` after the insert loops
    (`c.rootAfterInserts`), then — whatever root splits happened during the loops (`c.rootMoves`
    arbitrary) — the root the engine keeps, logs in ManifestSwitch / Checkpoint and reads through is the
    root of the tree that holds every old and every sunk entry -/
theorem RootOK.compact (c : Cfg) (hflag : c.rootAfterInserts = true) {s : Engine} (h : RootOK s) :
    RootOK (s.compact c) := by
  cases he : s.runs.isEmpty with
  | true => rw [compact_noop c s he]; exact h
  | false =>
    rw [compact_eq c s he, hflag]
    by_cases hemp : (sunkOf s).isEmpty = true
    · -- nothing is sunk: root and tree stay
      have hnil : sunkOf s = [] := by simpa using hemp
      rw [if_pos hemp, if_pos hemp]
      exact ⟨h.eq, fun h0 => by
        show sunkOf s ++ keptOf c s = []
        rw [keptOf_noSunk c s hnil, h.empty h0, hnil]; rfl⟩
    · rw [if_neg hemp, if_neg hemp, if_pos rfl]
      exact ⟨rfl, fun h0 => absurd h0 (rootAfter_ne_zero c s)⟩

end Nervus.Storage
