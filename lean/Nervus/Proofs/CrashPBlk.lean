/-
  Proofs.CrashPBlk — blocks of page-file actions of a compaction (page allocation, page writes,
  syncs): each keeps every power-loss image (that tears no live leaf write) in the class `CG`,
  moves the allocation frontier, and changes segments / trees of the volatile image by a known
  list of operations.
-/
import Nervus.Proofs.CrashCG
namespace Nervus.Crash

def ST (p : PImg) : List SegImg × List TreeImg := (p.segs, p.trees)

def effsOf : List Step → List PEff
  | [] => []
  | .pg e _ :: S => e :: effsOf S
  | _ :: S => effsOf S

theorem pv_steps : ∀ (S : List Step) (fs : FS), (fs.steps S).pv = applyEffs (effsOf S) fs.pv
  | [], fs => rfl
  | s :: S, fs => by
    have h1 : fs.steps (s :: S) = (fs.step s).steps S := rfl
    rw [h1, pv_steps S (fs.step s)]
    cases s <;> simp [effsOf, FS.step, FS.pv, applyEffs, List.foldl_append]

def effSegs : PEff → List SegImg → List SegImg
  | .segPart k j need es, S => updSeg S k j need es
  | _, S => S

def effTrees : PEff → List TreeImg → List TreeImg
  | .treeNew k, T => emptyTree k :: T
  | .blob k q, T => updTree T k (effT (.blob k q))
  | .leaf k i es sib pid, T => updTree T k (effT (.leaf k i es sib pid))
  | .inode k seps pid, T => updTree T k (effT (.inode k seps pid))
  | _, T => T

theorem st_applyEffs : ∀ (E : List PEff) (p : PImg),
    ST (applyEffs E p) = (E.foldl (fun S e => effSegs e S) p.segs, E.foldl (fun T e => effTrees e T) p.trees)
  | [], _ => rfl
  | e :: E, p => by
    have h : applyEffs (e :: E) p = applyEffs E (applyEff e p) := rfl
    rw [h, st_applyEffs E (applyEff e p)]
    cases e <;> rfl

theorem st_congr (E : List PEff) (p p' : PImg) (h : ST p = ST p') : ST (applyEffs E p) = ST (applyEffs E p') := by
  rw [st_applyEffs, st_applyEffs, (Prod.mk.inj h).1, (Prod.mk.inj h).2]

/-- no action of the list has an error path of its own (the error is just propagated) -/
def Plain (acts : List Action) : Prop := ∀ a ∈ acts, ∀ s f, a = Action.io s f → f = []

theorem Plain.append {a b : List Action} (ha : Plain a) (hb : Plain b) : Plain (a ++ b) := by
  intro x hx
  rcases List.mem_append.mp hx with h | h
  · exact ha x h
  · exact hb x h

theorem plain_flush (pm : Meta) (bm : Nat) : Plain (flushA pm bm) := by
  intro a ha s f he
  simp [flushA] at ha
  rcases ha with rfl | rfl | rfl <;> (cases he; rfl)

theorem plain_of_mem_or_ioA (l : List Action) (h : ∀ a ∈ l, (∃ u, a = memA u) ∨ (∃ s, a = ioA s)) : Plain l := by
  intro a ha s f he
  rcases h a ha with ⟨u, rfl⟩ | ⟨s', rfl⟩
  · cases he
  · cases he; rfl

theorem plain_ensure (ps : PS) (pid : Nat) : Plain (ensureA ps pid).1 := by
  unfold ensureA
  apply Plain.append _ (plain_flush _ _)
  apply plain_of_mem_or_ioA
  intro a ha
  by_cases hg : ps.pm.nextPage ≤ pid <;> by_cases he : ps.len < pid + 1 <;> simp [hg, he] at ha
  all_goals (first | (rcases ha with rfl | rfl | rfl) | (rcases ha with rfl | rfl) | subst ha)
  all_goals (first | exact Or.inl ⟨_, rfl⟩ | exact Or.inr ⟨_, rfl⟩)

theorem plain_alloc (ps : PS) : Plain (allocA ps).1 := by
  unfold allocA
  intro a ha
  rcases List.mem_cons.mp ha with rfl | ha
  · intro s f he; cases he
  · exact plain_ensure _ _ a ha

theorem onFailAt_plain : ∀ (acts : List Action), Plain acts → ∀ k, onFailAt acts k = []
  | [], _, _ => rfl
  | .io s f :: rest, h, 0 => h (.io s f) (by simp) s f rfl
  | .io s f :: rest, h, k + 1 => onFailAt_plain rest (fun a ha => h a (by simp [ha])) k
  | .fail e :: rest, _, _ => rfl
  | .mem u :: rest, h, k => onFailAt_plain rest (fun a ha => h a (by simp [ha])) k

structure PBlk (p0 : PImg) (live : Nat) (allowed covered : List Nat) (lv : LiveP) (lo nd : Nat) (ps : PS) (acts : List Action)
    (effs : List PEff) (nd' : Nat) (ps' : PS) : Prop where
  nofail : failOf acts = none
  plain : Plain acts
  pager : PagerActs acts
  setpm : OnlySetPm (memUpds acts)
  lastpm : lastPm (memUpds acts) ps.pm = ps'.pm
  lastbm : lastBm (memUpds acts) ps.bm = ps'.bm
  sk : SameKey p0.hdr ps'.pm
  np : min ps'.bm ps'.pm.nextPage = nd'
  mono : nd ≤ nd'
  safe : ∀ fs : FS, AllImgsL live fs (CG p0 live allowed covered lv lo nd) →
    SafeAlong (fun fs => AllImgsL live fs (fun p => ∃ n, CG p0 live allowed covered lv lo n p)) fs (ioSteps acts)
  post : ∀ fs : FS, AllImgsL live fs (CG p0 live allowed covered lv lo nd) →
    AllImgsL live (fs.steps (ioSteps acts)) (CG p0 live allowed covered lv lo nd')
  vol : ∀ fs : FS, ST (fs.steps (ioSteps acts)).pv = ST (applyEffs effs fs.pv)

variable {p0 : PImg} {live lo : Nat} {allowed covered : List Nat} {lv : LiveP}

theorem OnlySetPm.append {a b : List MemUpd} (ha : OnlySetPm a) (hb : OnlySetPm b) : OnlySetPm (a ++ b) := by
  intro u hu
  rcases List.mem_append.mp hu with h | h
  · exact ha u h
  · exact hb u h

theorem onlySetPm_memBefore : ∀ (acts : List Action) (k : Nat), OnlySetPm (memUpds acts) → OnlySetPm (memBefore acts k)
  | [], _, _ => fun _ h => absurd h List.not_mem_nil
  | .io _ _ :: _, 0, _ => fun _ h => absurd h List.not_mem_nil
  | .io _ _ :: rest, k + 1, h => onlySetPm_memBefore rest k h
  | .fail _ :: _, _, _ => fun _ h => absurd h List.not_mem_nil
  | .mem _ :: rest, k, h => fun v hv =>
    (List.mem_cons.mp hv).elim (fun e => h v (e ▸ List.mem_cons_self))
      (onlySetPm_memBefore rest k (fun w hw => h w (List.mem_cons_of_mem _ hw)) v)

theorem PBlk.append {n1 n2 n3 : Nat} {s1 s2 s3 : PS} {a b : List Action} {e1 e2 : List PEff}
    (ha : PBlk p0 live allowed covered lv lo n1 s1 a e1 n2 s2) (hb : PBlk p0 live allowed covered lv lo n2 s2 b e2 n3 s3) :
    PBlk p0 live allowed covered lv lo n1 s1 (a ++ b) (e1 ++ e2) n3 s3 where
  nofail := by rw [failOf_append, ha.nofail]; simpa using hb.nofail
  plain := ha.plain.append hb.plain
  pager := ha.pager.append hb.pager
  setpm := by rw [memUpds_append_noFail _ _ ha.nofail]; exact ha.setpm.append hb.setpm
  lastpm := by rw [memUpds_append_noFail _ _ ha.nofail, lastPm_append, ha.lastpm, hb.lastpm]
  lastbm := by rw [memUpds_append_noFail _ _ ha.nofail, lastBm_append, ha.lastbm, hb.lastbm]
  sk := hb.sk
  np := hb.np
  mono := Nat.le_trans ha.mono hb.mono
  safe := by
    intro fs h
    rw [ioSteps_append_noFail _ _ ha.nofail]
    exact safeAlong_append (ha.safe fs h) (hb.safe _ (ha.post fs h))
  post := by
    intro fs h
    rw [ioSteps_append_noFail _ _ ha.nofail, steps_append]
    exact hb.post _ (ha.post fs h)
  vol := by
    intro fs
    rw [ioSteps_append_noFail _ _ ha.nofail, steps_append, hb.vol, applyEffs_append]
    exact st_congr e2 _ _ (ha.vol fs)

theorem PBlk.nil {nd : Nat} {ps : PS} (hsk : SameKey p0.hdr ps.pm) (hnp : min ps.bm ps.pm.nextPage = nd) :
    PBlk p0 live allowed covered lv lo nd ps [] [] nd ps where
  nofail := rfl
  plain := by intro a ha; simp at ha
  pager := by intro a ha; simp at ha
  setpm := by intro u hu; simp [memUpds] at hu
  lastpm := rfl
  lastbm := rfl
  sk := hsk
  np := hnp
  mono := Nat.le_refl _
  safe := by
    intro fs h
    exact safeAlong_nil (allImgsL_mono live fs _ _ h (fun p hp => ⟨_, hp⟩))
  post := by intro fs h; simpa [ioSteps, FS.steps] using h
  vol := by intro fs; rfl

theorem PBlk.steps {nd : Nat} {ps : PS} (hsk : SameKey p0.hdr ps.pm) (hnp : min ps.bm ps.pm.nextPage = nd)
    (S : List Step) (hS : ∀ s ∈ S, CStepOK p0 live allowed covered lv lo nd s) :
    PBlk p0 live allowed covered lv lo nd ps (S.map ioA) (effsOf S) nd ps := by
  have hio : ioSteps (S.map ioA) = S := by
    induction S with
    | nil => rfl
    | cons s S ih => simp [ioSteps, ih (fun s' hs' => hS s' (by simp [hs']))]
  have hmu : memUpds (S.map ioA) = [] := by
    clear hio hS
    induction S with
    | nil => rfl
    | cons s S ih => simp [memUpds, ih]
  have hnf : failOf (S.map ioA) = none := by
    clear hio hS hmu
    induction S with
    | nil => rfl
    | cons s S ih => simp [failOf, ih]
  refine { nofail := hnf, plain := ?_, pager := ?_, setpm := by rw [hmu]; intro u hu; simp at hu, lastpm := by rw [hmu]; rfl, lastbm := by rw [hmu]; rfl,
           sk := hsk, np := hnp, mono := Nat.le_refl _, safe := ?_, post := ?_, vol := ?_ }
  · intro a ha s f he
    obtain ⟨s', _, rfl⟩ := List.mem_map.mp ha
    cases he; rfl
  · intro a ha
    obtain ⟨s, hs, rfl⟩ := List.mem_map.mp ha
    exact cstep_pagerStep (hS s hs)
  · intro fs h
    rw [hio]
    exact safeAlong_mono (cstep_block S fs h hS) (fun g hg => allImgsL_mono live g _ _ hg (fun p hp => ⟨_, hp⟩))
  · intro fs h
    rw [hio]
    exact safeAlong_last (cstep_block S fs h hS)
  · intro fs
    rw [hio, pv_steps]

theorem st_alloc (ps : PS) (p : PImg) : ST (applyEffs (effsOf (ioSteps (allocA ps).1)) p) = ST p := by
  rw [allocA_eq ps rfl]
  dsimp only
  split
  · rfl
  · rfl

theorem steps_flushed_bm (fs : FS) (pre : List Step) (pm : Meta) (bm : Nat) :
    (fs.steps (pre ++ flushSteps pm bm)).pd.bm = bm :=
  (steps_flushed fs _ pm bm ⟨pre, rfl⟩).2.2

/-- `nd ≤`, not `=`: the class may start below the in-memory frontier (after a failed allocation the
    memory is ahead of the file); afterwards the new frontier is durable. -/
theorem pblk_alloc {nd : Nat} (ps : PS) (hsk : SameKey p0.hdr ps.pm) (hnp : nd ≤ min ps.bm ps.pm.nextPage) :
    PBlk p0 live allowed covered lv lo nd ps (allocA ps).1 [] (min ps.bm ps.pm.nextPage + 1) (allocA ps).2.1 := by
  obtain ⟨_, hmin, hsame, hbmle, hnf, pre, hpre, hio⟩ := allocA_form ps
  have hsk' : SameKey p0.hdr (allocA ps).2.1.pm := hsk.trans hsame
  have hS : ∀ s ∈ ioSteps (allocA ps).1, CStepOK p0 live allowed covered lv lo nd s := by
    rw [hio]
    intro s hs
    rcases List.mem_append.mp hs with h | h
    · obtain ⟨n, pid, rfl⟩ := hpre s h
      simp [CStepOK, CEff]
    · simp [flushSteps] at h
      rcases h with rfl | rfl | rfl
      · exact ⟨hsk', by have := hsame.np; omega⟩
      · show nd ≤ (allocA ps).2.1.bm
        omega
      · simp [CStepOK]
  have hfl : ∀ fs : FS, (fs.steps (ioSteps (allocA ps).1)).pj = [] ∧
      (fs.steps (ioSteps (allocA ps).1)).pd.hdr = (allocA ps).2.1.pm ∧
      (fs.steps (ioSteps (allocA ps).1)).pd.bm = (allocA ps).2.1.bm :=
    fun fs => steps_flushed fs _ _ _ ⟨pre, hio⟩
  refine { nofail := hnf, plain := plain_alloc ps, pager := pagerActs_alloc ps, setpm := onlySetPm_alloc ps, lastpm := lastPm_alloc ps _, lastbm := lastBm_alloc ps _,
           sk := hsk', np := hmin, mono := by omega,
           safe := ?_, post := ?_, vol := ?_ }
  · intro fs h
    exact safeAlong_mono (cstep_block _ fs h hS) (fun g hg => allImgsL_mono live g _ _ hg (fun p hp => ⟨_, hp⟩))
  · intro fs h
    have hlast := safeAlong_last (cstep_block _ fs h hS)
    obtain ⟨hpj, hhdr, hbm⟩ := hfl fs
    exact allImgsL_of_inert live _ _ (inert_of_nil hpj)
      ((allImgsL_pd live _ _ hlast).raise (by omega) (by rw [hhdr]; omega) (by rw [hbm]; omega))
  · intro fs
    rw [pv_steps]
    exact st_alloc ps fs.pv

theorem pblk_alloc_eq {nd : Nat} (ps : PS) (hsk : SameKey p0.hdr ps.pm) (hnp : min ps.bm ps.pm.nextPage = nd) :
    PBlk p0 live allowed covered lv lo nd ps (allocA ps).1 [] (nd + 1) (allocA ps).2.1 := by
  have := pblk_alloc (p0 := p0) (live := live) (lo := lo) (allowed := allowed) (covered := covered) (lv := lv) (nd := nd) ps hsk (by omega)
  rwa [hnp] at this

theorem PBlk.alloc {nd0 nd : Nat} {ps0 ps : PS} {a : List Action} {e : List PEff}
    (h : PBlk p0 live allowed covered lv lo nd0 ps0 a e nd ps) :
    PBlk p0 live allowed covered lv lo nd0 ps0 (a ++ (allocA ps).1) e (nd + 1) (allocA ps).2.1 := by
  simpa using h.append (pblk_alloc_eq ps h.sk h.np)

theorem PBlk.write {nd0 nd : Nat} {ps0 ps : PS} {a : List Action} {e : List PEff}
    (h : PBlk p0 live allowed covered lv lo nd0 ps0 a e nd ps) (x : PEff) (pid : Nat)
    (hx : CEff p0 live allowed covered lv lo nd x) :
    PBlk p0 live allowed covered lv lo nd0 ps0 (a ++ [ioA (.pg x pid)]) (e ++ [x]) nd ps :=
  h.append (by simpa [effsOf] using PBlk.steps h.sk h.np [Step.pg x pid] (by intro s hs; simp at hs; subst hs; exact hx))

theorem PBlk.writeIf {nd0 nd : Nat} {ps0 ps : PS} {a : List Action} {e : List PEff} (c : Prop) [Decidable c]
    (h : PBlk p0 live allowed covered lv lo nd0 ps0 a e nd ps) (x : PEff) (pid : Nat)
    (hx : c → CEff p0 live allowed covered lv lo nd x) :
    PBlk p0 live allowed covered lv lo nd0 ps0 (a ++ if c then [ioA (.pg x pid)] else []) (e ++ if c then [x] else []) nd ps := by
  split
  · exact h.write x pid (hx ‹_›)
  · rw [List.append_nil, List.append_nil]; exact h

theorem PBlk.sync {nd0 nd : Nat} {ps0 ps : PS} {a : List Action} {e : List PEff}
    (h : PBlk p0 live allowed covered lv lo nd0 ps0 a e nd ps) :
    PBlk p0 live allowed covered lv lo nd0 ps0 (a ++ [ioA .ps]) e nd ps := by
  simpa [effsOf] using h.append (PBlk.steps h.sk h.np [Step.ps] (by intro s hs; simp at hs; subst hs; trivial))

theorem pblk_segParts (key need : Nat) (edges : List Nat) (hlo : lo ≤ key) :
    ∀ (js : List Nat) (nd : Nat) (ps : PS), SameKey p0.hdr ps.pm → min ps.bm ps.pm.nextPage = nd → key < nd →
      PBlk p0 live allowed covered lv lo nd ps (segPartsA key need edges ps js).1
        (js.map (fun j => PEff.segPart key j need edges)) (nd + js.length) (segPartsA key need edges ps js).2
  | [], nd, ps, hsk, hnp, _ => PBlk.nil hsk hnp
  | j :: js, nd, ps, hsk, hnp, hk => by
    have h0 : PBlk p0 live allowed covered lv lo nd ps [] [] nd ps := PBlk.nil hsk hnp
    have h1 := h0.alloc.write (.segPart key j need edges) (allocA ps).2.2 ⟨hlo, by omega⟩
    have := h1.append (pblk_segParts key need edges hlo js (nd + 1) (allocA ps).2.1 h1.sk h1.np (by omega))
    rw [List.length_cons, ← Nat.add_assoc, Nat.add_right_comm]
    simpa [segPartsA] using this

end Nervus.Crash
