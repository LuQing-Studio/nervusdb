/-
  Proofs.CrashTreeM — property trees with several leaves (after leaf splits): a chain of leaf
  pages whose concatenated keys are sorted, an internal root whose separators are the first keys
  of the leaves after the first.  Point lookups (`route` + `leafFind`, literally the model of
  `internal_child_for_key` / `cursor_lower_bound`) find exactly the keys of the chain.
-/
import Nervus.Proofs.ListBasics
import Nervus.Proofs.CrashTree
namespace Nervus.Crash

def mkLeaves : List (List Nat) → List Nat → List LeafImg
  | [], _ => []
  | xs :: X, pids => ⟨xs.map some, !X.isEmpty, pids.headD 0⟩ :: mkLeaves X pids.tail

def heads (X : List (List Nat)) : List Nat := X.map (fun xs => xs.headD 0)

theorem mkLeaves_length : ∀ (X : List (List Nat)) (pids : List Nat), (mkLeaves X pids).length = X.length
  | [], _ => rfl
  | _ :: X, pids => by simp [mkLeaves, mkLeaves_length X]

theorem mkLeaves_get : ∀ (X : List (List Nat)) (pids : List Nat) (i : Nat) (xs : List Nat), X[i]? = some xs →
    ∃ sib pid, (mkLeaves X pids)[i]? = some ⟨xs.map some, sib, pid⟩
  | [], _, _, _, h => by simp at h
  | ys :: X, pids, 0, xs, h => by
    simp only [List.getElem?_cons_zero, Option.some.injEq] at h
    subst h
    exact ⟨!X.isEmpty, pids.headD 0, by simp [mkLeaves]⟩
  | ys :: X, pids, i + 1, xs, h => by
    obtain ⟨sib, pid, h1⟩ := mkLeaves_get X pids.tail i xs (by simpa using h)
    exact ⟨sib, pid, by simpa [mkLeaves] using h1⟩

theorem mkLeaves_drop : ∀ (X : List (List Nat)) (pids : List Nat) (n : Nat),
    (mkLeaves X pids).drop n = mkLeaves (X.drop n) (pids.drop n)
  | X, pids, 0 => rfl
  | [], pids, n + 1 => by simp [mkLeaves]
  | _ :: X, pids, n + 1 => by
    simp only [mkLeaves, List.drop_succ_cons]
    rw [mkLeaves_drop X pids.tail n]
    cases pids <;> simp

theorem chainFirst_mem : ∀ (Y : List (List Nat)) (pids : List Nat) (q : Nat),
    chainFirst (mkLeaves Y pids) = some (some q) → q ∈ Y.flatten
  | [], _, _, h => by simp [mkLeaves, chainFirst] at h
  | ys :: Y, pids, q, h => by
    cases ys with
    | nil =>
      simp only [mkLeaves, chainFirst, List.map_nil] at h
      split at h
      · simpa using chainFirst_mem Y pids.tail q h
      · cases h
    | cons y ys =>
      simp only [mkLeaves, chainFirst, List.map_cons, Option.some.injEq] at h
      simp [← h]

theorem chainFirst_head (ys : List Nat) (Y : List (List Nat)) (pids : List Nat) (hne : ys ≠ []) :
    chainFirst (mkLeaves (ys :: Y) pids) = some (some (ys.headD 0)) := by
  cases ys with
  | nil => exact absurd rfl hne
  | cons y ys => simp [mkLeaves, chainFirst]

theorem leafFind_sound (X : List (List Nat)) (pids : List Nat) (i q : Nat)
    (h : leafFind (mkLeaves X pids) i q = true) : q ∈ X.flatten := by
  unfold leafFind at h
  cases hx : X[i]? with
  | none =>
    have : (mkLeaves X pids)[i]? = none := by
      rw [List.getElem?_eq_none_iff, mkLeaves_length]
      exact List.getElem?_eq_none_iff.mp hx
    rw [this] at h; cases h
  | some xs =>
    obtain ⟨sib, pid, hl⟩ := mkLeaves_get X pids i xs hx
    rw [hl] at h
    simp only [List.length_map] at h
    have hmem : xs ∈ X := List.mem_of_getElem? hx
    split at h
    · exact List.mem_flatten.mpr ⟨xs, hmem, mem_of_slot xs _ q ‹_› h⟩
    · split at h
      · rw [mkLeaves_drop] at h
        have := chainFirst_mem (X.drop (i + 1)) (pids.drop (i + 1)) q (by simpa using h)
        obtain ⟨ys, hys, hq⟩ := List.mem_flatten.mp this
        exact List.mem_flatten.mpr ⟨ys, List.mem_of_mem_drop hys, hq⟩
      · cases h

theorem sortedNat_iff (xs : List Nat) : SortedNat xs ↔ xs.Pairwise (· ≤ ·) := by
  rw [List.pairwise_iff_getElem]
  constructor
  · intro h i j hi hj hij
    have := h i j hij hj
    simpa [List.getD, List.getElem?_eq_getElem hi, List.getElem?_eq_getElem hj] using this
  · intro h i j hij hj
    have hi : i < xs.length := by omega
    have := h i j hi hj hij
    simpa [List.getD, List.getElem?_eq_getElem hi, List.getElem?_eq_getElem hj] using this

theorem heads_mem (Ys : List (List Nat)) (hne : ∀ ys ∈ Ys, ys ≠ []) : ∀ s ∈ heads Ys, s ∈ Ys.flatten := by
  intro s hs
  obtain ⟨ys, hys, rfl⟩ := List.mem_map.mp hs
  cases ys with
  | nil => exact absurd rfl (hne _ hys)
  | cons y ys => exact List.mem_flatten.mpr ⟨_, hys, by simp⟩

theorem route_locate : ∀ (Ys : List (List Nat)) (y0 : List Nat) (q : Nat),
    (y0 :: Ys).flatten.Pairwise (· ≤ ·) → (∀ ys ∈ Ys, ys ≠ []) → q ∈ (y0 :: Ys).flatten →
    ∃ xs, (y0 :: Ys)[route (heads Ys) q]? = some xs ∧ q ∈ xs
  | [], y0, q, _, _, hq => ⟨y0, by simp [route, heads], by simpa using hq⟩
  | y1 :: Ys, y0, q, hs, hne, hq => by
    have hne1 : y1 ≠ [] := hne y1 (by simp)
    obtain ⟨h1, t1, rfl⟩ : ∃ h1 t1, y1 = h1 :: t1 := by
      cases y1 with
      | nil => exact absurd rfl hne1
      | cons a b => exact ⟨a, b, rfl⟩
    have hs' : ((h1 :: t1) :: Ys).flatten.Pairwise (· ≤ ·) := by
      simp only [List.flatten_cons] at hs ⊢
      exact (List.pairwise_append.mp hs).2.1
    have hcross : ∀ a ∈ y0, ∀ b ∈ ((h1 :: t1) :: Ys).flatten, a ≤ b := by
      simp only [List.flatten_cons] at hs ⊢
      exact (List.pairwise_append.mp hs).2.2
    have hmin : ∀ z ∈ ((h1 :: t1) :: Ys).flatten, h1 ≤ z := by
      intro z hz
      simp only [List.flatten_cons, List.cons_append] at hs' hz
      rcases List.mem_cons.mp hz with rfl | hz
      · exact Nat.le_refl _
      · exact (List.pairwise_cons.mp hs').1 z hz
    have hheads : heads ((h1 :: t1) :: Ys) = h1 :: heads Ys := rfl
    by_cases hle : h1 ≤ q
    · have hq' : q ∈ ((h1 :: t1) :: Ys).flatten := by
        simp only [List.flatten_cons, List.mem_append] at hq
        rcases hq with hq | hq
        · have h2 := hcross q hq h1 (by simp)
          have : q = h1 := by omega
          rw [this]; simp
        · simp only [List.flatten_cons, List.mem_append]; simpa using hq
      obtain ⟨xs, hx, hqx⟩ := route_locate Ys (h1 :: t1) q hs' (fun ys hys => hne ys (by simp [hys])) hq'
      refine ⟨xs, ?_, hqx⟩
      have : route (heads ((h1 :: t1) :: Ys)) q = route (heads Ys) q + 1 := by
        simp [hheads, route, hle]
      rw [this]
      simpa using hx
    · have hr : route (heads ((h1 :: t1) :: Ys)) q = 0 := by
        simp only [route, List.length_eq_zero_iff, List.filter_eq_nil_iff, decide_eq_true_eq]
        intro s hs2
        have := hmin s (heads_mem _ hne s hs2)
        omega
      rw [hr]
      refine ⟨y0, by simp, ?_⟩
      simp only [List.flatten_cons, List.mem_append] at hq
      rcases hq with hq | hq
      · exact hq
      · have := hmin q (by simp only [List.flatten_cons, List.mem_append]; simpa using hq); omega

/-- The first leaf of `X` may be empty (the tree as `treeNew` creates it); the later ones are not,
    their first keys are the separators of the internal root. -/
structure TreeShape (t : TreeImg) (X : List (List Nat)) (top : Bool) : Prop where
  ne : X ≠ []
  leaves : ∃ pids, t.leaves = mkLeaves X pids
  sorted : SortedNat X.flatten
  tail : ∀ ys ∈ X.tail, ys ≠ []
  inode : if top then t.inode = some (heads X.tail) else (t.inode = none ∧ X.tail = [])

theorem treeHas_iff {p : PImg} {key : Nat} {t : TreeImg} {X : List (List Nat)} {top : Bool}
    (hf : p.trees.find? (fun t => t.key == key) = some t) (h : TreeShape t X top) (q : Nat) :
    treeHas p key top q = true ↔ q ∈ X.flatten ∧ q ∈ t.blobs := by
  obtain ⟨pids, hl⟩ := h.leaves
  obtain ⟨y0, Ys, rfl⟩ : ∃ y0 Ys, X = y0 :: Ys := by
    cases X with
    | nil => exact absurd rfl h.ne
    | cons a b => exact ⟨a, b, rfl⟩
  have hsp := (sortedNat_iff _).mp h.sorted
  have hfind : ∀ i, (leafFind t.leaves i q = true → q ∈ (y0 :: Ys).flatten) := by
    intro i hi; rw [hl] at hi; exact leafFind_sound _ _ _ _ hi
  have hcomplete : q ∈ (y0 :: Ys).flatten → leafFind t.leaves (route (heads Ys) q) q = true := by
    intro hq
    obtain ⟨xs, hx, hqx⟩ := route_locate Ys y0 q hsp h.tail hq
    obtain ⟨sib, pid, hg⟩ := mkLeaves_get (y0 :: Ys) pids _ xs hx
    rw [hl]
    refine leafFind_at _ _ xs sib pid hg ?_ q hqx
    rw [sortedNat_iff]
    have hmem : xs ∈ (y0 :: Ys) := List.mem_of_getElem? hx
    exact List.Pairwise.sublist (List.sublist_flatten_of_mem hmem) hsp
  have hin := h.inode
  simp only [treeHas, hf, Bool.and_eq_true, List.contains_iff_mem]
  cases top with
  | true =>
    simp only [if_true] at hin ⊢
    simp only [List.tail_cons] at hin
    rw [hin]
    constructor
    · rintro ⟨h1, h2⟩; exact ⟨hfind _ h1, h2⟩
    · rintro ⟨h1, h2⟩; exact ⟨hcomplete h1, h2⟩
  | false =>
    simp only [Bool.false_eq_true, if_false] at hin ⊢
    have hYs : Ys = [] := by simpa using hin.2
    subst hYs
    constructor
    · rintro ⟨h1, h2⟩; exact ⟨hfind _ h1, h2⟩
    · rintro ⟨h1, h2⟩
      have := hcomplete h1
      simp only [heads, List.map_nil, route, List.filter_nil, List.length_nil] at this
      exact ⟨this, h2⟩

theorem treeShape_single (t : TreeImg) (xs : List Nat) (pid : Nat) (hl : t.leaves = [⟨xs.map some, false, pid⟩])
    (hs : SortedNat xs) (hi : t.inode = none) : TreeShape t [xs] false :=
  ⟨by simp, ⟨[pid], by simp [hl, mkLeaves]⟩, by simpa using hs, by simp, by simp [hi]⟩

theorem treeShape_single_inv {t : TreeImg} {X : List (List Nat)} (h : TreeShape t X false) :
    ∃ xs pid, X = [xs] ∧ t.leaves = [⟨xs.map some, false, pid⟩] ∧ SortedNat xs ∧ t.inode = none := by
  obtain ⟨pids, hl⟩ := h.leaves
  have hin := h.inode
  simp only [Bool.false_eq_true, if_false] at hin
  cases X with
  | nil => exact absurd rfl h.ne
  | cons xs Y =>
    have hY : Y = [] := by simpa using hin.2
    subst hY
    exact ⟨xs, pids.headD 0, rfl, by simp [hl, mkLeaves], by simpa using h.sorted, hin.1⟩

theorem mkLeaves_snoc_len (Xi : List (List Nat)) (last : List Nat) (pids : List Nat) :
    (mkLeaves (Xi ++ [last]) pids).length = Xi.length + 1 := by
  rw [mkLeaves_length]; simp

theorem mkLeaves_snoc_get : ∀ (Xi : List (List Nat)) (last : List Nat) (pids : List Nat) (d : LeafImg),
    ∃ p, (mkLeaves (Xi ++ [last]) pids).getD Xi.length d = ⟨last.map some, false, p⟩
  | [], last, pids, d => ⟨pids.headD 0, by simp [mkLeaves]⟩
  | x :: Xi, last, pids, d => by
    obtain ⟨p, hp⟩ := mkLeaves_snoc_get Xi last pids.tail d
    exact ⟨p, by simpa [mkLeaves] using hp⟩

theorem setLeaf_snoc : ∀ (Xi : List (List Nat)) (last ys : List Nat) (pids : List Nat) (pid : Nat),
    ∃ pids', setLeaf (mkLeaves (Xi ++ [last]) pids) Xi.length ⟨ys.map some, false, pid⟩ = mkLeaves (Xi ++ [ys]) pids'
  | [], last, ys, pids, pid => ⟨[pid], by simp [mkLeaves, setLeaf]⟩
  | x :: Xi, last, ys, pids, pid => by
    obtain ⟨pids', h⟩ := setLeaf_snoc Xi last ys pids.tail pid
    refine ⟨pids.headD 0 :: pids', ?_⟩
    have e : (Xi ++ [last]).isEmpty = (Xi ++ [ys]).isEmpty := by cases Xi <;> rfl
    simp [mkLeaves, setLeaf, h, e]

theorem setLeaf_split : ∀ (Xi : List (List Nat)) (last L R : List Nat) (pids : List Nat) (p1 p2 : Nat),
    ∃ pids', setLeaf (setLeaf (mkLeaves (Xi ++ [last]) pids) Xi.length ⟨L.map some, true, p1⟩) (Xi.length + 1) ⟨R.map some, false, p2⟩ =
      mkLeaves (Xi ++ [L, R]) pids'
  | [], last, L, R, pids, p1, p2 => ⟨[p1, p2], by simp [mkLeaves, setLeaf]⟩
  | x :: Xi, last, L, R, pids, p1, p2 => by
    obtain ⟨pids', h⟩ := setLeaf_split Xi last L R pids.tail p1 p2
    refine ⟨pids.headD 0 :: pids', ?_⟩
    have e : (Xi ++ [last]).isEmpty = (Xi ++ [L, R]).isEmpty := by cases Xi <;> rfl
    simp [mkLeaves, setLeaf, h, e]

theorem heads_snoc (Xi : List (List Nat)) (ys : List Nat) : heads (Xi ++ [ys]) = heads Xi ++ [ys.headD 0] := by
  simp [heads]

theorem heads_tail_snoc (Xi : List (List Nat)) (a b : List Nat) (h : Xi ≠ [] → a.headD 0 = b.headD 0) :
    heads (Xi ++ [a]).tail = heads (Xi ++ [b]).tail := by
  cases Xi with
  | nil => rfl
  | cons x Xi =>
    simp only [List.cons_append, List.tail_cons, heads_snoc]
    rw [h (by simp)]

theorem treeShape_top {t : TreeImg} {X : List (List Nat)} {top : Bool} (h : TreeShape t X top) : t.inode.isSome = top := by
  have := h.inode
  cases top with
  | true => simp only [if_true] at this; rw [this]; rfl
  | false => simp only [Bool.false_eq_true, if_false] at this; rw [this.1]; rfl

theorem headD_append_ne (a b : List Nat) (h : a ≠ []) : (a ++ b).headD 0 = a.headD 0 := by
  rw [List.headD_eq_head?_getD, List.headD_eq_head?_getD, head?_append_of_ne_nil b h]

theorem headD_take (a : List Nat) (n : Nat) (hn : 1 ≤ n) : (a.take n).headD 0 = a.headD 0 := by
  cases a with
  | nil => simp
  | cons x xs =>
    cases n with
    | zero => omega
    | succ n => rfl

theorem treeShape_setLast {t t' : TreeImg} {Xi : List (List Nat)} {last ys : List Nat} {top : Bool}
    (h : TreeShape t (Xi ++ [last]) top) (p : Nat)
    (hl : t'.leaves = setLeaf t.leaves Xi.length ⟨ys.map some, false, p⟩) (hi : t'.inode = t.inode)
    (hs : SortedNat (Xi ++ [ys]).flatten) (hne : Xi ≠ [] → ys ≠ [] ∧ ys.headD 0 = last.headD 0) :
    TreeShape t' (Xi ++ [ys]) top := by
  obtain ⟨pids, hlv⟩ := h.leaves
  obtain ⟨pids', hs'⟩ := setLeaf_snoc Xi last ys pids p
  refine ⟨by simp, ⟨pids', by rw [hl, hlv]; exact hs'⟩, hs, ?_, ?_⟩
  · intro zs hzs
    cases Xi with
    | nil => simp at hzs
    | cons x Xs =>
      simp only [List.cons_append, List.tail_cons, List.mem_append, List.mem_singleton] at hzs
      rcases hzs with hzs | rfl
      · exact h.tail zs (by simp [hzs])
      · exact (hne (by simp)).1
  · have hin := h.inode
    rw [hi]
    cases top with
    | true =>
      simp only [if_true] at hin ⊢
      rw [hin]
      congr 1
      exact heads_tail_snoc Xi last ys (fun hx => (hne hx).2.symm)
    | false =>
      simp only [Bool.false_eq_true, if_false] at hin ⊢
      refine ⟨hin.1, ?_⟩
      have : Xi = [] := by
        cases Xi with
        | nil => rfl
        | cons x Xs => simp at hin
      subst this; rfl

theorem TreeShape.inode_getD {t : TreeImg} {X : List (List Nat)} {top : Bool} (h : TreeShape t X top) :
    t.inode.getD [] = heads X.tail := by
  have hin := h.inode
  cases top with
  | true => simp only [if_true] at hin; rw [hin]; rfl
  | false => simp only [Bool.false_eq_true, if_false] at hin; rw [hin.1, hin.2]; rfl

/-- `hi` covers both split branches of `sinkOneA`: a new root `[sep]` when there was none,
    `seps ++ [sep]` otherwise. -/
theorem treeShape_split {t t' : TreeImg} {Xi : List (List Nat)} {last L R : List Nat} {top : Bool}
    (h : TreeShape t (Xi ++ [last]) top) (p rp : Nat)
    (hl : t'.leaves = setLeaf (setLeaf t.leaves Xi.length ⟨L.map some, true, p⟩) (Xi.length + 1) ⟨R.map some, false, rp⟩)
    (hi : t'.inode = some (t.inode.getD [] ++ [R.headD 0]))
    (hs : SortedNat (Xi ++ [L, R]).flatten) (hL : L ≠ []) (hR : R ≠ []) (hhd : Xi ≠ [] → L.headD 0 = last.headD 0) :
    TreeShape t' (Xi ++ [L, R]) true := by
  obtain ⟨pids, hlv⟩ := h.leaves
  obtain ⟨pids', hs'⟩ := setLeaf_split Xi last L R pids p rp
  have htail : (Xi ++ [L, R]).tail = (Xi ++ [L]).tail ++ [R] := by cases Xi <;> simp
  refine ⟨by simp, ⟨pids', by rw [hl, hlv]; exact hs'⟩, hs, fun ys hys => ?_, ?_⟩
  · rw [htail] at hys
    rcases List.mem_append.mp hys with hys | hys
    · cases Xi with
      | nil => simp at hys
      | cons x Xs =>
        simp only [List.cons_append, List.tail_cons, List.mem_append, List.mem_singleton] at hys
        rcases hys with hys | rfl
        · exact h.tail ys (by simp [hys])
        · exact hL
    · rw [List.mem_singleton.mp hys]; exact hR
  · simp only [if_true]
    rw [hi, h.inode_getD, htail, heads_snoc, heads_tail_snoc Xi last L fun hx => (hhd hx).symm]

theorem filterMap_id_map_some (xs : List Nat) : (xs.map some).filterMap id = xs := by
  rw [List.filterMap_map]; exact List.filterMap_some

theorem entries_mkLeaves : ∀ (X : List (List Nat)) (pids : List Nat),
    (mkLeaves X pids).flatMap (fun l => l.entries.filterMap id) = X.flatten
  | [], _ => rfl
  | xs :: X, pids => by simp [mkLeaves, entries_mkLeaves X]

end Nervus.Crash
