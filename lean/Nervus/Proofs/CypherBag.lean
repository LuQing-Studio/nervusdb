/-
  C11, the reference side of "one MATCH clause, then core clauses": the reference's core clauses are congruent under
  "same bag of rows, up to column order, after erasing a hidden column" — what relates the rows of a MATCH plan (which
  carry the hidden `__nervus_internal_path_N` column, come in the engine's enumeration order and, for incoming /
  undirected hops, bind the destination before the relationship variable) to the reference's rows.
-/
import Nervus.Proofs.CypherCore
import Nervus.Proofs.CypherExpand
namespace Nervus.Cy
open Nervus.Cy Nervus.Cy.Compile

variable (A : Algebra) (env : Env)

theorem eval_congr (r r' : Row) (e : Expr) (h : ∀ x ∈ e.vars, r.get x = r'.get x) :
    eval A env r e = eval A env r' e := by
  induction e with
  | var x => simp only [eval, h x (by simp [Expr.vars])]
  | prop x k => simp only [eval, h x (by simp [Expr.vars])]
  | cmp op a b iha ihb =>
    simp only [Expr.vars, List.mem_append] at h
    simp only [eval, iha fun x hx => h x (Or.inl hx), ihb fun x hx => h x (Or.inr hx)]
  | bool op a b iha ihb =>
    simp only [Expr.vars, List.mem_append] at h
    simp only [eval, iha fun x hx => h x (Or.inl hx), ihb fun x hx => h x (Or.inr hx)]
  | not a ih | isNull a ih | isNotNull a ih | hasLabel a l ih => simp only [eval, ih h]
  | _ => rfl

theorem eval_eraseCol (pa : String) (r : Row) (e : Expr) (h : pa ∉ e.vars) :
    eval A env (eraseCol pa r) e = eval A env r e :=
  eval_congr A env _ _ e fun x hx => get_eraseCol_ne pa x r fun hxp => h (hxp ▸ hx)

theorem not_mem_vars_of_exprOk (s : List String) (e : Expr) (pa : String) (hs : pa ∉ s)
    (he : Spec.exprOk s e = true) : pa ∉ e.vars :=
  fun h => hs ((exprOk_iff s e).mp he pa h)

theorem eraseCol_of_not_mem (pa : String) (r : Row) (h : pa ∉ r.cols) : eraseCol pa r = r := by
  unfold eraseCol
  rw [List.filter_eq_self]
  intro p hp
  have : p.1 ≠ pa := fun hh => h (hh ▸ List.mem_map_of_mem (f := (·.1)) hp)
  simpa using this

theorem map_erase_id (pa : String) (X : Table) (h : ∀ r ∈ X, pa ∉ r.cols) : X.map (eraseCol pa) = X := by
  rw [List.map_congr_left fun r hr => eraseCol_of_not_mem pa r (h r hr), List.map_id']

theorem eval_equiv (r r' : Row) (h : Row.Equiv r r') (e : Expr) : eval A env r e = eval A env r' e :=
  eval_congr A env r r' e fun x _ => h x

theorem Row.Equiv.set {r r' : Row} (h : Row.Equiv r r') (x : String) (v : Val) :
    Row.Equiv (r.set x v) (r'.set x v) := by
  intro y
  by_cases hy : y = x
  · subst hy; rw [Row.get_set_self, Row.get_set_self]
  · rw [Row.get_set_ne r x y v hy, Row.get_set_ne r' x y v hy]; exact h y

theorem RowsEquiv.filter {X Y : Table} (h : RowsEquiv X Y) (p : Row → Bool)
    (hp : ∀ r r', Row.Equiv r r' → p r = p r') : RowsEquiv (X.filter p) (Y.filter p) := by
  fun_induction RowsEquiv X Y with
  | case1 => trivial
  | case2 a as b bs ih =>
    simp only [List.filter_cons, hp a b h.1]
    cases p b
    · exact ih h.2
    · exact ⟨h.1, ih h.2⟩
  | case3 => exact h.elim

theorem RowsEquiv.flatMap₂ {X Y : Table} (h : RowsEquiv X Y) (f : Row → Table)
    (hf : ∀ r r', Row.Equiv r r' → RowsEquiv (f r) (f r')) : RowsEquiv (X.flatMap f) (Y.flatMap f) := by
  fun_induction RowsEquiv X Y with
  | case1 => trivial
  | case2 a as b bs ih => simp only [List.flatMap_cons]; exact RowsEquiv.append (hf a b h.1) (ih h.2)
  | case3 => exact h.elim

theorem RowsEquiv.map_eq {X Y : Table} (h : RowsEquiv X Y) {β} (f : Row → β)
    (hf : ∀ r r', Row.Equiv r r' → f r = f r') : X.map f = Y.map f := by
  fun_induction RowsEquiv X Y with
  | case1 => rfl
  | case2 a as b bs ih => simp only [List.map_cons, hf a b h.1, ih h.2]
  | case3 => exact h.elim

/-- model table `T'` against reference table `T`: the same bag once the hidden column `pa` is erased -/
def HRel (pa : String) (T' T : Table) : Prop := (T'.map (eraseCol pa)).Perm T

/-- model table against reference table: same bag up to column order once the hidden column is erased -/
def HRelE (pa : String) (T' T : Table) : Prop := TableEquiv (T'.map (eraseCol pa)) T

theorem HRel.toE {pa : String} {T' T : Table} (h : HRel pa T' T) : HRelE pa T' T := ⟨T, h, RowsEquiv.refl T⟩

theorem HRel.of_perm {pa : String} {X Y : Table} (h : X.Perm Y) (hX : ∀ r ∈ X, pa ∉ r.cols) : HRel pa X Y := by
  unfold HRel
  rw [map_erase_id pa X hX]
  exact h

theorem HRel.filter (pa : String) (T' T : Table) (h : HRel pa T' T) (e : Expr) (he : pa ∉ e.vars) :
    HRel pa (T'.filter (evalBool A env · e)) (T.filter (evalBool A env · e)) := by
  unfold HRel at *
  have : (T'.filter (evalBool A env · e)).map (eraseCol pa) =
      (T'.map (eraseCol pa)).filter (evalBool A env · e) := by
    rw [List.filter_map]
    congr 1
    apply List.filter_congr
    intro r _
    simp only [Function.comp, evalBool, eval_eraseCol A env pa r e he]
  rw [this]
  exact h.filter _

theorem HRelE.filter (pa : String) (T' T : Table) (h : HRelE pa T' T) (e : Expr) (he : pa ∉ e.vars) :
    HRelE pa (T'.filter (evalBool A env · e)) (T.filter (evalBool A env · e)) := by
  obtain ⟨T'', hp, heq⟩ := h
  exact ⟨_, HRel.filter A env pa T' T'' hp e he,
    heq.filter _ fun r r' hr => by simp only [evalBool, eval_equiv A env r r' hr]⟩

theorem denoteUnwind_erase (pa : String) (T' : Table) (e : Expr) (x : String) (he : pa ∉ e.vars) (hx : x ≠ pa) :
    (Spec.denoteUnwind A env e x T').map (eraseCol pa) = Spec.denoteUnwind A env e x (T'.map (eraseCol pa)) := by
  unfold Spec.denoteUnwind
  rw [List.map_flatMap, List.flatMap_map]
  apply flatMap_congr_mem
  intro r _
  rw [eval_eraseCol A env pa r e he]
  cases eval A env r e <;> simp [eraseCol_set_ne pa x r _ hx, List.map_map, Function.comp_def]

theorem denoteUnwind_equiv (e : Expr) (x : String) (r r' : Row) (h : Row.Equiv r r') :
    RowsEquiv (Spec.denoteUnwind A env e x [r]) (Spec.denoteUnwind A env e x [r']) := by
  simp only [Spec.denoteUnwind, List.flatMap_cons, List.flatMap_nil, List.append_nil, eval_equiv A env r r' h]
  cases eval A env r' e with
  | list xs =>
    induction xs with
    | nil => trivial
    | cons y ys ih => exact ⟨h.set x _, ih⟩
  | null => trivial
  | _ => exact ⟨h.set x _, trivial⟩

theorem HRelE.unwind (pa : String) (T' T : Table) (h : HRelE pa T' T) (e : Expr) (x : String) (he : pa ∉ e.vars)
    (hx : x ≠ pa) : HRelE pa (Spec.denoteUnwind A env e x T') (Spec.denoteUnwind A env e x T) := by
  obtain ⟨T'', hp, heq⟩ := h
  refine ⟨Spec.denoteUnwind A env e x T'', ?_, ?_⟩
  · rw [denoteUnwind_erase A env pa T' e x he hx]
    exact hp.flatMap_right _
  · have hflat : ∀ X : Table, Spec.denoteUnwind A env e x X = X.flatMap fun r => Spec.denoteUnwind A env e x [r] := by
      intro X
      simp [Spec.denoteUnwind]
    rw [hflat T'', hflat T]
    exact heq.flatMap₂ _ (denoteUnwind_equiv A env e x)

/-! ### projections without SKIP / LIMIT (`bagProj`) -/

def projOut (p : Proj) (r : Row) : Row := p.items.map fun it => (it.alias, Spec.itemVal A env [r] it)

theorem projOut_cols (p : Proj) (r : Row) : (projOut A env p r).cols = p.items.map (·.alias) := by
  simp [projOut, Row.cols, List.map_map, Function.comp_def]

theorem dedup_nodup (L : Table) : (Spec.dedupBy id L).Nodup := by
  induction L with
  | nil => exact List.nodup_nil
  | cons x xs ih =>
    exact List.nodup_cons.mpr ⟨fun h => by simpa using (List.mem_filter.mp h).2, ih.sublist List.filter_sublist⟩

theorem mem_dedup (L : Table) (a : Row) : a ∈ Spec.dedupBy id L ↔ a ∈ L := by
  induction L with
  | nil => simp [Spec.dedupBy]
  | cons x xs ih =>
    simp only [Spec.dedupBy, id, List.mem_cons, List.mem_filter, ih, bne_iff_ne, ne_eq]
    by_cases hax : a = x <;> simp [hax]

theorem dedup_perm (L' L : Table) (h : L'.Perm L) : (Spec.dedupBy id L').Perm (Spec.dedupBy id L) := by
  rw [List.perm_ext_iff_of_nodup (dedup_nodup L') (dedup_nodup L)]
  intro a
  rw [mem_dedup, mem_dedup]
  exact h.mem_iff

def projTable (p : Proj) (T : Table) : Table :=
  if p.distinct then Spec.dedupBy id (T.map (projOut A env p)) else T.map (projOut A env p)

theorem bagProj_iff (p : Proj) :
    bagProj p = true ↔ p.items.any Spec.isAgg = false ∧ p.orderBy = [] ∧ p.skip = none ∧ p.limit = none := by
  simp [bagProj, coreProj, and_assoc]

theorem denoteProj_bag (p : Proj) (T : Table) (hb : bagProj p = true) :
    Spec.denoteProj A env p none T = .ok (projTable A env p T) := by
  obtain ⟨hplain, hord, hskip, hlim⟩ := (bagProj_iff p).mp hb
  have hfst : (Spec.projectRows A env p T).map (·.1) = T.map (projOut A env p) := by
    simp [Spec.projectRows, hplain, List.map_map, Function.comp_def, projOut]
  unfold projTable
  cases hd : p.distinct <;>
    simp only [Spec.denoteProj, Spec.window, hskip, hlim, hord, hd, bind, Except.bind, pure, Except.pure,
      List.isEmpty_nil, ↓reduceIte, Bool.false_eq_true, dedupBy_map_fst, hfst]

theorem projTable_cols (pa : String) (p : Proj) (T : Table) (hal : pa ∉ p.items.map (·.alias)) :
    ∀ r ∈ projTable A env p T, pa ∉ r.cols := by
  intro r hr
  have hmem : r ∈ T.map (projOut A env p) := by
    unfold projTable at hr
    split at hr
    · exact (mem_dedup _ r).mp hr
    · exact hr
  obtain ⟨r0, _, rfl⟩ := List.mem_map.mp hmem
  rwa [projOut_cols]

theorem projOut_erase (pa : String) (p : Proj) (s : List String) (hs : pa ∉ s)
    (hitems : p.items.all (fun it => match it.expr with | .plain e => Spec.exprOk s e | .agg _ a => Spec.exprOk s a) = true)
    (hplain : p.items.any Spec.isAgg = false) (r : Row) :
    projOut A env p (eraseCol pa r) = projOut A env p r := by
  unfold projOut
  apply List.map_congr_left
  intro it hit
  have h1 := List.all_eq_true.mp hitems it hit
  have h2 : Spec.isAgg it = false := by simpa using List.any_eq_false.mp hplain it hit
  obtain ⟨ex, al⟩ := it
  cases ex with
  | plain e =>
    simp only at h1
    simp only [Spec.itemVal, eval_eraseCol A env pa r e (not_mem_vars_of_exprOk s e pa hs h1)]
  | agg k a => simp [Spec.isAgg] at h2

theorem projOut_equiv (p : Proj) (r r' : Row) (h : Row.Equiv r r') : projOut A env p r = projOut A env p r' := by
  unfold projOut
  apply List.map_congr_left
  intro it _
  obtain ⟨ex, al⟩ := it
  cases ex with
  | plain e => simp only [Spec.itemVal, eval_equiv A env r r' h]
  | agg k a => cases k <;> simp [Spec.itemVal, eval_equiv A env r r' h]

/-- a projection brings `HRelE` back to the plain `HRel` -/
theorem HRelE.proj (pa : String) (T' T : Table) (h : HRelE pa T' T) (p : Proj) (s : List String) (hs : pa ∉ s)
    (hitems : p.items.all (fun it => match it.expr with | .plain e => Spec.exprOk s e | .agg _ a => Spec.exprOk s a) = true)
    (hplain : p.items.any Spec.isAgg = false) (hal : pa ∉ p.items.map (·.alias)) :
    HRel pa (T'.map (projOut A env p)) (T.map (projOut A env p)) := by
  obtain ⟨T'', hp, heq⟩ := h
  unfold HRel
  have : (T'.map (projOut A env p)).map (eraseCol pa) = (T'.map (eraseCol pa)).map (projOut A env p) := by
    rw [List.map_map, List.map_map]
    apply List.map_congr_left
    intro r _
    simp only [Function.comp, projOut_erase A env pa p s hs hitems hplain r]
    exact eraseCol_of_not_mem pa _ (by rwa [projOut_cols])
  rw [this, ← heq.map_eq _ (projOut_equiv A env p)]
  exact hp.map _

/-- … also under DISTINCT; the projected rows have no hidden column, so a plain permutation is left -/
theorem HRelE.projT (pa : String) (T' T : Table) (h : HRelE pa T' T) (p : Proj) (s : List String) (hs : pa ∉ s)
    (hitems : p.items.all (fun it => match it.expr with | .plain e => Spec.exprOk s e | .agg _ a => Spec.exprOk s a) = true)
    (hplain : p.items.any Spec.isAgg = false) (hal : pa ∉ p.items.map (·.alias)) :
    (projTable A env p T').Perm (projTable A env p T) := by
  have h0 := HRelE.proj A env pa T' T h p s hs hitems hplain hal
  unfold HRel at h0
  rw [map_erase_id pa _ fun r hr => by obtain ⟨r0, _, rfl⟩ := List.mem_map.mp hr; rwa [projOut_cols]] at h0
  unfold projTable
  cases p.distinct
  · exact h0
  · exact dedup_perm _ _ h0

theorem projOk_items {s : List String} {p : Proj} {w : Option Expr} (h : Spec.projOk s p w = true) :
    p.items.all (fun it => match it.expr with | .plain e => Spec.exprOk s e | .agg _ a => Spec.exprOk s a) = true := by
  simp only [Spec.projOk, Bool.and_eq_true] at h
  exact h.1.1.2

/-! ### the reference's core clauses respect `HRelE` -/

theorem denote_bag_congrE (pa : String) (q : Query) (b : Bool) : ∀ (s s' : List String) (T' T : Table),
    bagClauses b q = true → Spec.scopeAfter s q = some s' → pa ∉ s → pa ∉ introduced q → HRelE pa T' T →
    ∃ R' R, Spec.denoteClauses A env q T' = .ok R' ∧ Spec.denoteClauses A env q T = .ok R ∧
      R'.rows.Perm R.rows := by
  fun_induction bagClauses b q with
  | case1 b p =>
    intro s s' T' T hc hs hpa hin hrel
    simp only [Spec.scopeAfter, List.isEmpty_nil, Bool.and_true, Option.ite_none_right_eq_some] at hs
    simp only [introduced, List.append_nil] at hin
    have hord := ((bagProj_iff p).mp hc).2.1
    refine ⟨.bag (projTable A env p T'), .bag (projTable A env p T), ?_, ?_,
      HRelE.projT A env pa T' T hrel p s hpa (projOk_items hs.1) ((bagProj_iff p).mp hc).1 hin⟩ <;>
      simp [Spec.denoteClauses, denoteProj_bag A env p _ hc, bind, Except.bind, pure, Except.pure, hord]
  | case2 b e x q ih =>
    intro s s' T' T hc hs hpa hin hrel
    simp only [Spec.scopeAfter, Option.ite_none_right_eq_some, Bool.and_eq_true] at hs
    simp only [introduced, List.mem_cons, not_or] at hin
    simp only [Spec.denoteClauses]
    refine ih (s ++ [x]) s' _ _ hc hs.2 ?_ hin.2
      (HRelE.unwind A env pa T' T hrel e x (not_mem_vars_of_exprOk s e pa hpa hs.1.1) (fun h => hin.1 h.symm))
    simp only [List.mem_append, List.mem_singleton, not_or]
    exact ⟨hpa, hin.1⟩
  | case3 b p q ih =>
    intro s s' T' T hc hs hpa hin hrel
    simp only [Bool.and_eq_true] at hc
    simp only [Spec.scopeAfter, Option.ite_none_right_eq_some] at hs
    simp only [introduced, List.mem_append, not_or] at hin
    simp only [Spec.denoteClauses, denoteProj_bag A env p _ hc.1, bind, Except.bind]
    exact ih _ s' _ _ hc.2 hs.2 hin.1 hin.2 (HRel.of_perm
      (HRelE.projT A env pa T' T hrel p s hpa (projOk_items hs.1) ((bagProj_iff p).mp hc.1).1 hin.1)
      (projTable_cols A env pa p T' hin.1)).toE
  | case4 e q ih =>
    intro s s' T' T hc hs hpa hin hrel
    simp only [Spec.scopeAfter, Option.ite_none_right_eq_some] at hs
    simp only [Spec.denoteClauses]
    exact ih s s' _ _ hc hs.2 hpa (by simpa [introduced] using hin)
      (HRelE.filter A env pa T' T hrel e (not_mem_vars_of_exprOk s e pa hpa hs.1))
  | case5 => intro s s' T' T hc; cases hc

end Nervus.Cy
