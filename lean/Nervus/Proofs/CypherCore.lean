/-
  The clause-list induction of C11 on the relational core (UNWIND / WHERE / WITH / RETURN without aggregates and
  ORDER BY): compile never fails on a well-scoped query except for an invalid SKIP / LIMIT, and the compiled plan
  evaluates to exactly the list of rows the reference denotes.
-/
import Nervus.Proofs.CypherOps
import Nervus.Model.QRun
namespace Nervus.Cy
open Nervus.Cy Nervus.Cy.Compile

variable (A : Algebra) (env : Env)

/-! ### the compile-time scope (`extract_output_var_kinds`) against the reference scope -/

theorem lookup_insertSorted {β} (m : List (String × β)) (k : String) (v : β) (x : String) :
    (insertSorted m k v).lookup x = if x == k then some v else m.lookup x := by
  fun_induction insertSorted m k v with
  | case1 => simp only [List.lookup]; cases x == k <;> rfl
  | case2 k' v' rest h => simp only [List.lookup]; cases x == k <;> rfl
  | case3 k' v' rest h1 h2 =>
    have : k = k' := by simpa using h2
    subst this
    simp only [List.lookup]; cases x == k <;> rfl
  | case4 k' v' rest h1 h2 ih =>
    simp only [List.lookup, ih]
    cases hx' : x == k' <;> cases hx : x == k <;> try rfl
    exact absurd ((eq_of_beq hx).symm.trans (eq_of_beq hx')) (by simpa using h2)

theorem lookup_filter_key {β} (m : List (String × β)) (P : String → Bool) (x : String) :
    (m.filter fun p => P p.1).lookup x = if P x then m.lookup x else none := by
  split
  · next h => exact lookup_filter_of_keep _ fun _ => h
  · next h => exact lookup_filter_of_drop _ fun _ => Bool.eq_false_iff.mpr h

/-- the compile-time kinds describe the reference scope: the same variables, none of them a path or a
    relationship list (the kinds on which property access is a compile error) -/
def KOk (K : Kinds) (s : List String) : Prop :=
  ∀ v, (v ∈ s ↔ (K.lookup v).isSome = true) ∧ K.lookup v ≠ some .path ∧ K.lookup v ≠ some .relList

theorem KOk_nil : KOk [] [] := by intro v; simp [List.lookup]

theorem KOk.congr {K : Kinds} {s s' : List String} (h : KOk K s) (hs : ∀ v, v ∈ s' ↔ v ∈ s) : KOk K s' :=
  fun v => ⟨(hs v).trans (h v).1, (h v).2⟩

theorem KOk.insert {K : Kinds} {s : List String} (h : KOk K s) (k : String) (v : Kind)
    (hv : v ≠ .path ∧ v ≠ .relList) : KOk (insertSorted K k v) (s ++ [k]) := by
  intro x
  rw [lookup_insertSorted, List.mem_append, List.mem_singleton]
  by_cases hx : x = k
  · rw [if_pos (beq_iff_eq.mpr hx)]
    exact ⟨⟨fun _ => rfl, fun _ => Or.inr hx⟩, fun h => hv.1 (Option.some.inj h), fun h => hv.2 (Option.some.inj h)⟩
  · rw [if_neg fun hh => hx (beq_iff_eq.mp hh)]
    exact ⟨⟨fun hm => (h x).1.mp (hm.resolve_right hx), fun hm => Or.inl ((h x).1.mpr hm)⟩, (h x).2⟩

theorem KOk.merge {K : Kinds} {s : List String} (h : KOk K s) (k : String) (v : Kind)
    (hv : v ≠ .path ∧ v ≠ .relList) : KOk (mergeKind K k v) (s ++ [k]) := by
  unfold mergeKind
  split
  · split
    · exact h.congr fun x => by
        rw [List.mem_append, List.mem_singleton, (h x).1]
        exact ⟨fun hx => hx.elim id fun hk => by simp_all, Or.inl⟩
    · exact h.insert k .unknown ⟨by simp, by simp⟩
  · exact h.insert k v hv

theorem KOk_singleton (a : String) : KOk [(a, Kind.node)] [a] := KOk_nil.insert a .node ⟨by simp, by simp⟩

theorem exprOk_iff (s : List String) (e : Expr) : Spec.exprOk s e = true ↔ ∀ v ∈ e.vars, v ∈ s := by
  simp [Spec.exprOk, List.all_eq_true]

theorem validateProjExpr_ok (K : Kinds) (s : List String) (hK : KOk K s) (e : Expr)
    (he : Spec.exprOk s e = true) : validateProjExpr K e = .ok () := by
  rw [exprOk_iff] at he
  induction e with
  | var x => simp [validateProjExpr, (hK x).1.mp (he x (by simp [Expr.vars]))]
  | prop x k =>
    have h1 := (hK x).1.mp (he x (by simp [Expr.vars]))
    have h2 := (hK x).2
    unfold validateProjExpr
    cases hl : K.lookup x with
    | none => simp [hl] at h1
    | some kd => cases kd <;> simp_all
  | cmp op a b iha ihb | bool op a b iha ihb =>
    simp only [Expr.vars, List.mem_append] at he
    simp [validateProjExpr, iha (fun v hv => he v (Or.inl hv)), ihb (fun v hv => he v (Or.inr hv)), bind, Except.bind]
  | not a ih | isNull a ih | isNotNull a ih | hasLabel a l ih => simp [validateProjExpr, ih he]
  | _ => rfl

theorem exprVarsOk_ok (K : Kinds) (s : List String) (hK : KOk K s) (e : Expr)
    (he : Spec.exprOk s e = true) : exprVarsOk K e = .ok () := by
  rw [exprOk_iff] at he
  unfold exprVarsOk
  have : (e.vars.all fun v => (K.lookup v).isSome) = true := by
    rw [List.all_eq_true]
    intro v hv
    exact (hK v).1.mp (he v hv)
  simp [this]

theorem forIn_yield_ok {α ε} (l : List α) (f : α → PUnit → Except ε (ForInStep PUnit))
    (h : ∀ x ∈ l, f x PUnit.unit = .ok (.yield PUnit.unit)) : forIn l PUnit.unit f = .ok PUnit.unit := by
  induction l with
  | nil => rfl
  | cons x xs ih =>
    rw [List.forIn_cons, h x (by simp)]
    simp only [bind, Except.bind]
    exact ih (fun y hy => h y (List.mem_cons_of_mem _ hy))

theorem isAggItem_eq (it : Item) : isAggItem it = Spec.isAgg it := by
  obtain ⟨e, a⟩ := it
  cases e <;> rfl

theorem compileProjection_plain (input : Plan) (s : List String) (hK : KOk (outKinds input) s) (items : List Item)
    (hplain : items.any Spec.isAgg = false)
    (hnd : ((items.map (·.alias)).eraseDups.length == (items.map (·.alias)).length) = true)
    (hok : items.all (fun it => match it.expr with | .plain e => Spec.exprOk s e | .agg _ a => Spec.exprOk s a) = true) :
    compileProjection input items =
      .ok (.project input (items.map fun it => (it.alias, itemExprOf it.expr)), items.map (·.alias)) := by
  unfold compileProjection
  have hagg : items.any isAggItem = false := by
    rw [← hplain]; congr 1; funext it; exact isAggItem_eq it
  have hloop : ∀ it ∈ items, (match it.expr with
        | ItemExpr.plain e => (do validateProjExpr (outKinds input) e; pure (ForInStep.yield PUnit.unit) : Except Err _)
        | ItemExpr.agg AggKind.countStar _ => pure (ForInStep.yield PUnit.unit)
        | ItemExpr.agg _ a => do validateProjExpr (outKinds input) a; pure (ForInStep.yield PUnit.unit)) =
        .ok (ForInStep.yield PUnit.unit) := by
    intro it hit
    have h1 := List.all_eq_true.mp hok it hit
    have h2 : Spec.isAgg it = false := by simpa using List.any_eq_false.mp hplain it hit
    obtain ⟨ex, al⟩ := it
    cases ex with
    | plain e =>
      simp only at h1
      simp [validateProjExpr_ok _ s hK e h1, bind, Except.bind, pure, Except.pure]
    | agg k a => simp [Spec.isAgg] at h2
  have hne : ((items.map (·.alias)).eraseDups.length != (items.map (·.alias)).length) = false := by
    simp only [bne, hnd, Bool.not_true]
  simp only [bind, Except.bind, pure, Except.pure] at hloop ⊢
  rw [forIn_yield_ok items _ (fun it hit => hloop it hit)]
  simp [hagg]
  simpa using hnd

/-! ### the kinds after a projection -/

theorem KOk.filter {K : Kinds} {s : List String} (h : KOk K s) (P : String → Bool) :
    KOk (K.filter fun p => P p.1) (s.filter P) := by
  intro v
  rw [lookup_filter_key, List.mem_filter]
  by_cases hp : P v = true
  · rw [if_pos hp]
    exact ⟨⟨fun hm => (h v).1.mp hm.1, fun hm => ⟨(h v).1.mpr hm, hp⟩⟩, (h v).2⟩
  · rw [if_neg hp]
    exact ⟨⟨fun hm => absurd hm.2 hp, fun hm => nomatch hm⟩, nofun, nofun⟩

theorem inferKind_ok {K : Kinds} {s : List String} (h : KOk K s) (e : Expr) :
    inferKind K e ≠ .path ∧ inferKind K e ≠ .relList := by
  cases e with
  | var x =>
    simp only [inferKind]
    have := (h x).2
    cases hl : K.lookup x with
    | none => simp
    | some k => simp_all
  | lit l => cases l <;> simp [inferKind]
  | _ => simp [inferKind]

theorem KOk.foldl_insert (ps : List (String × Expr)) : ∀ {K : Kinds} {s : List String}, KOk K s →
    KOk (ps.foldl (fun vars (p : String × Expr) => insertSorted vars p.1 (inferKind vars p.2)) K) (s ++ ps.map (·.1)) := by
  induction ps with
  | nil => intro K s h; simpa using h
  | cons p rest ih =>
    intro K s h
    simpa using ih (h.insert p.1 _ (inferKind_ok h p.2))

theorem KOk_project (i : Plan) (s : List String) (hK : KOk (outKinds i) s) (ps : List (String × Expr)) :
    KOk (outKinds (.project i ps)) (ps.map (·.1)) :=
  ((hK.foldl_insert ps).filter fun k => ps.any (·.1 == k)).congr fun v => by
    simp only [List.mem_filter, List.mem_append, List.any_eq_true, beq_iff_eq, List.mem_map]
    exact ⟨fun ⟨p, hp, e⟩ => ⟨Or.inr ⟨p, hp, e⟩, p, hp, e⟩, fun ⟨_, p, hp, e⟩ => ⟨p, hp, e⟩⟩

theorem KOk_unwind (i : Plan) (s : List String) (hK : KOk (outKinds i) s) (e : Expr) (x : String) :
    KOk (outKinds (.unwind i e x)) (s ++ [x]) :=
  hK.insert x .unknown ⟨by simp, by simp⟩

/-! ### WITH / RETURN of the core -/

theorem dedupBy_map_fst (X : List (Row × Row)) :
    (Spec.dedupBy (·.1) X).map (·.1) = Spec.dedupBy id (X.map (·.1)) := by
  induction X with
  | nil => rfl
  | cons x xs ih =>
    simp only [Spec.dedupBy, List.map_cons, id, ← ih, List.filter_map]
    rfl

theorem projectRows_fst (p : Proj) (T : Table) (hplain : p.items.any Spec.isAgg = false) :
    (Spec.projectRows A env p T).map (·.1) =
      (Spec.projectRows A env ⟨false, p.items, [], none, none⟩ T).map (·.1) := by
  simp [Spec.projectRows, hplain, List.map_map, Function.comp_def]

theorem projectRows_cols (p : Proj) (T : Table) (hplain : p.items.any Spec.isAgg = false) :
    ∀ x ∈ Spec.projectRows A env p T, ∀ y ∈ Spec.projectRows A env p T, x.1.cols = y.1.cols := by
  intro x hx y hy
  simp only [Spec.projectRows, hplain, Bool.false_eq_true, ↓reduceIte, List.mem_map] at hx hy
  obtain ⟨r, _, rfl⟩ := hx
  obtain ⟨r', _, rfl⟩ := hy
  simp [Row.cols, List.map_map, Function.comp_def]

theorem eraseDups_length : ∀ l : List String,
    l.eraseDups.length ≤ l.length ∧ (l.eraseDups.length = l.length → l.Nodup)
  | [] => by simp
  | a :: as => by
    have h1 := List.length_filter_le (fun b => !b == a) as
    have h2 := eraseDups_length (as.filter fun b => !b == a)
    rw [List.eraseDups_cons]
    simp only [List.length_cons]
    refine ⟨by omega, fun he => ?_⟩
    -- nothing was filtered out, so `a` does not occur in `as`
    have h4 : as.filter (fun b => !b == a) = as :=
      List.filter_eq_self.mpr (List.length_filter_eq_length_iff.mp (by omega))
    rw [h4] at h2 he
    exact List.nodup_cons.mpr ⟨fun hmem => by simpa using List.filter_eq_self.mp h4 a hmem, h2.2 (by omega)⟩
termination_by l => l.length
decreasing_by exact Nat.lt_succ_of_le (List.length_filter_le _ as)

/-- the engine's ColumnNameConflict test (`eraseDups` keeps the length) is distinctness of the output names -/
theorem eraseDups_nodup_of_length (l : List String) (h : (l.eraseDups.length == l.length) = true) : l.Nodup :=
  (eraseDups_length l).2 (by simpa using h)

/-- the SKIP / LIMIT stage of `compile_return_plan` -/
def withWindow (mk : Plan → Lit → Plan) (o : Option Lit) (P : Plan) : Except Err Plan :=
  match o with
  | some n => (validateWindow n).bind fun _ => .ok (mk P n)
  | none => .ok P

/-- `compile_return_plan` without WHERE and ORDER BY: Project, Distinct, Skip, Limit -/
theorem compileProj_plain (input : Plan) (p : Proj) (hord : p.orderBy = []) :
    compileProj input p none = (compileProjection input p.items).bind fun pc =>
      (withWindow .skip p.skip (if p.distinct then .distinct pc.1 else pc.1)).bind (withWindow .limit p.limit) := by
  unfold compileProj
  simp only [hord, List.isEmpty_nil, Bool.not_true, Bool.false_eq_true, ↓reduceIte, bind, Except.bind, pure, Except.pure]
  cases compileProjection input p.items with
  | error e => rfl
  | ok pc =>
    cases p.distinct <;> cases p.skip <;> cases p.limit <;>
      simp only [withWindow, Except.bind, Bool.false_eq_true, ↓reduceIte] <;>
      first | rfl | (cases validateWindow _ <;> rfl)

/-- a window stage fails in the planner exactly when the reference rejects the literal; otherwise the executor reads
    the same number -/
theorem withWindow_correct (mk : Plan → Lit → Plan) (f : Nat → Table → Table)
    (hmk : ∀ P n k T, Exec.exec A env P = .ok T → Exec.windowArg n = .ok k → Exec.exec A env (mk P n) = .ok (f k T))
    (hK : ∀ P n, outKinds (mk P n) = outKinds P) (o : Option Lit) (P : Plan) (T : Table)
    (h : Exec.exec A env P = .ok T) :
    (∃ e, withWindow mk o P = .error e ∧ Spec.window o = .error e) ∨
    ∃ P' k, withWindow mk o P = .ok P' ∧ Spec.window o = .ok k ∧ outKinds P' = outKinds P ∧
      Exec.exec A env P' = .ok (match k with | some k => f k T | none => T) := by
  cases o with
  | none => exact Or.inr ⟨P, none, rfl, rfl, rfl, h⟩
  | some n =>
    cases n with
    | int i =>
      by_cases hi : i < 0
      · exact Or.inl ⟨.syntax, by simp [withWindow, validateWindow, hi, Except.bind], by simp [Spec.window, hi]⟩
      · exact Or.inr ⟨mk P (.int i), some i.toNat, by simp [withWindow, validateWindow, hi, Except.bind],
          by simp [Spec.window, hi], hK _ _, hmk P _ _ T h (by simp [Exec.windowArg, hi])⟩
    | _ => exact Or.inl ⟨.syntax, rfl, rfl⟩

theorem coreProj_iff (p : Proj) : coreProj p = true ↔ p.items.any Spec.isAgg = false ∧ p.orderBy = [] := by
  simp [coreProj]

theorem compileProj_core (input : Plan) (p : Proj) (T : Table) (s : List String)
    (hexec : Exec.exec A env input = .ok T) (hK : KOk (outKinds input) s)
    (hcore : coreProj p = true) (hok : Spec.projOk s p none = true) :
    (∃ e, compileProj input p none = .error e ∧ Spec.denoteProj A env p none T = .error e) ∨
    (∃ pl T', compileProj input p none = .ok pl ∧ Exec.exec A env pl = .ok T' ∧
      Spec.denoteProj A env p none T = .ok T' ∧ KOk (outKinds pl) (p.items.map (·.alias))) := by
  obtain ⟨hplain, hord⟩ := (coreProj_iff p).mp hcore
  simp only [Spec.projOk, Bool.and_eq_true] at hok
  obtain ⟨⟨⟨⟨_, hnd⟩, hitems⟩, _⟩, _⟩ := hok
  have hKp := KOk_project input s hK (p.items.map fun it => (it.alias, itemExprOf it.expr))
  rw [List.map_map, show ((·.1) ∘ fun it : Item => (it.alias, itemExprOf it.expr)) = (·.alias) from rfl] at hKp
  have hproj := project_correct A env input p.items T hexec hplain (eraseDups_nodup_of_length _ hnd)
  rw [← projectRows_fst A env p T hplain] at hproj
  have h1 : ∀ P0, Exec.exec A env P0 = .ok ((Spec.projectRows A env p T).map (·.1)) →
      Exec.exec A env (if p.distinct then .distinct P0 else P0) = .ok
        ((if p.distinct then Spec.dedupBy (·.1) (Spec.projectRows A env p T) else Spec.projectRows A env p T).map (·.1)) := by
    intro P0 h0
    cases p.distinct
    · exact h0
    · simp only [↓reduceIte, Exec.exec, h0, bind, Except.bind, pure, Except.pure,
        distinct_correct _ (projectRows_cols A env p T hplain)]
  have hK1 : ∀ P0 : Plan, outKinds (if p.distinct then .distinct P0 else P0) = outKinds P0 :=
    fun P0 => by cases p.distinct <;> rfl
  rw [compileProj_plain input p hord, compileProjection_plain input s hK p.items hplain hnd hitems]
  simp only [Except.bind, Spec.denoteProj, hord, List.isEmpty_nil, ↓reduceIte, bind, pure, Except.pure]
  rcases withWindow_correct A env .skip (fun k T => T.drop k)
      (fun P n k T h hk => by simp [Exec.exec, h, hk, bind, Except.bind, pure, Except.pure]) (fun _ _ => rfl)
      p.skip _ _ (h1 _ hproj) with ⟨e, h2, h3⟩ | ⟨P2, ks, h2, h3, hK2, hx2⟩
  · exact Or.inl ⟨e, by rw [h2], by rw [h3]⟩
  · rcases withWindow_correct A env .limit (fun k T => T.take k)
        (fun P n k T h hk => by simp [Exec.exec, h, hk, bind, Except.bind, pure, Except.pure]) (fun _ _ => rfl)
        p.limit P2 _ hx2 with ⟨e, h4, h5⟩ | ⟨P3, kl, h4, h5, hK3, hx3⟩
    · exact Or.inl ⟨e, by rw [h2]; exact h4, by rw [h3, h5]⟩
    · refine Or.inr ⟨P3, _, by rw [h2]; exact h4, hx3, ?_, by rw [hK3, hK2, hK1]; exact hKp⟩
      rw [h3, h5]
      cases ks <;> cases kl <;> simp only [List.map_take, List.map_drop]

/-! ### the clause-list induction -/

def runLoop (q : Query) (l : Loop) : Except Err Table :=
  match compileClauses q l with
  | .ok p => Exec.exec A env p
  | .error e => .error e

/-- stated from any loop state, so that a MATCH prefix can hand over to it (`run_match_core`).  `b`: a clause
    precedes (`coreClauses`) — then there is a plan, which the WHERE step needs (`compile_m3_plan` fails on a
    WHERE without one). -/
theorem core_induction (q : Query) (b : Bool) : ∀ (l : Loop) (T : Table) (s s' : List String),
    coreClauses b q = true → Spec.scopeAfter s q = some s' →
    l.pending = none → (b = true → l.plan.isSome = true) →
    Exec.exec A env (l.plan.getD .returnOne) = .ok T → KOk (outKinds (l.plan.getD .returnOne)) s →
    runLoop A env q l = (Spec.denoteClauses A env q T).map Spec.Result.rows := by
  fun_induction coreClauses b q with
  | case1 b p =>
    rintro ⟨lplan, lst, _⟩ T s s' hc hs rfl hplan hexec hK
    simp only [Spec.scopeAfter, List.isEmpty_nil, Bool.and_true, Option.ite_none_right_eq_some] at hs
    rcases compileProj_core A env (lplan.getD .returnOne) p T s hexec hK hc hs.1 with
      ⟨e, h1, h2⟩ | ⟨pl, T', h1, h2, h3, h4⟩
    · simp [runLoop, compileClauses, h1, Spec.denoteClauses, h2, bind, Except.bind, Except.map]
    · simp [runLoop, compileClauses, h1, Spec.denoteClauses, h2, h3, bind, Except.bind, Except.map, pure,
        Except.pure]
      split <;> rfl
  | case2 b e x q ih =>
    rintro ⟨lplan, lst, _⟩ T s s' hc hs rfl hplan hexec hK
    simp only [Spec.scopeAfter, Option.ite_none_right_eq_some] at hs
    exact ih ⟨some (.unwind (lplan.getD .returnOne) e x), lst, none⟩ _ _ s' hc hs.2 rfl (fun _ => rfl)
      (unwind_correct A env _ e x T hexec) (KOk_unwind _ s hK e x)
  | case3 b p q ih =>
    rintro ⟨lplan, lst, _⟩ T s s' hc hs rfl hplan hexec hK
    simp only [Bool.and_eq_true] at hc
    simp only [Spec.scopeAfter, Option.ite_none_right_eq_some] at hs
    rcases compileProj_core A env (lplan.getD .returnOne) p T s hexec hK hc.1 hs.1 with
      ⟨e, h1, h2⟩ | ⟨pl, T', h1, h2, h3, h4⟩
    · simp [runLoop, compileClauses, h1, Spec.denoteClauses, h2, bind, Except.bind, Except.map]
    · have hstep : runLoop A env (.with_ p none :: q) ⟨lplan, lst, none⟩ = runLoop A env q ⟨some pl, lst, none⟩ := by
        simp only [runLoop, compileClauses, h1, bind, Except.bind]
      rw [hstep]
      simp only [Spec.denoteClauses, h3, bind, Except.bind]
      exact ih _ _ _ s' hc.2 hs.2 rfl (fun _ => rfl) h2 h4
  | case4 e q ih =>
    rintro ⟨lplan, lst, _⟩ T s s' hc hs rfl hplan hexec hK
    obtain ⟨pl, rfl⟩ := Option.isSome_iff_exists.mp (hplan rfl)
    simp only [Spec.scopeAfter, Option.ite_none_right_eq_some] at hs
    have hstep : runLoop A env (.where_ e :: q) ⟨some pl, lst, none⟩ = runLoop A env q ⟨some (.filter pl e), lst, none⟩ := by
      simp only [runLoop, compileClauses, List.append_nil, exprVarsOk_ok (outKinds pl) s hK e hs.1, bind,
        Except.bind]
    rw [hstep, Spec.denoteClauses]
    exact ih _ _ s s' hc hs.2 rfl (fun _ => rfl) (where_correct A env pl e T hexec) hK
  | case5 => intro l T s s' hc; cases hc

theorem bagClauses_core (q : Query) (b : Bool) (h : bagClauses b q = true) : coreClauses b q = true := by
  fun_induction bagClauses b q <;> simp_all [coreClauses, bagProj]

theorem agrees_of_eq (m : Except Err Table) (d : Except Err Spec.Result) (h : m = d.map Spec.Result.rows) :
    Agrees m d := by
  subst h
  unfold Agrees agreesB
  cases d with
  | error e => simp [Except.map]
  | ok res => simp only [Except.map]; exact List.isPerm_iff.mpr (List.Perm.refl _)

end Nervus.Cy
