/-
  C31, the order of the heaps.  For a `Lawful` distance order `pairLt` is a strict order on
  `(distance, id)` pairs that is total on pairs with distinct ids.  Of a pop only this is ever used:
  the element and the rest are a permutation of the heap (`popBy`, the shape of both pops) — not that
  the element is extreme.  A list with distinct ids has exactly one ascending arrangement
  (`asc_unique`): this is what lets the answer of the model be compared with `sortPairs` of the
  brute-force list.  (`ef ≥ n` in `search_layer` and the degree bound of `insert` are the pigeonhole of
  `Proofs/ListBasics`.)
-/
import Nervus.Proofs.ListBasics
import Nervus.Spec.VectorSearch
namespace Nervus.Hnsw

variable {V D : Type}

/-- `OrderedFloat<f32>` is a total order: what the theorems assume of the abstract distance order -/
structure Space.Lawful (sp : Space V D) : Prop where
  irrefl : ∀ a, sp.lt a a = false
  trans : ∀ a b c, sp.lt a b = true → sp.lt b c = true → sp.lt a c = true
  /-- incomparable distances are equal (antisymmetry of the induced `≤`) -/
  antisymm : ∀ a b, sp.lt a b = false → sp.lt b a = false → a = b

theorem intSpace_lawful : (intSpace).Lawful := by
  refine ⟨?_, ?_, ?_⟩
  · intro a; simp [intSpace]
  · intro a b c; simp only [intSpace, decide_eq_true_eq]; omega
  · intro a b; simp only [intSpace, decide_eq_false_iff_not]; omega

theorem pairLt_total {sp : Space V D} {a b : D × Nat} (h : a.2 ≠ b.2) : pairLt sp a b = true ∨ pairLt sp b a = true := by
  simp only [pairLt, Bool.or_eq_true, Bool.and_eq_true, Bool.not_eq_true', decide_eq_true_eq]
  cases h1 : sp.lt a.1 b.1 with
  | true => exact Or.inl (Or.inl rfl)
  | false =>
    cases h2 : sp.lt b.1 a.1 with
    | true => exact Or.inr (Or.inl rfl)
    | false => exact (Nat.lt_or_gt_of_ne h).imp (fun h3 => Or.inr ⟨rfl, h3⟩) fun h3 => Or.inr ⟨rfl, h3⟩

theorem not_lt_of_not_pairLt {sp : Space V D} {a b : D × Nat} (h : pairLt sp b a = false) : sp.lt b.1 a.1 = false :=
  (Bool.or_eq_false_iff.mp h).1

section order
variable {sp : Space V D} (law : sp.Lawful)
include law

theorem lt_asymm {a b : D} (h : sp.lt a b = true) : sp.lt b a = false := by
  cases hb : sp.lt b a with
  | false => rfl
  | true => have := law.trans a b a h hb; rw [law.irrefl] at this; cases this

theorem lt_of_lt_of_le {a b c : D} (h1 : sp.lt a b = true) (h2 : sp.lt c b = false) : sp.lt a c = true := by
  cases h : sp.lt b c with
  | true => exact law.trans _ _ _ h1 h
  | false => exact law.antisymm _ _ h h2 ▸ h1

theorem lt_of_le_of_lt {a b c : D} (h1 : sp.lt b a = false) (h2 : sp.lt b c = true) : sp.lt a c = true := by
  cases h : sp.lt a b with
  | true => exact law.trans _ _ _ h h2
  | false => exact law.antisymm _ _ h h1 ▸ h2

theorem pairLt_irrefl (a : D × Nat) : pairLt sp a a = false := by
  simp [pairLt, law.irrefl]

theorem pairLt_trans {a b c : D × Nat} (h1 : pairLt sp a b = true) (h2 : pairLt sp b c = true) :
    pairLt sp a c = true := by
  simp only [pairLt, Bool.or_eq_true, Bool.and_eq_true, Bool.not_eq_true', decide_eq_true_eq] at *
  rcases h1 with h1 | ⟨h1a, h1b⟩
  · exact Or.inl (h2.elim (law.trans _ _ _ h1) fun h2 => lt_of_lt_of_le law h1 h2.1)
  · rcases h2 with h2 | ⟨h2a, h2b⟩
    · exact Or.inl (lt_of_le_of_lt law h1a h2)
    · refine Or.inr ⟨?_, Nat.lt_trans h1b h2b⟩
      cases hca : sp.lt c.1 a.1 with
      | false => rfl
      | true => rw [lt_of_lt_of_le law hca h1a] at h2a; cases h2a

theorem pairLt_asymm {a b : D × Nat} (h : pairLt sp a b = true) : pairLt sp b a = false := by
  cases hb : pairLt sp b a with
  | false => rfl
  | true => have := pairLt_trans law h hb; rw [pairLt_irrefl law] at this; cases this

end order

/-! ### heaps -/

/-- the shape shared by the two pops: the element no other one is `better` than, and the rest -/
def popBy {α : Type} (better : α → α → Bool) : List α → Option (α × List α)
  | [] => none
  | x :: xs =>
    match popBy better xs with
    | none => some (x, [])
    | some (y, ys) => if better y x then some (y, x :: ys) else some (x, xs)

theorem popMin_eq (sp : Space V D) (l : List (D × Nat)) : popMin sp l = popBy (fun y x => pairLt sp y x) l := by
  induction l with
  | nil => rfl
  | cons x xs ih => unfold popMin popBy; rw [ih]; cases popBy (fun y x => pairLt sp y x) xs <;> rfl

theorem popMax_eq (sp : Space V D) (l : List (D × Nat)) : popMax sp l = popBy (fun y x => pairLt sp x y) l := by
  induction l with
  | nil => rfl
  | cons x xs ih => unfold popMax popBy; rw [ih]; cases popBy (fun y x => pairLt sp x y) xs <;> rfl

theorem popBy_none {α : Type} {b : α → α → Bool} {l : List α} (h : popBy b l = none) : l = [] := by
  cases l with
  | nil => rfl
  | cons a as =>
    unfold popBy at h
    split at h
    · cases h
    · split at h <;> cases h

theorem popBy_perm {α : Type} {b : α → α → Bool} {l : List α} : ∀ {x : α} {r : List α},
    popBy b l = some (x, r) → (x :: r).Perm l := by
  induction l with
  | nil => intro _ _ h; cases h
  | cons a as ih =>
    intro x r h
    unfold popBy at h
    split at h
    · next hp => cases h; cases popBy_none hp; exact .refl _
    · next y ys hp =>
      split at h <;> cases h
      · exact (List.Perm.swap _ _ _).trans ((ih hp).cons a)
      · exact .refl _

theorem popMin_perm (sp : Space V D) (l : List (D × Nat)) (x : D × Nat) (r : List (D × Nat))
    (h : popMin sp l = some (x, r)) : (x :: r).Perm l := popBy_perm (popMin_eq sp l ▸ h)

theorem popMin_none (sp : Space V D) (l : List (D × Nat)) (h : popMin sp l = none) : l = [] :=
  popBy_none (popMin_eq sp l ▸ h)

theorem popMax_perm (sp : Space V D) (l : List (D × Nat)) (x : D × Nat) (r : List (D × Nat))
    (h : popMax sp l = some (x, r)) : (x :: r).Perm l := popBy_perm (popMax_eq sp l ▸ h)

theorem popMax_some_of_ne_nil (sp : Space V D) (l : List (D × Nat)) (h : l ≠ []) :
    ∃ x r, popMax sp l = some (x, r) := by
  cases hp : popMax sp l with
  | none => exact absurd (popBy_none (popMax_eq sp l ▸ hp)) h
  | some xr => exact ⟨xr.1, xr.2, rfl⟩

theorem peekMax_mem (sp : Space V D) (l : List (D × Nat)) (x : D × Nat) (h : peekMax sp l = some x) : x ∈ l := by
  unfold peekMax at h
  cases hp : popMax sp l with
  | none => rw [hp] at h; cases h
  | some yr => rw [hp] at h; cases h; exact (popMax_perm sp l yr.1 yr.2 hp).subset List.mem_cons_self

/-! ### sorting by `(distance, id)` -/

theorem insertPair_eq (sp : Space V D) (a : D × Nat) (l : List (D × Nat)) :
    insertPair sp a l = l.takeWhile (pairLt sp · a) ++ a :: l.dropWhile (pairLt sp · a) := by
  induction l with
  | nil => rfl
  | cons b bs ih =>
    unfold insertPair
    rw [ih, List.takeWhile_cons, List.dropWhile_cons]
    by_cases h : pairLt sp b a = true <;> simp [h]

theorem sortPairs_perm (sp : Space V D) (l : List (D × Nat)) : (sortPairs sp l).Perm l :=
  foldr_perm_of_insert (fun a l => insertPair_eq sp a l ▸ perm_insert_span _ a l) l

/-- ascending for the heap order: no later element is strictly smaller than an earlier one -/
def Asc (sp : Space V D) (l : List (D × Nat)) : Prop := l.Pairwise (fun a b => pairLt sp b a = false)

theorem insertPair_asc {sp : Space V D} (law : sp.Lawful) (a : D × Nat) (l : List (D × Nat))
    (hid : ∀ b, b ∈ l → b.2 ≠ a.2) (h : Asc sp l) : Asc sp (insertPair sp a l) := by
  rw [insertPair_eq]
  refine pairwise_insert_span _ a h (fun b _ hb => pairLt_asymm law hb) (fun b _ hb => hb)
    fun b c hb _ hba hcb => Bool.eq_false_iff.mpr fun hca => ?_
  -- `b` is not below `a` and their ids differ: `a` is below `b`, hence so would `c` be
  have hab := (pairLt_total fun e => hid b hb e.symm).resolve_right (Bool.eq_false_iff.mp hba)
  exact Bool.eq_false_iff.mp hcb (pairLt_trans law hca hab)

theorem sortPairs_asc {sp : Space V D} (law : sp.Lawful) (l : List (D × Nat)) (hnd : (l.map (·.2)).Nodup) :
    Asc sp (sortPairs sp l) := by
  induction l with
  | nil => exact List.Pairwise.nil
  | cons a l ih =>
    have hnd := List.nodup_cons.mp hnd
    refine insertPair_asc law a _ (fun b hb heq => hnd.1 ?_) (ih hnd.2)
    exact List.mem_map.mpr ⟨b, (sortPairs_perm sp l).subset hb, heq⟩

theorem nodup_of_ids_nodup {l : List (D × Nat)} (h : (l.map (·.2)).Nodup) : l.Nodup :=
  List.Pairwise.of_map _ (fun _ _ hne heq => hne (congrArg _ heq)) h

theorem asc_unique {sp : Space V D} (l1 l2 : List (D × Nat))
    (h1 : Asc sp l1) (h2 : Asc sp l2) (hp : l1.Perm l2) (hnd : (l1.map (·.2)).Nodup) : l1 = l2 := by
  refine List.Perm.eq_of_pairwise (le := fun a b => pairLt sp b a = false) (fun a b ha hb hab hba => ?_) h1 h2 hp
  -- neither below the other: the ids agree (else the order is total), and then the elements do
  refine eq_of_key_eq hnd ha (hp.symm.subset hb) (Classical.byContradiction fun hid => ?_)
  rcases pairLt_total (sp := sp) hid with h | h
  · rw [hba] at h; cases h
  · rw [hab] at h; cases h

theorem takeAtLeastOne_sublist {α : Type} (n : Nat) (l : List α) : (takeAtLeastOne n l).Sublist l := by
  cases l with
  | nil => exact List.Sublist.refl _
  | cons x xs => exact (List.take_sublist _ xs).cons_cons x

theorem takeAtLeastOne_ne_nil {α : Type} (n : Nat) (l : List α) (h : l ≠ []) : takeAtLeastOne n l ≠ [] := by
  cases l with
  | nil => exact absurd rfl h
  | cons x xs => exact List.cons_ne_nil _ _

end Nervus.Hnsw
