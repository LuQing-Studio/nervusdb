/-
  Proofs/EngineIdmap.lean — what step 3 of `commit` (created nodes, label additions, label removals)
  does to the idmap: the label side as pure functions on the label vectors, the result in closed form.
-/
import Nervus.Proofs.EngineSimBase
namespace Nervus.Storage

/-- IdMap::apply_add_label on the label vectors -/
def addLabelL (L : List (List Nat)) (n l : Nat) : List (List Nat) :=
  match L[n]? with
  | none => L
  | some ls => L.set n (if ls.contains l then ls else isort (· ≤ ·) (ls ++ [l]))

/-- IdMap::apply_remove_label on the label vectors -/
def delLabelL (L : List (List Nat)) (n l : Nat) : List (List Nat) :=
  match L[n]? with
  | none => L
  | some ls => L.set n (ls.filter (· != l))

def addAll (L : List (List Nat)) (ps : List (Nat × Nat)) : List (List Nat) :=
  ps.foldl (fun L p => addLabelL L p.1 p.2) L

def delAll (L : List (List Nat)) (ps : List (Nat × Nat)) : List (List Nat) :=
  ps.foldl (fun L p => delLabelL L p.1 p.2) L

theorem addLabelL_length (L : List (List Nat)) (n l : Nat) : (addLabelL L n l).length = L.length := by
  unfold addLabelL; split <;> simp

theorem delLabelL_length (L : List (List Nat)) (n l : Nat) : (delLabelL L n l).length = L.length := by
  unfold delLabelL; split <;> simp

/-! ### a label operation folded over a pending list (`step` = `addLabelL` or `delLabelL`) -/

theorem foldl_step_length (step : List (List Nat) → Nat → Nat → List (List Nat))
    (hlen : ∀ L n l, (step L n l).length = L.length) (ps : List (Nat × Nat)) (L : List (List Nat)) :
    (ps.foldl (fun L p => step L p.1 p.2) L).length = L.length := by
  induction ps generalizing L with
  | nil => rfl
  | cons p ps ih => exact (ih _).trans (hlen L p.1 p.2)

theorem foldl_step_append (step : List (List Nat) → Nat → Nat → List (List Nat))
    (hlen : ∀ L n l, (step L n l).length = L.length)
    (happ : ∀ (A T : List (List Nat)) n l, n < A.length → step (A ++ T) n l = step A n l ++ T)
    (ps : List (Nat × Nat)) (A T : List (List Nat)) (h : ∀ p ∈ ps, p.1 < A.length) :
    ps.foldl (fun L p => step L p.1 p.2) (A ++ T) = ps.foldl (fun L p => step L p.1 p.2) A ++ T := by
  induction ps generalizing A with
  | nil => rfl
  | cons p ps ih =>
    rw [List.foldl_cons, happ A T p.1 p.2 (h p List.mem_cons_self)]
    exact ih _ fun q hq => by rw [hlen]; exact h q (List.mem_cons_of_mem _ hq)

theorem addAll_length (ps : List (Nat × Nat)) (L : List (List Nat)) : (addAll L ps).length = L.length :=
  foldl_step_length addLabelL addLabelL_length ps L

theorem delAll_length (ps : List (Nat × Nat)) (L : List (List Nat)) : (delAll L ps).length = L.length :=
  foldl_step_length delLabelL delLabelL_length ps L

theorem addAll_append (ps : List (Nat × Nat)) (A T : List (List Nat)) (h : ∀ p ∈ ps, p.1 < A.length) :
    addAll (A ++ T) ps = addAll A ps ++ T :=
  foldl_step_append addLabelL addLabelL_length (fun A T n l hn => by
    simp only [addLabelL, List.getElem?_append_left hn, List.getElem?_eq_getElem hn, List.set_append_left _ _ hn])
    ps A T h

theorem delAll_append (ps : List (Nat × Nat)) (A T : List (List Nat)) (h : ∀ p ∈ ps, p.1 < A.length) :
    delAll (A ++ T) ps = delAll A ps ++ T :=
  foldl_step_append delLabelL delLabelL_length (fun A T n l hn => by
    simp only [delLabelL, List.getElem?_append_left hn, List.getElem?_eq_getElem hn, List.set_append_left _ _ hn])
    ps A T h

theorem getD_getElem?_set {α} (l : List (List α)) (n n' : Nat) (v : List α) (hn : n < l.length) :
    ((l.set n v)[n']?).getD [] = if n = n' then v else (l[n']?).getD [] := by
  rw [List.getElem?_set]
  split
  · next h => subst h; simp
  · rfl

theorem mem_addLabelL (L : List (List Nat)) (n0 l0 : Nat) (h : n0 < L.length) (n lid : Nat) :
    lid ∈ ((addLabelL L n0 l0)[n]?).getD [] ↔ (lid ∈ (L[n]?).getD [] ∨ (n, lid) = (n0, l0)) := by
  rw [addLabelL, List.getElem?_eq_getElem h, getD_getElem?_set _ _ _ _ h, Prod.mk.injEq]
  split
  · next e =>
    subst e
    rw [List.getElem?_eq_getElem h, Option.getD_some]
    split
    · next hc => exact ⟨Or.inl, fun h' => h'.elim id fun e => e.2 ▸ by simpa using hc⟩
    · rw [mem_isort, List.mem_append, List.mem_singleton]; simp
  · next e => simp [Ne.symm e]

theorem mem_delLabelL (L : List (List Nat)) (n0 l0 n lid : Nat) :
    lid ∈ ((delLabelL L n0 l0)[n]?).getD [] ↔ (lid ∈ (L[n]?).getD [] ∧ (n, lid) ≠ (n0, l0)) := by
  rw [delLabelL, ne_eq, Prod.mk.injEq]
  split
  · next hnone => exact ⟨fun h => ⟨h, fun e => by rw [e.1, hnone] at h; cases h⟩, And.left⟩
  · next ls hs =>
    have h := (List.getElem?_eq_some_iff.mp hs).1
    rw [getD_getElem?_set _ _ _ _ h]
    split
    · next e => subst e; rw [hs, Option.getD_some, mem_filter_ne]; simp
    · next e => simp [Ne.symm e]

theorem mem_addAll (ps : List (Nat × Nat)) (L : List (List Nat)) (h : ∀ p ∈ ps, p.1 < L.length) (n lid : Nat) :
    lid ∈ ((addAll L ps)[n]?).getD [] ↔ (lid ∈ (L[n]?).getD [] ∨ (n, lid) ∈ ps) := by
  induction ps generalizing L with
  | nil => simp [addAll]
  | cons p ps ih =>
    rw [addAll, List.foldl_cons, ← addAll,
      ih _ (fun q hq => by rw [addLabelL_length]; exact h q (List.mem_cons_of_mem _ hq)),
      mem_addLabelL _ _ _ (h p List.mem_cons_self), List.mem_cons, or_assoc]

theorem mem_delAll (ps : List (Nat × Nat)) (L : List (List Nat)) (n lid : Nat) :
    lid ∈ ((delAll L ps)[n]?).getD [] ↔ (lid ∈ (L[n]?).getD [] ∧ (n, lid) ∉ ps) := by
  induction ps generalizing L with
  | nil => simp [delAll]
  | cons p ps ih => rw [delAll, List.foldl_cons, ← delAll, ih, mem_delLabelL, List.mem_cons, not_or, and_assoc]

/-! ### the three loops of step 3 -/

theorem applyAddLabel_ok (m : IdMap) (n l : Nat) (h : n < m.i2l.length) :
    m.applyAddLabel n l = .ok { m with i2l := addLabelL m.i2l n l } := by
  unfold IdMap.applyAddLabel addLabelL
  rw [List.getElem?_eq_getElem h]

theorem applyRemoveLabel_ok (m : IdMap) (n l : Nat) (h : n < m.i2l.length) :
    m.applyRemoveLabel n l = .ok { m with i2l := delLabelL m.i2l n l } := by
  unfold IdMap.applyRemoveLabel delLabelL
  rw [List.getElem?_eq_getElem h]

theorem foldStop_create (cs : List (Nat × Nat × Nat)) (m : IdMap)
    (hids : ∀ i c, cs[i]? = some c → c.2.2 = m.i2e.length + i)
    (hfresh : ∀ c ∈ cs, m.e2i.lookup c.1 = none) (hnd : (cs.map (·.1)).Nodup) :
    foldStop (fun m (c : Nat × Nat × Nat) => m.applyCreate c.1 c.2.1 c.2.2) m cs =
      ({ e2i := (cs.map (fun c => (c.1, c.2.2))).reverse ++ m.e2i,
         i2l := m.i2l ++ cs.map (fun c => [c.2.1]),
         i2e := m.i2e ++ cs.map (fun c => ⟨c.1, c.2.1⟩) }, none) := by
  induction cs generalizing m with
  | nil => simp [foldStop]
  | cons c cs ih =>
    obtain ⟨x, l, iid⟩ := c
    have h0 : iid = m.i2e.length := hids 0 (x, l, iid) rfl
    have hstep : m.applyCreate x l iid =
        .ok { e2i := (x, iid) :: m.e2i, i2l := m.i2l ++ [[l]], i2e := m.i2e ++ [⟨x, l⟩] } := by
      simp [IdMap.applyCreate, IdMap.nextId, h0, hfresh (x, l, iid) List.mem_cons_self]
    rw [List.map_cons, List.nodup_cons] at hnd
    simp only [foldStop, hstep]
    rw [ih]
    · simp [List.reverse_cons, List.append_assoc]
    · intro i c hc
      have := hids (i + 1) c hc
      simp only [List.length_append, List.length_singleton]; omega
    · intro c hc
      have hne : c.1 ≠ x := fun h => hnd.1 (h ▸ List.mem_map.mpr ⟨c, hc, rfl⟩)
      rw [List.lookup_cons, beq_false_of_ne hne]
      exact hfresh c (List.mem_cons_of_mem _ hc)
    · exact hnd.2

theorem foldStop_labelOps (f : IdMap → Nat → Nat → Except IdMap.Err IdMap)
    (step : List (List Nat) → Nat → Nat → List (List Nat)) (hlen : ∀ L n l, (step L n l).length = L.length)
    (hop : ∀ (m : IdMap) (n l : Nat), n < m.i2l.length → f m n l = .ok { m with i2l := step m.i2l n l })
    (ps : List (Nat × Nat)) (m : IdMap) (h : ∀ p ∈ ps, p.1 < m.i2l.length) :
    foldStop (fun m (p : Nat × Nat) => f m p.1 p.2) m ps =
      ({ m with i2l := ps.foldl (fun L p => step L p.1 p.2) m.i2l }, none) := by
  induction ps generalizing m with
  | nil => rfl
  | cons p ps ih =>
    simp only [foldStop, hop m p.1 p.2 (h p List.mem_cons_self)]
    rw [ih _ (fun q hq => by simp only [hlen]; exact h q (List.mem_cons_of_mem _ hq))]
    rfl

theorem foldStop_add_eq (ps : List (Nat × Nat)) (m : IdMap) (h : ∀ p ∈ ps, p.1 < m.i2l.length) :
    foldStop (fun m (p : Nat × Nat) => m.applyAddLabel p.1 p.2) m ps = ({ m with i2l := addAll m.i2l ps }, none) :=
  foldStop_labelOps IdMap.applyAddLabel addLabelL addLabelL_length applyAddLabel_ok ps m h

theorem foldStop_remove_eq (ps : List (Nat × Nat)) (m : IdMap) (h : ∀ p ∈ ps, p.1 < m.i2l.length) :
    foldStop (fun m (p : Nat × Nat) => m.applyRemoveLabel p.1 p.2) m ps = ({ m with i2l := delAll m.i2l ps }, none) :=
  foldStop_labelOps IdMap.applyRemoveLabel delLabelL delLabelL_length applyRemoveLabel_ok ps m h

/-- what step 3 of `commit` (`applyIdmap`) computes when none of its loops fails (`applyIdmap_explicit`) -/
def idmapAfter (m0 : IdMap) (t : Txn) : IdMap :=
  { e2i := (t.created.map (fun c => (c.1, c.2.2))).reverse ++ m0.e2i,
    i2l := delAll (addAll (m0.i2l ++ t.created.map (fun c => [c.2.1])) t.addL) t.delL,
    i2e := m0.i2e ++ t.created.map (fun c => ⟨c.1, c.2.1⟩) }

theorem idmapAfter_lookup_old (m : IdMap) (t : Txn) (hfresh : ∀ c ∈ t.created, m.lookup c.1 = none)
    {x iid : Nat} (hx : m.lookup x = some iid) : (idmapAfter m t).lookup x = some iid := by
  show ((t.created.map (fun c => (c.1, c.2.2))).reverse ++ m.e2i).lookup x = some iid
  rw [List.lookup_append, lookup_eq_none_of_not_mem_keys fun p hp heq => ?_]
  · exact hx
  · obtain ⟨c, hc, rfl⟩ := List.mem_map.mp (List.mem_reverse.mp hp)
    have := hfresh c hc
    rw [show c.1 = x from heq, hx] at this; cases this

theorem idmapAfter_lookup_created (m : IdMap) (t : Txn) (hnd : (t.created.map (·.1)).Nodup)
    {c : Nat × Nat × Nat} (hc : c ∈ t.created) : (idmapAfter m t).lookup c.1 = some c.2.2 := by
  show ((t.created.map (fun c => (c.1, c.2.2))).reverse ++ m.e2i).lookup c.1 = some c.2.2
  rw [List.lookup_append, lookup_reverse_of_nodup _ (by rw [List.map_map]; exact hnd) c.1 c.2.2
    (List.mem_map.mpr ⟨c, hc, rfl⟩)]
  rfl

theorem idmapAfter_firstLabels (m : IdMap) (t : Txn) :
    (idmapAfter m t).i2e.map (fun r => [r.label]) =
      m.i2e.map (fun r => [r.label]) ++ t.created.map (fun c => [c.2.1]) := by
  show (m.i2e ++ t.created.map (fun c => (⟨c.1, c.2.1⟩ : I2e))).map (fun r => [r.label]) = _
  rw [List.map_append, List.map_map]; rfl

theorem applyIdmap_explicit (m0 : IdMap) (t : Txn)
    (hids : ∀ i c, t.created[i]? = some c → c.2.2 = m0.i2e.length + i)
    (hfresh : ∀ c ∈ t.created, m0.lookup c.1 = none) (hnd : (t.created.map (·.1)).Nodup)
    (hadd : ∀ p ∈ t.addL, p.1 < m0.i2l.length + t.created.length)
    (hdel : ∀ p ∈ t.delL, p.1 < m0.i2l.length + t.created.length) :
    applyIdmap m0 t.created t.addL t.delL = (idmapAfter m0 t, none) := by
  unfold applyIdmap
  rw [foldStop_create t.created m0 hids hfresh hnd]
  simp only
  rw [foldStop_add_eq t.addL _ (by intro p hp; simp only [List.length_append, List.length_map]; exact hadd p hp)]
  simp only
  rw [foldStop_remove_eq t.delL _ (by
    intro p hp; simp only [addAll_length, List.length_append, List.length_map]; exact hdel p hp)]
  rfl

end Nervus.Storage
