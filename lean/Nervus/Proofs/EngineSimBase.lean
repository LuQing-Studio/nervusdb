/-
  Proofs/EngineSimBase.lean — basic facts for the C06 refinement: association lists and the staged
  overlay on them, interning, name resolution.
-/
import Nervus.Proofs.EngineProps
import Nervus.Spec.History
namespace Nervus.Storage
open Nervus.GraphSpec (Graph TxOp Op Rel)

/-! ### the memtable's sets and maps (`setInsert`, `upsert`, `mapErase`) under `∈` and `lookup` -/

theorem mem_setInsert {α} [DecidableEq α] (a b : α) (s : List α) :
    b ∈ setInsert a s ↔ b = a ∨ b ∈ s := by
  unfold setInsert
  split
  · next h => exact ⟨Or.inr, fun h' => h'.elim (fun e => e ▸ by simpa using h) id⟩
  · exact List.mem_cons

theorem mem_filter_ne {α} [BEq α] [LawfulBEq α] (l : List α) (a b : α) :
    a ∈ l.filter (· != b) ↔ a ∈ l ∧ a ≠ b := by
  simp [List.mem_filter]

theorem lookup_upsert {κ ν} [DecidableEq κ] [BEq κ] [LawfulBEq κ] (k k' : κ) (v : ν) (m : List (κ × ν)) :
    (upsert k v m).lookup k' = if k' = k then some v else m.lookup k' := by
  rw [upsert, List.lookup_cons]
  split
  · next h => rw [if_pos (beq_iff_eq.mp h)]
  · next h =>
    have hne : k' ≠ k := ne_of_beq_false h
    rw [if_neg hne, lookup_filter_of_keep]
    intro _; simpa using hne

theorem lookup_mapErase {κ ν} [DecidableEq κ] [BEq κ] [LawfulBEq κ] (k k' : κ) (m : List (κ × ν)) :
    (mapErase k m).lookup k' = if k' = k then none else m.lookup k' := by
  rw [mapErase]
  split
  · next h => exact lookup_filter_of_drop _ fun _ => by simp [h]
  · next h => exact lookup_filter_of_keep _ fun _ => by simpa using h

theorem lookup_reverse_of_nodup {κ ν} [BEq κ] [LawfulBEq κ] (l : List (κ × ν)) (hn : (l.map (·.1)).Nodup)
    (k : κ) (v : ν) (h : (k, v) ∈ l) : l.reverse.lookup k = some v :=
  lookup_eq_some_of_mem (List.mem_reverse.mpr h) fun _ hv' =>
    congrArg Prod.snd (eq_of_key_eq hn (List.mem_reverse.mp hv') h rfl)

/-! ### the staged overlay: a spec map `G` against staged values `M`, staged removals `D` and the value
    `b` below them, read at one key (`a` on the spec side, `a'` on the transaction's side) -/

section Overlay
variable {κ κ' : Type} [BEq κ] [LawfulBEq κ] [DecidableEq κ'] [BEq κ'] [LawfulBEq κ']
  {G : List (κ × PV)} {M : List (κ' × PV)} {D : List κ'} {b : Option PV} {k a : κ} {k' a' : κ'}

/-- MemTable::set_*_property against the Spec's `nprop` / `eprop` -/
theorem overlay_set (v : PV) (hiff : a = k ↔ a' = k')
    (h : G.lookup a = match M.lookup a' with
      | some x => some x
      | none => if a' ∈ D then none else b) :
    ((k, v) :: G.filter (·.1 != k)).lookup a = match (upsert k' v M).lookup a' with
      | some x => some x
      | none => if a' ∈ D.filter (· != k') then none else b := by
  rw [lookup_upsert, List.lookup_cons]
  by_cases hk : a' = k'
  · rw [if_pos hk, beq_iff_eq.mpr (hiff.mpr hk)]
  · have hk2 : a ≠ k := fun e => hk (hiff.mp e)
    rw [if_neg hk, beq_false_of_ne hk2, lookup_filter_of_keep _ (fun _ => by simpa using hk2), h]
    simp only [mem_filter_ne, hk, ne_eq, not_false_eq_true, and_true]

/-- MemTable::remove_*_property against the Spec's `npropDel` / `epropDel` -/
theorem overlay_del (hiff : a = k ↔ a' = k')
    (h : G.lookup a = match M.lookup a' with
      | some x => some x
      | none => if a' ∈ D then none else b) :
    (G.filter (·.1 != k)).lookup a = match (mapErase k' M).lookup a' with
      | some x => some x
      | none => if a' ∈ setInsert k' D then none else b := by
  rw [lookup_mapErase]
  by_cases hk : a' = k'
  · rw [if_pos hk, lookup_filter_of_drop _ (fun _ => by simpa using hiff.mpr hk),
      if_pos ((mem_setInsert _ _ _).mpr (Or.inl hk))]
  · have hk2 : a ≠ k := fun e => hk (hiff.mp e)
    rw [if_neg hk, lookup_filter_of_keep _ (fun _ => by simpa using hk2), h]
    simp only [mem_setInsert, hk, false_or]

omit [BEq κ] [LawfulBEq κ] in
/-- a key staged as removed has no staged value: kept by `set` … -/
theorem staged_disj_set (h : ∀ key ∈ D, M.lookup key = none) (k' : κ') (v : PV) :
    ∀ key ∈ D.filter (· != k'), (upsert k' v M).lookup key = none := by
  intro key hkey
  obtain ⟨h1, h2⟩ := (mem_filter_ne _ _ _).mp hkey
  rw [lookup_upsert, if_neg h2, h key h1]

omit [BEq κ] [LawfulBEq κ] in
/-- … and by `remove` -/
theorem staged_disj_del (h : ∀ key ∈ D, M.lookup key = none) (k' : κ') :
    ∀ key ∈ setInsert k' D, (mapErase k' M).lookup key = none := by
  intro key hkey
  rw [lookup_mapErase]
  split
  · rfl
  · next hne => exact h key (((mem_setInsert _ _ _).mp hkey).resolve_left hne)

end Overlay

/-! ### the interner -/

theorem getId_some_iff (t : Interner) (nm id : Nat) (hn : t.Nodup) :
    t.getId nm = some id ↔ t[id]? = some nm := by
  unfold Interner.getId
  constructor
  · intro h
    simp only at h
    split at h
    · next hlt => cases h; simp [List.getElem?_eq_getElem hlt]
    · cases h
  · intro h
    obtain ⟨hlt, rfl⟩ := List.getElem?_eq_some_iff.mp h
    simp [hn.idxOf_getElem id hlt, hlt]

theorem getId_none_iff (t : Interner) (nm : Nat) : t.getId nm = none ↔ nm ∉ t := by
  simp [Interner.getId, List.idxOf_lt_length_iff]

theorem lt_of_getElem?_eq_some {t : Interner} {r nm : Nat} (h : t[r]? = some nm) : r < t.length :=
  (List.getElem?_eq_some_iff.mp h).1

theorem name_inj (t : Interner) (hn : t.Nodup) (r r' nm : Nat) (h : t[r]? = some nm) (h' : t[r']? = some nm) :
    r = r' :=
  (List.getElem?_inj (lt_of_getElem?_eq_some h) hn).mp (h.trans h'.symm)

theorem prefix_getElem? {t0 t : Interner} (hp : t0 <+: t) (r nm : Nat) (h : t0[r]? = some nm) :
    t[r]? = some nm :=
  (getElem?_of_prefix hp (lt_of_getElem?_eq_some h)).trans h

theorem old_of_lt {t0 t : Interner} (hp : t0 <+: t) {r nm : Nat}
    (hr : t[r]? = some nm) (hlt : r < t0.length) : t0[r]? = some nm :=
  (getElem?_of_prefix hp hlt).symm.trans hr

theorem not_mem_of_new {t0 t : Interner} (hp : t0 <+: t) (hn : t.Nodup) {r nm : Nat}
    (hr : t[r]? = some nm) (hge : t0.length ≤ r) : nm ∉ t0 := by
  intro hm
  obtain ⟨i, hi, hget⟩ := List.mem_iff_getElem.mp hm
  have := name_inj _ hn _ _ _ hr (prefix_getElem? hp i nm (by rw [List.getElem?_eq_getElem hi, hget]))
  omega

theorem old_or_new {t0 t : Interner} (hp : t0 <+: t) (hn : t.Nodup) {r nm : Nat} (hr : t[r]? = some nm) :
    t0[r]? = some nm ∨ (nm ∉ t0 ∧ t0.length ≤ r) :=
  (Nat.lt_or_ge r t0.length).imp (old_of_lt hp hr) fun hge => ⟨not_mem_of_new hp hn hr hge, hge⟩

theorem getOrCreateLabel_prefix (s : Engine) (nm : Nat) : s.interner <+: (s.getOrCreateLabel nm).1.interner := by
  unfold Engine.getOrCreateLabel
  split
  · exact List.prefix_refl _
  · exact List.prefix_append _ _

theorem getOrCreateLabel_length_le (s : Engine) (nm : Nat) :
    (s.getOrCreateLabel nm).1.interner.length ≤ s.interner.length + 1 := by
  unfold Engine.getOrCreateLabel
  split <;> simp

theorem getOrCreateLabel_nodup (s : Engine) (nm : Nat) (hn : s.interner.Nodup) :
    (s.getOrCreateLabel nm).1.interner.Nodup := by
  unfold Engine.getOrCreateLabel
  split
  · exact hn
  · next h => exact List.nodup_append.mpr ⟨hn, List.nodup_cons.mpr ⟨List.not_mem_nil, List.nodup_nil⟩, fun a ha b hb e =>
      (getId_none_iff _ _).mp h (by rw [List.mem_singleton.mp hb] at e; exact e ▸ ha)⟩

theorem getOrCreateLabel_get (s : Engine) (nm : Nat) (hn : s.interner.Nodup) :
    (s.getOrCreateLabel nm).1.interner[(s.getOrCreateLabel nm).2]? = some nm := by
  unfold Engine.getOrCreateLabel
  split
  · next h => exact (getId_some_iff _ _ _ hn).mp h
  · simp

end Nervus.Storage
