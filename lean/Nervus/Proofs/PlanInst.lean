/-
  The concrete instance `dsemX X` (`dsem`: no EXISTS inside expressions; `dsemG`: with the graph facts of
  a line) satisfies the hypotheses the generic theorems ask of a `Sem`: the evaluator uses the collection
  check only to fail with that check's error (`LimitLawful`, given that the EXISTS subqueries `X` do:
  `ExLawful`), and `NOT` / `IS NULL` are lawful (`PredLawful`).
-/
import Nervus.Proofs.Limits
import Nervus.Model.PlanInst
namespace Nervus.PlanInst
open Nervus.PlanOps

def CollLawful (coll : String → Nat → Option DErr) : Prop :=
  ∀ stage n e, coll stage n = some e → e.isLimit = true

theorem ensure_lim (coll : String → Nat → Option DErr) (hc : CollLawful coll) (env row : DRow) (e : DE) :
    OrLimit DErr.isLimit (ensure coll env row e) (ensure (fun _ _ => none) env row e) := by
  induction e with
  | lit v | var x | existsSub i => exact .refl _ _
  | toBoolean e ih | toInteger e ih => exact ih.bind fun _ _ => .refl _ _
  | not e ih | isNull e ih | isNotNull e ih | single e ih => exact ih
  | eq a b iha ihb | lt a b iha ihb | gt a b iha ihb | and a b iha ihb | or a b iha ihb
  | add a b iha ihb | mod a b iha ihb => exact iha.bind fun _ _ => ihb
  | range a b iha ihb =>
    refine iha.bind fun _ _ => ihb.bind fun _ _ => ?_
    split
    · rename_i x y _ _
      cases h : coll "Function(range)" (if x > y then 0 else (y - x + 1).toNat) with
      | none => exact .refl _ _
      | some er => exact .limit _ (hc _ _ _ h) _
    · exact .refl _ _
  | caseWhen c t e ihc iht ihe => exact ihc.bind fun _ _ => iht.bind fun _ _ => ihe

/-- how the EXISTS subqueries answer under a collection check: as without it, or they fail with a limit error -/
def ExLawful (X : (String → Nat → Option DErr) → ExFn) (coll : String → Nat → Option DErr) : Prop :=
  ∀ i env row, X coll i env row = X (fun _ _ => none) i env row ∨
    ∃ e, X coll i env row = .failed e ∧ e.isLimit = true

/-- one induction for both halves: which branch of a `CASE` parks depends on the value of its condition -/
theorem evalPark_rel (X : (String → Nat → Option DErr) → ExFn) (coll : String → Nat → Option DErr)
    (hX : ExLawful X coll) (env row : DRow) (e : DE) :
    (parkV (X coll) env row e = parkV (X (fun _ _ => none)) env row e ∨
      ∃ er, parkV (X coll) env row e = some er ∧ er.isLimit = true) ∧
    (parkV (X coll) env row e = none →
      evalV (X coll) env row e = evalV (X (fun _ _ => none)) env row e) := by
  induction e with
  | lit v | var x => exact ⟨.inl rfl, fun _ => rfl⟩
  | toBoolean e ih | toInteger e ih | not e ih | isNull e ih | isNotNull e ih | single e ih =>
    simp only [parkV, evalV]
    exact ⟨ih.1, fun h => by rw [ih.2 h]⟩
  | eq a b iha ihb | lt a b iha ihb | gt a b iha ihb | and a b iha ihb | or a b iha ihb
  | add a b iha ihb | mod a b iha ihb | range a b iha ihb =>
    refine ⟨firstSome_lim DErr.isLimit iha.1 fun _ => ihb.1, fun h => ?_⟩
    obtain ⟨ha, hb⟩ := firstSome_eq_none h
    simp only [evalV]
    rw [iha.2 ha, ihb.2 hb]
  | existsSub i =>
    simp only [parkV, evalV]
    rcases hX i env row with h | ⟨er, he, hl⟩
    · rw [h]; exact ⟨.inl rfl, fun _ => rfl⟩
    · rw [he]; exact ⟨.inr ⟨er, rfl, hl⟩, fun h => by cases h⟩
  | caseWhen c t e ihc iht ihe =>
    simp only [parkV, evalV]
    rcases ihc.1 with hc | ⟨er, hc, hl⟩
    · rw [← hc]
      cases hpc : parkV (X coll) env row c with
      | some er => exact ⟨.inl rfl, fun h => by cases h⟩
      | none =>
        simp only [firstSome_none]
        rw [← ihc.2 hpc]
        split
        · exact iht
        · exact ihe
    · rw [hc]; exact ⟨.inr ⟨er, rfl, hl⟩, fun h => by cases h⟩

theorem aggValue_lim (X : (String → Nat → Option DErr) → ExFn) (coll : String → Nat → Option DErr)
    (hc : CollLawful coll) (hX : ExLawful X coll) (env : DRow) (rows : List DRow) (a : DAgg)
    (hnp : ∀ e, aggArg a = some e → ∀ r ∈ rows, parkV (X coll) env r e = none) :
    OrLimit DErr.isLimit (aggValue (X coll) coll env rows a)
      (aggValue (X (fun _ _ => none)) (fun _ _ => none) env rows a) := by
  have hmap : ∀ e, aggArg a = some e →
      rows.map (fun r => evalV (X coll) env r e) = rows.map (fun r => evalV (X (fun _ _ => none)) env r e) :=
    fun e he => List.map_congr_left fun r hr => (evalPark_rel X coll hX env r e).2 (hnp e he r hr)
  cases a with
  | countStar => exact .refl _ _
  | count e | sum e | min e | max e =>
    simp only [aggValue]
    rw [hmap e rfl]
    exact .refl _ _
  | collect e =>
    simp only [aggValue]
    rw [hmap e rfl]
    cases h : coll "Aggregate.collect" (List.filter (fun x => x != dnull) (List.map (fun r => evalV (X (fun _ _ => none)) env r e) rows)).length with
    | none => exact .refl _ _
    | some er => exact .limit _ (hc _ _ _ h) _

theorem dsemX_limitLawful (X : (String → Nat → Option DErr) → ExFn) (coll : String → Nat → Option DErr)
    (hc : CollLawful coll) (hX : ExLawful X coll) :
    (dsemX X).LimitLawful coll DErr.isLimit where
  park e env r := (evalPark_rel X coll hX env r e).1
  eval e env r hp := by
    simp only [dsemX, deval] at hp ⊢
    rw [(evalPark_rel X coll hX env r e).2 hp]
    exact (ensure_lim coll hc env r e).elim (fun _ => OrLimit.refl _ _) (fun _ => OrLimit.refl _ _)
      (fun _ hl => OrLimit.limit _ hl _)
  aggPark aggs env rows := by
    apply findSome_lim DErr.isLimit
    intro a
    cases aggArg a.1 with
    | none => left; rfl
    | some e => exact findSome_lim DErr.isLimit _ _ (fun r => (evalPark_rel X coll hX env r e).1) rows
  aggPark_nil aggs env := by
    apply List.findSome?_eq_none_iff.2
    intro a _
    cases aggArg a.1 <;> rfl
  aggCheck aggs env r := by
    refine OrLimit.forM aggs fun a _ => ?_
    cases aggArg a.1 with
    | none => exact .refl _ _
    | some e => exact ensure_lim coll hc env r e
  aggFinal gb aggs env rows hp := by
    have hall := List.findSome?_eq_none_iff.1 hp
    refine OrLimit.foldlM aggs (fun acc a ha => (aggValue_lim X coll hc hX env rows a.1 fun e he r hr => ?_).map _) _
    have := hall a ha
    rw [he] at this
    exact List.findSome?_eq_none_iff.1 this r hr

theorem noEx_lawful (coll : String → Nat → Option DErr) : ExLawful (fun _ => noEx) coll :=
  fun _ _ _ => Or.inl rfl

theorem dsem_limitLawful (coll : String → Nat → Option DErr) (hc : CollLawful coll) :
    dsem.LimitLawful coll DErr.isLimit :=
  dsemX_limitLawful _ coll hc (noEx_lawful coll)

theorem dsemG_limitLawful (G : GraphFns) (X : (String → Nat → Option DErr) → ExFn)
    (coll : String → Nat → Option DErr) (hc : CollLawful coll) (hX : ExLawful X coll) :
    (dsemG G X).LimitLawful coll DErr.isLimit :=
  let h := dsemX_limitLawful X coll hc hX
  ⟨h.park, h.eval, h.aggPark, h.aggPark_nil, h.aggCheck, h.aggFinal⟩

theorem ofOpts_lawful (o : Opts) (rowFires timeFires : Site → Nat → Bool) :
    (LimEnv.ofOpts DErr.limit o rowFires timeFires).Lawful DErr.isLimit where
  coll stage n e h := by
    simp only [LimEnv.ofOpts] at h
    split at h <;> simp at h; subst h; rfl
  apply n e h := by
    simp only [LimEnv.ofOpts] at h
    split at h <;> simp at h; subst h; rfl
  row site i e h := by
    simp only [LimEnv.ofOpts] at h
    split at h <;> simp at h; subst h; rfl
  time site i e h := by
    simp only [LimEnv.ofOpts] at h
    split at h <;> simp at h; subst h; rfl

theorem ofOpts_collLawful (o : Opts) (rowFires timeFires : Site → Nat → Bool) :
    CollLawful (LimEnv.ofOpts DErr.limit o rowFires timeFires).coll :=
  (ofOpts_lawful o rowFires timeFires).coll

theorem deval_unop (X : ExFn) (coll : String → Nat → Option DErr) (env r : DRow) (f : DE → DE)
    (hf : ∀ p, ensure coll env r (f p) = ensure coll env r p) (p : DE) :
    (∀ e, deval X coll p env r = .error e → deval X coll (f p) env r = .error e) ∧
    (∀ v, deval X coll p env r = .ok v →
      v = evalV X env r p ∧ deval X coll (f p) env r = .ok (evalV X env r (f p))) := by
  unfold deval
  rw [hf]
  cases ensure coll env r p with
  | error e' => exact ⟨fun _ h => h, fun _ h => (nomatch h)⟩
  | ok u => exact ⟨fun _ h => (nomatch h), fun _ h => ⟨(Except.ok.inj h).symm, rfl⟩⟩

theorem dsem_predLawful (X : (String → Nat → Option DErr) → ExFn) (coll : String → Nat → Option DErr) :
    (dsemX X).PredLawful coll DE.not DE.isNull where
  not_err p env r := (deval_unop (X coll) coll env r .not (fun _ => rfl) p).1
  not_ok p env r v h := by
    obtain ⟨rfl, h2⟩ := (deval_unop (X coll) coll env r .not (fun _ => rfl) p).2 v h
    refine ⟨_, h2, ?_⟩
    simp only [evalV]
    cases evalV (X coll) env r p with
    | list xs => rfl
    | s x => cases x with
      | bool b => cases b <;> rfl
      | _ => rfl
  isNull_err p env r := (deval_unop (X coll) coll env r .isNull (fun _ => rfl) p).1
  isNull_ok p env r v h := by
    obtain ⟨rfl, h2⟩ := (deval_unop (X coll) coll env r .isNull (fun _ => rfl) p).2 v h
    refine ⟨_, h2, ?_⟩
    simp only [evalV]
    cases evalV (X coll) env r p with
    | list xs => rfl
    | s x => cases x with
      | bool b => cases b <;> rfl
      | _ => rfl
  not_park p env r := rfl
  isNull_park p env r := rfl

end Nervus.PlanInst
