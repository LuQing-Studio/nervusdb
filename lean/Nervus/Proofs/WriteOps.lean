/-
  The write side (Model/WriteOps.lean): a read clause of a write statement that meets an error fails the
  statement with it, and the FOREACH loop under limits does what the unlimited loop does or fails with a
  limit error (the step of `write_complete_or_error`, Props/C33, that is not a tree theorem of the read
  operators).
-/
import Nervus.Model.WriteOps
import Nervus.Proofs.Limits
namespace Nervus.PlanOps

section
variable {χ ρ ν ε κ α ω τ : Type} [DecidableEq κ]

/-! ### errors are forwarded (C22) -/

theorem execW_stage_error (S : Sem χ ρ ν ε κ α) (Q : Quirks) (L : LimEnv ε) (W : WSem ω ρ ε τ)
    (site : Site) (env : ρ) (op : Plan χ ρ ε α → Plan χ ρ ε α) (inp : WPlan χ ρ ε α ω) (t t1 : τ)
    (n : Nat) (rows : List ρ) (e : ε)
    (h : execW S Q L W (.left site) env inp t = .ok (n, rows, t1))
    (he : collect (runL S Q L (.inner site) env (op (.scan rows))) = .error e) :
    execW S Q L W site env (.stage op inp) t = .error e := by
  simp only [execW, h, he]

/-! ### complete or error (C33) -/

omit [DecidableEq κ] in
theorem foreachLoop_lim (isLimit : ε → Bool) (S : Sem χ ρ ν ε κ α) (W : WSem ω ρ ε τ)
    (coll : String → Nat → Option ε) (hS : S.LimitLawful coll isLimit) (list : χ) (var : String) (env : ρ)
    (hlist : ∀ r, S.park coll list env r = none)
    (runL' runU : Nat → Nat → ρ → τ → Except ε (Nat × List ρ × τ))
    (hrun : ∀ i j r t, OrLimit isLimit (runL' i j r t) (runU i j r t)) (rows : List ρ) (t : τ) :
    OrLimit isLimit (foreachLoop S W coll list var env runL' rows t)
      (foreachLoop S W (fun _ _ => none) list var env runU rows t) := by
  refine OrLimit.foldlM _ (fun acc ir _ => ?_) _
  refine OrLimit.elim (hS.eval list env ir.2 (hlist ir.2)) (fun _ => .refl _ _) (fun v => ?_)
    (fun _ hl => .limit _ hl _)
  dsimp only
  cases S.listView v with
  | null | scalar => exact .refl _ _
  | list xs =>
    refine OrLimit.foldlM _ (fun a jx _ => ?_) _
    exact (hrun ir.1 jx.1 (S.set ir.2 var jx.2) a.2).elim (fun _ => .refl _ _) (fun _ => .refl _ _)
      (fun _ hl => .limit _ hl _)

end

end Nervus.PlanOps
