/-
  C32, histories of the identity part of the engine.  Two facts travel together: `Inv` (the `e2i` keys
  are in the I2E table and every non-zero entry of the table is among them, the non-zero entries are
  distinct, a staged transaction is `TxnOk`) and a numeric bound `Bnd s K` (every id in use is `≤ K`,
  the floor `≤ K + 1`) that moves as `bump` and `peak` compute from the operations alone.  While the
  bound is below `2^64` the probe loop never wraps (`probe_spec`), so an allocation finds a free
  non-zero id and, with internal ids left, an executor call cannot fail (`createAll_ok`).
  `StepOk` is what one step keeps; its builders `.same` and `.txn` cover every operation but `reopen`.
-/
import Nervus.Model.ExtId
import Nervus.Proofs.ListBasics
namespace Nervus.ExtId

/-! ### what the regenerated table says about the source (re-checked on every build) -/

theorem sites_call_fresh : Generated.extIdSitesCallFresh = true := by decide
theorem fresh_min_one : Generated.extIdFreshMin = 1 := by decide
theorem load_skips_zero : Generated.idmapLoadSkipsZero = true := by decide

theorem allocExt_eq (e : Engine) (t : Txn) (h : Nat) : allocExt e t h = freshExternalId e t h := by
  simp [allocExt, sites_call_fresh]

theorem reopen_eq (e : Engine) : reopen e = { i2e := e.i2e, e2i := e.i2e.filter (· ≠ 0), floor := 1 } := by
  simp [reopen, load_skips_zero]

/-! ### the probe loop -/

theorem next_eq {id : Nat} (h : id + 1 < two64) : next id = id + 1 :=
  if_neg (Nat.not_le_of_lt h)

theorem probeAux_spec (K : Nat) (hK : K + 1 < two64) : ∀ (f : Nat) (taken : List Nat) (id : Nat),
    taken.length ≤ f → (∀ x ∈ taken, x ≤ K) → id ≤ K + 1 →
    id ≤ probeAux f taken id ∧ probeAux f taken id ≤ K + 1 ∧ probeAux f taken id ∉ taken := by
  intro f
  induction f with
  | zero =>
    intro taken id hl _ hid
    cases List.eq_nil_of_length_eq_zero (Nat.le_zero.mp hl)
    exact ⟨Nat.le_refl _, hid, List.not_mem_nil⟩
  | succ f ih =>
    intro taken id hl hle hid
    unfold probeAux
    by_cases hmem : id ∈ taken
    · rw [if_pos hmem]
      have hidK : id ≤ K := hle id hmem
      rw [next_eq (Nat.lt_of_le_of_lt (Nat.succ_le_succ hidK) hK)]
      have hlen : (taken.erase id).length ≤ f := by
        rw [List.length_erase_of_mem hmem]; omega
      obtain ⟨h1, h2, h3⟩ := ih (taken.erase id) (id + 1) hlen
        (fun x hx => hle x (List.mem_of_mem_erase hx)) (Nat.succ_le_succ hidK)
      exact ⟨Nat.le_of_succ_le h1, h2, fun hin => h3 ((List.mem_erase_of_ne (by omega)).2 hin)⟩
    · rw [if_neg hmem]
      exact ⟨Nat.le_refl _, hid, hmem⟩

/-- `hK` is what keeps `next` from wrapping: the loop only passes through ids `≤ K + 1` -/
theorem probe_spec (K : Nat) (hK : K + 1 < two64) (taken : List Nat) (id : Nat)
    (hle : ∀ x ∈ taken, x ≤ K) (hid : id ≤ K + 1) :
    id ≤ probe taken id ∧ probe taken id ≤ K + 1 ∧ probe taken id ∉ taken :=
  probeAux_spec K hK taken.length taken id (Nat.le_refl _) hle hid

/-! ### create_node -/

theorem createNode_ok {e : Engine} {t : Txn} {ext : Nat} {r : Txn × Nat} (h : createNode e t ext = .ok r) :
    ext ∉ e.e2i ∧ ext ∉ t.exts ∧ e.i2e.length + t.created.length < two32 ∧
      r = (⟨t.created ++ [(ext, e.i2e.length + t.created.length)]⟩, e.i2e.length + t.created.length) := by
  unfold createNode at h
  by_cases h1 : ext ∈ e.e2i
  · rw [if_pos h1] at h; cases h
  · by_cases h2 : ext ∈ t.exts
    · rw [if_neg h1, if_pos h2] at h; cases h
    · by_cases h3 : two32 ≤ e.i2e.length + t.created.length
      · rw [if_neg h1, if_neg h2] at h; simp only [if_pos h3] at h; cases h
      · rw [if_neg h1, if_neg h2] at h; simp only [if_neg h3] at h
        cases h
        exact ⟨h1, h2, Nat.lt_of_not_le h3, rfl⟩

theorem createNode_fresh {e : Engine} {t : Txn} {ext : Nat} (h1 : ext ∉ e.e2i) (h2 : ext ∉ t.exts)
    (h3 : e.i2e.length + t.created.length < two32) :
    createNode e t ext = .ok (⟨t.created ++ [(ext, e.i2e.length + t.created.length)]⟩,
      e.i2e.length + t.created.length) := by
  unfold createNode
  rw [if_neg h1, if_neg h2]
  exact if_neg (Nat.not_le_of_lt h3)

theorem mem_exts_push {t : Txn} {ext iid x : Nat} :
    x ∈ (Txn.mk (t.created ++ [(ext, iid)])).exts ↔ x ∈ t.exts ∨ x = ext := by
  simp [Txn.exts]

structure TxnOk (e : Engine) (t : Txn) : Prop where
  dense : t.iids = List.range' e.i2e.length t.created.length
  nodup : t.exts.Nodup
  disj : ∀ x ∈ t.exts, x ∉ e.e2i

theorem TxnOk.empty (e : Engine) : TxnOk e Txn.empty :=
  ⟨rfl, List.nodup_nil, fun _ h => (nomatch h)⟩

theorem TxnOk.push {e : Engine} {t : Txn} (h : TxnOk e t) {ext : Nat} (h1 : ext ∉ e.e2i) (h2 : ext ∉ t.exts) :
    TxnOk e ⟨t.created ++ [(ext, e.i2e.length + t.created.length)]⟩ := by
  refine ⟨?_, ?_, fun x hx => (mem_exts_push.mp hx).elim (h.disj x) fun hx => hx ▸ h1⟩
  · have := h.dense
    simp only [Txn.iids] at this ⊢
    rw [List.map_append, this, List.length_append, List.length_singleton, List.range'_concat]
    simp
  · show (List.map Prod.fst (t.created ++ [(ext, _)])).Nodup
    rw [List.map_append, List.nodup_append]
    exact ⟨h.nodup, List.pairwise_singleton _ _, fun a ha b hb hab =>
      h2 ((show a = ext from hab.trans (List.mem_singleton.mp hb)) ▸ ha)⟩

theorem TxnOk.floor {e : Engine} {t : Txn} (h : TxnOk e t) (f : Nat) : TxnOk { e with floor := f } t :=
  ⟨h.dense, h.nodup, h.disj⟩

/-! ### bounds -/

theorem bumpHint_gt (K h : Nat) : K < bumpHint K h := by unfold bumpHint; omega

theorem foldl_bumpHint_ge (hs : List Nat) (K : Nat) : K ≤ hs.foldl bumpHint K :=
  List.foldlRecOn hs bumpHint (motive := fun K' => K ≤ K') (Nat.le_refl K)
    fun K' h x _ => Nat.le_trans h (Nat.le_of_lt (bumpHint_gt K' x))

theorem bump_ge (K : Nat) (op : Op) : K ≤ bump K op := by
  cases op <;> first | exact foldl_bumpHint_ge _ _ | exact Nat.le_max_right _ _ | exact Nat.le_refl _

theorem peak_ge (ops : List Op) (K : Nat) : K ≤ peak K ops :=
  List.foldlRecOn ops bump (motive := fun K' => K ≤ K') (Nat.le_refl K)
    fun K' h op _ => Nat.le_trans h (bump_ge K' op)

/-- everything the allocator looks at is `≤ K` -/
structure BndET (e : Engine) (t : Txn) (K : Nat) : Prop where
  i2e_le : ∀ x ∈ e.i2e, x ≤ K
  e2i_le : ∀ x ∈ e.e2i, x ≤ K
  txn_le : ∀ x ∈ t.exts, x ≤ K
  floor_le : e.floor ≤ K + 1

theorem BndET.mono {e : Engine} {t : Txn} {K K' : Nat} (h : BndET e t K) (hk : K ≤ K') : BndET e t K' :=
  ⟨fun x hx => Nat.le_trans (h.i2e_le x hx) hk, fun x hx => Nat.le_trans (h.e2i_le x hx) hk,
   fun x hx => Nat.le_trans (h.txn_le x hx) hk, by have := h.floor_le; omega⟩

/-- one allocation: a fresh non-zero id, only the floor of the engine moves, and the bound moves to
    `bumpHint K h` -/
theorem fresh_spec {e : Engine} {t : Txn} {K : Nat} (hb : BndET e t K) (h : Nat) (hK : bumpHint K h < two64) :
    ∃ id f, freshExternalId e t h = (id, { e with floor := f }) ∧ id ∉ e.e2i ∧ id ∉ t.exts ∧ id ≠ 0 ∧
      id ≤ bumpHint K h ∧ f ≤ bumpHint K h + 1 := by
  refine ⟨_, _, rfl, ?_⟩
  rw [fresh_min_one]
  have hle : ∀ x ∈ e.e2i ++ t.exts, x ≤ max h K := fun x hx =>
    Nat.le_trans ((List.mem_append.1 hx).elim (hb.e2i_le x) (hb.txn_le x)) (Nat.le_max_right _ _)
  have hfl := hb.floor_le
  unfold bumpHint at hK ⊢
  obtain ⟨p1, p2, p3⟩ := probe_spec (max h K) hK _ (max (max h e.floor) 1) hle (by omega)
  exact ⟨fun hx => p3 (List.mem_append_left _ hx), fun hx => p3 (List.mem_append_right _ hx), by omega, p2,
    Nat.le_trans (Nat.mod_le _ _) (Nat.succ_le_succ p2)⟩

/-- a whole executor call: never fails, only moves the floor, keeps the transaction well-formed, and the
    bound follows `bumpHint` -/
theorem createAll_ok (hs : List Nat) : ∀ (e : Engine) (t : Txn) (K : Nat), TxnOk e t → BndET e t K →
    hs.foldl bumpHint K < two64 → e.i2e.length + t.created.length + hs.length ≤ two32 →
    ∃ f t', createAll e t hs = ({ e with floor := f }, t', none) ∧ TxnOk e t' ∧
      BndET { e with floor := f } t' (hs.foldl bumpHint K) ∧ t'.created.length = t.created.length + hs.length ∧
      (∀ x ∈ t'.exts, x ∈ t.exts ∨ x ≠ 0) := by
  induction hs with
  | nil =>
    intro e t K hok hb _ _
    exact ⟨e.floor, t, rfl, hok, hb, rfl, fun x hx => Or.inl hx⟩
  | cons h hs ih =>
    intro e t K hok hb hK hv
    have hK1 : bumpHint K h < two64 := Nat.lt_of_le_of_lt (foldl_bumpHint_ge hs _) hK
    obtain ⟨id, f1, hfr, f1e, f1t, f1z, f1le, f1fl⟩ := fresh_spec hb h hK1
    rw [List.length_cons] at hv
    have hlt := Nat.le_of_lt (bumpHint_gt K h)
    have hb' : BndET { e with floor := f1 } ⟨t.created ++ [(id, e.i2e.length + t.created.length)]⟩ (bumpHint K h) :=
      ⟨fun x hx => Nat.le_trans (hb.i2e_le x hx) hlt, fun x hx => Nat.le_trans (hb.e2i_le x hx) hlt,
       fun x hx => (mem_exts_push.mp hx).elim (fun hx => Nat.le_trans (hb.txn_le x hx) hlt) fun hx => hx ▸ f1le,
       f1fl⟩
    obtain ⟨f, t', h1, h4, h5, h6, h7⟩ := ih _ _ _ ((hok.push f1e f1t).floor f1) hb' hK (by
      show e.i2e.length + (t.created ++ [_]).length + hs.length ≤ two32
      rw [List.length_append, List.length_singleton]; omega)
    have h6 : t'.created.length = (t.created ++ [(id, e.i2e.length + t.created.length)]).length + hs.length := h6
    refine ⟨f, t', ?_, ⟨h4.dense, h4.nodup, h4.disj⟩, h5, ?_, fun x hx => ?_⟩
    · simp only [createAll, allocExt_eq, hfr]
      rw [createNode_fresh (e := { e with floor := f1 }) f1e f1t
        (show e.i2e.length + t.created.length < two32 by omega)]
      exact h1
    · rw [h6, List.length_append, List.length_singleton, List.length_cons]; omega
    · rcases h7 x hx with hx | hx
      · exact (mem_exts_push.mp hx).imp_right fun (hx : x = id) => hx ▸ f1z
      · exact Or.inr hx

/-! ### commit -/

def Engine.withTxn (e : Engine) (t : Txn) : Engine :=
  { e with i2e := e.i2e ++ t.exts, e2i := t.exts.reverse ++ e.e2i }

theorem commitNodes_ok : ∀ (created : List (Nat × Nat)) (e : Engine), TxnOk e ⟨created⟩ →
    commitNodes e created = (e.withTxn ⟨created⟩, none) := by
  intro created
  induction created with
  | nil => intro e _; simp [commitNodes, Engine.withTxn, Txn.exts]
  | cons p rest ih =>
    intro e ⟨hd, hn, hdis⟩
    obtain ⟨ext, iid⟩ := p
    simp only [Txn.iids, List.map_cons, List.length_cons, List.range'_succ, List.cons.injEq] at hd
    obtain ⟨hiid, hrest⟩ := hd
    have hn := List.nodup_cons.mp hn
    have hext : ext ∉ e.e2i := hdis ext List.mem_cons_self
    simp only [commitNodes, applyCreate]
    rw [if_neg (by omega), if_neg hext]
    simp only
    rw [ih]
    · simp [Engine.withTxn, Txn.exts, List.append_assoc]
    · refine ⟨by simpa [Txn.iids] using hrest, hn.2, fun x hx => ?_⟩
      simp only [List.mem_cons, not_or]
      exact ⟨fun hxe => hn.1 (hxe ▸ hx), hdis x (List.mem_cons_of_mem _ hx)⟩

theorem finish_commit {e : Engine} {t : Txn} (h : TxnOk e t) :
    finish (commitNodes e t.created) = (⟨e.withTxn t, none⟩, .ok) := by
  rw [commitNodes_ok t.created e h]; rfl

/-! ### the invariant over histories -/

structure Inv (s : State) : Prop where
  e2i_sub : ∀ x ∈ s.eng.e2i, x ∈ s.eng.i2e
  i2e_sub : ∀ x ∈ s.eng.i2e, x ≠ 0 → x ∈ s.eng.e2i
  nodup : (s.eng.i2e.filter (· ≠ 0)).Nodup
  txn_ok : ∀ t, s.txn = some t → TxnOk s.eng t

theorem Inv.init : Inv State.init :=
  ⟨fun _ h => (nomatch h), fun _ h => (nomatch h), List.nodup_nil, fun _ h => (nomatch h)⟩

theorem inv_commit {e : Engine} {t : Txn} (hi : Inv ⟨e, some t⟩) : Inv ⟨e.withTxn t, none⟩ := by
  have hok := hi.txn_ok t rfl
  refine ⟨fun x hx => ?_, fun x hx hne => ?_, ?_, fun _ h => (nomatch h)⟩
  · exact List.mem_append.mpr ((List.mem_append.mp hx).symm.imp (hi.e2i_sub x) List.mem_reverse.mp)
  · exact List.mem_append.mpr ((List.mem_append.mp hx).symm.imp List.mem_reverse.mpr fun hx => hi.i2e_sub x hx hne)
  · show ((e.i2e ++ t.exts).filter _).Nodup
    rw [List.filter_append, List.nodup_append]
    refine ⟨hi.nodup, hok.nodup.sublist List.filter_sublist, fun a ha b hb hab => ?_⟩
    subst hab
    simp only [List.mem_filter, decide_eq_true_eq] at ha hb
    exact hok.disj a hb.1 (hi.i2e_sub a ha.1 ha.2)

theorem inv_floor {e : Engine} {tx : Option Txn} (hi : Inv ⟨e, tx⟩) (f : Nat) : Inv ⟨{ e with floor := f }, tx⟩ :=
  ⟨hi.e2i_sub, hi.i2e_sub, hi.nodup, fun t ht => (hi.txn_ok t ht).floor f⟩

structure Bnd (s : State) (K : Nat) : Prop where
  i2e_le : ∀ x ∈ s.eng.i2e, x ≤ K
  e2i_le : ∀ x ∈ s.eng.e2i, x ≤ K
  txn_le : ∀ t, s.txn = some t → ∀ x ∈ t.exts, x ≤ K
  floor_le : s.eng.floor ≤ K + 1

theorem Bnd.init : Bnd State.init 0 :=
  ⟨fun _ h => (nomatch h), fun _ h => (nomatch h), fun _ h => (nomatch h), Nat.le_refl _⟩

theorem Bnd.mono {s : State} {K K' : Nat} (h : Bnd s K) (hk : K ≤ K') : Bnd s K' :=
  ⟨fun x hx => Nat.le_trans (h.i2e_le x hx) hk, fun x hx => Nat.le_trans (h.e2i_le x hx) hk,
   fun t ht x hx => Nat.le_trans (h.txn_le t ht x hx) hk, by have := h.floor_le; omega⟩

theorem bnd_commit {e : Engine} {t : Txn} {K : Nat} (hb : Bnd ⟨e, some t⟩ K) : Bnd ⟨e.withTxn t, none⟩ K :=
  ⟨fun x hx => (List.mem_append.mp hx).elim (hb.i2e_le x) (hb.txn_le t rfl x),
   fun x hx => (List.mem_append.mp hx).elim (fun hx => hb.txn_le t rfl x (List.mem_reverse.mp hx)) (hb.e2i_le x),
   fun _ h => (nomatch h), hb.floor_le⟩

def nodesOf (s : State) : Nat :=
  s.eng.i2e.length + (match s.txn with | some t => t.created.length | none => 0)

theorem nodesOf_commit (e : Engine) (t : Txn) : nodesOf ⟨e.withTxn t, none⟩ = nodesOf ⟨e, some t⟩ := by
  simp [nodesOf, Engine.withTxn, Txn.exts]

/-- no node has the "none" marker 0 as its external id -/
structure NoZero (s : State) : Prop where
  i2e : 0 ∉ s.eng.i2e
  txn : ∀ t, s.txn = some t → 0 ∉ t.exts

theorem NoZero.init : NoZero State.init := ⟨fun h => (nomatch h), fun _ h => (nomatch h)⟩

theorem nz_commit {e : Engine} {t : Txn} (hz : NoZero ⟨e, some t⟩) : NoZero ⟨e.withTxn t, none⟩ :=
  ⟨fun h0 => (List.mem_append.mp h0).elim hz.i2e (hz.txn t rfl), fun _ h => (nomatch h)⟩

/-- what one step preserves, and where errors can come from -/
structure StepOk (s : State) (K : Nat) (op : Op) : Prop where
  nz : op ≠ .raw 0 → NoZero s → NoZero (step s op).1
  inv : Inv (step s op).1
  bnd : Bnd (step s op).1 (bump K op)
  pre : s.eng.i2e <+: (step s op).1.eng.i2e
  nodes : nodesOf (step s op).1 ≤ nodesOf s + volume [op]
  out : ∀ e, (step s op).2 = .err e → ∃ x, op = .raw x
  named : ∀ hs, op = .stmt hs ∨ op = .tstmt hs → (step s op).2 = .ok ∨ (step s op).2 = .bad

/-- a step that leaves the state alone: refused, nothing to do, or a refused caller-chosen id -/
theorem StepOk.same {s : State} {K : Nat} {op : Op} {o : Out} (hi : Inv s) (hb : Bnd s K)
    (h : step s op = (s, o)) (ho : o = .ok ∨ o = .bad ∨ ∃ x, op = .raw x) : StepOk s K op := by
  refine ⟨?_, ?_, ?_, ?_, ?_, ?_, ?_⟩ <;> rw [h]
  · exact fun _ hz => hz
  · exact hi
  · exact hb.mono (bump_ge K op)
  · exact List.prefix_refl _
  · exact Nat.le_add_right _ _
  · rintro e rfl
    rcases ho with ho | ho | ho
    · cases ho
    · cases ho
    · exact ho
  · rintro hs hop
    rcases ho with ho | ho | ⟨x, rfl⟩
    · exact Or.inl ho
    · exact Or.inr ho
    · rcases hop with hop | hop <;> cases hop

/-- a step that succeeds and ends, with the floor moved, in a well-formed transaction `t'` — left open or
    committed — whose ids obey the bound, are non-zero where it matters, and are within the op's volume -/
theorem StepOk.txn {e : Engine} {tx : Option Txn} {K : Nat} {op : Op} {f : Nat} {t' : Txn} {s' : State}
    (hi : Inv ⟨e, tx⟩) (hb : Bnd ⟨e, tx⟩ K) (h : step ⟨e, tx⟩ op = (s', .ok))
    (hs' : s' = ⟨{ e with floor := f }, some t'⟩ ∨ s' = ⟨({ e with floor := f }).withTxn t', none⟩)
    (hok : TxnOk e t') (hle : ∀ x ∈ t'.exts, x ≤ bump K op) (hf : f ≤ bump K op + 1)
    (hz : op ≠ .raw 0 → NoZero ⟨e, tx⟩ → 0 ∉ t'.exts)
    (hn : e.i2e.length + t'.created.length ≤ nodesOf ⟨e, tx⟩ + volume [op]) : StepOk ⟨e, tx⟩ K op := by
  have hK := bump_ge K op
  have hi' : Inv ⟨{ e with floor := f }, some t'⟩ :=
    ⟨hi.e2i_sub, hi.i2e_sub, hi.nodup, fun _ ht => Option.some.inj ht ▸ hok.floor f⟩
  have hb' : Bnd ⟨{ e with floor := f }, some t'⟩ (bump K op) :=
    ⟨fun x hx => Nat.le_trans (hb.i2e_le x hx) hK, fun x hx => Nat.le_trans (hb.e2i_le x hx) hK,
     fun _ ht => Option.some.inj ht ▸ hle, hf⟩
  have hz' : op ≠ .raw 0 → NoZero ⟨e, tx⟩ → NoZero ⟨{ e with floor := f }, some t'⟩ := fun hne hz0 =>
    ⟨hz0.i2e, fun _ ht => Option.some.inj ht ▸ hz hne hz0⟩
  refine ⟨?_, ?_, ?_, ?_, ?_, fun _ he => (by rw [h] at he; cases he), fun _ _ => (by rw [h]; exact Or.inl rfl)⟩ <;>
    rw [h] <;> rcases hs' with rfl | rfl
  · exact hz'
  · exact fun hne hz0 => nz_commit (hz' hne hz0)
  · exact hi'
  · exact inv_commit hi'
  · exact hb'
  · exact bnd_commit hb'
  · exact List.prefix_refl _
  · exact List.prefix_append _ _
  · exact hn
  · rw [nodesOf_commit]; exact hn

theorem bndET_of {s : State} {K : Nat} (hb : Bnd s K) (t : Txn) (ht : ∀ x ∈ t.exts, x ≤ K) : BndET s.eng t K :=
  ⟨hb.i2e_le, hb.e2i_le, ht, hb.floor_le⟩

theorem withTxn_empty (e : Engine) : e.withTxn Txn.empty = e := by
  simp [Engine.withTxn, Txn.exts, Txn.empty]

theorem step_ok (s : State) (K : Nat) (op : Op) (hi : Inv s) (hb : Bnd s K)
    (hK : bump K op < two64) (hv : nodesOf s + volume [op] ≤ two32) : StepOk s K op := by
  obtain ⟨e, tx⟩ := s
  -- an operation in the wrong transaction state is refused and changes nothing
  have bad : step ⟨e, tx⟩ op = (⟨e, tx⟩, .bad) → StepOk ⟨e, tx⟩ K op :=
    fun h => .same hi hb h (Or.inr (Or.inl rfl))
  cases op with
  | stmt hs =>
    cases tx with
    | some t => exact bad rfl
    | none =>
      obtain ⟨f, t', h1, hok, hbt, hlen, hnz⟩ := createAll_ok hs e Txn.empty K (TxnOk.empty e)
        (bndET_of hb _ fun _ h => (nomatch h)) hK hv
      refine .txn hi hb (f := f) (t' := t') ?_ (Or.inr rfl) hok hbt.txn_le hbt.floor_le ?_ ?_
      · simp only [step, h1, finish_commit (hok.floor f)]
      · exact fun _ _ h0 => (hnz 0 h0).elim (fun h => nomatch h) fun h => h rfl
      · rw [hlen]; show e.i2e.length + (0 + hs.length) ≤ e.i2e.length + 0 + (hs.length + 0); omega
  | tstmt hs =>
    cases tx with
    | none => exact bad rfl
    | some t =>
      obtain ⟨f, t', h1, hok, hbt, hlen, hnz⟩ := createAll_ok hs e t K (hi.txn_ok t rfl)
        (bndET_of hb t (hb.txn_le t rfl)) hK hv
      refine .txn hi hb (f := f) (t' := t') ?_ (Or.inl rfl) hok hbt.txn_le hbt.floor_le ?_ ?_
      · simp only [step, h1]
      · exact fun _ hz h0 => (hnz 0 h0).elim (hz.txn t rfl) fun h => h rfl
      · rw [hlen]; exact Nat.le_of_eq (Nat.add_assoc ..).symm
  | commit =>
    cases tx with
    | none => exact bad rfl
    | some t =>
      have hok := hi.txn_ok t rfl
      exact .txn hi hb (f := e.floor) (finish_commit hok) (Or.inr rfl) hok (hb.txn_le t rfl) hb.floor_le
        (fun _ hz => hz.txn t rfl) (Nat.le_add_right _ _)
  | raw x =>
    cases tx with
    | some t => exact bad rfl
    | none =>
      cases hc : createNode e Txn.empty x with
      | error err => exact .same (o := .err err) hi hb (by simp only [step, hc]) (Or.inr (Or.inr ⟨x, rfl⟩))
      | ok r =>
        obtain ⟨c1, c2, _, rfl⟩ := createNode_ok hc
        have hok := (TxnOk.empty e).push c1 c2
        refine .txn hi hb (f := e.floor) ?_ (Or.inr rfl) hok (fun y hy => ?_)
          (Nat.le_trans hb.floor_le (Nat.succ_le_succ (Nat.le_max_right _ _))) (fun hne _ h0 => ?_) (Nat.le_refl _)
        · simp only [step, hc, finish_commit hok]
        · cases List.mem_singleton.mp hy; exact Nat.le_max_left _ _
        · cases List.mem_singleton.mp h0; exact hne rfl
  | begin =>
    cases tx with
    | some t => exact bad rfl
    | none =>
      exact .txn hi hb (f := e.floor) (t' := Txn.empty) rfl (Or.inl rfl) (TxnOk.empty e) (fun _ h => nomatch h)
        hb.floor_le (fun _ _ h => nomatch h) (Nat.le_refl _)
  | rollback =>
    cases tx with
    | none => exact bad rfl
    | some t =>
      -- dropping the transaction leaves the engine as committing nothing would
      exact .txn hi hb (f := e.floor) (t' := Txn.empty) rfl (Or.inr (by rw [withTxn_empty])) (TxnOk.empty e)
        (fun _ h => nomatch h) hb.floor_le (fun _ _ h => nomatch h) (Nat.le_add_right _ _)
  | compact => cases tx <;> first | exact .same hi hb rfl (Or.inl rfl) | exact bad rfl
  | del => cases tx <;> first | exact .same hi hb rfl (Or.inl rfl) | exact bad rfl
  | reopen =>
    cases tx with
    | some t => exact bad rfl
    | none =>
      have hs : step ⟨e, none⟩ .reopen = (⟨⟨e.i2e, e.i2e.filter (· ≠ 0), 1⟩, none⟩, .ok) := by
        simp only [step, reopen_eq]
      refine ⟨fun _ hz => ?_, ?_, ?_, ?_, ?_, fun _ h => (by rw [hs] at h; cases h), fun _ _ => ?_⟩ <;> rw [hs]
      · exact ⟨hz.i2e, fun _ h => (nomatch h)⟩
      · exact ⟨fun x hx => (List.mem_filter.mp hx).1,
          fun x hx hne => List.mem_filter.mpr ⟨hx, decide_eq_true hne⟩, hi.nodup, fun _ h => (nomatch h)⟩
      · exact ⟨hb.i2e_le, fun x hx => hb.i2e_le x (List.mem_filter.mp hx).1, fun _ h => (nomatch h),
          Nat.le_add_left 1 K⟩
      · exact List.prefix_refl _
      · exact Nat.le_refl _
      · exact Or.inl rfl

theorem volume_cons (op : Op) (ops : List Op) : volume (op :: ops) = volume [op] + volume ops := by
  cases op <;> first | rfl | exact (Nat.zero_add _).symm

/-- what a history preserves, and where errors can come from: `StepOk` over a run -/
structure RunOk (s : State) (K : Nat) (ops : List Op) : Prop where
  inv : Inv (run s ops)
  bnd : Bnd (run s ops) (peak K ops)
  nodes : nodesOf (run s ops) ≤ nodesOf s + volume ops
  pre : ∀ pre post, ops = pre ++ post → (run s pre).eng.i2e <+: (run s ops).eng.i2e
  nz : (∀ op ∈ ops, op ≠ .raw 0) → NoZero s → NoZero (run s ops)
  out : ∀ p ∈ trace s ops, (∀ hs, p.1 = .stmt hs ∨ p.1 = .tstmt hs → p.2 = .ok ∨ p.2 = .bad) ∧
    (∀ e, p.2 = .err e → ∃ x, p.1 = .raw x)

theorem run_ok (ops : List Op) : ∀ (s : State) (K : Nat), Inv s → Bnd s K → peak K ops < two64 →
    nodesOf s + volume ops ≤ two32 → RunOk s K ops := by
  induction ops with
  | nil =>
    intro s K hi hb _ _
    refine ⟨hi, hb, Nat.le_refl _, fun pre post h => ?_, fun _ h => h, fun _ h => (nomatch h)⟩
    cases (List.append_eq_nil_iff.mp h.symm).1
    exact List.prefix_refl _
  | cons op ops ih =>
    intro s K hi hb hK hv
    have hK1 : bump K op < two64 := Nat.lt_of_le_of_lt (peak_ge ops _) hK
    rw [volume_cons] at hv
    have st := step_ok s K op hi hb hK1 (by omega)
    have hnodes := st.nodes
    obtain ⟨i1, i2, i3, i4, i5, i6⟩ := ih (step s op).1 (bump K op) st.inv st.bnd hK (by omega)
    refine ⟨i1, i2, ?_, fun pre post h => ?_, ?_, ?_⟩
    · rw [volume_cons]; show nodesOf (run (step s op).1 ops) ≤ _; omega
    · -- the history up to the split point only ever appends to the table
      cases pre with
      | nil => exact st.pre.trans (i4 [] ops rfl)
      | cons o pre' => cases (List.cons.inj h).1; exact i4 pre' post (List.cons.inj h).2
    · intro hno hz
      exact i5 (fun o ho => hno o (List.mem_cons_of_mem _ ho)) (st.nz (hno op List.mem_cons_self) hz)
    · intro p hp
      rcases List.mem_cons.mp hp with rfl | hp
      · exact ⟨st.named, st.out⟩
      · exact i6 p hp

theorem run_append (pre post : List Op) : ∀ s, run s (pre ++ post) = run (run s pre) post := by
  induction pre with
  | nil => intro s; rfl
  | cons op pre ih => intro s; exact ih _

end Nervus.ExtId
