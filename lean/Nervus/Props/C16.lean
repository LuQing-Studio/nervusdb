/-
  C16 — Query processing never crashes the host.   PARTIAL PROOF BY DESIGN.
  What is proved here: (a) facts about the nesting structure of the recursive-descent parser (Nervus.Model.Depth) and
  the absence of any bound on it; (b) decisions on the regenerated table of operator loops / timeout checks
  (Generated.ExecLimits).  What is not proof: (c) arbitrary text through the parser and every built-in — exercised by the
  `hostcrash` stream in child processes (search).  Statements, and the proof of `step_budget_does_not_bound_depth` (lemmas: Nervus.Proofs.Depth).
-/
import Nervus.Proofs.Depth
namespace Nervus.Props.C16
open Nervus.Depth

/-! ### (a) recursion depth -/

/-- **C16 (depth) at full strength**: there is a configured bound, the parser refuses what exceeds it, and whatever it
    accepts keeps both the parser's recursion and the AST depth within that bound. -/
def C16_full_depth : Prop :=
  ∃ bound : Nat, Generated.parserDepthLimit = some bound ∧
    ∀ e : E, withinLimit e = true → parserDepth e ≤ bound ∧ astDepth e ≤ bound

/-- what the source says today: no nesting-depth limit in the parser (regenerated table) -/
theorem parser_has_no_depth_limit : Generated.parserDepthLimit = none := by decide

theorem C16_full_depth_false : ¬ C16_full_depth := fun ⟨b, hb, _⟩ => by
  rw [parser_has_no_depth_limit] at hb; cases hb

/-- the recursion is bounded only by the input length: depth ≤ AST depth ≤ number of tokens (for every expression) -/
theorem depth_le_input_length (e : E) : parserDepth e ≤ astDepth e ∧ astDepth e ≤ tokens e :=
  ⟨parserDepth_le_astDepth e, astDepth_le_tokens e⟩

/-- **counterexample (parser recursion)**: for every bound there is an accepted input of linear size — `((((…1))))`,
    `[[[…]]]`, `NOT NOT … true` — whose parse recursion exceeds it. -/
theorem counterexample_unbounded_parser_depth (bound : Nat) :
    ∃ e : E, tokens e ≤ 2 * bound + 3 ∧ withinLimit e = true ∧ parserDepth e > bound :=
  ⟨nest (bound + 1), by have := nest_facts (bound + 1); omega, by simp [withinLimit, parser_has_no_depth_limit],
    by have := nest_facts (bound + 1); omega⟩

/-- **counterexample (AST depth without parser recursion)**: `1 + 1 + … + 1` and `m.a.a.a…` are parsed by loops
    (recursion depth ≤ 2) but produce an AST of depth `n + 1`: a depth guard on the parser's recursion alone would
    not protect validation, planning, evaluation and Drop. -/
theorem counterexample_flat_chain_deep_ast (bound : Nat) :
    ∃ e : E, parserDepth e ≤ 2 ∧ astDepth e > bound ∧ tokens e = 2 * (bound + 1) + 1 :=
  ⟨chain (bound + 1), (chain_facts _).2.1, by have := (chain_facts (bound + 1)).2.2; omega, (chain_facts _).1⟩

/-- the existing complexity guard (step budget) never trips on these inputs: it bounds work, not depth -/
theorem step_budget_does_not_bound_depth (e : E) : steps e ≤ stepBudget (tokens e) := by
  have hf : 1 ≤ Generated.parseStepFactor := by decide
  have : tokens e ≤ tokens e * Generated.parseStepFactor := Nat.le_mul_of_pos_right _ hf
  simp only [steps, stepBudget]
  omega

/-! ### (b) timeouts: decisions on the regenerated table -/

def loopsOf (cls : String) : List (String × String × Nat × String) :=
  Generated.operatorLoops.filter (fun r => r.2.2.2 == cls)

/-- every plan operator is created through `execute_plan`, which wraps it in the runtime guard, and the guard checks
    the soft timeout before every row it hands on: every loop that *pulls rows from a plan operator* passes a
    `check_timeout` site per iteration. -/
theorem operator_pulls_pass_timeout_check :
    Generated.guardWrapsEveryPlan = true ∧ Generated.guardChecksTimeoutPerRow = true := by decide

/-- **C16 (timeout) at full strength**: every loop of the execution operators passes a `check_timeout` site. -/
def C16_full_timeout : Prop := loopsOf "plain" = []

/-- decided on the table: false — 45 functions loop over materialised rows / values / neighbours without a timeout
    check of their own (bounded only by the row and collection limits) -/
theorem timeout_coverage :
    (loopsOf "checks").length = 4 ∧ (loopsOf "pulls").length = 19 ∧ (loopsOf "plain").length = 45 := by decide +kernel

theorem C16_full_timeout_false : ¬ C16_full_timeout := fun h => by
  have := timeout_coverage.2.2
  rw [show loopsOf "plain" = [] from h] at this
  cases this

/-- the guard keeps reporting the timeout on every call and never ends (no fuse) … -/
theorem guard_never_ends_after_error : Generated.guardEndsAfterError = false := by decide
/-- … so a consumer must stop at the first error; `execute_mixed` does (after fix `5fe8b19`; before it collected the
    endless error stream: a read statement that hit its timeout hung forever — corpus/hostcrash/timeout-hang.ops) -/
theorem execute_mixed_stops_at_first_error : Generated.executeMixedCollectsBeforeChecking = false := by decide

/-! ### non-vacuity -/
example : parserDepth (nest 3) = 4 ∧ tokens (nest 3) = 7 := by decide
example : parserDepth (chain 5) = 2 ∧ astDepth (chain 5) = 6 := by decide
example : parserDepth (.infix (.prefix (.group .atom)) (.postfix (.group (.infix .atom .atom)))) = 4 := by decide
example : (loopsOf "checks").map (fun r => r.2.1) = ["next", "execute_optional_where_fixup", "execute_order_by", "execute_aggregate"] := by
  decide +kernel

end Nervus.Props.C16
