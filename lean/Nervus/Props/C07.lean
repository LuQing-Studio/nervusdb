/-
  C07 — Uncommitted transactions leave no trace.
  Statements only (helper lemmas: Nervus.Proofs.{EngineAbort,WalBlocks,CheckpointHist}).
  Model: Nervus.Model.{Engine,EngineRun} (WriteTxn buffers every write in the memtable / pending
  lists; the two write-through paths are `get_or_create_label` and — before fix 996fa86 — `set_vector`).
-/
import Nervus.Proofs.EngineAbort
import Nervus.Proofs.CheckpointHist
import Nervus.Model.Triggers
namespace Nervus.Props.C07
open Nervus Nervus.Storage
open Nervus.GraphSpec (TxOp Op)


/-- the C07 fix is present in the source (regenerated table entry): `set_vector` stages the vector -/
theorem vectors_staged : Cfg.current.vecStaged = true := by decide +kernel

/-- **C07 (state level, full strength)**: from ANY engine state, a write transaction that stages ANY
    writes (vector insertions, new labels / relationship types included) and is then dropped leaves
    every read interface unchanged: node enumeration, tombstone flags, external ids, label ids,
    single-key and whole-map properties of nodes and relationships, outgoing / incoming neighbours,
    external-id lookup and vector search.  (`abs'` = these reads.) -/
theorem abort_no_trace (s : Engine) (ops : List TxOp) :
    let s' := runTx Cfg.current s ops false
    s'.nodes = s.nodes ∧ s'.nodesSnap = s.nodesSnap ∧ s'.isTombstoned = s.isTombstoned ∧
    s'.resolveExternal = s.resolveExternal ∧ s'.nodeLabels = s.nodeLabels ∧ s'.nodeProp = s.nodeProp ∧
    s'.nodeProps = s.nodeProps ∧ s'.neighbors = s.neighbors ∧
    s'.incoming Cfg.current = s.incoming Cfg.current ∧
    s'.edgeProp = s.edgeProp ∧ s'.edgeProps = s.edgeProps ∧ s'.lookupInternal = s.lookupInternal ∧
    s'.vecNodes = s.vecNodes :=
  (fold_view Cfg.current vectors_staged ops s.beginWrite).reads Cfg.current

/-- label interning writes through, but it is unobservable: names already interned keep their ids,
    and the label NAMES of every node are unchanged (stored label ids are interned ids or
    `LabelId::MAX`, the interner stays below `LabelId::MAX`) -/
theorem abort_label_names (s : Engine) (ops : List TxOp)
    (hids : ∀ (n l : Nat), l ∈ (s.idmap.i2l[n]?).getD [] → l = labelMax ∨ l < s.interner.length)
    (hsmall : (runTx Cfg.current s ops false).interner.length ≤ labelMax) (n : Nat) :
    (runTx Cfg.current s ops false).nodeLabelNames n = s.nodeLabelNames n ∧
    ∀ id, id < s.interner.length → (runTx Cfg.current s ops false).interner.getName id = s.interner.getName id :=
  ⟨(fold_view Cfg.current vectors_staged ops s.beginWrite).labelNames hids hsmall n,
   fun id h => getName_prefix (fold_view Cfg.current vectors_staged ops s.beginWrite).pre id h⟩

/-- what survives on disk: node table, segments, property store, vector index, manifest epoch and
    checkpoint are untouched (the log only gains label mini-transactions) -/
theorem abort_disk (s : Engine) (ops : List TxOp) :
    let s' := runTx Cfg.current s ops false
    s'.disk.i2e = s.disk.i2e ∧ s'.disk.segStore = s.disk.segStore ∧ s'.disk.store = s.disk.store ∧
    s'.disk.vecs = s.disk.vecs ∧ s'.epoch = s.epoch ∧ s'.ckptTxid = s.ckptTxid := by
  have h := fold_view Cfg.current vectors_staged ops s.beginWrite
  refine ⟨?_, h.segStore, h.store, h.vecs, h.epoch, h.ckpt⟩
  show (runTx Cfg.current s ops false).idmap.i2e = s.idmap.i2e
  exact congrArg IdMap.i2e h.idmap

/-- **C07 (history level)**: `abs' (M.run (h ++ [begin … abort])) = abs' (M.run h)` -/
theorem abort_no_trace_hist (h : List Op) (t : List TxOp) (s : Engine)
    (hr : Storage.run Cfg.current h = .ok s) :
    ∃ s', Storage.run Cfg.current (h ++ [.tx t false]) = .ok s' ∧
      s'.nodes = s.nodes ∧ s'.neighbors = s.neighbors ∧ s'.incoming Cfg.current = s.incoming Cfg.current ∧
      s'.nodeProp = s.nodeProp ∧ s'.nodeProps = s.nodeProps ∧ s'.edgeProp = s.edgeProp ∧
      s'.edgeProps = s.edgeProps ∧ s'.nodeLabels = s.nodeLabels ∧ s'.lookupInternal = s.lookupInternal ∧
      s'.vecNodes = s.vecNodes := by
  refine ⟨runTx Cfg.current s t false, ?_, ?_⟩
  · unfold Storage.run at hr ⊢
    rw [List.foldlM_append, hr]; rfl
  · have := abort_no_trace s t
    simp only at this
    obtain ⟨h1, _, _, _, h5, h6, h7, h8, h9, h10, h11, h12, h13⟩ := this
    exact ⟨h1, h8, h9, h6, h7, h10, h11, h5, h12, h13⟩

/-! ### failed commits: the log prefix they leave, and what replay makes of it -/

/-- the grouping loop of `Wal::replay_committed` drops its buffered records at every BeginTx
    (regenerated table entry; seed C07-seed1 makes it false) -/
theorem replay_resets_pending_at_begin : Generated.replayResetsPendingAtBegin = true := replay_resets_pending

/-- **record level, every log**: for EVERY log that consists of complete transactions and — anywhere
    between them and at the end — fragments `BeginTx, records…` that never got their CommitTx (failed
    commits, crashes), `replay_committed` returns exactly the complete transactions, each with the
    records strictly between its BeginTx and ITS CommitTx, in file order.  (`Blocks`, Proofs/WalBlocks.) -/
theorem replay_sees_committed_only {w : List WalRec} {txs : List (Nat × List WalRec)} (h : Blocks w txs) :
    replayCommitted w none [] = .ok txs := h.parse

/-- the same as an equation between logs: a fragment between two parts of a log changes nothing -/
theorem replay_drops_fragment {w w' : List WalRec} {txs txs' : List (Nat × List WalRec)}
    (h : Blocks w txs) (h' : Blocks w' txs') (t : Nat) (body : List WalRec) (hb : ∀ r ∈ body, r.isBody = true) :
    replayCommitted (w ++ (WalRec.beginTx t :: (body ++ w'))) none [] = replayCommitted (w ++ w') none [] := by
  rw [(h.concat (Blocks.abandoned hb h')).parse, (h.concat h').parse]

/-- without the reset (the seeded grouping loop) the records of a failed commit are handed to the next
    transaction that commits -/
theorem C07_counterexample_replay_without_reset :
    replayCommittedWith false
      [.beginTx 5, .setNodeProperty 0 363 7, .beginTx 6, .createEdge ⟨0, 1, 1⟩, .commitTx 6] none [] =
      .ok [(6, [.setNodeProperty 0 363 7, .createEdge ⟨0, 1, 1⟩])] ∧
    replayCommittedWith true
      [.beginTx 5, .setNodeProperty 0 363 7, .beginTx 6, .createEdge ⟨0, 1, 1⟩, .commitTx 6] none [] =
      .ok [(6, [.createEdge ⟨0, 1, 1⟩])] := ⟨rfl, rfl⟩

/-- every read interface answers alike (what `Eqv` says, spelled out) -/
def SameReads (s u : Engine) : Prop :=
  s.nodes = u.nodes ∧ s.nodesSnap = u.nodesSnap ∧ s.isTombstoned = u.isTombstoned ∧
  (∀ n rel, PermOpt (s.neighbors n rel) (u.neighbors n rel)) ∧
  (∀ n rel, PermOpt (s.incoming Cfg.current n rel) (u.incoming Cfg.current n rel)) ∧
  (∀ n k, s.nodeProp n k = u.nodeProp n k) ∧ (∀ e k, s.edgeProp e k = u.edgeProp e k) ∧
  (∀ n k, (s.nodeProps n).lookup k = (u.nodeProps n).lookup k) ∧
  (∀ e k, (s.edgeProps e).lookup k = (u.edgeProps e).lookup k) ∧
  s.nodeLabels = u.nodeLabels ∧ s.nodeLabelNames = u.nodeLabelNames ∧ s.resolveExternal = u.resolveExternal ∧
  s.lookupInternal = u.lookupInternal ∧ s.interner = u.interner ∧ s.vecNodes = u.vecNodes

/-- **one failed commit, state level**: a commit that fails at ANY of its log appends (`j` arbitrary:
    record larger than 1 MiB, value nested too deeply, I/O error; `j = 0`: nothing was appended) changes
    no read interface — exactly like dropping the transaction.  What `open` makes of the files it leaves
    (the log is `Blocks`, the fragment is dropped by replay) is part of `failed_commits_no_trace_hist`. -/
theorem failed_commit_no_trace (s : Engine) (ops : List TxOp) (j : Nat) :
    let s' := runTxFail Cfg.current s ops j
    s'.nodes = s.nodes ∧ s'.nodesSnap = s.nodesSnap ∧ s'.isTombstoned = s.isTombstoned ∧
    s'.resolveExternal = s.resolveExternal ∧ s'.nodeLabels = s.nodeLabels ∧ s'.nodeProp = s.nodeProp ∧
    s'.nodeProps = s.nodeProps ∧ s'.neighbors = s.neighbors ∧ s'.incoming Cfg.current = s.incoming Cfg.current ∧
    s'.edgeProp = s.edgeProp ∧ s'.edgeProps = s.edgeProps ∧ s'.lookupInternal = s.lookupInternal ∧
    s'.vecNodes = s.vecNodes :=
  -- a failed commit only appends to the log, which no read looks at
  abort_no_trace s ops

/-- **failed commits, history level (also after reopen)**.  For EVERY history of transactions
    (committed, dropped, or with a commit that FAILED at any of its log appends), compactions, closes
    and reopens whose view without the log (`XOp.erase`: a failed commit is an abandoned transaction) is
    well-formed, triggers no C06 finding and is `xHistSafe`: the history runs; a further reopen succeeds;
    and — live and after that reopen — the engine answers every read like the shadow engine `u` that ran
    only the transactions of the erased history (the failed ones as abandoned ones: they intern names and
    nothing else), which agrees with the Spec graph in which the failed transactions never happened.
    Uncommitted ⇒ no trace, also after reopen, also when later transactions commit behind the fragment. -/
theorem failed_commits_no_trace_hist (xs : List XOp)
    (hwf : GraphSpec.wellFormed (xs.map XOp.erase) = true)
    (hk : GraphSpec.noC06Trigger (xs.map XOp.erase) = true) (hsz : histSize (xs.map XOp.erase) ≤ labelMax)
    (hs : xHistSafe Cfg.current {} xs = true) :
    ∃ s s' u, xs.foldlM (runX Cfg.current) {} = .ok s ∧ s.reopen = .ok s' ∧
      Storage.run Cfg.current (txPart (xs.map XOp.erase)) = .ok u ∧
      SameReads s u ∧ SameReads s' u ∧ ReadsAgree Cfg.current u (GraphSpec.run (xs.map XOp.erase)) := by
  have k := HistOK.of_noTrigger hwf hk hsz
  obtain ⟨s, u, hrun, hrunu, hP⟩ := hist_pairX xs {} {} {} Pair.empty hs hwf k.size k.relProps k.reAdd k.endDel k.extZero
  obtain ⟨s', hopen, hP'⟩ := hP.reopen
  exact ⟨s, s', u, hrun, hopen, hrunu, hP.eqv.reads, hP'.eqv.reads, hP.sim.reads _⟩

/-- non-vacuity: a failed commit with records in the log, a committed transaction behind it, a
    compaction, another failed commit (nothing appended), reopen, more writes -/
def hFailed : List XOp :=
  [ .op (.tx [.node 10 (some 321), .node 11 none, .edge 0 338 1, .nprop 0 363 7] true),
    .txFail [.node 12 (some 322), .edge 0 338 1, .nprop 0 363 9, .eprop 0 338 1 363 5, .tombNode 2] 4,
    .op (.tx [.node 12 none, .edge 2 338 0, .nprop 2 363 1] true),
    .op .compact,
    .txFail [.nprop 1 363 4] 0,
    .op .reopen,
    .txFail [.tombEdge 0 338 1, .node 13 none] 9,
    .op (.tx [.nprop 1 363 2] true), .op .close ]

example : xHistSafe Cfg.current {} hFailed = true ∧ GraphSpec.wellFormed (hFailed.map XOp.erase) = true ∧
    GraphSpec.noC06Trigger (hFailed.map XOp.erase) = true ∧ histSize (hFailed.map XOp.erase) ≤ labelMax := by decide +kernel

/-- vector search never returns a node that a published run tombstones (fix b85f233: `search_vector`
    skips tombstoned nodes; a deleted node is not an existing node) -/
theorem vsearch_excludes_deleted (s : Engine) (n : Nat) (h : n ∈ s.vecNodes) : s.isTombstoned n = false := by
  unfold Engine.vecNodes at h
  have := (List.mem_filter.mp h).2
  unfold Engine.isTombstoned
  simpa using this

/-! ### non-vacuity -/

def A : Nat := 321
def R : Nat := 338

def hBase : List Op := [ .tx [.node 10 (some A), .node 11 (some A), .edge 0 R 1, .vec 0 [1, 2]] true ]
def tAbandoned : List TxOp := [.node 12 (some 322), .edge 0 339 1, .tombNode 1, .nprop 0 363 5, .vec 1 [3, 4]]

example : ∃ s, Storage.run Cfg.current hBase = .ok s ∧ s.vecNodes = [0] ∧ s.nodes = [0, 1] ∧
    (runTx Cfg.current s tAbandoned false).interner.length = s.interner.length + 2 :=
  ⟨_, rfl, by decide +kernel, by decide +kernel, by decide +kernel⟩

/-! ### the defect of the pinned tree (fixed by 996fa86; witness corpus/engine_abort/c07-vector-write-through.ops) -/

/-- with `set_vector` writing through (pinned tree) the vector of an abandoned transaction is searchable -/
theorem C07_counterexample_vector_write_through :
    ∃ s, Storage.run Cfg.pinned [ .tx [.node 10 (some A)] true ] = .ok s ∧ s.vecNodes = [] ∧
      (runTx Cfg.pinned s [.vec 0 [1, 2]] false).vecNodes = [0] ∧
      StorageTriggers.trigAbortedVec Cfg.pinned [ .tx [.node 10 (some A)] true, .tx [.vec 0 [1, 2]] false ] = true :=
  ⟨_, rfl, by decide +kernel, by decide +kernel, by decide +kernel⟩

/-- with the fix no history triggers the finding -/
theorem no_trigger_left (h : List Op) : StorageTriggers.trigAbortedVec Cfg.current h = false := by
  unfold StorageTriggers.trigAbortedVec; rw [vectors_staged]; rfl

end Nervus.Props.C07
