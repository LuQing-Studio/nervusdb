/-
  C04 — Reopen preserves logical content.
  Statements only (helper lemmas: Nervus.Proofs.{EngineReplay,WalBlocks,ReopenRec,NodeTable,
  ReopenMain,ReopenHist,IdEq,CompactHist,CheckpointRec,CheckpointHist,CheckpointTail}).
  Model: Nervus.Model.Engine (`commit` record order from the regenerated WalOrder table,
  `checkpoint_on_close`, `open` = replay_committed + scan_recovery_state + replay_label_transactions
  + IdMap::load + replay_graph_transactions with the `txid ≤ checkpoint_txid` skip).
-/
import Nervus.Proofs.ReadsAgreeEqv
import Nervus.Proofs.CheckpointTail
import Nervus.Model.Triggers
namespace Nervus.Props.C04
open Nervus Nervus.Storage
open Nervus.GraphSpec (TxOp Op)

/-- the C04 fix is present in the source: commit logs edge tombstones before CreateEdge records
    (regenerated table entry) -/
theorem tombstones_logged_first : StorageTriggers.tombBeforeCreate Cfg.current = true := by decide

/-- the reads of the engine that C04 speaks about (labels by name, neighbour lists as multisets) -/
def SameContent (s s' : Engine) : Prop :=
  s'.nodes = s.nodes ∧ (∀ n, s'.nodeLabelNames n = s.nodeLabelNames n) ∧
  (∀ n, s'.resolveExternal n = s.resolveExternal n) ∧ (∀ x, s'.lookupInternal x = s.lookupInternal x) ∧
  (∀ n k, s'.nodeProp n k = s.nodeProp n k) ∧ (∀ e k, s'.edgeProp e k = s.edgeProp e k) ∧
  (∀ n rel, PermOpt (s'.neighbors n rel) (s.neighbors n rel)) ∧
  (∀ n rel, PermOpt (s'.incoming Cfg.current n rel) (s.incoming Cfg.current n rel))

/-- **C04 at full strength**: after ANY history, dropping (or closing) the engine and opening it
    again succeeds and changes no read.  NOT provable on this tree (see the counterexamples). -/
def C04_full : Prop :=
  ∀ (h : List Op) (s : Engine), Storage.run Cfg.current h = .ok s →
    (∃ s', s.reopen = .ok s' ∧ SameContent s s') ∧
    (∃ s', s.checkpointOnClose.reopen = .ok s' ∧ SameContent s s')

/-- **C04 (proved part, history level): `reopen_preserves` for compaction-free histories.**
    For EVERY well-formed history of committed and abandoned transactions and ANY number of reopens
    (drop without close, then open) in between, that triggers no known finding (external id 0 is the
    only one that concerns reopen), every `open` succeeds, and the reads after the last reopen AND the
    reads before it both agree with the Spec graph — hence with each other: the same nodes keep their
    ids, labels (all of them) and properties, the same relationships their types, end nodes,
    multiplicity and properties.  By induction over histories with the recovery invariant `Rec`
    (what `open` computes from the log) next to the refinement invariant `Sim`. -/
theorem C04_partial (h : List Op) (hops : txOrReopen h = true) (hwf : GraphSpec.wellFormed h = true)
    (hk : GraphSpec.noC06Trigger h = true) (hsz : histSize h ≤ labelMax) :
    ∃ s s', Storage.run Cfg.current h = .ok s ∧ s.reopen = .ok s' ∧
      ReadsAgree Cfg.current s (GraphSpec.run h) ∧ ReadsAgree Cfg.current s' (GraphSpec.run h) := by
  obtain ⟨s, hrun, hsim, hrec⟩ := run_sim_rec h {} {} Sim.empty Rec.empty hops (HistOK.of_noTrigger hwf hk hsz)
  obtain ⟨s', hopen, hsim', _⟩ := reopen_sim hsim hrec
  exact ⟨s, s', hrun, hopen, hsim.reads _, hsim'.reads _⟩

theorem sameContent_of_eqv {a b : Engine} (hE : Eqv Cfg.current a b) : SameContent b a := by
  obtain ⟨nodes, _, _, out, inc, nprop, eprop, _, _, _, names, ext, lookup, _, _⟩ := hE.reads
  exact ⟨nodes, fun n => congrFun names n, fun n => congrFun ext n, fun x => congrFun lookup x, nprop, eprop, out, inc⟩

/-- **C04 (proved part, histories WITH compaction / checkpoint / close)**.
    For EVERY well-formed history of transactions (committed or dropped), compactions
    (= `Db::compact` = `Db::checkpoint`), closes (`checkpoint_on_close` + open: the log is REPLACED by
    label table + manifest + checkpoint when nothing is unflushed) and reopens (drop + open), in any
    order and number, that triggers no C06 finding and is `ckptHistSafe` (decidable: no label operation
    after node creation — the finding `C04-label-change-lost-after-checkpoint` —, compactions only from
    `compactSafe` states, no removal over a store value — the C05 findings):
    the history runs without error; a further reopen AND a further close both succeed and change no
    read (`SameContent`); and the engine answers every read like the shadow engine `u` that ran only
    the transactions, which agrees with the Spec graph of the history.
    Before and after every reopen / close the page the engine takes for the root of the property tree
    (recovered from the ManifestSwitch / Checkpoint records) IS the root of the tree (`RootOK`).
    Covers the checkpoint skip of `replay_graph_transactions` (`txid ≤ checkpoint_txid`), the manifest
    / checkpoint scan, the segment lookup by id, and the close-time log rewrite. -/
theorem C04_partial_ckpt (h : List Op) (hwf : GraphSpec.wellFormed h = true)
    (hk : GraphSpec.noC06Trigger h = true) (hsz : histSize h ≤ labelMax)
    (hs : ckptHistSafe Cfg.current {} h = true) :
    ∃ s s' s'' u, Storage.run Cfg.current h = .ok s ∧ s.reopen = .ok s' ∧ s.checkpointOnClose.reopen = .ok s'' ∧
      SameContent s s' ∧ SameContent s s'' ∧
      Storage.run Cfg.current (txPart h) = .ok u ∧ ReadsAgree Cfg.current u (GraphSpec.run h) ∧
      SameContent u s ∧ RootOK s ∧ RootOK s' ∧ RootOK s'' := by
  have k := HistOK.of_noTrigger hwf hk hsz
  obtain ⟨s, u, hrun, hrunu, hP⟩ := hist_pair h {} {} {} Pair.empty hs hwf k.size k.relProps k.reAdd k.endDel k.extZero
  obtain ⟨s', hopen, hP'⟩ := hP.reopen
  obtain ⟨s'', hclose, hP''⟩ := hP.close
  exact ⟨s, s', s'', u, hrun, hopen, hclose, sameContent_of_eqv (hP'.eqv.trans hP.eqv.symm), sameContent_of_eqv (hP''.eqv.trans hP.eqv.symm),
    hrunu, hP.sim.reads _, sameContent_of_eqv hP.eqv, hP.root, hP'.root, hP''.root⟩

/-- **C04 (proved part, label operations behind the last checkpoint)**.  For every history `h₁ ++ h₂`
    where `h₁` is as in `C04_partial_ckpt` (compactions, log-rewriting closes, no label operations) and the
    tail `h₂` holds transactions WITH label operations (add / remove, any number), reopens, closes that
    find unflushed runs (then `checkpoint_on_close` only flushes, the log stays) and compactions with
    nothing to compact (`tailSafe`) — i.e. no checkpoint FOLLOWS a label operation, which is exactly what the
    finding `C04-label-change-lost-after-checkpoint` needs —: the history runs, a further reopen succeeds and
    changes no read, and all reads before and after it agree with the Spec graph (all labels included). -/
theorem C04_partial_ckpt_labels (h₁ h₂ : List Op) (hwf : GraphSpec.wellFormed (h₁ ++ h₂) = true)
    (hk : GraphSpec.noC06Trigger (h₁ ++ h₂) = true) (hsz : histSize (h₁ ++ h₂) ≤ labelMax)
    (hs : ckptTailSafe h₁ h₂ = true) :
    ∃ s s', Storage.run Cfg.current (h₁ ++ h₂) = .ok s ∧ s.reopen = .ok s' ∧ SameContent s s' ∧
      ReadsAgree Cfg.current s (GraphSpec.run (h₁ ++ h₂)) ∧ ReadsAgree Cfg.current s' (GraphSpec.run (h₁ ++ h₂)) := by
  have k := HistOK.of_noTrigger hwf hk hsz
  obtain ⟨s, u, hrun, _, hP⟩ := hist_ckpt_tail h₁ h₂ hs hwf hsz k.relProps k.reAdd k.endDel k.extZero
  obtain ⟨s', hopen, hP'⟩ := hP.reopen
  exact ⟨s, s', hrun, hopen, sameContent_of_eqv (hP'.eqv.trans hP.eqv.symm), ReadsAgree.of_eqv hP.eqv (hP.sim.reads _),
    ReadsAgree.of_eqv hP'.eqv (hP'.sim.reads _)⟩

/-- non-vacuity: compaction and a log-rewriting close first, then label additions and removals, a reopen, a
    close over unflushed runs, more label operations -/
def hLabelsTail₁ : List Op :=
  [ .tx [.node 10 (some 321), .node 11 none, .edge 0 338 1, .nprop 0 363 7] true, .compact, .close ]
def hLabelsTail₂ : List Op :=
  [ .tx [.labelAdd 0 322, .labelAdd 1 321, .nprop 1 363 2] true, .reopen,
    .tx [.labelDel 0 321, .node 12 (some 323), .labelAdd 2 322] true, .close,
    .tx [.labelDel 1 321] true, .reopen ]

example : ckptTailSafe hLabelsTail₁ hLabelsTail₂ = true ∧ GraphSpec.wellFormed (hLabelsTail₁ ++ hLabelsTail₂) = true ∧
    GraphSpec.noC06Trigger (hLabelsTail₁ ++ hLabelsTail₂) = true ∧ histSize (hLabelsTail₁ ++ hLabelsTail₂) ≤ labelMax := by
  decide +kernel

/-! ### the node table reloads exactly what was written, for every size (seed C04-seed2) -/

/-- `IdMap::load` reads the node table record by record — record `k` from page `k / R`, slot `k % R`
    (regenerated table entries; seed C04-seed2 turns it into a page-wise loop with `count % R` slots of
    the last page) -/
theorem idmap_load_reads_per_record : Generated.idmapLoadPerRecord = true := by decide

/-- for EVERY record list (every node count `n`: 511, 512, 513, 1024, …) and every
    page capacity `R ≥ 1`, the record-by-record load returns exactly the written records, in order -/
theorem load_reads_all (R : Nat) (hR : 1 ≤ R) (recs : List I2e) :
    IdMap.readPerRecord R (IdMap.tablePages R recs) recs.length = recs := IdMap.load_reads_all R hR recs

/-- the load of the current source (what `GraphEngine::open` builds the idmap from; `Engine.open` in the
    model goes through it, so `C04_partial`, `C04_partial_ckpt` and `reopen_rec` depend on it) -/
theorem node_table_reloads (recs : List I2e) : IdMap.readNodeTable recs = recs := IdMap.readNodeTable_eq recs

/-- the page-wise formulation with `n % R` slots of the last page is wrong exactly on the page
    boundaries: with the real capacity, a table of exactly 512 records loads as EMPTY, whatever it holds;
    with `R = 2`: 4 records load as 2, 3 records load as 3; reading `n - page_index * R` slots is right -/
theorem C04_counterexample_page_wise_modulo (recs : List I2e) :
    IdMap.readPerPage true 512 (IdMap.tablePages 512 recs) 512 = [] ∧
    IdMap.readPerPage true 2 (IdMap.tablePages 2 [⟨10, 1⟩, ⟨11, 1⟩, ⟨12, 2⟩, ⟨13, 2⟩]) 4 = [⟨10, 1⟩, ⟨11, 1⟩] ∧
    IdMap.readPerPage true 2 (IdMap.tablePages 2 [⟨10, 1⟩, ⟨11, 1⟩, ⟨12, 2⟩]) 3 = [⟨10, 1⟩, ⟨11, 1⟩, ⟨12, 2⟩] ∧
    IdMap.readPerPage false 2 (IdMap.tablePages 2 [⟨10, 1⟩, ⟨11, 1⟩, ⟨12, 2⟩, ⟨13, 2⟩]) 4 =
      [⟨10, 1⟩, ⟨11, 1⟩, ⟨12, 2⟩, ⟨13, 2⟩] :=
  ⟨rfl, by decide +kernel, by decide +kernel, by decide +kernel⟩

/-- one reopen step, state level: from any engine state that satisfies the two invariants -/
theorem reopen_preserves_invariants {s : Engine} {g : GraphSpec.Graph} (hS : Sim s g) (hR : Rec s) :
    ∃ s', s.reopen = .ok s' ∧ Sim s' g ∧ Rec s' := reopen_sim hS hR

/-- **C04 (proved part): recover ∘ log = id for one transaction.**  For EVERY write transaction
    (any staged writes, from any engine state) the records `commit` appends to the log, replayed by
    `replay_graph_transactions` through a fresh memtable, give a run that no read can tell from the run
    `commit` published: same edges (multiset), same node / edge tombstones, same property values and
    removals.  Depends on the record order of the current source (`tombstones_logged_first`). -/
theorem C04_partial_tx (c : Cfg) (s : Engine) (ops : List TxOp) (i i' : IdMap) (mt' : MemTable) :
    let t := (ops.foldl (stepTx c) s.beginWrite).2
    (graphRecords t (t.mt.freeze t.txid)).foldlM replayOp (i, {}) = .ok (i', mt') →
    RunEq (mt'.freeze t.txid) (t.mt.freeze t.txid) := by
  intro t h
  exact replay_commit_roundtrip t (fold_mtWF c ops s.beginWrite MemTable.WF.empty) t.txid i i' mt' h

/-- read-equivalent run lists give the same answers on the run phase of every read -/
theorem runs_read_congruence {rs rs' : List Run} (h : RunsEq rs rs') :
    (∀ e, visE e rs = visE e rs') ∧ (∀ n, isTombNode rs n = isTombNode rs' n) ∧
    (∀ n k, npropRuns n k rs = npropRuns n k rs') ∧ (∀ e k, epropRuns e k rs = epropRuns e k rs') :=
  ⟨fun e => RunsEq.visE h e, fun n => RunsEq.isTombNode h n, fun n k => RunsEq.npropRuns h n k,
   fun e k => RunsEq.epropRuns h e k⟩

/-! ### non-vacuity: delete + re-create of a parallel relationship with properties in one transaction -/

def hReopens : List Op :=
  [ .tx [.node 10 (some 321), .node 11 none, .edge 0 338 1, .edge 0 338 1, .labelAdd 0 322, .nprop 0 363 7] true,
    .reopen,
    .tx [.tombEdge 0 338 1, .edge 0 338 1, .eprop 0 338 1 363 5, .labelDel 0 321, .labelAdd 1 321] true,
    .tx [.node 12 (some 322)] false,
    .reopen, .reopen,
    .tx [.epropDel 0 338 1 363, .tombEdge 0 338 1, .tombNode 1, .npropDel 0 363] true ]

example : txOrReopen hReopens = true ∧ GraphSpec.wellFormed hReopens = true ∧
    GraphSpec.noC06Trigger hReopens = true ∧ histSize hReopens ≤ labelMax := by decide +kernel

/-- non-vacuity of `C04_partial_ckpt`: compactions, a reopen between them, a node-only transaction above
    the checkpoint, a close that rewrites the log, writes after it, a dropped transaction, reopen, close -/
def hCkpt : List Op :=
  [ .tx [.node 10 (some 321), .node 11 none, .edge 0 338 1, .edge 0 338 1, .nprop 0 363 7] true,
    .compact,
    .tx [.node 12 (some 322), .edge 2 338 0, .eprop 2 338 0 363 5] true,
    .reopen,
    .tx [.node 13 none] true,
    .compact, .close,
    .tx [.nprop 1 363 9] true, .tx [.node 14 none] false,
    .reopen, .close ]

example : ckptHistSafe Cfg.current {} hCkpt = true ∧ GraphSpec.wellFormed hCkpt = true ∧
    GraphSpec.noC06Trigger hCkpt = true ∧ histSize hCkpt ≤ labelMax := by decide +kernel

def A : Nat := 321
def B : Nat := 322
def R : Nat := 338
def K : Nat := 363

def hRecreate : List Op :=
  [ .tx [.node 10 (some A), .node 11 (some A), .edge 0 R 1, .edge 0 R 1] true,
    .tx [.tombEdge 0 R 1, .edge 0 R 1, .eprop 0 R 1 K 5, .nprop 0 K 1, .npropDel 1 K] true ]

/-- on the current tree the re-created relationship survives the reopen … -/
example : ∃ s s', Storage.run Cfg.current hRecreate = .ok s ∧ s.reopen = .ok s' ∧
    s.neighbors 0 none = some [⟨0, 1, 1⟩] ∧ s'.neighbors 0 none = some [⟨0, 1, 1⟩] ∧
    s'.edgeProp ⟨0, 1, 1⟩ K = some 5 ∧ s'.nodeProp 0 K = some 1 :=
  ⟨_, _, rfl, rfl, by decide +kernel, by decide +kernel, by decide +kernel, by decide +kernel⟩

/-- … on the pinned tree it was lost (CreateEdge logged before TombstoneEdge; fixed by 7032310) -/
theorem C04_counterexample_recreate :
    ∃ s s', Storage.run Cfg.pinned hRecreate = .ok s ∧ s.reopen = .ok s' ∧
      s.neighbors 0 none = some [⟨0, 1, 1⟩] ∧ s'.neighbors 0 none = some [] ∧
      StorageTriggers.trigRecreate Cfg.pinned hRecreate = true ∧
      StorageTriggers.trigRecreate Cfg.current hRecreate = false :=
  ⟨_, _, rfl, rfl, by decide +kernel, by decide +kernel, by decide +kernel, by decide +kernel⟩

/-! ### counterexamples on the CURRENT tree (known findings; witnesses in corpus/engine_reopen/) -/

/-- only the first label is persisted in the node table and AddNodeLabel records at or below the
    checkpoint are skipped: `:B` of `(:A:B)` is gone after compact + reopen -/
def hSecondLabel : List Op :=
  [ .tx [.node 10 (some A), .labelAdd 0 B, .nprop 0 K 1] true, .compact ]

theorem C04_counterexample_second_label :
    ∃ s s', Storage.run Cfg.current hSecondLabel = .ok s ∧ s.reopen = .ok s' ∧
      s.nodeLabelNames 0 = [A, B] ∧ s'.nodeLabelNames 0 = [A] ∧
      StorageTriggers.labelChangeThenCheckpoint hSecondLabel = true :=
  ⟨_, _, rfl, rfl, by decide +kernel, by decide +kernel, by decide +kernel⟩

/-- a removed first label is back after compact + reopen -/
def hLabelRemoval : List Op :=
  [ .tx [.node 10 (some A), .nprop 0 K 1] true, .tx [.labelDel 0 A, .nprop 0 K 2] true, .compact ]

theorem C04_counterexample_label_removal :
    ∃ s s', Storage.run Cfg.current hLabelRemoval = .ok s ∧ s.reopen = .ok s' ∧
      s.nodeLabelNames 0 = [] ∧ s'.nodeLabelNames 0 = [A] ∧
      StorageTriggers.labelChangeThenCheckpoint hLabelRemoval = true :=
  ⟨_, _, rfl, rfl, by decide +kernel, by decide +kernel, by decide +kernel⟩

/-- the same loss through Db::close (checkpoint-on-close rewrites the log without the label records) -/
theorem C04_counterexample_second_label_close :
    ∃ s s', Storage.run Cfg.current [ .tx [.node 10 (some A), .labelAdd 0 B] true ] = .ok s ∧
      s.checkpointOnClose.reopen = .ok s' ∧ s.nodeLabelNames 0 = [A, B] ∧ s'.nodeLabelNames 0 = [A] :=
  ⟨_, _, rfl, rfl, by decide +kernel, by decide +kernel⟩

/-- external id 0: `IdMap::load` does not index it, replay re-creates the node and fails with
    "non-dense internal id" — the database cannot be opened again -/
theorem C04_counterexample_external_id_zero :
    ∃ s, Storage.run Cfg.current [ .tx [.node 0 (some A)] true ] = .ok s ∧
      s.reopen = .error (.idmap .nonDense) ∧
      GraphSpec.trigExtZero [ .tx [.node 0 (some A)] true ] = true :=
  ⟨_, rfl, by rfl, by decide +kernel⟩

end Nervus.Props.C04
