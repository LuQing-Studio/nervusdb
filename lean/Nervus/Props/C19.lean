/-
  C19 — WHERE partitions rows by truth value.
  Model: `filterT` / `filterRow` (mirrors plan_iterators.rs FilterIter::next: `ensure…?`, evaluate,
  keep on `Bool(true)`), `Truth.not` / `Truth.isNull` (evaluator.rs `UnaryOperator::Not`,
  `BinaryOperator::IsNull`); the flag `filterNonBoolDrops` is regenerated from the source.
  Spec: Nervus.Spec.Streams (`keep`, `Sem.PredLawful`).  Generic in rows / values / expressions.
  Scope: plain filter positions (WHERE on MATCH, on WITH, after UNWIND): one `Plan::Filter` over the
  rows of the unfiltered query.  OPTIONAL MATCH's own WHERE is part of the pattern and excluded.
  Planner side (second half of the file; Model/WherePush.lean): the equalities `match_compile` pushes
  down together with the final `Plan::Filter` select exactly the rows that satisfy the inline pattern
  map and the WHERE, and a pushed-down filter is placed only where the free variables of its value are bound.
-/
import Nervus.Proofs.Where
import Nervus.Model.PlanInst
import Nervus.Proofs.WherePush
namespace Nervus.Props.C19
open Nervus Nervus.PlanOps Nervus.PlanInst Nervus.WherePush

section
variable {χ ρ ν ε κ α : Type}

/-- if the predicate is boolean or null on every row (and parks no failure), the rows kept by `p`,
    by `NOT p` and by `p IS NULL` are, together, exactly the input rows (as a multiset) — whatever
    the filter does with non-boolean values (`Q` arbitrary) -/
theorem where_partition (S : Sem χ ρ ν ε κ α) (Q : Quirks) (notE isNullE : χ → χ)
    (hS : S.PredLawful LimEnv.unlimited.coll notE isNullE) (env : ρ) (p : χ) (rows : List ρ)
    (hb : ∀ r ∈ rows, ∃ v, S.eval LimEnv.unlimited.coll p env r = .ok v ∧ (S.truth v).isBoolOrNull = true ∧
      S.park LimEnv.unlimited.coll p env r = none) :
    ∃ a b c, keep S Q env p rows = .ok a ∧ keep S Q env (notE p) rows = .ok b ∧
      keep S Q env (isNullE p) rows = .ok c ∧ (a ++ b ++ c).Perm rows := by
  induction rows with
  | nil => exact ⟨[], [], [], rfl, rfl, rfl, .nil⟩
  | cons r rows ih =>
    obtain ⟨a, b, c, ha, hb', hc, hperm⟩ := ih (fun r' h' => hb r' (List.mem_cons_of_mem _ h'))
    obtain ⟨v, hv, hbool, hpk⟩ := hb r List.mem_cons_self
    obtain ⟨w1, hw1, ht1⟩ := hS.not_ok p env r v hv
    obtain ⟨w2, hw2, ht2⟩ := hS.isNull_ok p env r v hv
    rw [keep_cons_of_truth S Q env p r rows v hv hpk,
      keep_cons_of_truth S Q env (notE p) r rows w1 hw1 (by rw [hS.not_park]; exact hpk),
      keep_cons_of_truth S Q env (isNullE p) r rows w2 hw2 (by rw [hS.isNull_park]; exact hpk), ht1, ht2, ha, hb', hc]
    cases htv : S.truth v with
    | tt => exact ⟨r :: a, b, c, rfl, rfl, rfl, by simpa using hperm⟩
    | ff =>
      refine ⟨a, r :: b, c, rfl, rfl, rfl, ?_⟩
      have : (a ++ r :: b ++ c).Perm (r :: (a ++ b ++ c)) := by
        simp
      exact this.trans (hperm.cons r)
    | null =>
      refine ⟨a, b, r :: c, rfl, rfl, rfl, ?_⟩
      have : (a ++ b ++ r :: c).Perm (r :: (a ++ b ++ c)) := List.perm_middle
      exact this.trans (hperm.cons r)
    | other => rw [htv] at hbool; cases hbool

/-- on a tree whose Filter raises a type error for a non-boolean predicate: whenever the three
    filtered queries answer at all, their answers partition the input rows — no hypothesis on `p` -/
theorem where_partition_of_success (S : Sem χ ρ ν ε κ α) (Q : Quirks) (hq : Q.filterNonBoolDrops = false)
    (notE isNullE : χ → χ) (hS : S.PredLawful LimEnv.unlimited.coll notE isNullE) (env : ρ) (p : χ)
    (rows a b c : List ρ) (ha : keep S Q env p rows = .ok a) (hb : keep S Q env (notE p) rows = .ok b)
    (hc : keep S Q env (isNullE p) rows = .ok c) : (a ++ b ++ c).Perm rows := by
  -- success of `WHERE p` means every row's predicate evaluated to a boolean or null
  have hbool : ∀ r ∈ rows, ∃ v, S.eval LimEnv.unlimited.coll p env r = .ok v ∧ (S.truth v).isBoolOrNull = true ∧
      S.park LimEnv.unlimited.coll p env r = none := by
    clear hb hc
    induction rows generalizing a with
    | nil => intro r h; cases h
    | cons r rows ih =>
      cases hv : S.eval LimEnv.unlimited.coll p env r with
      | error e => obtain ⟨e', he'⟩ := keep_cons_of_error S Q env p r rows e hv; rw [he'] at ha; cases ha
      | ok v =>
        cases hpk : S.park LimEnv.unlimited.coll p env r with
        | some e => rw [keep_cons_of_park S Q env p r rows e hpk] at ha; cases ha
        | none =>
        rw [keep_cons_of_truth S Q env p r rows v hv hpk] at ha
        have key : (S.truth v).isBoolOrNull = true ∧ ∃ a', keep S Q env p rows = .ok a' := by
          cases htv : S.truth v with
          | tt =>
            rw [htv] at ha
            cases hk : keep S Q env p rows with
            | error e => rw [hk] at ha; cases ha
            | ok a' => exact ⟨rfl, a', rfl⟩
          | ff => rw [htv] at ha; exact ⟨rfl, a, ha⟩
          | null => rw [htv] at ha; exact ⟨rfl, a, ha⟩
          | other => rw [htv] at ha; simp [hq] at ha
        obtain ⟨hb1, a', ha'⟩ := key
        intro r' hr'
        rcases List.mem_cons.1 hr' with rfl | hr'
        · exact ⟨v, hv, hb1, hpk⟩
        · exact ih a' ha' r' hr'
  obtain ⟨a', b', c', ha', hb', hc', hperm⟩ := where_partition S Q notE isNullE hS env p rows hbool
  rw [ha] at ha'; rw [hb] at hb'; rw [hc] at hc'
  injection ha' with ha'; injection hb' with hb'; injection hc' with hc'
  subst ha' hb' hc'
  exact hperm

/-- the same at plan level, for ANY input plan: `… WHERE p` is `Plan::Filter` over the plan of the
    unfiltered query -/
theorem where_partition_plan [DecidableEq κ] (S : Sem χ ρ ν ε κ α) (Q : Quirks) (notE isNullE : χ → χ)
    (hS : S.PredLawful LimEnv.unlimited.coll notE isNullE) (params : ρ) (inp : Plan χ ρ ε α) (p : χ)
    (rows : List ρ) (hin : execute S Q .unlimited params inp = .ok rows)
    (hb : ∀ r ∈ rows, ∃ v, S.eval LimEnv.unlimited.coll p params r = .ok v ∧ (S.truth v).isBoolOrNull = true ∧
      S.park LimEnv.unlimited.coll p params r = none) :
    ∃ a b c, execute S Q .unlimited params (.filter p inp) = .ok a ∧
      execute S Q .unlimited params (.filter (notE p) inp) = .ok b ∧
      execute S Q .unlimited params (.filter (isNullE p) inp) = .ok c ∧ (a ++ b ++ c).Perm rows := by
  have hs : runL S Q .unlimited (.left .root) params inp = rows.map .ok := by
    have : runL S Q .unlimited .root params inp = rows.map .ok := (collect_eq_ok_iff _ _).1 hin
    -- the stream of a node does not depend on its site when nothing is limited
    exact (runL_unlimited_site S Q inp _ _ params).trans this
  have hk : ∀ q, execute S Q .unlimited params (.filter q inp) = keep S Q params q rows := by
    intro q
    simp only [execute, runL, guard_unlimited, hs, keep, dropErrT_run_ok]
  simp only [hk]
  exact where_partition S Q notE isNullE hS params p rows hb

end

/-- the working tree's Filter (flag regenerated from the source) -/
theorem filter_repaired : Quirks.current.filterNonBoolDrops = false := by decide

/-- **C19 (full strength)** on the working tree, for every instantiation with lawful `NOT` /
    `IS NULL`, every predicate and every list of rows: if the three filtered queries answer, their
    answers together are exactly the rows of the unfiltered query. -/
theorem C19_full {χ ρ ν ε κ α : Type} (S : Sem χ ρ ν ε κ α) (notE isNullE : χ → χ)
    (hS : S.PredLawful LimEnv.unlimited.coll notE isNullE) (env : ρ) (p : χ) (rows a b c : List ρ)
    (ha : keep S Quirks.current env p rows = .ok a) (hb : keep S Quirks.current env (notE p) rows = .ok b)
    (hc : keep S Quirks.current env (isNullE p) rows = .ok c) : (a ++ b ++ c).Perm rows :=
  where_partition_of_success S _ filter_repaired notE isNullE hS env p rows a b c ha hb hc

/-! ### the planner side: WHERE pushdown after a MATCH (Model/WherePush.lean) -/

/-- **filter placement preserves the predicate**: pushing the equality conjuncts of the WHERE down
    (ONE value per (alias, property): a repeated equality overwrites the earlier one; inline pattern
    maps overlaid) and keeping the FULL predicate in the final filter selects exactly the rows that
    satisfy the inline pattern map and on which the WHERE is true — for every WHERE skeleton, every
    inline map, every row, whatever the pushed-down filters do with rows on which their equality is
    not true (`hsound`: they keep at least the rows on which it is true) -/
theorem pushdown_preserves_predicate {χ κ ρ : Type} (S : WSem χ κ ρ)
    (hsound : ∀ k c r, S.eqT k c r = .tt → S.pushKeeps k c r = true)
    (w : W χ κ) (inline : PMap κ) (r : ρ) :
    compiledKeeps S true w inline r ↔ (PushedKeeps S inline r ∧ tv S w r = .tt) := by
  simp only [compiledKeeps, if_true]
  constructor
  · rintro ⟨hp, ht⟩
    refine ⟨fun k c hk => hp k c ?_, ht⟩
    simp [overlay, hk]
  · rintro ⟨hi, ht⟩
    refine ⟨fun k c hk => ?_, ht⟩
    simp only [overlay] at hk
    cases hik : inline k with
    | some c' =>
      rw [hik] at hk
      simp only [Option.orElse] at hk
      injection hk with hk; subst hk
      exact hi k c' hik
    | none =>
      rw [hik] at hk
      simp only [Option.orElse] at hk
      rcases extract_entries w PMap.empty k c hk with h | h
      · cases h
      · exact hsound k c r (conj_true S w r ht k c h)

/-- the working tree's final filter carries the full WHERE expression (regenerated flag) -/
theorem where_filter_keeps_full : keepsFullCurrent = true := by decide

/-- on the working tree -/
theorem C19_pushdown {χ κ ρ : Type} (S : WSem χ κ ρ)
    (hsound : ∀ k c r, S.eqT k c r = .tt → S.pushKeeps k c r = true)
    (w : W χ κ) (inline : PMap κ) (r : ρ) :
    compiledKeeps S keepsFullCurrent w inline r ↔ (PushedKeeps S inline r ∧ tv S w r = .tt) := by
  rw [where_filter_keeps_full]; exact pushdown_preserves_predicate S hsound w inline r

/-! ### where a pushed-down filter may be placed (free variables) -/

/-- a variable walker that descends into every expression variant finds every free variable
    (binders of quantifiers / reduce / comprehensions respected) -/
theorem walker_finds_free_variables (descends : EKind → Bool) (hall : ∀ k, descends k = true) (e : VE) :
    ∀ x ∈ e.free, x ∈ e.walker descends := by
  induction e with
  | leaf reads => intro x hx; exact hx
  | pair a b iha ihb =>
    intro x hx
    simp only [VE.free, VE.walker, List.mem_append] at hx ⊢
    exact hx.elim (fun h => Or.inl (iha x h)) (fun h => Or.inr (ihb x h))
  | node k binds outer inner iho ihs =>
    intro x hx
    simp only [VE.free, VE.walker, hall k, if_true, List.mem_append, mem_filter_not_contains] at hx ⊢
    exact hx.elim (fun h => Or.inl (iho x h)) (fun h => Or.inr ⟨ihs x h.1, h.2⟩)

/-- **pushdown_sound**: a hop-level filter `alias.prop = value` placed where the planner's walker
    sees only bound variables has all its FREE variables bound — only under the hypothesis that the
    walker's result contains the true free variables of the value -/
theorem pushdown_sound (descends : EKind → Bool) (bound : List String) (value : VE)
    (hsup : ∀ x ∈ value.free, x ∈ value.walker descends)
    (hallowed : placementAllowed descends bound value) : ScopeSound bound value :=
  fun x hx => hallowed x (hsup x hx)

/-- and then evaluating it there agrees with evaluating it on the completed row (so a conjunct
    that is true at the end is kept at the hop: the `hsound` hypothesis of `C19_pushdown`) -/
theorem pushdown_early_evaluation_agrees {ν β : Type} (eval : (String → Option ν) → β) (value : VE)
    (hreads : ∀ r1 r2 : String → Option ν, (∀ x ∈ value.free, r1 x = r2 x) → eval r1 = eval r2)
    (bound : List String) (hscope : ScopeSound bound value)
    (early full : String → Option ν) (hext : ∀ x ∈ bound, early x = full x) : eval early = eval full :=
  hreads early full (fun x hx => hext x (hscope x hx))

/-- the working tree (both facts regenerated from ast_walk.rs): the values pushed down are literals
    and parameters only — no free variable at all — or else the walker must descend into EVERY
    variant of `ast::Expression` -/
theorem pushdown_scope_current :
    (∀ k ∈ Generated.pushdownValueKinds, k = "Literal" ∨ k = "Parameter") ∨
    (∀ k ∈ EKind.all, walkerDescendsCurrent k = true) := by decide

/-- a walker without an arm for CASE: `a.k = CASE WHEN b.k > 1 THEN 1 ELSE 0 END` may be placed
    right after the scan of `a`, although `b` is free in it -/
theorem C19_counterexample_incomplete_walker :
    placementAllowed (fun k => k != EKind.case) ["a"] (VE.node .case [] (VE.leaf ["b"]) (VE.leaf [])) ∧
    ¬ ScopeSound ["a"] (VE.node .case [] (VE.leaf ["b"]) (VE.leaf [])) := by
  constructor
  · intro x hx; simp [VE.walker] at hx
  · intro h
    have := h "b" (by simp [VE.free])
    simp at this

/-- rows are the value of `n.x`; `n.x = c` is true iff the value is `c` -/
def xSem : WSem Unit Nat Nat where
  eqT _ c r := if r = c then .tt else .ff
  otherT _ _ := .null
  pushKeeps _ c r := r == c

/-- `WHERE n.x = 1 AND n.x = 2` -/
def wTwoEq : W Unit Nat := .and (.eqProp ("n", "x") 1) (.eqProp ("n", "x") 2)

/-- a final filter that strips the pushed-down conjuncts ("residual predicate") is wrong exactly
    because the map keeps one value per key: the row with `x = 2` passes `WHERE n.x = 1 AND n.x = 2` -/
theorem C19_counterexample_residual_filter :
    compiledKeeps xSem false wTwoEq PMap.empty 2 ∧ tv xSem wTwoEq 2 ≠ .tt := by
  refine ⟨⟨fun k c hk => ?_, ?_⟩, by decide⟩
  · simp only [overlay, PMap.empty, Option.orElse, wTwoEq, extract, PMap.insert] at hk
    split at hk
    · injection hk with hk; subst hk; rfl
    · cases hk
  · simp [wTwoEq, residual, extract, PMap.insert]

/-- the same row and WHERE with the full predicate in the final filter: rejected -/
example : ¬ compiledKeeps xSem true wTwoEq PMap.empty 2 := by
  rintro ⟨_, h⟩
  simp only [if_true] at h
  exact absurd h (by decide)

/-! ### witnesses on the concrete instance (replayed on the engine: corpus/planwhere/c19-nonboolean.ops) -/

/-- rows `x = 5, true, false, null, 'str'` and the predicate `x` -/
def rowsX : List DRow :=
  [[("x", dint 5)], [("x", dbool true)], [("x", dbool false)], [("x", dnull)], [("x", .s (.str "str"))]]

/-- pinned tree: `WHERE x`, `WHERE NOT x`, `WHERE x IS NULL` keep one row each: the rows with
    `x = 5` and `x = 'str'` are in none of the three answers -/
theorem C19_counterexample_nonboolean :
    keep dsem Quirks.pinned [] (.var "x") rowsX = .ok [[("x", dbool true)]] ∧
    keep dsem Quirks.pinned [] (.not (.var "x")) rowsX = .ok [[("x", dbool false)]] ∧
    keep dsem Quirks.pinned [] (.isNull (.var "x")) rowsX = .ok [[("x", dnull)]] ∧
    ¬ ([[("x", dbool true)]] ++ [[("x", dbool false)]] ++ [[("x", dnull)]] : List DRow).Perm rowsX := by
  refine ⟨by decide +kernel, by decide +kernel, by decide +kernel, fun h => ?_⟩
  have := h.length_eq
  simp [rowsX] at this

/-- repaired tree: the first query fails with the type error instead -/
example : keep dsem Quirks.repaired [] (.var "x") rowsX = .error .runtime := by decide +kernel

/-- non-vacuity of `where_partition`: a boolean-or-null predicate (`x = 5`) over the same rows -/
example : (rowsX.all fun r =>
    match dsem.eval LimEnv.unlimited.coll (.eq (.var "x") (.lit (dint 5))) [] r with
    | .ok v => (dsem.truth v).isBoolOrNull
    | .error _ => false) = true := by decide +kernel
example : keep dsem Quirks.pinned [] (.eq (.var "x") (.lit (dint 5))) rowsX = .ok [[("x", dint 5)]] := by decide +kernel

end Nervus.Props.C19
