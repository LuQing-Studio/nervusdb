/-
  C11 — Cypher read results match reference semantics.
  The statements, each proved from the lemmas of Nervus.Proofs.Cypher*: by one call where such a lemma says the same,
  else by the last step of its argument.
  Spec: Nervus.Spec.Denote (`denote`).  Model: Nervus.Model.QCompile (`compile`, pinned by the EXPLAIN text),
  Nervus.Model.QExec (`exec`), Nervus.Model.QRun (`run = exec ∘ compile`).  Everything is parametric in the
  value algebra `A` (comparison operators, ORDER BY order, aggregate folds — C23/C20/C21).

  Status: PARTIAL.  `C11_full` is false on the pinned tree (counterexample theorems below, each replayed on the
  real engine through corpus/query/*.ops; the witnesses of the three `fix:` commits agree).
  `C11_partial_statement` (the full statement restricted to inputs that trigger no known finding and whose
  result is determined as a bag) is the target.  Proved:
    * `C11_core` — the clause-list induction, complete, on the MATCH-free relational core (UNWIND, WHERE, WITH,
      RETURN with DISTINCT / SKIP / LIMIT, no aggregates, no ORDER BY): compile fails exactly when the reference
      does, and the plan evaluates to *exactly* the reference's list of rows, for every algebra, graph, parameter
      map and query;
    * through one MATCH as the first clause, then core clauses: `C11_F1a_node` (a labelled node, exact lists),
      `C11_F1a_hop` (one hop in any direction on graphs without parallel copies, tail without SKIP / LIMIT, bags);
      for `MATCH (a) OPTIONAL MATCH (a)-[ev]-(d)` the model side only (`C11_F1b_compile`, `C11_F1b_rows`);
    * the operator lemmas `op*` for the other plan operators, stated over all graphs / tables / rows /
      expressions: scan + labels, the three single-hop expansions (incl. the self-loop rule), join on a bound start
      variable / cartesian product for a fresh one, OptionalWhereFixup as per-row null padding, grouping and the
      empty-input aggregate row, ORDER BY = the reference's merge sort (hence sorted and stable), SKIP / LIMIT,
      DISTINCT, UNWIND.
  Not proved: the induction steps that chain these lemmas through `compile` for every other MATCH (several hops,
  property maps, a MATCH that is not the first clause), the reference side of OPTIONAL MATCH, aggregating
  projections, ORDER BY and WITH … WHERE (see props/C11.json `unproved_part`).
-/
import Nervus.Proofs.CypherOps
import Nervus.Proofs.CypherExpand
import Nervus.Proofs.CypherJoin
import Nervus.Proofs.CypherAgg
import Nervus.Proofs.CypherCore
import Nervus.Proofs.CypherBag
import Nervus.Proofs.CypherF1a
import Nervus.Proofs.CypherF1aDir
import Nervus.Proofs.CypherF1b
import Nervus.Model.QRun
import Nervus.Model.QAlgebra
import Nervus.Model.Generated.OptionalFixup
namespace Nervus.Props.C11
open Nervus Nervus.Cy

/-- **C11 at full strength**: for every value algebra, graph and well-scoped F1 query, the modelled engine and
    the reference evaluator return the same bag of rows (or the same error class). -/
def C11_full : Prop :=
  ∀ (A : Algebra) (env : Env) (q : Query), env.g.NodesDistinct → Spec.WellScoped q → InF1 q = true →
    Agrees (Exec.run A env q) (Spec.denote A env q)

/-- the restriction that is claimed: no known finding is triggered (decidable predicate on graph + query), the
    result is determined as a bag, and the aggregate folds do not depend on the order of their input -/
def C11_partial_statement : Prop :=
  ∀ (A : Algebra) (env : Env) (q : Query), env.g.NodesDistinct → Spec.WellScoped q → InF1 q = true →
    NoKnownTrigger A env q = true → BagDetermined q = true → AggBagInvariant A →
    Agrees (Exec.run A env q) (Spec.denote A env q)

/-! ### proved: the clause-list induction on the relational core -/

/-- **C11 on the relational core** (`InCore`: UNWIND / WHERE / WITH / RETURN, plain items, DISTINCT, SKIP, LIMIT):
    the modelled engine returns exactly the list of rows the reference denotes, or the same error — for every value
    algebra, graph, parameter map and well-scoped query.  No further hypothesis: no known finding lives here. -/
theorem C11_core (A : Algebra) (env : Env) (q : Query) (hc : InCore q = true) (hs : Spec.WellScoped q) :
    Exec.run A env q = (Spec.denote A env q).map Spec.Result.rows := by
  unfold Spec.WellScoped at hs
  obtain ⟨s', hs'⟩ := Option.isSome_iff_exists.mp hs
  have h := core_induction A env q false {} [[]] [] s' hc hs' rfl (fun h => by cases h) rfl KOk_nil
  unfold Spec.denote
  rw [if_pos hs, ← h]
  rfl

/-- … in particular `C11_full`'s conclusion holds on the core -/
theorem C11_core_agrees (A : Algebra) (env : Env) (q : Query) (hc : InCore q = true) (hs : Spec.WellScoped q) :
    Agrees (Exec.run A env q) (Spec.denote A env q) :=
  agrees_of_eq _ _ (C11_core A env q hc hs)

/-- **C11 on F1a, node patterns** — `MATCH (a:L1:L2…)` as the first clause, followed by any core clauses (a WHERE
    whose equality conjuncts the planner pushes down into the scan / an IndexSeek, UNWIND, WITH, RETURN with
    DISTINCT / SKIP / LIMIT): compile = anchor scan + pushed-down filters + label filters, and the modelled engine
    returns EXACTLY the reference's list of rows, or the same error.  `EqSymm`: the algebra's `=` is symmetric
    (`extract_predicates` also takes `<literal> = a.k`). -/
theorem C11_F1a_node (A : Algebra) (env : Env) (hsym : EqSymm A) (hg : env.g.NodesDistinct) (a : String)
    (ls : List String) (tail : Query) (hc : coreClauses true tail = true)
    (hs : Spec.WellScoped (.match_ false [⟨⟨some a, ls, []⟩, []⟩] :: tail)) :
    Exec.run A env (.match_ false [⟨⟨some a, ls, []⟩, []⟩] :: tail) =
      (Spec.denote A env (.match_ false [⟨⟨some a, ls, []⟩, []⟩] :: tail)).map Spec.Result.rows := by
  have hs1 : (Spec.scopeAfter [a] tail).isSome = true := by
    simpa [Spec.WellScoped, Spec.scopeAfter, Spec.patsOk, Spec.patVars] using hs
  obtain ⟨s', hs'⟩ := Option.isSome_iff_exists.mp hs1
  rw [run_match_core A env _ a rfl tail (nodeRows A env a ls (predsOf tail)) [a] s'
      (by rw [compileChain_node]; exact exec_nodePlan A env a ls _)
      (by rw [compileChain_node, outKinds_nodePlan]; exact KOk_singleton a) hc hs',
    denoteClauses_predsOf A env (nodeRows A env a ls) tail (nodeRows_pushdown A env hsym a ls),
    denote_match A env _ tail hs, spec_node_rows A env hg a ls]

/-- **C11 on F1a, one hop in any direction** — `MATCH (a:La)-[ev:T…]->(d:Ld)`, `<-[…]-` or `-[…]-` (undirected, with
    the self-loop rule) as the first clause, then core clauses without SKIP / LIMIT, on graphs without
    parallel copies: the same bag of rows.  For the incoming and the undirected hop the engine binds the
    destination before the relationship variable, so model and reference rows agree up to column order until the
    first projection (`HRelE`). -/
theorem C11_F1a_hop (A : Algebra) (env : Env) (hsym : EqSymm A) (hg : env.g.NodesDistinct)
    (hnp : NoParallel env.g) (dir : Dir) (a d : String) (la dl rels : List String) (ev : Option String)
    (tail : Query) (hrels : rels.Nodup) (had : a ≠ d) (hev : ∀ e, ev = some e → e ≠ a ∧ e ≠ d)
    (hap : a ≠ pa0) (hdp : d ≠ pa0) (hep : ∀ e, ev = some e → e ≠ pa0) (hin : pa0 ∉ introduced tail)
    (hc : bagClauses true tail = true)
    (hs : Spec.WellScoped (.match_ false [hopPatD dir a la ev rels d dl] :: tail)) :
    Agrees (Exec.run A env (.match_ false [hopPatD dir a la ev rels d dl] :: tail))
      (Spec.denote A env (.match_ false [hopPatD dir a la ev rels d dl] :: tail)) := by
  have hs1 : (Spec.scopeAfter ([a] ++ ev.toList ++ [d]) tail).isSome = true := by
    cases ev <;> simpa [Spec.WellScoped, Spec.scopeAfter, Spec.patsOk, Spec.patVars] using hs
  obtain ⟨s', hs'⟩ := Option.isSome_iff_exists.mp hs1
  have hpas : pa0 ∉ [a] ++ ev.toList ++ [d] := by
    cases ev with
    | none => simp [hap.symm, hdp.symm]
    | some e => simp [hap.symm, hdp.symm, (hep e rfl).symm]
  have hrel : HRelE pa0 (hopRows A env dir a la ev rels d dl pa0 [])
      (Spec.denoteMatch A env false [hopPatD dir a la ev rels d dl] [[]]) := by
    rw [hopRows_nil, spec_chain_rows A env hg a la]
    exact hop_dir_rel A env hnp dir a d pa0 ev rels hrels dl _ (nodeRows_shape A env a la []) hap hdp
      (fun x hx => ⟨hep x hx, (hev x hx).2, (hev x hx).1⟩)
  obtain ⟨R', R, h1, h2, hperm⟩ := denote_bag_congrE A env pa0 tail true _ s' _ _ hc hs' hpas hin hrel
  rw [run_match_core A env _ a rfl tail (hopRows A env dir a la ev rels d dl pa0 (predsOf tail)) _ s'
      (by rw [compileChain_hopD]; exact exec_hopPlanD A env dir a d pa0 la dl rels ev _)
      (by rw [compileChain_hopD]; exact KOk_hopD dir a d la dl rels ev _) (bagClauses_core tail true hc) hs',
    denoteClauses_predsOf A env (hopRows A env dir a la ev rels d dl pa0) tail
      (hop_pushdown_elimD A env hsym dir a d pa0 la dl rels ev had hap fun e he => (hev e he).1.symm),
    denote_match A env _ tail hs, h1, h2]
  exact List.isPerm_iff.mpr hperm

/-- **C11 on F1a, single outgoing hop** — `MATCH (a:La)-[ev:T1|T2…]->(d:Ld)` as the first clause, followed by core
    clauses without SKIP / LIMIT (`bagClauses`; DISTINCT is allowed: it respects permutations, `dedup_perm`), on graphs without parallel relationship copies
    (`NoParallel`, the trigger of C11-parallel-rel-reuse): the compiled plan (anchor scan + IndexSeek, label filters,
    MatchOut with destination labels and the hidden path column, WHERE equality conjuncts pushed down on all three
    aliases) and the reference return the same bag of rows.  Side conditions: distinct variable names, none of them
    (nor a later alias) the internal path name `pa0`; relationship types listed once. -/
theorem C11_F1a_hop_out (A : Algebra) (env : Env) (hsym : EqSymm A) (hg : env.g.NodesDistinct)
    (hnp : NoParallel env.g) (a d : String) (la dl rels : List String) (ev : Option String) (tail : Query)
    (hrels : rels.Nodup) (had : a ≠ d) (hev : ∀ e, ev = some e → e ≠ a ∧ e ≠ d)
    (hap : a ≠ pa0) (hdp : d ≠ pa0) (hep : ∀ e, ev = some e → e ≠ pa0) (hin : pa0 ∉ introduced tail)
    (hc : bagClauses true tail = true)
    (hs : Spec.WellScoped (.match_ false [hopPat a la ev rels d dl] :: tail)) :
    Agrees (Exec.run A env (.match_ false [hopPat a la ev rels d dl] :: tail))
      (Spec.denote A env (.match_ false [hopPat a la ev rels d dl] :: tail)) :=
  C11_F1a_hop A env hsym hg hnp .out a d la dl rels ev tail hrels had hev hap hdp hep hin hc hs

/-- **F1b, first half of the OPTIONAL MATCH step** — `MATCH (a:La) OPTIONAL MATCH (a)-[ev:T…]-(d:Ld)` (any
    direction, tail not starting with WHERE) compiles to `OptionalWhereFixup (plan of the first MATCH) (one hop from the
    bound variable over that plan, hidden path column pa1) aliases`, and the tail is compiled from that loop state -/
theorem C11_F1b_compile (dir : Dir) (a d : String) (la dl rels : List String) (ev : Option String) (tail : Query)
    (had : a ≠ d) (hev : ∀ e, ev = some e → e ≠ a) (hnw : ∀ w rest, tail ≠ .where_ w :: rest) :
    ∃ st, Compile.compileClauses
        (.match_ false [⟨⟨some a, la, []⟩, []⟩] :: .match_ true [hopPatD dir a [] ev rels d dl] :: tail) {} =
      Compile.compileClauses tail { plan := some (optPlan dir a la ev rels d dl), st := st, pending := none } := by
  have hpair1 : Compile.compileChain none ⟨⟨some a, la, []⟩, []⟩ [] [] {} = (nodePlan a la [], { nextAnon := 1 }) :=
    compileChain_node a la [] {}
  refine ⟨(Compile.compileChain (some (nodePlan a la [])) (hopPatD dir a [] ev rels d dl) [] [(a, Kind.node)]
    { nextAnon := 1 }).2, ?_⟩
  rw [compileClauses_match, compileMatch_fresh]
  simp only [predsOf, hpair1, Except.bind]
  rw [compileClauses_optMatch _ _ _ hnw]
  simp only [compileMatch_optHop dir a d la dl rels ev had hev, Except.bind, Option.getD_some, outKinds_nodePlan,
    compileChain_optHop]
  rfl

/-- … its rows: every node row of the first MATCH keeps exactly its own expansions, or — when it has none — is
    emitted once with the null aliases set to null (op6 instantiated for the compiled plan: the outer rows are
    pairwise distinct because node ids are; an expansion carries its own outer row's binding and no other's); and the
    null aliases are exactly the new variables `d` and `ev` -/
theorem C11_F1b_rows (A : Algebra) (env : Env) (hg : env.g.NodesDistinct) (dir : Dir) (a d : String)
    (la dl rels : List String) (ev : Option String) (had : a ≠ d) (hap : a ≠ pa1)
    (hev : ∀ e, ev = some e → e ≠ a ∧ e ≠ d) :
    Exec.exec A env (optPlan dir a la ev rels d dl) = .ok ((nodeRows0 A env a la).flatMap fun o =>
      if (stepRowD env dir a rels ev d dl pa1 o).isEmpty then
        [(optAliases dir a la ev rels d dl).foldl (fun r x => r.set x .null) o]
      else stepRowD env dir a rels ev d dl pa1 o) ∧
    ∀ x, x ∈ optAliases dir a la ev rels d dl ↔ (x = d ∨ ev = some x) := by
  have hae : ∀ e, ev = some e → a ≠ e := fun e he => (hev e he).1.symm
  constructor
  · -- an expansion of the node row `[(a, n)]` still binds `a` to `n`
    have hget : ∀ id : Nat, ∀ r ∈ stepRowD env dir a rels ev d dl pa1 [(a, Val.node id)],
        r.get a = some (Val.node id) := by
      intro id r hr
      simp only [stepRowD, Row.get_singleton] at hr
      rw [stepDir_get env.g dir _ id rels ev d dl pa1 a had hap hae r hr, Row.get_singleton]
    have hfix := optionalFixup_correct (nodeRows0 A env a la) (stepRowD env dir a rels ev d dl pa1)
      (optAliases dir a la ev rels d dl) (nodeRows_nodup A env hg a la [])
      (by
        intro o ho r hr
        obtain ⟨id, rfl⟩ := nodeRows_shape A env a la [] o ho
        simp [Exec.containsAllBindings, hget id r hr])
      (by
        intro o ho o' ho' hne r hr
        obtain ⟨id, rfl⟩ := nodeRows_shape A env a la [] o ho
        obtain ⟨id', rfl⟩ := nodeRows_shape A env a la [] o' ho'
        have hid : id' ≠ id := fun h => hne (by rw [h])
        simp [Exec.containsAllBindings, hget id' r hr, hid])
    unfold optPlan optHop
    simp only [Exec.exec, exec_mkHop A env dir _ _ (exec_nodePlan A env a la []) a d pa1 (nodeRows_get A env a la []),
      exec_nodePlan, bind, Except.bind, pure, Except.pure]
    exact congrArg _ hfix
  · intro x
    -- in scope after the hop: `a`, `d`, `ev`; bound before: `a`
    have hK := ((KOk_singleton a).matchKinds a d pa1 ev pa1_internal x).1
    unfold optAliases optHop
    rw [mem_optionalAliases, outKinds_mkHop, outKinds_nodePlan, ← hK, List.lookup, List.lookup]
    by_cases h : x = a
    · subst h
      rw [beq_self_eq_true]
      refine ⟨fun hh => (nomatch hh.2), fun hh => ?_⟩
      rcases hh with h | h
      · exact absurd h had
      · exact absurd rfl (hev _ h).1
    · rw [beq_eq_false_iff_ne.mpr h]
      cases ev <;> simp [h, eq_comm]

/-- the reference's core clauses (no SKIP / LIMIT: `bagClauses`) respect "same bag of rows once the hidden
    path column is erased" — the relation between the rows of a MATCH plan and the reference's rows; with
    `C11_core_induction` this reduces an F1a query to its MATCH step -/
theorem C11_core_bag_congruence (A : Algebra) (env : Env) (pa : String) (q : Query) (b : Bool) (s s' : List String)
    (T' T : Table) (hc : bagClauses b q = true) (hs : Spec.scopeAfter s q = some s') (hpa : pa ∉ s)
    (hin : pa ∉ introduced q) (h : HRel pa T' T) :
    ∃ R' R, Spec.denoteClauses A env q T' = .ok R' ∧ Spec.denoteClauses A env q T = .ok R ∧
      R'.rows.Perm R.rows :=
  denote_bag_congrE A env pa q b s s' T' T hc hs hpa hin h.toE

/-- the induction behind it, from any intermediate state: a loop state whose plan evaluates to `T` and whose
    compile-time scope is the reference scope `s`, followed by core clauses -/
theorem C11_core_induction (A : Algebra) (env : Env) (q : Query) (b : Bool) (l : Compile.Loop) (T : Table)
    (s s' : List String) (hc : coreClauses b q = true) (hs : Spec.scopeAfter s q = some s')
    (hp : l.pending = none) (hb : b = true → l.plan.isSome = true)
    (hx : Exec.exec A env (l.plan.getD .returnOne) = .ok T)
    (hk : KOk (Compile.outKinds (l.plan.getD .returnOne)) s) :
    runLoop A env q l = (Spec.denoteClauses A env q T).map Spec.Result.rows :=
  core_induction A env q b l T s s' hc hs hp hb hx hk

/-! ### proved obligations: one lemma per plan operator -/

/-- op 1: NodeScan + label filter = the reference binding of a fresh node pattern `(a:L1:L2…)` -/
theorem op1_scan_label (A : Algebra) (env : Env) (hg : env.g.NodesDistinct) (a : String) (labels : List String)
    (used : List RelId) :
    Exec.exec A env (Compile.applyLabelFilters (.nodeScan a labels.head?) a labels) =
      .ok ((Spec.matchPath A env used [] ⟨⟨some a, labels, []⟩, []⟩).map (·.1)) := by
  rw [exec_applyLabelFilters A env _ (scanRows env a labels.head?) rfl, scanRows_labelOK A env hg,
    matchPath_fresh_steps A env used [] a (by simp [Row.cols])]
  simp [Spec.matchSteps, ← List.map_eq_flatMap]

/-- op 2 (outgoing hop): on a graph without parallel copies, for a row whose hidden path column holds the
    relationships used so far in this chain, the rows MatchOut yields (hidden column erased) are — as a bag — the
    rows one step `-[ev:rels]->(d:dl)` of the reference pattern matching yields.  (`ev` is a fresh variable or
    absent; `d` may be fresh or already bound; label constraints travel in `dst_labels`.) -/
theorem op2_expand_out (A : Algebra) (g : Graph) (hnp : NoParallel g) (r : Row) (a : Nat) (rels : List String)
    (hrels : rels.Nodup) (ev : Option String) (d pa : String) (dl : List String) (used : List RelId)
    (hpa : PathRel r pa used) (hd : d ≠ pa)
    (hev : ∀ x, ev = some x → x ≠ pa ∧ x ≠ d ∧ r.get x = none) :
    ((Exec.stepOut g r a rels ev d dl (some pa)).map (eraseCol pa)).Perm
      ((Spec.matchSteps A { g } used a (eraseCol pa r) [(⟨ev, rels, .out, []⟩, ⟨some d, dl, []⟩)]).map (·.1)) :=
  expand_out_row A { g } hnp r a rels hrels ev d pa dl used hpa hd hev

/-- op 2 (incoming hop): as `op2_expand_out` for MatchIn; the engine binds the destination before the relationship
    variable, so the rows agree up to column order (`TableEquiv`: a permutation, then position-wise equal bindings) -/
theorem op2_expand_in (A : Algebra) (g : Graph) (hnp : NoParallel g) (r : Row) (a : Nat) (rels : List String)
    (hrels : rels.Nodup) (ev : Option String) (d pa : String) (dl : List String) (used : List RelId)
    (hpa : PathRel r pa used) (hd : d ≠ pa)
    (hev : ∀ x, ev = some x → x ≠ pa ∧ x ≠ d ∧ r.get x = none) :
    TableEquiv ((Exec.stepIn g r a rels ev d dl (some pa)).map (eraseCol pa))
      ((Spec.matchSteps A { g } used a (eraseCol pa r) [(⟨ev, rels, .inn, []⟩, ⟨some d, dl, []⟩)]).map (·.1)) :=
  expand_in_row A { g } hnp r a rels hrels ev d pa dl used hpa hd hev

/-- op 2 (undirected hop): MatchUndirected (outgoing half, then the incoming half without self-loops) against one
    undirected step of the reference — every relationship incident to `a` once per direction it can be walked, a
    self-loop once -/
theorem op2_expand_both (A : Algebra) (g : Graph) (hnp : NoParallel g) (r : Row) (a : Nat) (rels : List String)
    (hrels : rels.Nodup) (ev : Option String) (d pa : String) (dl : List String) (used : List RelId)
    (hpa : PathRel r pa used) (hd : d ≠ pa)
    (hev : ∀ x, ev = some x → x ≠ pa ∧ x ≠ d ∧ r.get x = none) :
    TableEquiv ((Exec.stepBoth g r a rels ev d dl (some pa)).map (eraseCol pa))
      ((Spec.matchSteps A { g } used a (eraseCol pa r) [(⟨ev, rels, .both, []⟩, ⟨some d, dl, []⟩)]).map (·.1)) :=
  expand_both_row A { g } hnp r a rels hrels ev d pa dl used hpa hd hev

/-- op 2': the engine's "already used" test is membership in the reference's `used` set when no identity has
    parallel copies -/
theorem op2_path_uniqueness (g : Graph) (hnp : NoParallel g) (r : Row) (pa : String) (used : List RelId) (e : RelId)
    (hpa : PathRel r pa used) : Exec.pathContains g r (some pa) e = used.contains e :=
  pathContains_eq g hnp r pa used e hpa

/-- op 3: Filter = reference WHERE -/
theorem op3_where (A : Algebra) (env : Env) (i : Plan) (e : Expr) (T : Table) (h : Exec.exec A env i = .ok T) :
    Exec.exec A env (.filter i e) = .ok (T.filter (evalBool A env · e)) :=
  where_correct A env i e T h

/-- op 3': a conjunction passes a filter exactly when all conjuncts pass (the and-chains built by
    `apply_filters_for_alias` / `apply_label_filters_for_alias`) -/
theorem op3_and_chain (A : Algebra) (env : Env) (r : Row) (es : List Expr) (e : Expr)
    (h : Compile.andChain es = some e) : evalBool A env r e = es.all (evalBool A env r) :=
  evalBool_andChain A env r es e h

/-- op 4: Project = reference projection (non-aggregating items, distinct output names) -/
theorem op4_project (A : Algebra) (env : Env) (i : Plan) (items : List Item) (T : Table)
    (h : Exec.exec A env i = .ok T) (hplain : items.any Spec.isAgg = false)
    (hnd : (items.map (·.alias)).Nodup) :
    Exec.exec A env (.project i (items.map fun it => (it.alias, Compile.itemExprOf it.expr))) =
      .ok ((Spec.projectRows A env ⟨false, items, [], none, none⟩ T).map (·.1)) :=
  project_correct A env i items T h hplain hnd

/-- op 5a (a further MATCH joins on a shared variable): matching a pattern whose start variable is already bound
    to a live node is a label check on the existing row followed by the hops from that node -/
theorem op5_join_bound (A : Algebra) (env : Env) (hg : env.g.NodesDistinct) (used : List RelId) (r : Row)
    (a : String) (nd : NodeRec) (hmem : nd ∈ env.g.nodes) (hr : r.get a = some (.node nd.id)) (ls : List String)
    (steps : List (RelPat × NodePat)) :
    Spec.matchPath A env used r ⟨⟨some a, ls, []⟩, steps⟩ =
      if ls.all (env.g.hasLabel nd.id) then Spec.matchSteps A env used nd.id r steps else [] := by
  unfold Spec.matchPath
  rw [flatMap_unique NodeRec.id env.g.nodes hg nd hmem]
  · simp only [Spec.nodeOk, Spec.propsOk, List.all_nil, Bool.and_true, Spec.bind, hr, beq_self_eq_true, ↓reduceIte]
    cases ls.all (env.g.hasLabel nd.id) <;> simp
  · intro m _ hne
    have : (Val.node nd.id == Val.node m.id) = false := by
      simpa using (fun h : nd.id = m.id => hne h.symm)
    simp only [Spec.bind, hr, this, Bool.false_eq_true, ↓reduceIte]
    split <;> rfl

/-- … and that label check is what the planner's label Filter evaluates on such a row -/
theorem op5_join_label_filter (A : Algebra) (env : Env) (r : Row) (a : String) (n : Nat) (ls : List String)
    (e : Expr) (hr : r.get a = some (.node n))
    (he : Compile.andChain (ls.map fun l => Expr.bool .or (.isNull (.var a)) (.hasLabel (.var a) l)) = some e) :
    evalBool A env r e = ls.all (env.g.hasLabel n) := by
  rw [evalBool_andChain A env r _ e he, List.all_map]
  exact labelOK_node A env r a n ls hr

/-- op 5b (no shared variable): a fresh start variable ranges over the labelled nodes, appended to the row — the
    rows of `CartesianProduct(existing, NodeScan a)` under the label filter -/
theorem op5_join_fresh (A : Algebra) (env : Env) (used : List RelId) (r : Row) (a : String) (ha : a ∉ r.cols)
    (ls : List String) :
    (Spec.matchPath A env used r ⟨⟨some a, ls, []⟩, []⟩).map (·.1) =
      (env.g.nodes.filter fun n => ls.all (env.g.hasLabel n.id)).map fun n => r ++ [(a, Val.node n.id)] := by
  rw [matchPath_fresh_steps A env used r a ha]
  simp [Spec.matchSteps, ← List.map_eq_flatMap]

/-- op 6 (OPTIONAL MATCH): over pairwise distinct outer rows OptionalWhereFixup keeps for every outer row exactly
    its own matches, or pads it with nulls when it has none — the reference's per-row rule.  (`hnd` is what the
    known finding C11-optional-duplicate-outer-rows violates.) -/
theorem op6_optional_fixup (outer : Table) (ext : Row → Table) (nulls : List String) (hnd : outer.Nodup)
    (hself : ∀ o ∈ outer, ∀ r ∈ ext o, Exec.containsAllBindings r o = true)
    (hother : ∀ o ∈ outer, ∀ o' ∈ outer, o' ≠ o → ∀ r ∈ ext o', Exec.containsAllBindings r o = false) :
    Exec.optionalFixup outer (outer.flatMap ext) nulls =
      outer.flatMap fun o => if (ext o).isEmpty then [nulls.foldl (fun r a => r.set a .null) o] else ext o :=
  optionalFixup_correct outer ext nulls hnd hself hother

/-- op 6': the engine's padding (overwrite the new aliases with null) is the reference's (bind the still unbound
    pattern variables to null) when none of them is bound -/
theorem op6_padding (r : Row) (xs : List String) (h : ∀ x ∈ xs, r.get x = none) :
    Spec.padNulls r xs = xs.foldl (fun r a => r.set a .null) r := by
  -- once bound, a repeated alias is skipped by the reference and overwritten with the same null by the engine
  have key : ∀ (ys : List String) (r : Row), (∀ y ∈ ys, r.get y = none ∨ r.get y = some .null) →
      ys.foldl (fun r x => if (r.get x).isSome then r else r.set x .null) r =
      ys.foldl (fun r a => r.set a .null) r := by
    intro ys
    induction ys with
    | nil => intro _ _; rfl
    | cons y ys ihy =>
      intro r hy
      simp only [List.foldl_cons]
      have hstep : (if (r.get y).isSome then r else r.set y .null) = r.set y .null := by
        rcases hy y (by simp) with h0 | h1
        · simp [h0]
        · simp [h1, Row.set_same r y .null h1]
      rw [hstep]
      apply ihy
      intro z hz
      by_cases hzy : z = y
      · subst hzy; right; exact Row.get_set_self r z .null
      · rw [Row.get_set_ne r y z .null hzy]; exact hy z (List.mem_cons_of_mem _ hz)
  exact key xs r fun y hy => Or.inl (h y hy)

/-- **op 6'' (OPTIONAL MATCH never removes outer rows)** — for ANY outer plan and ANY filtered-side plan (in particular
    `Filter p` over the expanded pattern, for every predicate `p`: over outer variables, optional ones, both or
    none), and however often outer rows repeat: projected on the outer columns, the output of OptionalWhereFixup is
    the outer table with every row repeated once per row of the filtered side that carries its bindings — and ONCE
    when there is none.  So no outer row is dropped (`∀ r ∈ outer, r ∈ …`), the output is never shorter than the
    outer table (`count(*)` counts padded rows), and a row without match appears exactly once. -/
theorem op6_optional_preserves_outer (A : Algebra) (env : Env) (o f : Plan) (ns cols : List String)
    (outer filtered : Table) (ho : Exec.exec A env o = .ok outer) (hf : Exec.exec A env f = .ok filtered)
    (hcols : ∀ r ∈ outer, r.cols = cols) (hnd : cols.Nodup) (hdisj : ∀ a ∈ ns, a ∉ cols) :
    ∃ out, Exec.exec A env (.optionalWhereFixup o f ns) = .ok out ∧
      out.map (restrictCols cols) = (outer.flatMap fun r =>
        List.replicate (max 1 (filtered.filter fun x => Exec.containsAllBindings x r).length) r) ∧
      (∀ r ∈ outer, r ∈ out.map (restrictCols cols)) ∧ outer.length ≤ out.length := by
  refine ⟨Exec.optionalFixup outer filtered ns, ?_, optionalFixup_preserves_outer outer filtered ns cols hcols hnd hdisj,
    optionalFixup_keeps_every_outer_row outer filtered ns cols hcols hnd hdisj,
    optionalFixup_length_ge outer filtered ns⟩
  simp only [Exec.exec, ho, hf, bind, Except.bind, pure, Except.pure]

/-- the outer side the planner builds is the incoming plan itself — in the model (`OPTIONAL MATCH … WHERE w`: outer =
    the plan before the clause, filtered = `Filter w` over the expanded pattern) … -/
theorem op6_outer_side_model (pats : List PathPat) (w : Expr) (rest : Query) (l : Compile.Loop) :
    Compile.compileClauses (.match_ true pats :: .where_ w :: rest) l =
      (do
        let (plan, st) ← Compile.compileMatch l.plan pats (Compile.extractPredicates w []) l.st
        let aliases := Compile.optionalAliases pats
          (match l.plan with | some p => Compile.outKinds p | none => []) (Compile.outKinds plan)
        Compile.exprVarsOk (Compile.outKinds plan ++ aliases.map (·, Kind.unknown)) w
        Compile.compileClauses rest
          { plan := some (.optionalWhereFixup (l.plan.getD .returnOne) (.filter plan w) aliases), st := st }) := by
  simp only [Compile.compileClauses, bind, Except.bind]
  cases Compile.compileMatch l.plan pats (Compile.extractPredicates w []) l.st with
  | error e => rfl
  | ok ps =>
    obtain ⟨plan, st⟩ := ps
    simp only [↓reduceIte]
    cases Compile.exprVarsOk _ w <;> rfl

/-- … and in the source: table regenerated from compile_core.rs (both construction sites put `previous_plan`,
    unmodified, on the outer side; the recogniser fails on any other shape) -/
theorem op6_outer_side_tie : Generated.optionalOuterSideIsIncomingPlan = true ∧ Generated.optionalFixupSites = 2 := by
  decide

/-- op 7: Distinct = reference DISTINCT on a projected table -/
theorem op7_distinct (T : List (Row × Row)) (hcols : ∀ x ∈ T, ∀ y ∈ T, x.1.cols = y.1.cols) :
    Exec.distinct (T.map (·.1)) = (Spec.dedupBy (·.1) T).map (·.1) :=
  distinct_correct T hcols

/-- op 8a (implicit grouping): the executor's groups are the reference's, and those are: one group per distinct
    key, holding exactly the input rows with that key in input order, none empty, every row in one -/
theorem op8_groups (gb : List String) (T : Table) :
    Exec.groupRows gb T = Spec.groupBy (fun r => gb.filterMap r.get) T ∧
    GroupsOf (fun r => gb.filterMap r.get) T (Spec.groupBy (fun r => gb.filterMap r.get) T) :=
  ⟨groupRows_eq gb T, groupBy_groups _ T⟩

/-- op 8b (aggregation without grouping keys): exactly one row aggregating the whole input — also over the empty
    input (the "empty-input row": count = 0, min = null, …) -/
theorem op8_aggregate_global (A : Algebra) (env : Env) (aggs : List (AggFn × String)) (T : Table) :
    Exec.aggregate A env [] aggs T =
      [aggs.foldl (fun (r : Row) (p : AggFn × String) => r.set p.2 (Exec.aggValue A env p.1 T)) []] := by
  unfold Exec.aggregate
  rw [groupRows_nil_key]
  cases T with
  | nil => rfl
  | cons r rest => rfl

/-- op 8c (aggregation with grouping keys): one row per reference group (so none over the empty input) -/
theorem op8_aggregate_keyed (A : Algebra) (env : Env) (gb : List String) (hgb : gb.isEmpty = false)
    (aggs : List (AggFn × String)) (T : Table) :
    Exec.aggregate A env gb aggs T =
      (Spec.groupBy (fun r => gb.filterMap r.get) T).map fun (p : List Val × Table) =>
        aggs.foldl (fun (r : Row) (q : AggFn × String) => r.set q.2 (Exec.aggValue A env q.1 p.2))
          ((gb.zip p.1).foldl (fun (r : Row) (kv : String × Val) => r.set kv.1 kv.2) []) :=
  aggregate_keyed A env gb hgb aggs T

/-- op 9a: OrderBy returns a permutation of its input -/
theorem op9_orderBy_perm (A : Algebra) (env : Env) (items : List (Expr × Bool)) (T : Table) :
    (Exec.orderBy A env items T).Perm T := by
  rw [orderBy_eq_mergeSort]
  exact List.mergeSort_perm T _

/-- op 9a': OrderBy is the (stable) merge sort of its input by the reference comparator `rowLe` — the very list the
    reference's ORDER BY denotes (`Spec.keyLe` is `rowLe` on the row the keys are evaluated in) -/
theorem op9_orderBy_mergeSort (A : Algebra) (env : Env) (items : List (Expr × Bool)) (T : Table) :
    Exec.orderBy A env items T = T.mergeSort (rowLe A env items) ∧
    ∀ a b : Row × Row, Spec.keyLe A env items a b = rowLe A env items a.2 b.2 :=
  ⟨orderBy_eq_mergeSort A env items T, fun a b => by
    induction items with
    | nil => rfl
    | cons it rest ih =>
      obtain ⟨e, asc⟩ := it
      simp only [Spec.keyLe, rowLe, ih]
      cases A.ord (eval A env a.2 e) (eval A env b.2 e) <;> rfl⟩

/-- op 9a'' (sortedness): when the value order is a total preorder (`CmpLaws`, C23), the output of OrderBy is
    sorted — no row is followed, anywhere later, by a row that the comparator puts strictly before it — and equal
    rows keep their input order -/
theorem op9_orderBy_sorted (A : Algebra) (env : Env) (h : CmpLaws A.ord) (items : List (Expr × Bool)) (T : Table) :
    ((Exec.orderBy A env items T).Pairwise fun a b => rowLe A env items a b = true) ∧
    ∀ a b, rowLe A env items a b = true → [a, b].Sublist T → [a, b].Sublist (Exec.orderBy A env items T) :=
  ⟨orderBy_sorted A env h items T, fun a b hab hin => by
    rw [orderBy_eq_mergeSort]
    exact List.sublist_mergeSort (rowLe_trans A env h items) (rowLe_total A env h items) (by simp [hab]) hin⟩

/-- op 9b: Skip / Limit = drop / take -/
theorem op9_skip_limit (A : Algebra) (env : Env) (i : Plan) (T : Table) (h : Exec.exec A env i = .ok T)
    (s l : Nat) : Exec.exec A env (.limit (.skip i (.int s)) (.int l)) = .ok ((T.drop s).take l) := by
  have hs : ¬ ((s : Int) < 0) := by omega
  have hl : ¬ ((l : Int) < 0) := by omega
  simp [Exec.exec, h, bind, Except.bind, pure, Except.pure, Exec.windowArg, hs, hl]

/-- op 10: Unwind = reference UNWIND -/
theorem op10_unwind (A : Algebra) (env : Env) (i : Plan) (e : Expr) (x : String) (T : Table)
    (h : Exec.exec A env i = .ok T) :
    Exec.exec A env (.unwind i e x) = .ok (Spec.denoteUnwind A env e x T) :=
  unwind_correct A env i e x T h

/-! ### non-vacuity: a concrete graph and queries that meet the hypotheses and exercise the operators -/

/-- (0:A {k:1}) -[:T]-> (1:A:B {k:2}) -[:T]-> (2), plus a self-loop (2)-[:U]->(2) -/
def g1 : Graph :=
  ⟨[⟨0, ["A"], [("k", .int 1)]⟩, ⟨1, ["A", "B"], [("k", .int 2)]⟩, ⟨2, [], []⟩],
   [⟨⟨0, "T", 1⟩, 1, []⟩, ⟨⟨1, "T", 2⟩, 1, []⟩, ⟨⟨2, "U", 2⟩, 1, []⟩]⟩

example : g1.NodesDistinct := by decide
example : NoParallel g1 := noParallel_of_nodup (by decide)
example : PathRel [("a", .node 0)] "__nervus_internal_path_0" [] := rfl
example : PathRel [("a", .node 0), ("__nervus_internal_path_0", .path [0, 1] [⟨0, "T", 1⟩])]
    "__nervus_internal_path_0" [⟨0, "T", 1⟩] := by
  intro e; simp

/-- `MATCH (n:A) WHERE n.k > 1 RETURN n.k AS k` -/
def q1 : Query :=
  [.match_ false [⟨⟨some "n", ["A"], []⟩, []⟩], .where_ (.cmp .gt (.prop "n" "k") (.lit (.int 1))),
   .return_ ⟨false, [⟨.plain (.prop "n" "k"), "k"⟩], [], none, none⟩]

example : Spec.WellScoped q1 ∧ InF1 q1 = true ∧ NoKnownTrigger small { g := g1 } q1 = true := by decide +kernel
example : okRows (Exec.run small { g := g1 } q1) = some [[("k", .int 2)]] := by decide +kernel
example : Agrees (Exec.run small { g := g1 } q1) (Spec.denote small { g := g1 } q1) := by decide +kernel

/-- `MATCH (a)-[r:T]->(b) OPTIONAL MATCH (b)-[:U]-(c) RETURN a, b, c` (expand, optional, undirected self-loop) -/
def q2 : Query :=
  [.match_ false [⟨⟨some "a", [], []⟩, [(⟨some "r", ["T"], .out, []⟩, ⟨some "b", [], []⟩)]⟩],
   .match_ true [⟨⟨some "b", [], []⟩, [(⟨none, ["U"], .both, []⟩, ⟨some "c", [], []⟩)]⟩],
   .return_ ⟨false, [⟨.plain (.var "a"), "a"⟩, ⟨.plain (.var "b"), "b"⟩, ⟨.plain (.var "c"), "c"⟩], [], none, none⟩]

example : Spec.WellScoped q2 ∧ InF1 q2 = true ∧ NoKnownTrigger small { g := g1 } q2 = true := by decide +kernel
example : Agrees (Exec.run small { g := g1 } q2) (Spec.denote small { g := g1 } q2) := by decide +kernel

/-- q1 = `MATCH (n:A) WHERE n.k > 1 RETURN n.k AS k` is an F1a node-pattern query; so is the push-down case
    `MATCH (n:A) WHERE n.k = 2 RETURN n` (IndexSeek + pushed filter) -/
example : coreClauses true q1.tail = true := by decide
def q1b : Query :=
  [.match_ false [⟨⟨some "n", ["A"], []⟩, []⟩], .where_ (.cmp .eq (.prop "n" "k") (.lit (.int 2))),
   .return_ ⟨false, [⟨.plain (.var "n"), "n"⟩], [], none, none⟩]
example : coreClauses true q1b.tail = true ∧ Spec.WellScoped q1b := by decide
example : okRows (Exec.run small { g := g1 } q1b) = some [[("n", .node 1)]] := by decide +kernel

/-- `MATCH (a:A)-[r:T]->(b) WHERE a.k = 1 RETURN b.k AS k` meets every hypothesis of `C11_F1a_hop_out` -/
def q5tail : Query :=
  [.where_ (.cmp .eq (.prop "a" "k") (.lit (.int 1))), .return_ ⟨false, [⟨.plain (.prop "b" "k"), "k"⟩], [], none, none⟩]
example : bagClauses true q5tail = true ∧ pa0 ∉ introduced q5tail ∧ "a" ≠ pa0 ∧ "b" ≠ pa0 ∧ "r" ≠ pa0 ∧
    Spec.WellScoped (.match_ false [hopPat "a" ["A"] (some "r") ["T"] "b" []] :: q5tail) := by decide +kernel
example : okRows (Exec.run small { g := g1 } (.match_ false [hopPat "a" ["A"] (some "r") ["T"] "b" []] :: q5tail)) =
    some [[("k", .int 2)]] := by decide +kernel

/-- the undirected instance `MATCH (a:A)-[r:T]-(b) WHERE a.k = 1 RETURN b.k AS k` (hypotheses as for q5tail) -/
example : Spec.WellScoped (.match_ false [hopPatD .both "a" ["A"] (some "r") ["T"] "b" []] :: q5tail) := by decide +kernel
example : okRows (Exec.run small { g := g1 } (.match_ false [hopPatD .both "a" ["A"] (some "r") ["T"] "b" []] :: q5tail)) =
    some [[("k", .int 2)]] := by decide +kernel

/-- `UNWIND [3,1,1] AS x WITH DISTINCT x AS y SKIP 1 WHERE y < 5 RETURN y AS z LIMIT 3` is a core query -/
def q3 : Query :=
  [.unwind (.listLit [.int 3, .int 1, .int 1]) "x",
   .with_ ⟨true, [⟨.plain (.var "x"), "y"⟩], [], some (.int 1), none⟩ none,
   .where_ (.cmp .lt (.var "y") (.lit (.int 5))),
   .return_ ⟨false, [⟨.plain (.var "y"), "z"⟩], [], none, some (.int 3)⟩]

example : InCore q3 = true ∧ Spec.WellScoped q3 := by decide
example : okRows (Exec.run small { g := g1 } q3) = some [[("z", .int 1)]] := by decide +kernel
/-- a core query on which both sides fail alike (negative LIMIT) -/
example : okRows (Exec.run small { g := g1 }
    [.return_ ⟨false, [⟨.plain (.lit (.int 1)), "a"⟩], [], none, some (.int (-1))⟩]) = none := by decide +kernel

/-- `MATCH (a:A) OPTIONAL MATCH (a)-[:T]->(b) WHERE a.k > 1 RETURN a.k AS k, b`: the outer-only predicate is false on
    node 0 (k = 1) and true on node 1 (k = 2); node 0 stays, padded -/
def q4 : Query :=
  [.match_ false [⟨⟨some "a", ["A"], []⟩, []⟩],
   .match_ true [⟨⟨some "a", [], []⟩, [(⟨none, ["T"], .out, []⟩, ⟨some "b", [], []⟩)]⟩],
   .where_ (.cmp .gt (.prop "a" "k") (.lit (.int 1))),
   .return_ ⟨false, [⟨.plain (.prop "a" "k"), "k"⟩, ⟨.plain (.var "b"), "b"⟩], [], none, none⟩]

example : Spec.WellScoped q4 ∧ InF1 q4 = true ∧ NoKnownTrigger small { g := g1 } q4 = true := by decide +kernel
example : okRows (Exec.run small { g := g1 } q4) =
    some [[("k", .int 1), ("b", .null)], [("k", .int 2), ("b", .node 2)]] := by decide +kernel
example : Agrees (Exec.run small { g := g1 } q4) (Spec.denote small { g := g1 } q4) := by decide +kernel

/-! ### counterexamples: `C11_full` is false of the model (and of the engine: corpus/query/*.ops) -/

/-- witness of fix e45796c (Distinct was planned above Limit):
    `UNWIND [1,1,2] AS x RETURN DISTINCT x LIMIT 2` agrees with the reference (two rows). -/
def qDistinctLimit : Query :=
  [.unwind (.listLit [.int 1, .int 1, .int 2]) "x",
   .return_ ⟨true, [⟨.plain (.var "x"), "x"⟩], [], none, some (.int 2)⟩]

example : Agrees (Exec.run small { g := ⟨[], []⟩ } qDistinctLimit) (Spec.denote small { g := ⟨[], []⟩ } qDistinctLimit) := by
  decide +kernel
example : InCore qDistinctLimit = true ∧ Spec.WellScoped qDistinctLimit := by decide

/-- two parallel copies of one relationship identity: the engine lets a chain re-use the identity
    (`MATCH (a)-[:T]->(b)<-[:T]-(c)` over (0)-[:T]->(1) ×2 yields 4 rows; injective matching on identities: 0). -/
def gParallel : Graph := ⟨[⟨0, [], []⟩, ⟨1, [], []⟩], [⟨⟨0, "T", 1⟩, 2, []⟩]⟩

def qTwoHop : Query :=
  [.match_ false [⟨⟨some "a", [], []⟩,
      [(⟨none, ["T"], .out, []⟩, ⟨some "b", [], []⟩), (⟨none, ["T"], .inn, []⟩, ⟨some "c", [], []⟩)]⟩],
   .return_ ⟨false, [⟨.plain (.var "a"), "a"⟩, ⟨.plain (.var "c"), "c"⟩], [], none, none⟩]

theorem counterexample_parallel_rel_reuse :
    ¬ Agrees (Exec.run small { g := gParallel } qTwoHop) (Spec.denote small { g := gParallel } qTwoHop) := by
  decide +kernel

/-- relationship uniqueness is tracked per chain, not per MATCH clause:
    `MATCH (a)-[r1]->(b), (c)-[r2]->(d)` over a single relationship yields a row with r1 = r2. -/
def gOneRel : Graph := ⟨[⟨0, [], []⟩, ⟨1, [], []⟩], [⟨⟨0, "T", 1⟩, 1, []⟩]⟩

def qTwoPatterns : Query :=
  [.match_ false [⟨⟨some "a", [], []⟩, [(⟨some "r1", [], .out, []⟩, ⟨some "b", [], []⟩)]⟩,
                  ⟨⟨some "c", [], []⟩, [(⟨some "r2", [], .out, []⟩, ⟨some "d", [], []⟩)]⟩],
   .return_ ⟨false, [⟨.plain (.var "r1"), "r1"⟩, ⟨.plain (.var "r2"), "r2"⟩], [], none, none⟩]

theorem counterexample_cross_pattern_uniqueness :
    ¬ Agrees (Exec.run small { g := gOneRel } qTwoPatterns) (Spec.denote small { g := gOneRel } qTwoPatterns) := by
  decide +kernel

/-- OptionalWhereFixup re-associates matches to outer rows by value: two equal outer rows each receive the
    matches of both (`UNWIND [1,1] AS x OPTIONAL MATCH (n) RETURN x, n` over one node: 4 rows instead of 2). -/
def gOneNode : Graph := ⟨[⟨0, [], []⟩], []⟩

def qOptionalDup : Query :=
  [.unwind (.listLit [.int 1, .int 1]) "x", .match_ true [⟨⟨some "n", [], []⟩, []⟩],
   .return_ ⟨false, [⟨.plain (.var "x"), "x"⟩, ⟨.plain (.var "n"), "n"⟩], [], none, none⟩]

theorem counterexample_optional_duplicate_outer :
    ¬ Agrees (Exec.run small { g := gOneNode } qOptionalDup) (Spec.denote small { g := gOneNode } qOptionalDup) := by
  decide +kernel

/-- a MATCH on a variable that an OPTIONAL MATCH left null keeps the row:
    `MATCH (n1) OPTIONAL MATCH (n1)-[:X]->(n2) MATCH (n2) RETURN n1` over one node returns one row, the reference none -/
def qNullBoundMatch : Query :=
  [.match_ false [⟨⟨some "n1", [], []⟩, []⟩],
   .match_ true [⟨⟨some "n1", [], []⟩, [(⟨none, ["X"], .out, []⟩, ⟨some "n2", [], []⟩)]⟩],
   .match_ false [⟨⟨some "n2", [], []⟩, []⟩],
   .return_ ⟨false, [⟨.plain (.var "n1"), "n1"⟩], [], none, none⟩]

theorem counterexample_match_null_bound_variable :
    ¬ Agrees (Exec.run small { g := gOneNode } qNullBoundMatch) (Spec.denote small { g := gOneNode } qNullBoundMatch) := by
  decide +kernel

example : (Findings.triggers small { g := gOneNode } qNullBoundMatch) = ["C11-match-null-bound-variable"] := by decide +kernel

/-- witness of fix 9e714df (the planner dropped the property map of an anonymous relationship pattern):
    `MATCH (a)-[{w: 5}]->(b)` does not match a relationship without `w`. -/
def qAnonRelProps : Query :=
  [.match_ false [⟨⟨some "a", [], []⟩, [(⟨none, [], .out, [("w", .lit (.int 5))]⟩, ⟨some "b", [], []⟩)]⟩],
   .return_ ⟨false, [⟨.plain (.var "a"), "a"⟩], [], none, none⟩]

example : Agrees (Exec.run small { g := gOneRel } qAnonRelProps) (Spec.denote small { g := gOneRel } qAnonRelProps) := by
  decide +kernel

/-- a bound variable in the middle of a pattern whose end nodes are free: `MATCH (a) MATCH (b)-->(a)-->(c)` -/
def gChain : Graph :=
  ⟨[⟨0, [], []⟩, ⟨1, [], []⟩, ⟨2, [], []⟩], [⟨⟨0, "T", 1⟩, 1, []⟩, ⟨⟨1, "T", 2⟩, 1, []⟩]⟩

def qUnanchored : Query :=
  [.match_ false [⟨⟨some "a", [], []⟩, []⟩],
   .match_ false [⟨⟨some "b", [], []⟩,
      [(⟨none, [], .out, []⟩, ⟨some "a", [], []⟩), (⟨none, [], .out, []⟩, ⟨some "c", [], []⟩)]⟩],
   .return_ ⟨false, [⟨.plain (.var "a"), "a"⟩, ⟨.plain (.var "b"), "b"⟩], [], none, none⟩]

/-- witness of fix df2d1ad (independent CartesianProduct component) -/
example : Agrees (Exec.run small { g := gChain } qUnanchored) (Spec.denote small { g := gChain } qUnanchored) := by
  decide +kernel

/-- hence the full-strength statement fails (witness: OPTIONAL MATCH after two equal rows) -/
theorem C11_full_false : ¬ C11_full := by
  intro h
  exact counterexample_optional_duplicate_outer
    (h small { g := gOneNode } qOptionalDup (by decide) (by decide) (by decide))

end Nervus.Props.C11
