/-
  C35 — Concurrent use never deadlocks.
  Statements only (helper lemmas: Nervus.Proofs.LockLTS).
  Model: Nervus.Model.LockLTS (threads acquiring non-re-entrant locks according to an acquisition
  relation).  The relation is `Generated.lockAcqs`, regenerated from engine.rs / api.rs / backup.rs /
  nervusdb/src/lib.rs / nervusdb-capi/src/lib.rs by tools/lockorder.py on every run.
-/
import Nervus.Proofs.LockLTS
import Nervus.Model.Generated.LockOrder
namespace Nervus.Props.C35
open Nervus Nervus.LockLTS

def toAcqs (l : List (List Nat × Nat)) : List Acq := l.map (fun p => ⟨p.1, p.2⟩)

/-- every acquisition site reachable through the public API, including those of a thread that
    calls a `write_lock`-taking operation while it owns an open write transaction -/
def fullRelation : List Acq := toAcqs (Generated.lockAcqs ++ Generated.lockAcqsReentrantExtra)

/-- trigger predicate of the known finding: the site asks for a lock the thread already holds -/
def reentrant (a : Acq) : Bool := a.held.contains a.want

/-- the relation without re-entrant sites -/
def apiRelation : List Acq := fullRelation.filter (fun a => !reentrant a)

/-- **C35 at full strength**: no reachable state of any number of threads using the whole public
    API is a deadlock.  FALSE (see `C35_counterexample_reentry`). -/
def C35_full : Prop := ∀ s, Reach fullRelation s → ¬ Deadlock s

/-- **Generic theorem (proved once, for every relation)**: if the acquisition relation has no
    feasible cycle — no cycle whose edges have pairwise disjoint held-sets — then no reachable state
    contains a cycle of threads waiting for each other, whatever the number of threads and the
    interleaving. -/
theorem no_feasible_cycle_no_deadlock (A : List Acq) (n : Nat) (hwf : wellFormed A n = true)
    (hno : hasFeasibleCycle A n = false) (s : State) (h : Reach A s) : ¬ Deadlock s := by
  intro ⟨ts, hc⟩
  obtain ⟨c, hfc⟩ := deadlock_gives_feasible (reach_inv h) ts hc
  have := hasFeasibleCycle_complete hwf c hfc
  rw [hno] at this; cases this

/-- that the search finds only feasible cycles is not proved; on this instance it does find the gate-free cycle -/
theorem search_finds_ungated_cycle : hasFeasibleCycle [⟨[2], 4⟩, ⟨[4], 2⟩] 5 = true := by decide
/-- … and a shared gate lock (here lock 0 in both held-sets) makes the same cycle infeasible -/
theorem gate_breaks_cycle : hasFeasibleCycle [⟨[0, 2], 4⟩, ⟨[0, 4], 2⟩] 5 = false := by decide

/-- per-run obligation 1: every lock number in the regenerated table is in range -/
theorem relation_wellFormed : wellFormed apiRelation Generated.nLocks = true := by decide +kernel

/-- per-run obligation 2: the regenerated relation has no feasible cycle -/
theorem relation_no_feasible_cycle : hasFeasibleCycle apiRelation Generated.nLocks = false := by decide +kernel

/-- the only re-entrant sites are on the gate lock itself (so the partial theorem's hypothesis is
    exactly "no thread asks for write_lock while it owns a write transaction") -/
theorem reentrant_sites_are_write_lock : (fullRelation.filter reentrant).all (fun a => a.want == 0) = true := by
  decide +kernel

/-- **C35 (partial)**: as long as no thread calls a `write_lock`-taking operation (begin_write,
    compact, checkpoint, close, auto-commit write) while it owns an open write transaction, no
    reachable state is a deadlock — any number of threads, all interleavings of all public
    operations. -/
theorem C35_partial (s : State) (h : Reach apiRelation s) : ¬ Deadlock s :=
  no_feasible_cycle_no_deadlock apiRelation Generated.nLocks relation_wellFormed relation_no_feasible_cycle s h

/-- **Progress (generic)**: under the same hypothesis, in every reachable state every thread — in
    particular every blocked one — transitively waits for a thread that can take a step (it is running, or
    the lock it waits for is free).  Assumed, not modelled: that thread is eventually scheduled. -/
theorem blocked_waits_for_runnable (A : List Acq) (n : Nat) (hwf : wellFormed A n = true)
    (hno : hasFeasibleCycle A n = false) (s : State) (h : Reach A s) (t : Nat) :
    ∃ u, WaitsStar s t u ∧ Runnable s u :=
  progress (reach_inv h) hwf (no_feasible_cycle_no_deadlock A n hwf hno s h) t

/-- **Progress for the API relation**: if some thread is blocked, some thread can take a step. -/
theorem C35_progress (s : State) (h : Reach apiRelation s) (t : Nat) :
    ∃ u, WaitsStar s t u ∧ Runnable s u :=
  blocked_waits_for_runnable apiRelation Generated.nLocks relation_wellFormed relation_no_feasible_cycle s h t

/-- the relation really contains the `wal → label_interner` / `label_interner → wal` cycle that only
    the `write_lock` gate makes infeasible (non-vacuity of the gate argument) -/
theorem gated_cycle_present : (⟨[0, 2], 4⟩ : Acq) ∈ apiRelation ∧ (⟨[0, 4], 2⟩ : Acq) ∈ apiRelation := by
  decide +kernel

private def s1 : State := upd init 0 { held := [], wait := some 0 }
private def s2 : State := upd s1 0 { held := [0], wait := none }
private def s3 : State := upd s2 0 { held := [0], wait := some 0 }

/-- **Counterexample (re-entry)**: one thread opens a write transaction (`begin_write`: takes
    write_lock) and then calls an operation that takes write_lock again (`ndb_execute_write`,
    `ndb_compact`, `Db::compact`, a second `begin_write`): it waits for itself forever. -/
theorem C35_counterexample_reentry : ∃ s, Reach fullRelation s ∧ Deadlock s := by
  refine ⟨s3, ?_, [0], ?_⟩
  · have r1 : Reach fullRelation s1 :=
      Reach.step Reach.init (Step.request init 0 ⟨[], 0⟩ rfl (by decide +kernel) (by intro x; simp [init]))
    have r2 : Reach fullRelation s2 :=
      Reach.step r1 (Step.grant s1 0 0 (by simp [s1]) (by intro u; simp [s1, upd, init]; split <;> simp))
    exact Reach.step r2 (Step.request s2 0 ⟨[0], 0⟩ (by simp [s2]) (by decide +kernel) (by intro x; simp [s2]))
  · exact ⟨by simp, 0, by simp [s3], by simp [s3]⟩

theorem C35_full_is_false : ¬ C35_full := by
  intro h
  obtain ⟨s, hr, hd⟩ := C35_counterexample_reentry
  exact h s hr hd

/-! non-vacuity: a reachable state of the API relation — thread 0 inside `commit`'s nesting (`write_lock`, then
    `wal`), thread 1 blocked on `write_lock` -/
example : ∃ s, Reach apiRelation s ∧ (s 0).held = [2, 0] ∧ (s 1).wait = some 0 := by
  let a := upd init 0 { held := [], wait := some 0 }
  let b := upd a 0 { held := [0], wait := none }
  let c := upd b 0 { held := [0], wait := some 2 }
  let d := upd c 0 { held := [2, 0], wait := none }
  let e := upd d 1 { held := [], wait := some 0 }
  have ra : Reach apiRelation a := .step .init (.request init 0 ⟨[], 0⟩ rfl (by decide +kernel) (by intro x; simp [init]))
  have rb : Reach apiRelation b := .step ra (.grant a 0 0 (by simp [a]) (by intro u; simp [a, upd, init]; split <;> simp))
  have rc : Reach apiRelation c := .step rb (.request b 0 ⟨[0], 2⟩ (by simp [b]) (by decide +kernel) (by intro x; simp [b]))
  have rd : Reach apiRelation d := .step rc (.grant c 0 2 (by simp [c]) (by
    intro u; simp only [c, b, a, upd, init]; split <;> simp))
  have re : Reach apiRelation e := .step rd (.request d 1 ⟨[], 0⟩ (by simp [d, c, b, a, upd, init]) (by decide +kernel)
    (by intro x; simp [d, c, b, a, upd, init]))
  exact ⟨e, re, by simp [e, d, upd], by simp [e]⟩

end Nervus.Props.C35
