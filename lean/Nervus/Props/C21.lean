/-
  C21 — Aggregates agree with their definitions.   Statements, and the proofs of those that are proved nowhere else
  (lemmas live in Nervus.Proofs.*).

  Model: `Nervus.Model.Agg` (mirrors `execute_aggregate` of projection_sort.rs after the `fix:` commits for
  `sum` and for grouping / DISTINCT; the pinned behaviour is kept as `Agg.Pinned`).  Every aggregate is a function of the list of values
  its argument takes on the rows of one group, in row order; theorems quantify over ALL such lists and over
  every float arithmetic / environment.
-/
import Nervus.Proofs.Agg
import Nervus.Proofs.KeyEq
import Nervus.Proofs.OrderTotal
set_option exponentiation.threshold 4096
namespace Nervus.Props.C21
open Nervus Nervus.Eval Nervus.Agg Nervus.Spec Value

/-- **C21 at full strength** — provable after the `fix:` commits: for ALL value lists every non-null value of a
    group has exactly one representative in the DISTINCT set, w.r.t. the engine's equality made reflexive
    (`keyEq`; the grouping statement is `groups_one_per_key`). -/
theorem C21_full (vs : List Value) :
    (∀ x ∈ vs, x.isNull = false → ∃ e ∈ distinctVals vs, keyEq e x = true) ∧
    (distinctVals vs).Pairwise (fun a b => keyEq a b = false) :=
  ⟨(distinct_inv vs).complete, (distinct_inv vs).distinct⟩

/-! ### count, collect -/

theorem count_star_is_length (vs : List Value) : countStar vs = .int vs.length := rfl
theorem count_is_non_null (vs : List Value) : count vs = .int (Spec.nonNull vs).length := rfl
theorem collect_is_filter (vs : List Value) : collect vs = .list (Spec.nonNull vs) := rfl

/-- the counts do not depend on the order in which the rows of a group arrive (hash-map iteration order,
    scan order): any permutation of the group's values gives the same `count(*)`, `count(x)`, and the same
    MULTISET of collected values -/
theorem counts_order_independent (vs ws : List Value) (h : vs.Perm ws) :
    countStar vs = countStar ws ∧ count vs = count ws ∧ (Spec.nonNull vs).Perm (Spec.nonNull ws) := by
  refine ⟨?_, ?_, h.filter _⟩
  · simp only [countStar, h.length_eq]
  · have := (h.filter (fun v => !v.isNull)).length_eq
    simp only [count, Agg.nonNull, this]

/-! ### sum: ONE overflow rule, the same as `+` -/

/-- a Float among the values ⇒ the Float fold; otherwise the exact integer total when it fits an i64, else
    the Float fold (`Spec.intRule`, the rule of `numeric_binop`) -/
theorem sum_overflow_rule (F : FArith) (vs : List Value) :
    Agg.sum F vs = if vs.any isFloatV then .float (ffold F vs) else Spec.intRule (Spec.intSum vs) (ffold F vs) :=
  sum_spec F vs
/-- **sum never silently wraps**: an integer result is the exact sum in ℤ -/
theorem sum_exact_or_float (F : FArith) (vs : List Value) (s : Int) (h : Agg.sum F vs = .int s) :
    s = Spec.intSum vs ∧ Spec.i64Min ≤ s ∧ s ≤ Spec.i64Max :=
  sum_never_wraps F vs s h
/-- sum = folding the group with the Cypher `+` from 0 — integer groups whose running totals fit an i64 … -/
theorem sum_is_fold_of_add_ints (E : Env) (vs : List Value) (h : prefixOk 0 vs = true) :
    Agg.sum E.F vs = vs.foldl (fun a v => evalBin E .add a v) (.int 0) :=
  (fold_add_ints E vs 0 sumInit rfl rfl (by decide) h).symm
/-- … and float groups (the empty group gives 0). -/
theorem sum_is_fold_of_add_floats (E : Env) (vs : List Value) (h : vs.all isFloatV = true) :
    Agg.sum E.F vs = vs.foldl (fun a v => evalBin E .add a v) (.int 0) := by
  cases vs with
  | nil => rfl
  | cons v vs =>
    cases v <;> simp only [List.all_cons, isFloatV, Bool.and_eq_true, Bool.false_eq_true, false_and] at h
    rename_i f
    simp only [List.foldl_cons]
    have c0 : castF 0 = 0 := by decide
    rw [add_int_float, c0]
    exact (fold_add_floats E vs _ (sumStep E.F sumInit (.float f)) (by simp [sumStep]) (by simp [sumStep, sumInit]) h.2).symm
theorem sum_distinct_def (F : FArith) (vs : List Value) : sumDistinct F vs = Agg.sum F (distinctVals vs) := rfl

/-! ### avg -/

/-- avg = (float sum of the numbers, integers cast) / count; `null` iff the group has no number -/
theorem avg_def (F : FArith) (vs : List Value) :
    avg F vs = if (vs.filterMap asF64).isEmpty then .null
      else .float (F.div ((vs.filterMap asF64).foldl F.add negZero) (castF (vs.filterMap asF64).length)) := rfl

/-! ### min / max: least / greatest w.r.t. `order_compare` -/

/-- the source calls `min_by` / `max_by` with `order_compare` itself at all four sites (plain and DISTINCT): min/max,
    ORDER BY and `<` share one comparator (regenerated table `Comparators`) -/
theorem minmax_uses_order_compare : Generated.minMaxUseOrderCompare = true := by decide


/-- on every group outside the C20 triggers `min` is a non-null element of the group that is not greater
    than any other non-null element (`Iterator::min_by`: the first such element) -/
theorem min_is_least (E : Env) (vs : List Value) (h : ordOK E (Spec.nonNull vs) = true) (m : Value)
    (hm : minBy (orderCompare E) (Spec.nonNull vs) = some m) :
    m ∈ Spec.nonNull vs ∧ ∀ x ∈ Spec.nonNull vs, orderCompare E m x ≠ .gt :=
  minBy_spec (orderCompare E) (orderCompare_lawsOn E _ h) _ (fun _ hx => hx) m hm
theorem max_is_greatest (E : Env) (vs : List Value) (h : ordOK E (Spec.nonNull vs) = true) (m : Value)
    (hm : maxBy (orderCompare E) (Spec.nonNull vs) = some m) :
    m ∈ Spec.nonNull vs ∧ ∀ x ∈ Spec.nonNull vs, orderCompare E x m ≠ .gt :=
  maxBy_spec (orderCompare E) (orderCompare_lawsOn E _ h) _ (fun _ hx => hx) m hm
theorem min_def (E : Env) (vs : List Value) : Agg.min E vs = (minBy (orderCompare E) (Spec.nonNull vs)).getD .null := rfl
theorem max_def (E : Env) (vs : List Value) : Agg.max E vs = (maxBy (orderCompare E) (Spec.nonNull vs)).getD .null := rfl
/-- the general fact: `min_by` / `max_by` return a least / greatest element for ANY total preorder -/
theorem min_max_of_total_preorder {α : Type} (cmp : α → α → Ordering) (P : α → Prop) (h : CmpLawsOn cmp P)
    (xs : List α) (hP : ∀ x ∈ xs, P x) :
    (∀ m, minBy cmp xs = some m → m ∈ xs ∧ ∀ x ∈ xs, cmp m x ≠ .gt) ∧
    (∀ m, maxBy cmp xs = some m → m ∈ xs ∧ ∀ x ∈ xs, cmp x m ≠ .gt) :=
  ⟨fun m hm => minBy_spec cmp h xs hP m hm, fun m hm => maxBy_spec cmp h xs hP m hm⟩

/-! ### DISTINCT = first representatives w.r.t. the engine's equality -/

/-- the equivalence: `keyEq` is the kernel of the normalisation (one NaN, −0.0 → +0.0), hence an equivalence
    relation on ALL values … -/
theorem keyEq_equivalence (a b c : Value) :
    keyEq a a = true ∧ keyEq a b = keyEq b a ∧ (keyEq a b = true → keyEq b c = true → keyEq a c = true) :=
  ⟨keyEq_refl a, keyEq_symm a b, fun h1 h2 => keyEq_trans h1 h2⟩
/-- … that contains the engine's `==` (so DISTINCT merges everything `==` merges: ±0.0 too; Int 1 and Float 1.0,
    which only Cypher `=` equates, stay apart) -/
theorem keyEq_contains_engine_eq (a b : Value) (wa : a.wf = true) (wb : b.wf = true) (h : deq a b = true) :
    keyEq a b = true := keyEq_of_deq a b wa wb h
theorem distinct_sound (vs : List Value) : ∀ x ∈ distinctVals vs, x ∈ vs ∧ x.isNull = false :=
  (distinct_inv vs).sound
theorem distinct_no_duplicates (vs : List Value) : (distinctVals vs).Pairwise (fun a b => keyEq a b = false) :=
  (distinct_inv vs).distinct
/-- every non-null value (NaN included) has a representative -/
theorem distinct_complete (vs : List Value) (x : Value) (hx : x ∈ vs) (hn : x.isNull = false) :
    ∃ e ∈ distinctVals vs, keyEq e x = true :=
  (distinct_inv vs).complete x hx hn
theorem collect_distinct_def (vs : List Value) : collectDistinct vs = .list (distinctVals vs) := rfl
theorem count_distinct_def (vs : List Value) : countDistinct vs = .int (distinctVals vs).length := rfl

/-! ### hash-based de-duplication / grouping is only correct when the hash respects the equality -/

/-- a `HashSet`/`HashMap` keyed de-duplication computes the same DISTINCT set as the scan by `eq` whenever
    `eq a b → hash a = hash b` (any element type, any hash) -/
theorem hash_dedup_correct_if_respects {α H : Type} [DecidableEq H] (h : α → H) (eq : α → α → Bool)
    (hr : ∀ a b, eq a b = true → h a = h b) (vs : List α) :
    hashDedupInto h eq [] vs = eqDedupInto eq [] vs :=
  hashDedup_eq_of_respects h eq hr vs []
/-- `impl Hash for Value` (floats by `to_bits()`) does NOT respect the derived `==`: 0.0 == −0.0, different hash
    input — alone and nested in lists and maps -/
theorem vhash_does_not_respect_eq :
    deq (.float 0) (.float 0x8000000000000000) = true ∧ vhash (.float 0) ≠ vhash (.float 0x8000000000000000) ∧
    deq (.list [.float 0]) (.list [.float 0x8000000000000000]) = true ∧
    vhash (.list [.float 0]) ≠ vhash (.list [.float 0x8000000000000000]) ∧
    deq (.map [([0x61], .float 0)]) (.map [([0x61], .float 0x8000000000000000)]) = true ∧
    vhash (.map [([0x61], .float 0)]) ≠ vhash (.map [([0x61], .float 0x8000000000000000)]) := by decide
/-- hence de-duplicating `Value`s through a `HashSet<Value>` (the seeded change C21-seed1) is wrong:
    {0.0, −0.0, 3.0} keeps three values where DISTINCT by `==` keeps two -/
theorem counterexample_hash_dedup_zero_signs :
    (hashDedupInto vhash deq [] [.float 0, .float 0x8000000000000000, .float 0x4008000000000000]).length = 3 ∧
    (eqDedupInto deq [] [.float 0, .float 0x8000000000000000, .float 0x4008000000000000]).length = 2 ∧
    (distinctVals [.float 0, .float 0x8000000000000000, .float 0x4008000000000000]).length = 2 := by decide
/-- on the NORMALISED grouping keys the hash does respect the key equality (what makes `HashMap<GroupKey, _>`
    a function of `keyEq`) -/
theorem grouping_hash_respects_key (a b : Value) (h : keyEq a b = true) : vhash (norm a) = vhash (norm b) := by
  rw [(keyEq_iff a b).1 h]

/-! ### grouping: exactly one output row per key of the partition -/

/-- no row is lost or duplicated -/
theorem groups_preserve_rows {α : Type} (rows : List (List Value × α)) (hr : rows ≠ []) :
    (allRows (groupRows false rows)).Perm (rows.map Prod.snd) := by
  rw [groupRows_eq_fold rows hr]
  simpa [allRows] using groupFold_rows rows []
/-- every row of a group has a key equivalent to the group's key -/
theorem groups_key_homogeneous {α : Type} (rows : List (List Value × α)) (hr : rows ≠ []) :
    ∀ kr ∈ groupRows false rows, ∀ r ∈ kr.2, ∃ k, (k, r) ∈ rows ∧ groupKeyEq k kr.1 = true := by
  rw [groupRows_eq_fold rows hr]
  intro kr hkr r hr'
  obtain ⟨k, hk, he⟩ := groupFold_homog rows kr hkr r hr'
  exact ⟨k, hk, (groupKeyEq_iff k kr.1).2 he⟩
/-- **one group per key class, for ALL keys** (NaN and ±0.0 included): different groups have inequivalent keys —
    together with the two facts above: one output row per key, holding exactly the rows of that key -/
theorem groups_one_per_key {α : Type} (rows : List (List Value × α)) (hr : rows ≠ []) :
    (normKeys (groupRows false rows)).Nodup := by
  rw [groupRows_eq_fold rows hr]
  exact groupFold_nodup rows
/-- Cypher: an aggregation without grouping keys over no rows still yields one row -/
theorem no_keys_empty_input {α : Type} : groupRows true ([] : List (List Value × α)) = [([], [])] := rfl

/-! ### non-vacuity -/

def F0 : FArith := ⟨fun a b => a + b, fun a _ => a, fun a _ => a, fun a _ => a, fun a _ => a, fun a _ => a⟩
def E0 : Env := ⟨F0, fun _ => none, fun _ => false, fun _ _ => .null, fun _ _ => .null, fun _ _ _ => .null⟩
example : Agg.sum F0 [.int 9223372036854775807, .null, .int (-2), .str [0x61]] = .int 9223372036854775805 := by decide
/-- overflow ⇒ Float (here with a dummy float addition), in range again ⇒ exact Int: the total decides -/
example : isFloatV (Agg.sum F0 [.int 9223372036854775807, .int 1]) = true ∧
    Agg.sum F0 [.int 9223372036854775807, .int 1, .int (-2)] = .int 9223372036854775806 := by decide
example : prefixOk 0 [.int 9223372036854775806, .int 1, .int (-5)] = true := by decide
example : ordOK E0 (Spec.nonNull [.int 3, .null, .float 0x3FF0000000000000, .str [0x61]]) = true := by decide
example : Agg.min E0 [.int 3, .null, .float 0x3FF0000000000000] = .float 0x3FF0000000000000 ∧
    Agg.max E0 [.int 1, .float 0x3FF0000000000000] = .float 0x3FF0000000000000 := by decide
example : distinctVals [.int 1, .null, .float 0x3FF0000000000000, .int 1, .float 0x8000000000000000, .float 0,
      .float 0x7FF8000000000000, .float 0xFFF8000000000001]
    = [.int 1, .float 0x3FF0000000000000, .float 0x8000000000000000, .float 0x7FF8000000000000] := by decide
example : (groupRows false [([.float 0x7FF8000000000000], 0), ([.float 0], 1), ([.float 0xFFF8000000000001], 2),
      ([.float 0x8000000000000000], 3)]) = [([.float 0x7FF8000000000000], [0, 2]), ([.float 0], [1, 3])] := by decide
example : (groupRows false [([.int 1], "a"), ([.str [0x78]], "b"), ([.int 1], "c")])
    = [([.int 1], ["a", "c"]), ([.str [0x78]], ["b"])] := by decide

/-! ### counterexamples -/

/-- **fixed finding (pinned tree)**: `sum([i64::MAX, 1])` wrapped to `i64::MIN` (`as i64` of the i128 total),
    for every float arithmetic -/
theorem counterexample_pinned_sum_wraps (F : FArith) :
    Agg.Pinned.sum F [.int 9223372036854775807, .int 1] = .int (-9223372036854775808) := by
  rw [pinned_sum_spec F _ (by decide)]; decide

/-- **fixed finding (pinned tree) C21-nan-grouping**: `==` on values is the derived `PartialEq` (NaN ≠ NaN): two
    NaN rows made two groups for the one key, and DISTINCT kept both -/
theorem counterexample_pinned_nan_groups :
    Agg.Pinned.groupKeyEq [.float 0x7FF8000000000000] [.float 0x7FF8000000000000] = false ∧
    Agg.Pinned.dedupInto [] [.float 0x7FF8000000000000, .float 0x7FF8000000000000]
      = [.float 0x7FF8000000000000, .float 0x7FF8000000000000] := by decide

/-- **fixed finding (pinned tree) C21-zero-sign-grouping**: 0.0 == −0.0 (and DISTINCT merged them) but the
    `HashMap<Vec<Value>, _>` split the key, because `Hash` feeds bit patterns -/
theorem counterexample_pinned_zero_sign_groups :
    deq (.float 0) (.float 0x8000000000000000) = true ∧
    Agg.Pinned.groupKeyEq [.float 0] [.float 0x8000000000000000] = false ∧
    Agg.Pinned.dedupInto [] [.float 0, .float 0x8000000000000000] = [.float 0] := by decide

end Nervus.Props.C21
