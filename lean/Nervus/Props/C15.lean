/-
  C15 — Indexes never change query results.
  Statements only (helper lemmas: Nervus.Proofs.Index, Nervus.Proofs.IndexKey, Nervus.Proofs.IndexCatalog).
  Model: Nervus.Model.Index (commit's IndexOp phase, create_index, lookup_index, compaction /
  reopen of the read view, match_compile's IndexSeek planning, execute_index_seek, NodeScan);
  the four repaired behaviours are read from the regenerated table Generated/IndexFlags.
  Spec: Nervus.Spec.IndexFree (the same history without its create_index calls answers alike).
-/
import Nervus.Proofs.IndexKey
import Nervus.Proofs.IndexCatalog
namespace Nervus.Props.C15
open Nervus Nervus.OKey Nervus.Index

/-- **C15 at full strength**: for every (well-formed) history and every query the rows with and
    without the indexes are equal.  Not provable: see the two `counterexample_*` theorems on the
    current tree (known findings) and the four on the pinned tree (repaired). -/
def C15_full (cfg : Cfg) : Prop := ∀ h : List Op, WF h = true → Transparent cfg h

/-- the four `fix:` commits are present in the source (table regenerated on every run) -/
theorem fixes_present : Cfg.current = Cfg.fixed := by decide

/-- **C15 (partial)**: for EVERY history — creates, overwrites, duplicate values, removals, deletes,
    label removals, index creation at any point (before or after the data), compactions, reopens —
    that stays outside the known triggers (`_hS` excludes index keys that do not fit a B-tree cell:
    the code panics there, the model has no such path, so the hypothesis is not used by the proof),
    and every equality-lookup query (any labels, any number of properties, any value kind), the rows
    with the indexes equal the rows without, in the same order.  Induction over the history with the
    index-content invariant `Inv`. -/
theorem C15_partial (h : List Op) (hwf : WF h = true)
    (hD : trigNonFirstLabel h = false) (hF : trigRemCompact h = false)
    (_hS : trigOversizedKey h = false) :
    Transparent Cfg.current h := by
  rw [fixes_present]; exact transparent_of_clean h hwf hD hF

/-- the invariant behind it, for every clean history: each index holds exactly one entry
    `([id][enc v][n], n)` per node `n` — tombstoned or not — whose creation label is the index
    label and whose indexed property currently reads `v`; nothing else, nothing twice -/
theorem index_content (h : List Op) (hwf : WF h = true)
    (hD : trigNonFirstLabel h = false) (hF : trigRemCompact h = false)
    (d : IndexDef) (hd : d ∈ (run Cfg.current h).indexes) :
    d.entries.Nodup ∧ ∀ b n, (b, n) ∈ d.entries ↔
      (n < (run Cfg.current h).nodes.length ∧ (run Cfg.current h).first n = some d.label ∧
        ∃ v, (run Cfg.current h).prop n d.key = some v ∧ b = encIndexKey d.id v n) := by
  rw [fixes_present] at hd ⊢
  obtain ⟨m, hinv⟩ := clean_inv h hwf hD hF
  exact hinv.good d hd

/-- `lookup_index` = prefix scan is exact (through C27's `prefix_free` and `equality_iff`): after a
    clean history it returns precisely the nodes with the index label as creation label whose stored
    value equals the lookup value — for all valid values, `1`/`1.0` and `-0.0`/`+0.0` included -/
theorem lookup_exact (h : List Op) (hwf : WF h = true)
    (hD : trigNonFirstLabel h = false) (hF : trigRemCompact h = false)
    (l : Label) (k : Key) (v : OV) (hv : Valid v)
    (hvals : ∀ n v', (run Cfg.current h).prop n k = some v' → Valid v')
    (ids : List Nat) (hl : lookupIndex (run Cfg.current h) l k v = some ids) (n : Nat) :
    n ∈ ids ↔ (n < (run Cfg.current h).nodes.length ∧ (run Cfg.current h).first n = some l ∧
      ∃ v', (run Cfg.current h).prop n k = some v' ∧ eqv v' v) := by
  rw [fixes_present] at hvals hl ⊢
  obtain ⟨m, hinv⟩ := clean_inv h hwf hD hF
  exact lookup_exact_of_inv m _ hinv l k v hv hvals ids hl n

/-! ### non-vacuity: a clean history that exercises everything the theorem covers -/

def lA : Label := 65
def lB : Label := 66
def kp : Key := 112
def kq : Key := 113
def sa : OV := .str [0x61]
def sb : OV := .str [0x62]
def one : OV := .int 1
def onef : OV := .float 0x3ff0000000000000

/-- data before the index, duplicates, 1 / 1.0, an overwrite back and forth, a delete, a label
    removal, a compaction, both kinds of reopen, a second index -/
def hClean : List Op := [
  .commit [.node (some lA), .set 0 kp sa, .node (some lA), .set 1 kp sa, .node (some lB), .set 2 kp sa],
  .commit [.node (some lA), .set 3 kp one, .node (some lA), .set 4 kp onef],
  .index lA kp,
  .commit [.set 0 kp sb], .commit [.set 0 kp sa],
  .commit [.del 1], .commit [.labelDel 3 lA],
  .compact, .reopen true,
  .commit [.node (some lA), .set 5 kp sa, .set 5 kq one, .labelAdd 5 lA],
  .index lA kq, .reopen false ]

example : WF hClean = true ∧ trigNonFirstLabel hClean = false ∧ trigRemCompact hClean = false ∧
    trigOversizedKey hClean = false := by
  decide +kernel

/-- the seek really answers from the index there.  Before the compaction the deleted node 1 and the
    un-labelled node 3 are skipped; afterwards both are back *in both plans* (compaction drops node
    tombstones, reopen forgets label removals — C05 / C04, not an index matter) -/
example : usesIndex (run Cfg.fixed hClean) ⟨[lA], [(kp, sa)]⟩ = true ∧
    queryRows Cfg.fixed (run Cfg.fixed (hClean.take 7)) ⟨[lA], [(kp, sa)]⟩ = [0] ∧
    queryRows Cfg.fixed (run Cfg.fixed (hClean.take 7)) ⟨[lA], [(kp, one)]⟩ = [4] ∧
    queryRows Cfg.fixed (run Cfg.fixed hClean) ⟨[lA], [(kp, sa)]⟩ = [0, 1, 5] ∧
    queryRows Cfg.fixed (run Cfg.fixed hClean) ⟨[lA], [(kp, one)]⟩ = [3, 4] := by
  decide +kernel

/-! ### counterexamples on the current tree (KNOWN findings; witnesses in corpus/index) -/

def hNonFirst : List Op := [
  .index lB kp,
  .commit [.node (some lB), .set 0 kp sa],
  .commit [.node (some lA), .labelAdd 1 lB, .set 1 kp sa] ]

/-- C15-nonfirst-label: `CREATE (:A:B {p:'a'})` is not in the index on `B.p` -/
theorem counterexample_nonfirst_label :
    WF hNonFirst = true ∧ trigNonFirstLabel hNonFirst = true ∧ trigRemCompact hNonFirst = false ∧
    queryRows Cfg.fixed (run Cfg.fixed hNonFirst) ⟨[lB], [(kp, sa)]⟩ = [0] ∧
    queryRows Cfg.fixed (run Cfg.fixed (stripIndex hNonFirst)) ⟨[lB], [(kp, sa)]⟩ = [0, 1] := by
  decide +kernel

def hResurrect : List Op := [
  .index lA kp,
  .commit [.node (some lA), .set 0 kp sa],
  .commit [.node (some lA), .set 1 kp sa],
  .compact,
  .commit [.rem 0 kp] ]

/-- C15-removed-prop-resurrects: after compaction a removed property still reads from the property
    store, the index entry is gone -/
theorem counterexample_removed_prop_resurrects :
    WF hResurrect = true ∧ trigNonFirstLabel hResurrect = false ∧ trigRemCompact hResurrect = true ∧
    queryRows Cfg.fixed (run Cfg.fixed hResurrect) ⟨[lA], [(kp, sa)]⟩ = [1] ∧
    queryRows Cfg.fixed (run Cfg.fixed (stripIndex hResurrect)) ⟨[lA], [(kp, sa)]⟩ = [0, 1] := by
  decide +kernel

theorem C15_full_false : ¬ C15_full Cfg.fixed := by
  intro h
  have := h hNonFirst (by decide +kernel) ⟨[lB], [(kp, sa)]⟩
  rw [counterexample_nonfirst_label.2.2.2.1, counterexample_nonfirst_label.2.2.2.2] at this
  cases this

/-! ### counterexamples on the pinned tree (each cause alone: one repair switched off) -/

def hLate : List Op := [
  .commit [.node (some lA), .set 0 kp sa],
  .index lA kp,
  .commit [.node (some lA), .set 1 kp sa] ]

/-- C15-late-index (repaired: backfill): 2 rows without the index, 1 with it -/
theorem counterexample_late_index :
    let cfg : Cfg := { Cfg.fixed with backfill := false }
    trigLateIndex cfg hLate = true ∧
    queryRows cfg (run cfg hLate) ⟨[lA], [(kp, sa)]⟩ = [1] ∧
    queryRows cfg (run cfg (stripIndex hLate)) ⟨[lA], [(kp, sa)]⟩ = [0, 1] := by
  decide +kernel

def hIntFloat : List Op := [
  .index lA kp,
  .commit [.node (some lA), .set 0 kp one],
  .commit [.node (some lA), .set 1 kp onef] ]

/-- C15-int-float (repaired: numeric values scan): `1 = 1.0` but the keys differ -/
theorem counterexample_int_float :
    let cfg : Cfg := { Cfg.fixed with numFallback := false }
    queryRows cfg (run cfg hIntFloat) ⟨[lA], [(kp, one)]⟩ = [0] ∧
    queryRows cfg (run cfg (stripIndex hIntFloat)) ⟨[lA], [(kp, one)]⟩ = [0, 1] := by
  decide +kernel

def hDeleted : List Op := [
  .index lA kp,
  .commit [.node (some lA), .set 0 kp sa],
  .commit [.del 0] ]

/-- C15-deleted-node (repaired: liveness check in the seek) -/
theorem counterexample_deleted_node :
    let cfg : Cfg := { Cfg.fixed with seekLive := false }
    trigDelete hDeleted = true ∧
    queryRows cfg (run cfg hDeleted) ⟨[lA], [(kp, sa)]⟩ = [0] ∧
    queryRows cfg (run cfg (stripIndex hDeleted)) ⟨[lA], [(kp, sa)]⟩ = [] := by
  decide +kernel

def hDup : List Op := [
  .index lA kp,
  .commit [.node (some lA), .set 0 kp sa],
  .commit [.node (some lA), .set 1 kp sa],
  .commit [.node (some lA), .set 2 kp sa],
  .commit [.set 0 kp sb],
  .commit [.set 0 kp sa] ]

/-- C15-dup-delete-miss (repaired: node id in the key): the delete of `(a,0)` misses inside the run
    of equal keys, the node is returned twice -/
theorem counterexample_dup_delete_miss :
    let cfg : Cfg := { Cfg.fixed with compositeKey := false }
    trigDupValues hDup = true ∧
    queryRows cfg (run cfg hDup) ⟨[lA], [(kp, sa)]⟩ = [0, 0, 1, 2] ∧
    queryRows cfg (run cfg (stripIndex hDup)) ⟨[lA], [(kp, sa)]⟩ = [0, 1, 2] := by
  decide +kernel

/-- with all four repairs the same four histories are transparent (they are clean) -/
example : Transparent Cfg.current hLate ∧ Transparent Cfg.current hDeleted ∧
    Transparent Cfg.current hDup ∧ Transparent Cfg.current hIntFloat :=
  ⟨C15_partial _ (by decide +kernel) (by decide +kernel) (by decide +kernel) (by decide +kernel),
   C15_partial _ (by decide +kernel) (by decide +kernel) (by decide +kernel) (by decide +kernel),
   C15_partial _ (by decide +kernel) (by decide +kernel) (by decide +kernel) (by decide +kernel),
   C15_partial _ (by decide +kernel) (by decide +kernel) (by decide +kernel) (by decide +kernel)⟩

/-! ### the index roots survive reopen, whatever operation moved them

`Model/Index.reopen` keeps every index's content: it assumes that the roots `GraphEngine::open` reads
from the catalog page are the roots the engine was using.  That assumption is this theorem (over
`Model/IndexCatalog`: any operations, any root movements, the flush condition regenerated from the
"Apply Index Updates" block of `commit`). -/

section catalog
open Nervus.IndexCatalog

/-- the catalog page is written unconditionally after the index operations of a commit, or under a
    flag that accumulates `tree.root() != re.root` after every insert (regenerated; the recogniser
    fails on shapes it does not know) — and `create_index` records the root after its backfill -/
theorem catalog_flush_sound : (Flush.current = .always ∨ Flush.current = .anyMoved) ∧
    backfillRecordsRoot = true := by decide

/-- after EVERY event of EVERY history — commits with any number of
    index operations on any indexes whose deletes and inserts move the roots anywhere (any oracle for
    the B-tree), index creations with backfills that move the root, reopens — the on-disk root of
    every index equals the in-memory root; so a reopen changes no root -/
theorem catalog_roots_durable (evs : List Ev) :
    (IndexCatalog.run Flush.current backfillRecordsRoot evs).disk =
      (IndexCatalog.run Flush.current backfillRecordsRoot evs).mem ∧
    IndexCatalog.reopen (IndexCatalog.run Flush.current backfillRecordsRoot evs) =
      IndexCatalog.run Flush.current backfillRecordsRoot evs := by
  rw [catalog_flush_sound.2]
  have h := run_synced Flush.current catalog_flush_sound.1 evs ⟨[], []⟩ rfl
  exact ⟨h, reopen_of_synced _ h⟩

/-- C15-seed2's shape (`root_moved = …`, plain assignment): a root split by a non-last operation of
    the commit is lost — the disk keeps root 10 while the engine uses 11 -/
theorem counterexample_flush_last_op_only :
    let c := IndexCatalog.run .lastMoved true
      [.createIndex 3 10 10, .commit [⟨3, 10, 11⟩, ⟨3, 11, 11⟩]]
    c.mem = [(3, 11)] ∧ c.disk = [(3, 10)] ∧ (IndexCatalog.reopen c).mem = [(3, 10)] := by decide

/-- C18-seed2's shape (flag computed before the insert of an Update): a split during a SET on an
    existing node is lost -/
theorem counterexample_flush_flag_before_insert :
    let c := IndexCatalog.run .beforeInsert true
      [.createIndex 3 10 10, .commit [⟨3, 10, 11⟩]]
    c.mem = [(3, 11)] ∧ c.disk = [(3, 10)] := by decide

/-- non-vacuity, under the current policy: a root moved by a non-last operation, an operation on an
    unknown index, a reopen, a further move — the last root is on disk -/
example :
    (IndexCatalog.run Flush.current backfillRecordsRoot
      [.createIndex 3 10 12, .commit [⟨3, 12, 13⟩, ⟨3, 13, 13⟩, ⟨4, 0, 0⟩], .reopen, .commit [⟨3, 13, 14⟩]]).disk
      = [(3, 14)] := by decide

end catalog

end Nervus.Props.C15
