/-
  C14 — No dangling relationships.
  Statements only (helper lemmas: Nervus.Proofs.{EngineDangling,IterFlush,CheckpointHist}).
  Model: storage engine (Nervus.Model.Engine*) + the query-level DELETE of
  nervusdb-query/src/executor/create_delete_ops.rs (Nervus.Model.QueryDelete: the safety check looks
  the attachments up in the statement's SNAPSHOT, not in the transaction's staged relationships).
-/
import Nervus.Proofs.EngineDangling
import Nervus.Proofs.CheckpointHist
import Nervus.Props.C06
namespace Nervus.Props.C14
open Nervus Nervus.Storage
open Nervus.GraphSpec (Graph TxOp Op wellFormed txOnly noC06Trigger)

/-- a query-level write statement as it reaches the storage API -/
inductive QStmt
  | create (ops : List TxOp)                                        -- CREATE: nodes, relationships, properties
  | delete (detach : Bool) (nodes : List Nat) (rels : List Edge)     -- [DETACH] DELETE of matched / created entities

inductive QResult
  | ok (s : Engine) (t : Txn)
  | refused          -- "Cannot delete node with relationships without DETACH DELETE"
  | panic

/-- one statement of a transaction: the DELETE check reads the snapshot = the committed state `s`
    (a write transaction never publishes anything before commit) -/
def runStmt (c : Cfg) (s : Engine) (t : Txn) : QStmt → QResult
  | .create ops => let r := ops.foldl (stepTx c) (s, t); .ok r.1 r.2
  | .delete detach nodes rels =>
    match execDelete c s t detach nodes rels with
    | .ok t' _ => .ok s t'
    | .hasRels => .refused
    | .panic => .panic

/-- a transaction of statements; a refused statement ends it without commit -/
def runQTx (c : Cfg) (s : Engine) (stmts : List QStmt) : Engine :=
  let rec go (s : Engine) (t : Txn) : List QStmt → Engine
    | [] => (s.commit c t).1
    | q :: qs => match runStmt c s t q with
      | .ok s' t' => go s' t' qs
      | .refused => s
      | .panic => s
  go s.beginWrite.1 s.beginWrite.2 stmts

/-- **C14 at full strength**: after any sequence of query-level transactions no read returns a
    relationship with a dead end node.  NOT provable: `C14_counterexample_create_then_delete`. -/
def C14_full : Prop :=
  ∀ (txs : List (List QStmt)), noDangling Cfg.current (txs.foldl (runQTx Cfg.current) {}) = true

/-- **C14 (proved part, storage half)**: for EVERY compaction-free, well-formed history in which no
    transaction deletes a node that gained a relationship in the same transaction (and no other C06
    finding is triggered), every relationship that `neighbors` / `incoming_neighbors` return from a
    live node connects two live nodes — in both traversal directions. -/
theorem C14_partial (c : Cfg) (h : List Op) (htx : txOnly h = true) (hwf : wellFormed h = true)
    (hk : noC06Trigger h = true) (hsz : histSize h ≤ labelMax) :
    ∃ s, Storage.run c h = .ok s ∧ ∀ n ∈ s.nodes,
      (∃ es, s.neighbors n none = some es ∧ ∀ e ∈ es, e.src ∈ s.nodes ∧ e.dst ∈ s.nodes) ∧
      (∃ es, s.incoming c n none = some es ∧ ∀ e ∈ es, e.src ∈ s.nodes ∧ e.dst ∈ s.nodes) := by
  obtain ⟨s, hrun, hreads⟩ := C06.C06_partial c h htx hwf hk hsz
  exact ⟨s, hrun, fun n hn => reads_no_dangling c hreads (spec_no_dangling h hwf) n hn⟩

/-- the neighbour iterators fold the pending tombstones of the LAST run into the blocked sets before the
    segment phase (regenerated table entry; seed C14-seed1 makes it false) -/
theorem iterators_flush_before_segments : Generated.itersFlushBeforeSegments = true := iters_flush_before_segments

/-- **the neighbour iterator with segments, every state**: what `neighbors` / `incoming_neighbors`
    return is the run phase followed by segment relationships none of which is tombstoned — itself, or
    its far end node, or the start node — by ANY published run, the oldest one included (the run of the
    first transaction after a compaction: its tombstones are pending until the segments are reached). -/
theorem segment_edges_behind_all_tombstones (s : Engine) (n : Nat) (rel : Option Nat) :
    (∀ es, s.neighbors n rel = some es → ∃ segEs, es = (outRuns n rel s.runs [] []).1 ++ segEs ∧
      ∀ e ∈ segEs, e.dst ∉ allTombNodes s.runs ∧ e ∉ allTombEdgesOf s.runs ∧ n ∉ allTombNodes s.runs) ∧
    (∀ es, s.incoming Cfg.current n rel = some es → ∃ segEs, es = (inRuns n rel s.runs [] []).1 ++ segEs ∧
      ∀ e ∈ segEs, e.src ∉ allTombNodes s.runs ∧ e ∉ allTombEdgesOf s.runs ∧ n ∉ allTombNodes s.runs) :=
  ⟨neighbors_segment_part s n rel, incoming_segment_part Cfg.current s n rel⟩

/-- **C14 (proved part, storage half, histories WITH compaction / close / reopen)**: for EVERY
    well-formed history of transactions, compactions, closes and reopens that triggers no C06 finding
    and is `ckptHistSafe` — in particular: relationships compacted into a segment, an end node deleted
    (with its relationships) in the FIRST transaction after the compaction or in any later one — every
    relationship that `neighbors` / `incoming_neighbors` return from a live node connects two live
    nodes, in both traversal directions.  (The compacting engine reads like the transaction-only shadow
    engine, `hist_pair`; the shadow refines the Spec graph, which has no dangling relationship.) -/
theorem C14_partial_ckpt (h : List Op) (hwf : wellFormed h = true) (hk : noC06Trigger h = true)
    (hsz : histSize h ≤ labelMax) (hs : ckptHistSafe Cfg.current {} h = true) :
    ∃ s, Storage.run Cfg.current h = .ok s ∧ ∀ n ∈ s.nodes,
      (∃ es, s.neighbors n none = some es ∧ ∀ e ∈ es, e.src ∈ s.nodes ∧ e.dst ∈ s.nodes) ∧
      (∃ es, s.incoming Cfg.current n none = some es ∧ ∀ e ∈ es, e.src ∈ s.nodes ∧ e.dst ∈ s.nodes) := by
  obtain ⟨s, hrun, hreads⟩ := C06.C06_partial_ckpt h hwf hk hsz hs
  exact ⟨s, hrun, fun n hn => reads_no_dangling Cfg.current hreads (spec_no_dangling h hwf) n hn⟩

/-- the Spec side: a well-formed history never leaves a relationship with a dead end node -/
theorem spec_has_no_dangling (h : List Op) (hwf : wellFormed h = true) :
    ∀ e ∈ (GraphSpec.run h).rels, (GraphSpec.run h).live e.src = true ∧ (GraphSpec.run h).live e.dst = true :=
  spec_no_dangling h hwf

/-- **C14 (proved part, query half)**: a non-DETACH DELETE of a node that has — in the snapshot — a
    relationship the statement does not delete explicitly is refused, for every snapshot state … -/
theorem delete_with_committed_relationship_fails (snap : Engine) (t : Txn) (nodes : List Nat)
    (explicit : List Edge) (ls : List (List Edge)) (hl : nodes.mapM (attached Cfg.current snap) = some ls)
    (e : Edge) (he : e ∈ ls.flatten) (hne : e ∉ explicit) :
    (match execDelete Cfg.current snap t false nodes explicit with | .hasRels => true | _ => false) = true :=
  delete_with_snapshot_rels_fails Cfg.current snap t nodes explicit ls hl e he hne

/-- … and a DELETE that goes through covers every snapshot relationship of the deleted nodes -/
theorem delete_ok_covers_committed_relationships (snap : Engine) (t t' : Txn) (k : Nat) (nodes : List Nat)
    (explicit : List Edge) (h : execDelete Cfg.current snap t false nodes explicit = .ok t' k) :
    ∃ ls, nodes.mapM (attached Cfg.current snap) = some ls ∧ ∀ e ∈ ls.flatten, e ∈ explicit :=
  delete_ok_covers_snapshot Cfg.current snap t t' k nodes explicit h

/-! ### non-vacuity -/

def A : Nat := 321
def R : Nat := 338

def hOk : List Op :=
  [ .tx [.node 10 (some A), .node 11 (some A), .edge 0 R 1, .edge 1 R 0] true,
    .tx [.tombEdge 0 R 1, .tombEdge 1 R 0, .tombNode 0, .node 12 (some A), .edge 2 R 1] true ]

example : txOnly hOk = true ∧ wellFormed hOk = true ∧ noC06Trigger hOk = true ∧ histSize hOk ≤ labelMax := by
  decide +kernel

/-- a committed relationship makes the non-DETACH delete fail (model of `MATCH (a) DELETE a`) -/
example : ∃ s, Storage.run Cfg.current [ .tx [.node 10 (some A), .node 11 (some A), .edge 0 R 1] true ] = .ok s ∧
    (match execDelete Cfg.current s s.beginWrite.2 false [0] [] with | .hasRels => true | _ => false) = true :=
  ⟨_, rfl, by decide +kernel⟩

/-- non-vacuity of `C14_partial_ckpt`, and the scenario of seed C14-seed1: the relationship is compacted
    into a segment, its end node is deleted (DETACH style) by the first transaction after the compaction;
    then the same in a later transaction, a second compaction-free delete, reopen -/
def hCompactDelete : List Op :=
  [ .tx [.node 10 (some A), .node 11 (some 322), .node 12 (some A), .edge 0 R 1, .edge 2 R 1, .edge 2 R 0] true,
    .compact,
    .tx [.tombEdge 0 R 1, .tombEdge 2 R 1, .tombNode 1] true,
    .tx [.node 13 none] true,
    .tx [.tombEdge 2 R 0, .tombNode 0] true,
    .reopen ]

example : ckptHistSafe Cfg.current {} hCompactDelete = true ∧ wellFormed hCompactDelete = true ∧
    noC06Trigger hCompactDelete = true ∧ histSize hCompactDelete ≤ labelMax := by decide +kernel

/-- the iterator WITHOUT the fold before the segment phase (the seeded one) returns the compacted
    relationship from the surviving end node although the other end is deleted; the current one does not -/
theorem C14_counterexample_unflushed_iterator :
    ∃ s, Storage.run Cfg.current (hCompactDelete.take 3) = .ok s ∧ s.nodes = [0, 2] ∧
      s.neighborsUnflushed 0 none = some [⟨0, 2, 1⟩] ∧ s.neighbors 0 none = some [] ∧
      s.neighborsUnflushed 2 none = some [⟨2, 2, 0⟩, ⟨2, 2, 1⟩] ∧ s.neighbors 2 none = some [⟨2, 2, 0⟩] :=
  ⟨_, rfl, by decide +kernel, by decide +kernel, by decide +kernel, by decide +kernel, by decide +kernel⟩

/-! ### the defect: the check ignores relationships staged by the same transaction -/

/-- `CREATE (a:A)-[:R]->(b:B) WITH a DELETE a`: the statement creates the relationship, then deletes
    `a`; the safety check sees no relationship in the snapshot and lets the delete through.  After
    commit `b` has an incoming relationship from a dead node (and only the incoming traversal shows it). -/
def qCreateThenDelete : List QStmt :=
  [ .create [.node 10 (some A), .node 11 (some 322), .edge 0 R 1], .delete false [0] [] ]

theorem C14_counterexample_create_then_delete :
    let s := runQTx Cfg.current {} qCreateThenDelete
    s.nodes = [1] ∧ s.incoming Cfg.current 1 none = some [⟨0, 2, 1⟩] ∧ s.neighbors 0 none = some [] ∧
    noDangling Cfg.current s = false := by
  refine ⟨by decide +kernel, by decide +kernel, by decide +kernel, by decide +kernel⟩

/-- the same through two statements of one transaction on committed nodes:
    `MATCH (a),(b) CREATE (a)-[:R]->(b)` then `MATCH (a) DELETE a` -/
theorem C14_counterexample_two_statements :
    ∃ s0, Storage.run Cfg.current [ .tx [.node 10 (some A), .node 11 (some A)] true ] = .ok s0 ∧
      noDangling Cfg.current s0 = true ∧
      noDangling Cfg.current (runQTx Cfg.current s0 [ .create [.edge 0 R 1], .delete false [0] [] ]) = false :=
  ⟨_, rfl, by decide +kernel, by decide +kernel⟩

/-- DETACH DELETE has the same hole: it detaches the snapshot's relationships only -/
theorem C14_counterexample_detach :
    noDangling Cfg.current (runQTx Cfg.current {}
      [ .create [.node 10 (some A), .node 11 (some 322), .edge 0 R 1], .delete true [1] [] ]) = false := by
  decide +kernel

end Nervus.Props.C14
