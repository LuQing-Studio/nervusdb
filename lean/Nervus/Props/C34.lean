/-
  C34 — C API results match the Rust API.
  Statements only (helper lemmas: Nervus.Proofs.CApi, Nervus.Proofs.CApiJson).
  Models: Nervus.Model.CApi (capi `clause_contains_write` / query `plan_contains_write`, both evaluated from the
  regenerated arm tables, and the clause → plan-constructor part of `compile_m3_plan`) and Nervus.Model.CApiJson
  (`value_to_json`, rows); the auto-commit entry point is on Nervus.Model.Txn (last section).  Rows / values / error
  categories of generated statements are compared by the `capix` stream (C API functions against the Rust
  prepare/execute path on identical databases) — that part is testing.
-/
import Nervus.Proofs.CApi
import Nervus.Proofs.CApiJson
import Nervus.Proofs.Txn
namespace Nervus.Props.C34
open Nervus.CApi Nervus.CApiJson

/-! ### read / write entry points accept and refuse the same statements -/

/-- **write_classification_agrees**: for every statement that compiles — any nesting of FOREACH bodies, `CALL { }`
    subqueries and UNION arms, any of the plan shapes MATCH / WITH / RETURN / SET / REMOVE can produce — the C API's
    AST walk and the query crate's walk over the compiled plan give the same answer.  So `ndb_query` never runs a
    plan that contains a write node, and `ndb_execute_write` never sends a read plan down the write path. -/
theorem write_classification_agrees (q : Query) (p : Plan) (h : compileQuery q none = some p) :
    planContainsWrite p = queryContainsWrite q := by
  rw [compileQuery_pcw q none p h, queryContainsWrite_eq]; rfl

/-- the AST classifier is the documented notion: a statement is a write statement iff it has an updating clause
    (CREATE, MERGE, SET, REMOVE, DELETE, FOREACH) at any depth -/
theorem classifier_is_updating_clause (q : Query) : queryContainsWrite q = queryUpdates q :=
  queryContainsWrite_eq q

/-- the two entry points partition the statements: `ndb_query` takes exactly those `ndb_execute_write` refuses -/
theorem entry_points_partition (q : Query) :
    (!queryContainsWrite q) = true ↔ ¬ (queryContainsWrite q = true) := by
  cases queryContainsWrite q <;> simp

/-- sub-plans seeded with an existing plan (FOREACH bodies, WITH-led subqueries): same statement with a seed -/
theorem write_classification_agrees_seeded (q : Query) (seed p : Plan) (h : compileQuery q (some seed) = some p) :
    planContainsWrite p = (planContainsWrite seed || queryContainsWrite q) := by
  rw [compileQuery_pcw q (some seed) p h, queryContainsWrite_eq]; rfl

/-! ### value_to_json -/

/-- **json_faithful**: on values with finite floats, without blobs and without user maps that use the key `"type"`,
    the conversion is injective — a decoder reads every such value back. -/
theorem json_faithful (v w : Value) (hv : Faithful v = true) (hw : Faithful w = true) (h : toJson v = toJson w) :
    v = w := by
  have h1 := decode_toJson v hv
  have h2 := decode_toJson w hw
  rw [h] at h1
  exact Option.some.inj (h1.symm.trans h2)

theorem json_decodable (v : Value) (hv : Faithful v = true) : decode (toJson v) = some v := decode_toJson v hv

/-- **C34 at full strength** (value part): the JSON determines the value, for every value the API can return -/
def C34_full : Prop := ∀ v w : Value, toJson v = toJson w → v = w

/-! ### non-vacuity -/

/-- `MATCH … WHERE … CALL { MATCH … RETURN } FOREACH (… | CREATE … FOREACH (… | SET …)) RETURN … UNION MATCH … DELETE … RETURN` -/
def demoQuery : Query :=
  .cons (.match_ false 3) (.cons .where_ (.cons (.callSub (.cons (.match_ true 1) (.cons (.return_ 1) .nil)))
    (.cons (.foreach (.cons .create (.cons (.foreach (.cons (.set .all) .nil)) .nil)))
      (.cons (.return_ 2) (.cons (.union (.cons (.match_ false 2) (.cons .delete (.cons (.return_ 0) .nil)))) .nil)))))

example : (compileQuery demoQuery none).isSome = true := by decide +kernel
example : queryContainsWrite demoQuery = true := by decide +kernel
/-- a read statement with a subquery and a UNION: classified read on both sides -/
def demoRead : Query :=
  .cons (.callSub (.cons (.match_ false 0) (.cons (.return_ 0) .nil)))
    (.cons (.return_ 1) (.cons (.union (.cons .unwind (.cons (.return_ 3) .nil))) .nil))
example : (compileQuery demoRead none).map planContainsWrite = some false ∧ queryContainsWrite demoRead = false := by
  decide +kernel
/-- a write hidden in a subquery inside a UNION arm is found by both -/
def demoHidden : Query :=
  .cons (.return_ 0) (.cons (.union (.cons (.callSub (.cons .merge (.cons (.return_ 0) .nil)))
    (.cons (.return_ 0) .nil))) .nil)
example : (compileQuery demoHidden none).map planContainsWrite = some true ∧ queryContainsWrite demoHidden = true := by
  decide +kernel
example : Faithful (.list (.cons (.float 0x3FF8000000000000) (.cons (.map (.cons "a" (.node 3 ["A"] (.cons "k" (.int 1) .nil)) .nil))
    (.cons (.datetime 5) .nil)))) = true := by decide

/-! ### the lossy arms (known findings), replayed by corpus/capix/*.ops -/

/-- NaN and ±∞ become `null`: indistinguishable from a missing value and from each other
    (`RETURN 0.0/0.0`, `RETURN 1.0/0.0` through ndb_query). -/
theorem counterexample_nonfinite_is_null :
    toJson (.float 0x7FF8000000000000) = toJson .null ∧ toJson (.float 0x7FF0000000000000) = toJson .null ∧
      toJson (.float 0xFFF0000000000000) = toJson (.float 0x7FF8000000000000) := by
  have h1 : isFinite 0x7FF8000000000000 = false := by decide
  have h2 : isFinite 0x7FF0000000000000 = false := by decide
  have h3 : isFinite 0xFFF0000000000000 = false := by decide
  simp [toJson, h1, h2, h3]

/-- a blob is reported by its length only -/
theorem counterexample_blob_length_only : toJson (.blob [1, 2, 3]) = toJson (.blob [9, 9, 9]) ∧
    (Value.blob [1, 2, 3] ≠ .blob [9, 9, 9]) := by
  refine ⟨by simp [toJson], fun h => ?_⟩
  injection h with h
  simp at h

/-- the tagged encodings collide with user maps that use the same keys: a stored datetime and the map
    `{type: 'datetime', value: 5}` give the same JSON -/
theorem counterexample_tag_collision :
    toJson (.datetime 5) = toJson (.map (.cons "type" (.str "datetime") (.cons "value" (.int 5) .nil))) := by
  simp [toJson, toJsonKVs]

theorem C34_full_false : ¬ C34_full := fun h => by
  have := h (.float 0x7FF8000000000000) .null counterexample_nonfinite_is_null.1
  cases this


/-! ### rows are converted independently of each other -/

/-- what the source does today: `execute_read_rows` reifies every value of every row (regenerated; the recogniser
    rejects a conversion that looks at other rows first) -/
theorem reifies_per_row : Generated.capiReifiesPerRow = true := by decide

/-- **rows_converted_independently**: the JSON of a result is the JSON of its first row followed by the JSON of
    the rest — for every result, whatever the other rows hold (null, scalars, empty lists in some rows and nodes,
    also nested, in others).  In particular the same row gives the same JSON in every result set it occurs in. -/
theorem rows_converted_independently (look : Nat → Value) (r : Row) (rs : List Row) :
    rowsJson look (r :: rs) = rowJson look r :: rowsJson look rs := by
  simp [rowsJson, reifies_per_row]

theorem row_json_context_free (look : Nat → Value) (r : Row) (before after before' after' : List Row) :
    (rowsJson look (before ++ r :: after))[before.length]? = (rowsJson look (before' ++ r :: after'))[before'.length]? := by
  simp [rowsJson, reifies_per_row]

/-- a heterogeneous column: the first row holds null, the second a node reference -/
def hetRows : List Row := [[("v", .null)], [("v", .nodeId 7)]]
def hetLook : Nat → Value := fun id => .node id ["A"] (.cons "k" (.int 2) .nil)

/-- non-vacuity: the node of the second row comes out materialised -/
example : rowsJson hetLook hetRows = [rowJson hetLook [("v", .null)], rowJson hetLook [("v", .nodeId 7)]] := by
  simp [rowsJson, reifies_per_row, hetRows]

/-- **counterexample for a first-row policy** (the shape of seeded fault C34-seed1): deciding from the first row
    which columns hold graph references leaves the node of a later row as a bare `{type: node_id, value: 7}`. -/
theorem counterexample_first_row_policy :
    rowsJsonFirstRowPolicy hetLook hetRows ≠ hetRows.map (rowJson hetLook) ∧
      rowsJsonFirstRowPolicy hetLook hetRows.reverse = hetRows.reverse.map (rowJson hetLook) := by
  constructor
  · intro h
    simp [rowsJsonFirstRowPolicy, hetRows, rowJson, holdsRef, reify, hetLook, toJson, toJsonKVs] at h
  · simp [rowsJsonFirstRowPolicy, hetRows, rowJson, holdsRef, reify, hetLook, toJson, toJsonKVs]


/-! ### the auto-commit write entry point commits whatever the reported count (Nervus.Model.Txn) -/

section AutoCommit
open Nervus.Txn

/-- what the source does today: nothing stands between `execute_mixed`'s success and `txn.commit()` in
    `execute_write_count` (regenerated; an early return in between is rejected by the recogniser) -/
theorem commit_is_unconditional : Generated.capiAutoCommitUnconditional = true := by decide

/-- **autocommit_persists_staged**: after a successful `ndb_execute_write` the committed graph is committed ⊕ the
    writes the statement staged — for every state, every statement, whatever write count the executor reports
    (the Rust path prepare → execute_mixed → commit does exactly this, so the two databases stay equal). -/
theorem autocommit_persists_staged (σ : State) (s : Stmt) (hopen : σ.staged = none)
    (hok : (exec σ.committed σ.allocated s).failed = false) :
    (codeStep σ (.auto s)).1.committed = applyAll σ.committed (exec σ.committed σ.allocated s).prims ∧
      (codeStep σ (.auto s)).2 = .ok := by
  rw [codeStep_def]
  simp [step, hopen, hok, autoCommits, autocommit_unconditional]

/-- the executor's count is not "nothing staged": `MERGE (n:A {k: 1}) ON MATCH SET n.q = false` on a database
    that holds the node stages a property write and reports 0 -/
def mergeState : State := ⟨[⟨0, 0, 1, some .t, none⟩], 1, none⟩
theorem merge_on_match_counts_zero :
    reportedCount (.mergeset 0 1 .f) (exec mergeState.committed mergeState.allocated (.mergeset 0 1 .f)) = 0 ∧
      (exec mergeState.committed mergeState.allocated (.mergeset 0 1 .f)).prims = [.setQ 0 0 .f] := by decide

/-- **counterexample for "skip the commit when the count is 0"** (the shape of seeded fault C34-seed4): the call
    reports success, the update is discarded; with the unconditional commit it is persisted. -/
theorem counterexample_skip_commit_on_zero_count :
    autoCommits false (reportedCount (.mergeset 0 1 .f)
      (exec mergeState.committed mergeState.allocated (.mergeset 0 1 .f))) = false ∧
      (codeStep mergeState (.auto (.mergeset 0 1 .f))).1.committed.map (·.q) = [some .f] := by decide

end AutoCommit

end Nervus.Props.C34
