/-
  C10 — Only one handle writes a database at a time.
  Statements only (helper lemmas: Nervus.Proofs.Handles, Nervus.Proofs.OpenRace).
  Models: Nervus.Model.Handles — whether `open` takes the exclusive advisory lock is the regenerated
  `Generated.openTakesLock`; Nervus.Model.OpenRace for openers racing to create the file — the order of the
  file-system steps of `Pager::open` is the regenerated `Generated.openSteps`.
-/
import Nervus.Proofs.Handles
import Nervus.Proofs.OpenRace
namespace Nervus.Props.C10
open Nervus Nervus.Handles

/-- **C10 at full strength**, for the `open` found in the source and any OS that honours the lock
    contract: in every reachable state (any number of processes, opens, closes, crashes, in any order)
    at most one handle can write a given database. -/
def C10_full : Prop :=
  ∀ (os : OsTryLock), OsSound os → ∀ s, Reach Generated.openTakesLock os s → ∀ path, (writers s path).length ≤ 1

/-- **C10 for racing creators, at full strength**: whatever the interleaving of the file-system steps of
    any number of concurrent `open`s of a database that does not exist yet, at most one of them ends up
    holding it open. -/
def C10_race_full : Prop :=
  ∀ s, OpenRace.Reach Generated.openReplacesPathInode s → ∀ i j, OpenRace.owns s i → OpenRace.owns s j → i = j

/-- the source takes the lock (regenerated table entry) -/
theorem open_takes_lock : Generated.openTakesLock = true := by decide

/-- **At most one writer** with a locking `open` — all traces, any number of processes and handles.
    The cross-process half rests on the OS contract: the hypothesis `OsSound os` (an exclusive advisory lock is
    granted only when no open file description holds it) and, in the model's `release`, that the lock stays until
    that description is closed. -/
theorem one_writer_with_lock (os : OsTryLock) (hos : OsSound os) (s : State) (h : Reach true os s)
    (path : Nat) : (writers s path).length ≤ 1 :=
  (reach_inv hos h).one path

/-- a second `open` of a path that is open is refused (it does not wait, it does not succeed) -/
theorem second_open_refused (os : OsTryLock) (hos : OsSound os) (s : State) (h : Reach true os s)
    (hd : Handle) (hmem : hd ∈ s.handles) (proc : Nat) :
    (step true os s (.open proc hd.path)).2 = .busy := by
  have hown := (reach_inv hos h).owns hd hmem
  simp only [step, if_true]
  split
  · rename_i hok; have := hos _ _ hok; rw [hown] at this; cases this
  · rfl

/-- **No stale lock**: in every reachable state (any opens, closes, process deaths, in any order), when no
    handle is open on a path the next `open` of it SUCCEEDS — the exclusion never outlives the handle that
    holds it: closing the handle or the death of its process gives the database back.  (For the OS that
    grants a free lock, `osFlock`; the C10 exclusion theorems need only `OsSound`.) -/
theorem open_succeeds_when_free (s : State) (h : Reach true osFlock s) (proc path : Nat)
    (hw : writers s path = []) : (step true osFlock s (.open proc path)).2 = .ok s.nextId := by
  have ht : s.lockTable path = none := by
    cases ht : s.lockTable path with
    | none => rfl
    | some i =>
      obtain ⟨hd, hm, _, hp⟩ := reach_noStale h path i ht
      have : hd ∈ writers s path := by simp [writers, hm, hp]
      rw [hw] at this; cases this
  simp [step, osFlock, ht]

/-- … and whenever an `open` is refused, a live handle of that path exists (the refusal is never spurious) -/
theorem refused_only_if_open (s : State) (h : Reach true osFlock s) (proc path : Nat)
    (hb : (step true osFlock s (.open proc path)).2 = .busy) : ∃ hd, hd ∈ writers s path := by
  cases hw : writers s path with
  | nil => rw [open_succeeds_when_free s h proc path hw] at hb; cases hb
  | cons hd _ => exact ⟨hd, List.mem_cons_self⟩

/-- **C10** for the code as it is. -/
theorem C10 : C10_full := by
  intro os hos s h path
  rw [open_takes_lock] at h
  exact one_writer_with_lock os hos s h path

/-- the source takes the lock on the ONE file it opened (with create) at the path BEFORE it initialises
    anything, and no step replaces the inode the path names (regenerated step order of `Pager::open`) -/
theorem lock_before_initialise_in_source :
    Generated.openSteps = ["checkPath", "openCreate", "lock", "initInPlace"] ∧
    Generated.openLockBeforeInit = true ∧ Generated.openReplacesPathInode = false := by decide +kernel

/-- **Racing creators cannot both succeed** when every opener locks the single inode that
    `open(path, O_CREAT)` names before initialising it — all interleavings, any number of openers. -/
theorem racing_creators_one_winner (s : OpenRace.State) (h : OpenRace.Reach false s) (i j : Nat)
    (hi : OpenRace.owns s i) (hj : OpenRace.owns s j) : i = j := by
  obtain ⟨n, hn⟩ := hi
  obtain ⟨m, hm⟩ := hj
  obtain ⟨h1, a⟩ : OpenRace.Ok _ _ i (.locked n) := hn ▸ OpenRace.reach_inv h i
  obtain ⟨h2, b⟩ : OpenRace.Ok _ _ j (.locked m) := hm ▸ OpenRace.reach_inv h j
  rw [h1] at h2; cases h2
  rw [a] at b; cases b; rfl

/-- **C10 (racing creators)** for the code as it is. -/
theorem C10_race : C10_race_full := by
  intro s h i j hi hj
  rw [lock_before_initialise_in_source.2.2] at h
  exact racing_creators_one_winner s h i j hi hj

private theorem okR : (OpenRace.runTrace true OpenRace.init
    [.check 0, .check 1, .create 0, .openp 0, .lock 0, .create 1, .openp 1, .lock 1]).isSome = true := by decide
def stRace : OpenRace.State := (OpenRace.runTrace true OpenRace.init
    [.check 0, .check 1, .create 0, .openp 0, .lock 0, .create 1, .openp 1, .lock 1]).get okR

/-- **Counterexample: initialise-by-rename before the lock** — both openers see the path missing;
    opener 0 renames its file in, opens and locks inode 0; opener 1 renames ITS file over the path,
    opens and locks inode 1.  Two handles own "the" database. -/
theorem C10_counterexample_rename_race :
    OpenRace.Reach true stRace ∧ stRace.ops 0 = .locked 0 ∧ stRace.ops 1 = .locked 1 ∧
    ¬ (∀ i j, OpenRace.owns stRace i → OpenRace.owns stRace j → i = j) := by
  refine ⟨OpenRace.reach_of_runTrace _ .init (Option.some_get okR).symm, by decide, by decide, ?_⟩
  intro h
  have := h 0 1 ⟨0, by decide⟩ ⟨1, by decide⟩
  cases this

/-- **Counterexample without the lock** (the pinned tree before the `fix:` commit): two `Db::open`
    of one path, from two processes, both succeed — two writers. -/
theorem C10_counterexample :
    ∃ s, Reach false osFlock s ∧ (writers s 7).length = 2 ∧
      (step false osFlock init (.open 1 7)).2 = .ok 0 ∧
      (step false osFlock (step false osFlock init (.open 1 7)).1 (.open 2 7)).2 = .ok 1 :=
  ⟨_, .step (.open 2 7) (.step (.open 1 7) .init), by decide, by decide, by decide⟩

/-! non-vacuity -/
/-- with the lock: first open succeeds, second is refused, after close (or a crash of the owner) it succeeds again -/
example :
    let s1 := (step true osFlock init (.open 1 7)).1
    (step true osFlock init (.open 1 7)).2 = .ok 0 ∧
    (step true osFlock s1 (.open 2 7)).2 = .busy ∧
    (step true osFlock (step true osFlock s1 (.close 0)).1 (.open 2 7)).2 = .ok 1 ∧
    (step true osFlock (step true osFlock s1 (.crash 1)).1 (.open 2 7)).2 = .ok 1 ∧
    (step true osFlock s1 (.open 2 8)).2 = .ok 1 := by decide
/-- `open_succeeds_when_free` is not vacuous: after open (proc 1) and the death of proc 1 the state is reachable and
    nobody has path 7 open (the open that follows is computed in the example above) -/
example : Reach true osFlock (step true osFlock (step true osFlock init (.open 1 7)).1 (.crash 1)).1 ∧
    writers (step true osFlock (step true osFlock init (.open 1 7)).1 (.crash 1)).1 7 = [] :=
  ⟨.step (.crash 1) (.step (.open 1 7) .init), by decide⟩
example : OsSound osFlock := osFlock_sound
/-- racing creators under the source's protocol: one wins, the other is refused -/
example : (OpenRace.runTrace false OpenRace.init [.openp 0, .openp 1, .lock 1, .lock 0]).map
    (fun s => (s.ops 0, s.ops 1)) = some (.refused, .locked 0) := by decide

end Nervus.Props.C10
