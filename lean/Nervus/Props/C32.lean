/-
  C32 — Node identities are unique and allocation never fails.
  Statements only (helper lemmas: Nervus.Proofs.ExtId).  Model: Nervus.Model.ExtId, which mirrors
  WriteTxn::{create_node, fresh_external_id, commit}, IdMap::{load, apply_create_node} and the hint expression of
  the three node-creating executors as they are after fix 1da5e1f; the pinned tree's allocation is kept as
  `…Legacy` for the counterexample theorems.

  A history is a list of operations from the empty database: auto-commit statements, explicit transactions
  (begin / statements / commit | rollback), caller-chosen ids through the low-level API, DETACH DELETE,
  compaction, close + reopen.  A statement carries the clock-derived hints of the nodes it creates — arbitrary
  numbers, so "for all histories" is also "whatever the clock does".
-/
import Nervus.Proofs.ExtId
namespace Nervus.Props.C32
open Nervus.ExtId

/-! ### what the property demands of one history -/

/-- identities never change and are never given away again: whatever the I2E table said at some point of the
    history (internal id ↦ external id) it still says at the end — across commit, abort, compaction, reopen -/
def IdentitiesStable (ops : List Op) : Prop :=
  ∀ pre post, ops = pre ++ post → (run State.init pre).eng.i2e <+: (run State.init ops).eng.i2e

/-- no two nodes share an external id -/
def IdentitiesUnique (ops : List Op) : Prop :=
  ((run State.init ops).eng.i2e.filter (· ≠ 0)).Nodup

/-- every node has an external identity (0 is the table's "none" marker), unless the caller asked for 0 -/
def IdentitiesNamed (ops : List Op) : Prop :=
  (∀ op ∈ ops, op ≠ .raw 0) → 0 ∉ (run State.init ops).eng.i2e

/-- a node-creating statement never fails because of how identities are allocated; the only errors of a history
    are refusals of caller-chosen ids -/
def AllocationNeverFails (ops : List Op) : Prop :=
  ∀ p ∈ trace State.init ops,
    (∀ hs, p.1 = .stmt hs ∨ p.1 = .tstmt hs → p.2 = .ok ∨ p.2 = .bad) ∧ (∀ e, p.2 = .err e → ∃ x, p.1 = .raw x)

structure Good (ops : List Op) : Prop where
  stable : IdentitiesStable ops
  unique : IdentitiesUnique ops
  named : IdentitiesNamed ops
  never_fails : AllocationNeverFails ops

/-- **C32 at full strength**: every history, every clock, any volume. -/
def C32_full : Prop := ∀ ops : List Op, Good ops

/-- The id spaces are finite by format: internal ids are `u32`, external ids `u64`.  A history stays inside them
    when it attempts at most 2³² node creations and the largest id it can reach (`peak`: every allocation may
    push the high-water mark one past the larger of its hint and the previous mark) is below 2⁶⁴.
    Decidable on the operation sequence. -/
def InIdSpace (ops : List Op) : Prop := volume ops ≤ two32 ∧ peak 0 ops < two64

instance (ops : List Op) : Decidable (InIdSpace ops) := by unfold InIdSpace; exact inferInstance

/-- **C32** (after fix 1da5e1f): for all histories inside the id spaces and all clocks. -/
theorem C32 (ops : List Op) (h : InIdSpace ops) : Good ops := by
  obtain ⟨hv, hK⟩ := h
  have r := run_ok ops State.init 0 Inv.init Bnd.init hK (show 0 + 0 + volume ops ≤ two32 by omega)
  exact ⟨r.pre, r.inv.nodup, fun hno => (r.nz hno NoZero.init).i2e, r.out⟩

/-- **internal ids are fresh**: the internal id `create_node` hands out is the dense counter
    `i2e_len + |created in this transaction|`: not the id of any node of the database, not the id of any node
    created earlier in the transaction. -/
theorem internal_ids_fresh (s : State) (t t' : Txn) (ext iid : Nat) (hi : Inv s) (ht : s.txn = some t)
    (h : createNode s.eng t ext = .ok (t', iid)) :
    iid = s.eng.i2e.length + t.created.length ∧ s.eng.i2e[iid]? = none ∧ iid ∉ t.iids := by
  obtain ⟨_, _, _, hr⟩ := createNode_ok h
  cases hr
  refine ⟨rfl, by rw [List.getElem?_eq_none_iff]; omega, ?_⟩
  rw [(hi.txn_ok t ht).dense, List.mem_range'_1]
  omega

/-- **the id handed out is the final identity**: committing never trips the density / duplicate checks of
    `apply_create_node`, appends exactly the transaction's nodes to the I2E table, and the `k`-th created node
    sits at the internal id it was given. -/
theorem commit_places_nodes (s : State) (t : Txn) (hi : Inv s) (ht : s.txn = some t) :
    (step s .commit).2 = .ok ∧ (step s .commit).1.eng.i2e = s.eng.i2e ++ t.exts ∧
      ∀ p ∈ t.created, (step s .commit).1.eng.i2e[p.2]? = some p.1 := by
  obtain ⟨e, tx⟩ := s
  cases ht
  have hok := hi.txn_ok t rfl
  rw [show step ⟨e, some t⟩ .commit = (⟨e.withTxn t, none⟩, .ok) from finish_commit hok]
  refine ⟨rfl, rfl, fun p hp => ?_⟩
  obtain ⟨k, hk, rfl⟩ := List.getElem_of_mem hp
  have hsnd : (t.created[k]).2 = e.i2e.length + k := by
    have := List.getElem_of_eq hok.dense (i := k) (by simpa [Txn.iids] using hk)
    simpa [Txn.iids] using this
  show (e.i2e ++ t.exts)[(t.created[k]).2]? = _
  rw [hsnd, List.getElem?_append_right (Nat.le_add_right _ _), Nat.add_sub_cancel_left]
  simp [Txn.exts, hk]

/-- **an identity stays the same for the node's lifetime**: one more operation of any kind leaves every
    existing (internal id ↦ external id) entry in place. -/
theorem identity_survives_step (s : State) (K : Nat) (op : Op) (hi : Inv s) (hb : Bnd s K)
    (hK : bump K op < two64) (hv : nodesOf s + volume [op] ≤ two32) (k : Nat) (hk : k < s.eng.i2e.length) :
    (step s op).1.eng.i2e[k]? = s.eng.i2e[k]? :=
  getElem?_of_prefix (step_ok s K op hi hb hK hv).pre hk

theorem hint_is_u64 (count : Nat) (reading : Option Int) : hintOf count reading < two64 := by
  unfold hintOf; split <;> exact Nat.mod_lt _ (by decide)

/-! ### non-vacuity: concrete histories that meet the hypotheses and exercise every clause -/

/-- stalled clock over two statements, a backwards step inside a statement, two CREATE clauses at one reading,
    an explicit transaction that is rolled back, one that is committed, compaction, reopen, a caller-chosen id -/
def demo : List Op :=
  [.stmt [hintOf 0 (some 1000), hintOf 1 (some 1000), hintOf 2 (some 1000)],
   .stmt [hintOf 0 (some 1000), hintOf 1 (some 1000)],
   .stmt [hintOf 0 (some 1005), hintOf 1 (some 1004)],
   .stmt [hintOf 0 (some 3000), hintOf 0 (some 3000)],
   .begin, .tstmt [hintOf 0 (some 500)], .rollback,
   .begin, .tstmt [hintOf 0 (some 500), hintOf 1 (some 500)], .tstmt [hintOf 0 (some 500)], .commit,
   .compact, .reopen, .raw 700, .stmt [hintOf 0 none], .del, .stmt [hintOf 0 (some (-1))]]

example : InIdSpace (demo.dropLast) := by decide +kernel
example : (run State.init demo.dropLast).eng.i2e =
    [1000, 1001, 1002, 1003, 1004, 1005, 1006, 3000, 3001, 3003, 3004, 3005, 700, 1] := by decide +kernel
example : (trace State.init demo.dropLast).map Prod.snd = List.replicate 16 Out.ok := by decide +kernel
/-- a clock before 1970 (`-1 ns`) gives a hint at the very top of the u64 range: outside `InIdSpace`, the
    theorem is silent there, the code wraps round to 1 (the stream exercises it) -/
example : ¬ InIdSpace demo := by decide +kernel
example : (run State.init demo).eng.i2e.getLast? = some 18446744073709551615 := by decide +kernel

/-! ### the pinned tree (before the fix): counterexamples, replayed by corpus/extid/*.ops -/

/-- **stalled clock**: two statements that read the same clock value collide — the second one fails with
    "external id already exists". -/
theorem counterexample_stalled_clock :
    let s1 := (stepLegacyStmt State.init [1000, 1001, 1002]).1
    (stepLegacyStmt State.init [1000, 1001, 1002]).2 = .ok ∧
      (stepLegacyStmt s1 [hintOf 0 (some 1000)]).2 = .err .dupEngine := by decide

/-- **backwards step** inside one statement: counter + clock repeats ⇒ "duplicate external id in same tx". -/
theorem counterexample_backwards_step :
    (stepLegacyStmt State.init [hintOf 0 (some 1005), hintOf 1 (some 1004)]).2 = .err .dupTx := by decide

/-- **two CREATE clauses** of one statement restart the counter: one clock tick ⇒ the statement fails. -/
theorem counterexample_two_clauses :
    (stepLegacyStmt State.init [hintOf 0 (some 3000), hintOf 0 (some 3000)]).2 = .err .dupTx := by decide

/-- **clock outside chrono's range** (`timestamp_nanos_opt() = None`): the first node gets external id 0, the
    table's "none" marker; after a reopen 0 is no longer in the `e2i` map and a second node gets 0 as well. -/
theorem counterexample_clock_out_of_range :
    hintLegacy 0 none = .ok 0 ∧
      let s1 := (stepLegacyStmt State.init [0]).1
      let s2 := (step s1 .reopen).1
      (stepLegacyStmt s2 [0]).2 = .ok ∧ (stepLegacyStmt s2 [0]).1.eng.i2e = [0, 0] := by decide

/-- **clock before 1970**: `count as u64 + now as u64` overflows (panic in debug builds, wrap in release). -/
theorem counterexample_pre1970_overflow : hintLegacy 1 (some (-1)) = .overflowPanic := by decide

/-- the same witnesses after the fix -/
example : (trace State.init [.stmt [1000, 1001, 1002], .stmt [hintOf 0 (some 1000)]]).map Prod.snd = [.ok, .ok] := by
  decide +kernel
example : (step State.init (.stmt [hintOf 0 (some 1005), hintOf 1 (some 1004)])).2 = .ok := by decide
example : (run State.init [.stmt [hintOf 0 none], .reopen, .stmt [hintOf 0 none]]).eng.i2e = [1, 2] := by decide +kernel

end Nervus.Props.C32
