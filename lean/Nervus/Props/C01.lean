/-
  C01 — Acknowledged commits survive crashes.
  Statements only.  Same model, spec and preconditions as C02 (`Nervus.Props.C02`); C01 is the
  part of the crash theorem that speaks about the commits whose `commit()` returned success.
-/
import Nervus.Props.C02
namespace Nervus.Props.C01
open Nervus Nervus.Crash

/-- **C01, full strength** (not proved — kept visible): as `acked_survive` below but without the
    compaction conditions `CondHist`.  False on this tree: `C02.counterexample_live_tree` (a torn
    in-place write of a live leaf loses a property of an acknowledged, already compacted
    transaction) and `C02.counterexample_live_split` (an in-place split of the live leaf: plain
    process death between the left-half rewrite and the manifest); not proved for compactions that
    sink keys into a live tree with an internal root which are not above all its keys. -/
def C01_full : Prop :=
  ∀ (rounds : List Round), FreshHist [] rounds →
    ∃ m fs', recover cfgOfSource (afterRounds cfgOfSource (created cfgOfSource) rounds) = .ok (m, fs') ∧
      ∀ r ∈ rounds, ∀ tx ∈ r.obs.acked,
        (∀ x ∈ tx.nodes, x ∈ (content m fs'.pv).nodes) ∧ (∀ e ∈ tx.edges, e ∈ (content m fs'.pv).edges) ∧
        (∀ q ∈ tx.props, q ∈ (content m fs'.pv).props)

/-- **C01 (`acked_survive`)**: for every list of incarnations as in `C02.crash_prefix` (open,
    commits and compactions; death at any I/O step of an open, a commit, a compaction or the
    close, or between operations; process death or power loss with any subset of unsynced
    operations; iterated; under the compaction conditions `CondHist`: no in-place split or torn
    write of a LIVE leaf), every commit that RETURNED in any incarnation is completely there — all
    its nodes, edges and properties — when the database is opened after the last crash. -/
theorem acked_survive (rounds : List Round) (hok : FreshHist [] rounds)
    (hc : CondHist cfgOfSource (created cfgOfSource) rounds) :
    ∃ m fs', recover cfgOfSource (afterRounds cfgOfSource (created cfgOfSource) rounds) = .ok (m, fs') ∧
      ∀ r ∈ rounds, ∀ tx ∈ r.obs.acked,
        (∀ x ∈ tx.nodes, x ∈ (content m fs'.pv).nodes) ∧ (∀ e ∈ tx.edges, e ∈ (content m fs'.pv).edges) ∧
        (∀ q ∈ tx.props, q ∈ (content m fs'.pv).props) := by
  obtain ⟨T, m, fs', hadm, hrec, hsame⟩ := C02.crash_prefix rounds hok hc
  exact ⟨m, fs', hrec, fun r hr => acked_in_content hadm hsame r.obs (List.mem_map.mpr ⟨r, hr, rfl⟩)⟩

/-- **C01 (`acked_survive`, from files that do not exist yet)**: the same when the history starts
    with the creation of the database and the process may die at any step of the creation. -/
theorem acked_survive_creation (rounds : List Round) (hok : FreshHist [] rounds)
    (hc : CondHist cfgOfSource ({} : FS) rounds) :
    ∃ m fs', recover cfgOfSource (afterRounds cfgOfSource ({} : FS) rounds) = .ok (m, fs') ∧
      ∀ r ∈ rounds, ∀ tx ∈ r.obs.acked,
        (∀ x ∈ tx.nodes, x ∈ (content m fs'.pv).nodes) ∧ (∀ e ∈ tx.edges, e ∈ (content m fs'.pv).edges) ∧
        (∀ q ∈ tx.props, q ∈ (content m fs'.pv).props) := by
  obtain ⟨T, m, fs', hadm, hrec, hsame⟩ := C02.crash_prefix_creation rounds hok hc
  exact ⟨m, fs', hrec, fun r hr => acked_in_content hadm hsame r.obs (List.mem_map.mpr ⟨r, hr, rfl⟩)⟩

/-- **C01 for every configuration that meets `CfgOK`** (every leaf capacity ≥ 1: compactions
    that split the leaves of a new tree are covered, non-vacuity `C02.ex_split`) -/
theorem acked_survive_cfg (cfg : Cfg) (hcfg : CfgOK cfg) (rounds : List Round) (hok : FreshHist [] rounds)
    (hc : CondHist cfg ({} : FS) rounds) :
    ∃ m fs', recover cfg (afterRounds cfg ({} : FS) rounds) = .ok (m, fs') ∧
      ∀ r ∈ rounds, ∀ tx ∈ r.obs.acked,
        (∀ x ∈ tx.nodes, x ∈ (content m fs'.pv).nodes) ∧ (∀ e ∈ tx.edges, e ∈ (content m fs'.pv).edges) ∧
        (∀ q ∈ tx.props, q ∈ (content m fs'.pv).props) := by
  obtain ⟨T, m, fs', hadm, hrec, hsame⟩ := C02.crash_prefix_cfg cfg hcfg rounds hok hc
  exact ⟨m, fs', hrec, fun r hr => acked_in_content hadm hsame r.obs (List.mem_map.mpr ⟨r, hr, rfl⟩)⟩

/-- **C01 (a returned commit is durable at once)**: as soon as the log sync of a commit has been
    performed — in particular after `commit()` has returned — every crash image contains the
    transaction (restates the second half of `C02.commit_every_step`). -/
theorem commit_durable_after_sync {T : List Tx} {fs : FS} {m : Mem} {cs : List CTx} {c : Nat}
    (h : InvOpen T fs m cs c) (ht : TailPre cfgOfSource fs m) (tx : Tx) (hf : FreshTx T tx) (n : Nat) (mode : CrashMode)
    (hn : (cutSteps cfgOfSource (m.ws fs.wf)).length + 3 * (txRecs m.nextTxid m.idLen tx).length < n) :
    Rep (T ++ [tx]) ((fs.steps ((ioSteps (commitA cfgOfSource m fs.pv fs.wf tx)).take n)).crashP mode)
      ((fs.steps ((ioSteps (commitA cfgOfSource m fs.pv fs.wf tx)).take n)).crashW mode) :=
  (C02.commit_every_step h ht tx hf).2 n mode hn

/-! non-vacuity: the history of `C02.ex_rounds` acknowledges `ex_tx1`, `ex_tx3` and `ex_tx4` -/
example : (C02.ex_rounds.flatMap (fun r => r.obs.acked)) = [C02.ex_tx1, C02.ex_tx3, C02.ex_tx4] := by decide

/-- the tree before C17's repair (`tailTolerant := false`; fixed by 5f14685): process death in
    the middle of a record of the first commit leaves a torn log tail; the second incarnation
    commits `tx2` behind it and is acknowledged; after the next open the nodes of `tx2` are there
    (node table) but its edge and its property are gone (the log behind the torn frame is never
    read).  On the current tree the same history is covered by `acked_survive`. -/
theorem counterexample_torn_tail_append :
    (match recover { cfgOfSource with tailTolerant := false }
        (afterRounds { cfgOfSource with tailTolerant := false } (created cfgOfSource)
          [⟨[], .inCommit C02.ex_tx1 4, .proc⟩, ⟨[.commit C02.ex_tx2], .idle, .proc⟩]) with
      | .ok (m, fs) => some (content m fs.pv)
      | .error _ => none) = some ⟨[2001, 2002], [], []⟩ ∧
    (match recover cfgOfSource (afterRounds cfgOfSource (created cfgOfSource)
          [⟨[], .inCommit C02.ex_tx1 4, .proc⟩, ⟨[.commit C02.ex_tx2], .idle, .proc⟩]) with
      | .ok (m, fs) => some (content m fs.pv)
      | .error _ => none) = some ⟨[2001, 2002], [2000], [20000]⟩ := by decide +kernel

end Nervus.Props.C01
