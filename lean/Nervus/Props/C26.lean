/-
  C26 — The on-disk B-tree behaves as a sorted multimap.
  Statements only (helper lemmas live in Nervus.Proofs.BTree*).
  Model: Nervus.Model.BTree (mirrors nervusdb-storage/src/index/btree.rs; layout constants and the
  shape of the binary searches / cursor advance regenerated from the source in Generated/Sizes).
  Spec: Nervus.Spec.Multimap.

  Verdict on the pinned tree: FALSE.
    * fixed (repo 91b009b): cursor advance stopped at a leaf emptied by deletes — scans lost entries
      even with pairwise distinct keys.  With the fix `Cfg.real` has `advSkipsEmpty = true`.
    * known  C26-equal-keys     : equal keys (the engine's index keys ARE equal for equal values):
      lower-bound scans miss pairs, lookup is not the newest pair, delete misses stored pairs.
    * known  C26-split-overflow : leaves are split by COUNT; a half can exceed a page and
      rebuild_leaf(...).unwrap() panics (internal pages: Err after the leaf level was already written).
  `C26_partial` is the B-tree correctness theorem for every history outside these two triggers.
-/
import Nervus.Proofs.BTreeRun
import Nervus.Model.BTreeReal
namespace Nervus.Props.C26
open Nervus Nervus.BTree Nervus.Multimap

/-- what a reader can observe of a tree agrees with the multimap `m` -/
def Agrees {κ : Type} [KeyOrd κ] (c : Cfg) (t : Tree κ) (m : MM κ) : Prop :=
  scan c t = .ok m ∧ (∀ k, scanFrom c t k = .ok (lowerBound k m)) ∧ (∀ k, lookup c t k = .ok (Multimap.lookup k m))

/-- **C26 at full strength** (not provable: see the counterexamples): after ANY history every insert
    succeeds, every delete answers as the multimap does, and scans / lower-bound scans / lookups
    return the multimap's answers (a scan returns the stored pairs in key order, a lookup the most
    recently inserted pair of the key, a delete removes exactly the one pair) -/
def C26_full : Prop :=
  ∀ ops : List (Op Bytes),
    (run Cfg.real ops).2 = specOuts [] ops ∧ Agrees Cfg.real (run Cfg.real ops).1 (Multimap.run ops)

/-- no known finding is triggered: the history never stores two pairs with one key at the same
    time (C26-equal-keys) and no operation of the model ends in panic / Err (C26-split-overflow) -/
def NoTrigger {κ : Type} [KeyOrd κ] (c : Cfg) (ops : List (Op κ)) : Bool :=
  distinctKeys [] ops && allOk (run c ops).2

/-- the regenerated code shape is the one the proof is about (`k < target` in leaves, `k <= target`
    in internal pages, advance skips empty leaves); breaks at build time if the source changes -/
theorem real_std : Cfg.Std Cfg.real := ⟨by decide, by decide, by decide⟩

theorem real_firstPage : 0 < Cfg.real.firstPage := by decide

/-- **C26 (invariant)**: outside the triggers the page map stays a well-formed B-tree — sorted
    leaves, separators bound subtrees, every leaf at level 0, leaf chain = in-order traversal —
    holding exactly the multimap's pairs. -/
theorem C26_invariant {κ : Type} [KeyOrd κ] [LawfulKeyOrd κ] (c : Cfg) (hc : c.Std) (hfp : 0 < c.firstPage)
    (ops : List (Op κ)) (h : NoTrigger c ops = true) :
    ∃ g : Ghost κ, WF (run c ops).1.pages.get (run c ops).1.root (run c ops).1.next g ∧
      contents (run c ops).1.pages.get g.L = Multimap.run ops := by
  simp only [NoTrigger, Bool.and_eq_true] at h
  obtain ⟨g0, wf0, hc0⟩ := create_wf (κ := κ) c hfp
  obtain ⟨g, wf, hcont, _⟩ := (runFrom_run c hc ops (create c) g0 wf0 (by rw [hc0]; exact h.1)).1 h.2
  have hrun : BTree.run c ops = runFrom c (create c) ops := rfl
  rw [hrun]
  exact ⟨g, wf, by rw [hcont, hc0]; rfl⟩

/-- **C26 (partial, the B-tree correctness theorem)**: for EVERY history outside the two triggers,
    over any lawful key order and any page size: every op answers as the multimap does, a scan
    returns exactly the stored pairs in key order, a lower-bound scan the pairs with key ≥ k, a
    lookup the pair stored for the key. -/
theorem C26_partial {κ : Type} [KeyOrd κ] [LawfulKeyOrd κ] (c : Cfg) (hc : c.Std) (hfp : 0 < c.firstPage)
    (ops : List (Op κ)) (h : NoTrigger c ops = true) :
    (run c ops).2 = specOuts [] ops ∧ Agrees c (run c ops).1 (Multimap.run ops) := by
  simp only [NoTrigger, Bool.and_eq_true] at h
  obtain ⟨g0, wf0, hc0⟩ := create_wf (κ := κ) c hfp
  obtain ⟨g, wf, hcont, houts⟩ := (runFrom_run c hc ops (create c) g0 wf0 (by rw [hc0]; exact h.1)).1 h.2
  rw [hc0] at hcont houts
  have hrun : BTree.run c ops = runFrom c (create c) ops := rfl
  rw [hrun]
  refine ⟨houts, ?_, ?_, ?_⟩
  · rw [scan_spec c hc _ g wf, hcont]; rfl
  · intro k; rw [scanFrom_spec c hc _ g wf k, hcont]; rfl
  · intro k; rw [lookup_spec c hc _ g wf k, hcont]; rfl

/-- **C26 (keys fit ⇒ no overflow)**: a purely syntactic condition on the keys of the history.  If every
    inserted key's cell lengths lie in the bounds `B` and the bounds satisfy the fit condition `FitCfg`
    (for each page kind: ((H / (m + slot)) + 2) / 2 · (M + slot) ≤ H — with keys of one size simply
    "one cell fits a page", `fitCfg_uniform`), then on pairwise distinct keys no insert panics or errs
    unless the page ids are exhausted: the second trigger cannot fire -/
theorem C26_fit {κ : Type} [KeyOrd κ] [LawfulKeyOrd κ] (c : Cfg) (hc : c.Std) (hfp : 0 < c.firstPage)
    (B : Bounds) (fc : FitCfg c B) (ops : List (Op κ)) (hgood : goodOps c B ops)
    (hdist : distinctKeys [] ops = true) (hroom : (run c ops).1.next < c.maxPages) :
    NoTrigger c ops = true := by
  obtain ⟨g0, wf0, hc0⟩ := create_wf (κ := κ) c hfp
  have := (runFrom_run c hc ops (create c) g0 wf0 (by rw [hc0]; exact hdist)).2 B fc (create_sized c B fc) hgood hroom
  simp only [NoTrigger, Bool.and_eq_true]
  exact ⟨hdist, this⟩

/-- … and therefore the B-tree is a sorted multimap on such histories -/
theorem C26_partial_fit {κ : Type} [KeyOrd κ] [LawfulKeyOrd κ] (c : Cfg) (hc : c.Std) (hfp : 0 < c.firstPage)
    (B : Bounds) (fc : FitCfg c B) (ops : List (Op κ)) (hgood : goodOps c B ops)
    (hdist : distinctKeys [] ops = true) (hroom : (run c ops).1.next < c.maxPages) :
    (run c ops).2 = specOuts [] ops ∧ Agrees c (run c ops).1 (Multimap.run ops) :=
  C26_partial c hc hfp ops (C26_fit c hc hfp B fc ops hgood hdist hroom)

/-- the partial theorem for the real layout and byte-string keys (what the `btree` stream runs) -/
theorem C26_partial_real (ops : List (Op Bytes)) (h : NoTrigger Cfg.real ops = true) :
    (run Cfg.real ops).2 = specOuts [] ops ∧ Agrees Cfg.real (run Cfg.real ops).1 (Multimap.run ops) :=
  C26_partial Cfg.real real_std real_firstPage ops h

/-- one step, for any well-formed tree: inserting a key that is not stored either fails
    (split overflow) or yields a well-formed tree with the multimap's contents -/
theorem C26_insert_step {κ : Type} [KeyOrd κ] [LawfulKeyOrd κ] (c : Cfg) (hc : c.Std) (t : Tree κ) (g : Ghost κ)
    (wf : WF t.pages.get t.root t.next g) (k : κ) (v : Nat)
    (hfresh : hasKey k (contents t.pages.get g.L) = false) (t' : Tree κ) (h : BTree.insert c t k v = (t', .ok)) :
    ∃ g', WF t'.pages.get t'.root t'.next g' ∧
      contents t'.pages.get g'.L = Multimap.insert k v (contents t.pages.get g.L) := by
  obtain ⟨t1, o, hrun, _, h1, _⟩ := insert_run c hc t g wf k v hfresh
  rw [h] at hrun; cases hrun; exact h1 rfl

/-- one step, for any well-formed tree: delete never fails, answers as the multimap and removes
    exactly the one pair -/
theorem C26_delete_step {κ : Type} [KeyOrd κ] [LawfulKeyOrd κ] (c : Cfg) (hc : c.Std) (t : Tree κ) (g : Ghost κ)
    (wf : WF t.pages.get t.root t.next g) (k : κ) (v : Nat) :
    ∃ t' b, BTree.delete c t k v = (t', .found b) ∧ WF t'.pages.get t'.root t'.next g ∧
      (b, contents t'.pages.get g.L) = Multimap.delete k v (contents t.pages.get g.L) := by
  obtain ⟨t', b, h, wf', hcont, _⟩ := delete_spec c hc t g wf k v
  exact ⟨t', b, h, wf', hcont⟩

/-! ### non-vacuity: histories that meet the hypotheses and exercise every code path
    (real layout on a 64-byte page: 3 cells per leaf, 2 per internal page) -/

def tiny : Cfg := Cfg.small 64

/-- 20 distinct keys in scrambled order (leaf splits, internal splits, root splits: 3 levels), then
    deletes that empty a leaf in the middle of the chain, two failing deletes, and re-inserts -/
def exampleOps : List (Op Nat) :=
  (List.range 20).map (fun i => Op.insert (i * 7 % 20) i) ++
  [.delete 4 12, .delete 5 15, .delete 6 18, .delete 6 18, .delete 7 99, .insert 5 100, .insert 25 101]

example : NoTrigger tiny exampleOps = true := by decide +kernel
example : Cfg.Std tiny := ⟨by decide, by decide, by decide⟩
/-- the example tree has four levels (17 pages; the last insert goes into a leaf that deletes had
    emptied but whose cell bytes are not reclaimed, so it splits 0 + 1 and splits the root again) -/
example : (run tiny exampleOps).1.root = 18 ∧ (run tiny exampleOps).1.next = 19 := by decide +kernel
example : scan tiny (run tiny exampleOps).1 = .ok (Multimap.run exampleOps) := by decide +kernel
/-- the hypotheses of the one-step theorems: the empty tree is well formed -/
example : ∃ g : Ghost Nat, WF (create tiny : Tree Nat).pages.get (create tiny : Tree Nat).root (create tiny : Tree Nat).next g :=
  (create_wf tiny (by decide)).imp fun _ h => h.1

/-- the fit condition holds for the real layout with keys of 16 … 24 bytes (property-store and index
    keys: leaf cells 25 … 33 bytes, internal cells the same) and for 3 KB keys of one size -/
example : FitCfg Cfg.real ⟨25, 33, 25, 33⟩ := by constructor <;> decide
example : FitCfg Cfg.real ⟨3010, 3010, 3010, 3010⟩ :=
  fitCfg_uniform Cfg.real 3010 3010 (by decide) (by decide) (by decide) (by decide) (by decide) (by decide) (by decide)
/-- … but NOT for a mix of 1-byte and 3 KB keys (the split-overflow counterexample's sizes) -/
example : ¬ FitCfg Cfg.real ⟨10, 3011, 10, 3011⟩ := fun h => absurd h.leaf (by decide)

/-! ### counterexamples (closed terms, kernel evaluated; real-size witnesses are replayed on the
    implementation from corpus/btree/) -/

def ins (ks : List Nat) : List (Op Nat) := (ks.zip (List.range ks.length)).map (fun (k, i) => Op.insert k i)

/-- four equal keys: the run straddles a leaf split, the separator equals the key and sends the
    lower-bound search to the right half — a lower-bound scan sees 2 of the 4 stored pairs -/
theorem C26_counterexample_equal_keys_scan :
    scanFrom tiny (run tiny (ins [3, 3, 3, 3])).1 3 = .ok [(3, 3), (3, 0)] ∧
    lowerBound 3 (Multimap.run (ins [3, 3, 3, 3])) = [(3, 3), (3, 2), (3, 1), (3, 0)] := by decide +kernel

/-- lookup does not return the most recently inserted pair: the split places the new pair by
    `binary_search_by` (any matching index), not in front of the equal keys -/
theorem C26_counterexample_equal_keys_lookup :
    lookup tiny (run tiny (ins [1, 3, 5, 3])).1 3 = .ok (some 1) ∧
    Multimap.lookup 3 (Multimap.run (ins [1, 3, 5, 3])) = some 3 := by decide +kernel

/-- delete misses a stored pair, inside ONE leaf and without any split: the leaf is not ordered by
    payload, so the (key, payload) binary search is unsound -/
theorem C26_counterexample_equal_keys_delete :
    (BTree.delete tiny (run tiny (ins [3, 3, 1])).1 3 0).2 = .found false ∧
    (Multimap.delete 3 0 (Multimap.run (ins [3, 3, 1]))).1 = true := by decide +kernel

/-- the full-strength statement fails on that history (same layout, 64-byte page) -/
theorem C26_counterexample_full_small :
    ¬ ((run tiny (ins [3, 3, 3, 3])).2 = specOuts [] (ins [3, 3, 3, 3]) ∧
       Agrees tiny (run tiny (ins [3, 3, 3, 3])).1 (Multimap.run (ins [3, 3, 3, 3]))) := by
  intro h
  have := h.2.2.1 3
  rw [C26_counterexample_equal_keys_scan.1] at this
  revert this
  decide +kernel

/-- **`C26_full` is false at the real page size**: five inserts of one 2000-byte key (four cells fill a
    leaf, the fifth splits it) — the lower-bound scan returns three of the five stored pairs -/
theorem C26_counterexample_full : ¬ C26_full := by
  intro h
  have := (h ((List.range 5).map (fun i => Op.insert (List.replicate 2000 0x2e) i))).2.2.1
    (List.replicate 2000 0x2e)
  revert this
  decide +kernel

def k1 (b : UInt8) : Bytes := [b]
def k25 (b : UInt8) : Bytes := b :: List.replicate 24 0x2e

/-- split by COUNT overflows a page (128-byte page, real layout): two 1-byte keys and two 25-byte
    keys fill a leaf; inserting a third 25-byte key splits 5 cells into 2 + 3 and the three long
    cells (108 bytes) do not fit the 104 usable bytes: `rebuild_leaf(...).unwrap()` panics, with
    pairwise distinct keys.  The spec says the insert succeeds. -/
theorem C26_counterexample_split_overflow :
    (run (Cfg.small 128) [.insert (k1 1) 1, .insert (k1 2) 2, .insert (k25 7) 3, .insert (k25 8) 4,
      .insert (k25 9) 5]).2 = [.ok, .ok, .ok, .ok, .panic] ∧
    distinctKeys [] [Op.insert (k1 1) 1, .insert (k1 2) 2, .insert (k25 7) 3, .insert (k25 8) 4,
      .insert (k25 9) 5] = true := by decide +kernel

/-- with the pinned `advance` (no skipping of empty leaves) a scan stops at a leaf emptied by
    deletes although all keys are distinct — the defect fixed by repo commit 91b009b -/
theorem C26_counterexample_empty_leaf_before_fix :
    scan { tiny with advSkipsEmpty := false }
      (run { tiny with advSkipsEmpty := false }
        (ins [1, 2, 3, 4, 5, 6, 7] ++ [.delete 3 2, .delete 4 3])).1 = .ok [(1, 0), (2, 1)] ∧
    Multimap.run (ins [1, 2, 3, 4, 5, 6, 7] ++ [.delete 3 2, .delete 4 3]) =
      [(1, 0), (2, 1), (5, 4), (6, 5), (7, 6)] := by decide +kernel

end Nervus.Props.C26
