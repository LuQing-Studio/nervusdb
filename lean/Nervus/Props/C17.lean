/-
  C17 — Any log tail is tolerated on open.
  Statements only (helper lemmas: Nervus.Proofs.{WalFrame,WalLog,WalWriter,WalTails}).
  Model: Nervus.Model.WalFrame (WalReader::next_record, Wal::{open,valid_end,append}, replay_committed, the WAL
  part of GraphEngine::open) over Nervus.Model.{WalRec,PropVal,Crc32}; `Cfg.current` is regenerated from the
  source, `Cfg.pinned` is the tree before the `fix:` commit.  Spec: Nervus.Spec.TxLog.

  Reading of the property: the log file is `file ++ t` where `file` was produced by acknowledged appends of the
  records `rs` and `t` is ANY byte string.  The records completely written in `t` (`complete t`: length within
  the cap, all body bytes present, checksum matches, body decodes) count as written — a tail that happens to be a
  checksum-valid frame IS a completely written record by definition; no collision hypothesis is used anywhere.
-/
import Nervus.Proofs.WalLog
import Nervus.Proofs.WalWriter
import Nervus.Proofs.WalTails
namespace Nervus.Props.C17
open Nervus Nervus.PropVal Nervus.WalRec Nervus.WalFrame

/-- the complete valid records at the head of `t`, and the tail behind them (Spec.TxLog) -/
abbrev complete (t : Bytes) : List Rec × Bytes := completeFrames WalRec.Cfg.current WalFrame.Cfg.current.maxLen t

/-- `file` is a log written from scratch by acknowledged appends of the well-formed records `rs` -/
def Written (rs : List Rec) (file : Bytes) : Prop :=
  (∀ r ∈ rs, r.wf = true) ∧ ∃ h, appendAll WalFrame.Cfg.current (walOpen []) rs = .ok h ∧ h.file = file

/-- one transaction as the engine writes it -/
def txBlock (x : Nat) (ops : List Rec) : List Rec := .beginTx x :: (ops ++ [.commitTx x])

/-- **C17 at full strength**: for every written log, EVERY tail `t`, every further transaction and EVERY second
    tail `t'`: opening succeeds and recovers exactly the committed transactions of the completely written
    records; a transaction committed after reopening is recovered by the next open. -/
def C17_full : Prop :=
  ∀ (rs : List Rec) (file t : Bytes), Written rs file → ProtoOk rs = true →
    (∃ txs, recover WalFrame.Cfg.current (file ++ t) = .ok txs ∧ txs = specTxs (rs ++ (complete t).1)) ∧
    ∀ (x : Nat) (ops : List Rec) (h' : Handle) (t' : Bytes),
      (∀ r ∈ ops, r.wf = true ∧ Rec.isOp r = true) →
      appendAll WalFrame.Cfg.current (walOpen (file ++ t)) (txBlock x ops) = .ok h' →
      ∃ txs', recover WalFrame.Cfg.current (h'.file ++ t') = .ok txs' ∧
        ⟨x, ops⟩ ∈ txs' ∧ specTxs rs <+: txs'

/-! ### the repair is present in the source (regenerated table entries) -/

theorem fix_present : Fixed WalFrame.Cfg.current :=
  ⟨by decide, by decide, by decide, by decide, by decide, by decide, ⟨Or.inr (by decide), by decide⟩⟩

theorem current_is_ideal :
    WalFrame.Cfg.current = WalFrame.Cfg.ideal WalRec.Cfg.current WalFrame.Cfg.current.maxLen := by decide

/-! ### reading -/

/-- the reader never fails, never runs out of budget, and `complete` is what it returns -/
theorem read_total (t : Bytes) :
    readAll WalFrame.Cfg.current t = ((complete t).1, .eof (complete t).2) := by
  obtain ⟨tail, h⟩ := readAll_tolerant fix_present.over fix_present.undec t
  unfold complete completeFrames
  rw [← current_is_ideal]
  generalize hr : readAll WalFrame.Cfg.current t = res at h ⊢
  obtain ⟨recs, stop⟩ := res
  simp only at h; subst h; rfl

private theorem complete_of_eof (t : Bytes) (ht : nextRecord WalFrame.Cfg.current t = .eof) : (complete t).1 = [] := by
  have := read_total t
  rw [readAll_of_eof ht] at this
  exact (Prod.mk.inj this).1.symm

theorem written_is_frames (rs : List Rec) (file : Bytes) (hw : Written rs file) :
    IsFrames WalFrame.Cfg.current file rs := by
  obtain ⟨hwf, h, ha, rfl⟩ := hw
  exact appendAll_fresh fix_present rs hwf h ha

/-- **any tail, reader level** (unconditional): whatever bytes follow a written log, reading returns all its
    records, in order, then the completely written records of the tail, and stops without error. -/
theorem any_tail_read (rs : List Rec) (file t : Bytes) (hw : Written rs file) :
    readAll WalFrame.Cfg.current (file ++ t) = (rs ++ (complete t).1, .eof (complete t).2) := by
  rw [readAll_frames_append fix_present.cap (written_is_frames rs file hw) t, read_total t]

/-- **any tail, open level** (unconditional): `replay_committed` on `file ++ t` is the transaction grouping of
    the completely written records — the tail bytes have no other influence, and no reader error exists. -/
theorem any_tail_recover (rs : List Rec) (file t : Bytes) (hw : Written rs file) :
    recover WalFrame.Cfg.current (file ++ t) =
      match committed (rs ++ (complete t).1) with
      | .ok txs => .ok txs
      | .error e => .error (.proto e) := by
  unfold recover
  rw [any_tail_read rs file t hw, committedCfg_eq fix_present.resets]
  cases committed (rs ++ (complete t).1) <;> rfl

/-- **any tail** (the trigger hypothesis `ProtoOk` is exactly "no known finding": the completely written
    records obey the transaction protocol): open succeeds, recovers exactly the committed transactions of the
    completely written records, and all committed transactions of the written log are among them, in order. -/
theorem any_tail_partial (rs : List Rec) (file t : Bytes) (hw : Written rs file)
    (hp : ProtoOk (rs ++ (complete t).1) = true) :
    recover WalFrame.Cfg.current (file ++ t) = .ok (specTxs (rs ++ (complete t).1)) ∧
    specTxs rs <+: specTxs (rs ++ (complete t).1) ∧
    ∃ h, engineOpen WalFrame.Cfg.current (file ++ t) = .ok (h, specTxs (rs ++ (complete t).1)) := by
  have h1 : recover WalFrame.Cfg.current (file ++ t) = .ok (specTxs (rs ++ (complete t).1)) := by
    rw [any_tail_recover rs file t hw, committed_of_proto _ hp]
  refine ⟨h1, ?_, ⟨_, by unfold engineOpen; rw [h1]⟩⟩
  have hp' : ProtoOk rs = true := protoGo_append_left rs _ none hp
  exact commitGo_prefix rs _ none [] [] _ _ (committed_of_proto rs hp') (committed_of_proto _ hp)

/-- **any tail without a complete record at its head** (a torn record, zero fill, a bad checksum, an oversized
    length field, any garbage the reader does not accept as a frame): open recovers exactly the written log's
    committed transactions.  No hypothesis on the tail beyond that. -/
theorem any_tail (rs : List Rec) (file t : Bytes) (hw : Written rs file) (hp : ProtoOk rs = true)
    (ht : nextRecord WalFrame.Cfg.current t = .eof) :
    recover WalFrame.Cfg.current (file ++ t) = .ok (specTxs rs) := by
  have hc := complete_of_eof t ht
  have := (any_tail_partial rs file t hw (by rw [hc]; simpa using hp)).1
  simpa [hc] using this

/-- the tails named by the property have no complete record at their head -/
theorem torn_record_is_tail (body : Bytes) (hb : body.length < two32) (k : Nat) (hk : k < 8 + body.length) :
    nextRecord WalFrame.Cfg.current ((frame body).take k) = .eof :=
  nextRecord_torn fix_present.over body hb k hk

theorem zero_fill_is_tail (n : Nat) : nextRecord WalFrame.Cfg.current (List.replicate n 0) = .eof :=
  nextRecord_zeros fix_present.over fix_present.undec n

theorem bad_checksum_is_tail (body rest : Bytes) (c : Nat) (hb : body.length < two32) (hc : c < two32)
    (hne : c ≠ crc32 body) :
    nextRecord WalFrame.Cfg.current (le4 body.length ++ (le4 c ++ (body ++ rest))) = .eof :=
  nextRecord_bad_crc fix_present.over body rest c hb hc hne

theorem oversized_length_is_tail (t : Bytes) (h : leVal (t.take 4) > 1048576) :
    nextRecord WalFrame.Cfg.current t = .eof :=
  nextRecord_oversize fix_present.over h

theorem short_garbage_is_tail (t : Bytes) (h : t.length < 8) : nextRecord WalFrame.Cfg.current t = .eof :=
  nextRecord_short fix_present.over h

/-! ### writing after a tail -/

/-- an acknowledged append wrote a complete valid frame carrying exactly the record; in particular nothing
    above the cap is ever acknowledged (the pinned tree acknowledges a 2 MB property and then fails every open:
    `C17_counterexample_oversize`) -/
theorem acknowledged_is_readable (h h' : Handle) (r : Rec) (hw : r.wf = true)
    (ha : append WalFrame.Cfg.current h r = .ok h') :
    ∃ base body, h'.file = base ++ frame body ∧ body.length ≤ 1048576 ∧
      decodeBody WalRec.Cfg.current body = .ok r :=
  let ⟨base, body, h1, h2, h3, _, _⟩ := append_inv fix_present h h' r hw ha
  ⟨base, body, h1, h2, h3⟩

/-- **no stale bytes**: open a handle on ANY file `f` — damage anywhere, also in a non-final record with intact
    frames of discarded transactions behind it.  The first acknowledged append leaves exactly the valid prefix of
    `f` followed by the new frame: nothing of the old tail survives behind it. -/
theorem first_append_exact (f : Bytes) (r : Rec) (hw : r.wf = true) (h' : Handle)
    (ha : append WalFrame.Cfg.current (walOpen f) r = .ok h') :
    ∃ base body, validPrefix WalFrame.Cfg.current f = .ok base ∧ h'.file = base ++ frame body ∧
      decodeBody WalRec.Cfg.current body = .ok r ∧ h'.tailChecked = true := by
  obtain ⟨base, body, h1, _, h3, h4, h5⟩ := append_inv fix_present (walOpen f) h' r hw ha
  simp only [walOpen, Bool.false_eq_true, if_false] at h5
  exact ⟨base, body, h5, h1, h3, h4⟩

/-- **nothing is resurrected**: after reopening on ANY file `f` and at least one acknowledged append, the file
    is exactly the frames of the records the reader accepted from `f` followed by the frames of the new records;
    so the next open — whatever second tail `t'` follows — reads those records, the new ones, the complete records
    of `t'`, and nothing else.  Stale checksum-valid frames of discarded transactions cannot come back. -/
theorem no_resurrection (f : Bytes) (r : Rec) (ns : List Rec) (hn : ∀ q ∈ r :: ns, q.wf = true) (h' : Handle)
    (ha : appendAll WalFrame.Cfg.current (walOpen f) (r :: ns) = .ok h') (t' : Bytes) :
    IsFrames WalFrame.Cfg.current h'.file ((readAll WalFrame.Cfg.current f).1 ++ (r :: ns)) ∧
    readAll WalFrame.Cfg.current (h'.file ++ t') =
      ((readAll WalFrame.Cfg.current f).1 ++ (r :: ns) ++ (complete t').1, .eof (complete t').2) := by
  have hfr := appendAll_any_file fix_present f r ns hn h' ha
  exact ⟨hfr, by rw [readAll_frames_append fix_present.cap hfr t', read_total t']⟩

/-- **append after any tail, reader level** (unconditional): open a handle on `file ++ t`, append at least one
    record; then, whatever second tail `t'` a later crash leaves, reading returns the written log's records,
    the completely written records of `t`, every acknowledged new record, and the complete records of `t'`. -/
theorem append_after_tail_read (rs : List Rec) (file t : Bytes) (hw : Written rs file) (r : Rec) (ns : List Rec)
    (hn : ∀ q ∈ r :: ns, q.wf = true) (h' : Handle)
    (ha : appendAll WalFrame.Cfg.current (walOpen (file ++ t)) (r :: ns) = .ok h') (t' : Bytes) :
    readAll WalFrame.Cfg.current (h'.file ++ t') =
      (rs ++ (complete t).1 ++ (r :: ns) ++ (complete t').1, .eof (complete t').2) := by
  rw [(no_resurrection (file ++ t) r ns hn h' ha t').2, any_tail_read rs file t hw]

/-- **replay is positional** (the replay-level counterpart of `no_resurrection`, over ALL record lists, txids may
    repeat): if a record list replays, every complete block `BeginTx x, ops…, CommitTx x` in it is handed out with
    exactly `ops` — unfinished fragments before it, under the same txid `x` or any other, contribute nothing —
    and the transactions before it are those of the records before it. -/
theorem replay_positional (pre post : List Rec) (x : Nat) (ops : List Rec) (hops : ∀ r ∈ ops, Rec.isOp r = true)
    (txs : List Tx) (h : committedCfg WalFrame.Cfg.current (pre ++ txBlock x ops ++ post) = .ok txs) :
    ∃ a b, committed pre = .ok a ∧ txs = a ++ ⟨x, ops⟩ :: b := by
  rw [committedCfg_eq fix_present.resets] at h
  exact commitGo_block x ops hops pre post none [] [] txs h

/-- in particular a torn transaction `BeginTx y, ops₀…` (no commit) followed — after recovery handed the id out
    again — by a committed transaction with the SAME or another txid: replay yields the old transactions and the
    new one with ONLY its own operations.  Nothing of the torn transaction surfaces. -/
theorem torn_then_commit_is_clean (rs ops₀ ops : List Rec) (y x : Nat) (txs₀ : List Tx)
    (h0 : committed rs = .ok txs₀) (hops₀ : ∀ r ∈ ops₀, Rec.isOp r = true)
    (hops : ∀ r ∈ ops, Rec.isOp r = true) :
    committedCfg WalFrame.Cfg.current ((rs ++ (.beginTx y :: ops₀)) ++ txBlock x ops) = .ok (txs₀ ++ [⟨x, ops⟩]) := by
  rw [committedCfg_eq fix_present.resets]
  have h1 := commitGo_fragment y ops₀ hops₀ rs none [] [] txs₀ h0
  exact commitGo_durable x ops hops (rs ++ (.beginTx y :: ops₀)) none [] [] txs₀ h1

/-- **append after any tail**: a transaction committed after reopening on `file ++ t` is recovered by the next
    open — with its exact operations, right after everything recovered before — whatever second tail `t'`
    (without a complete record at its head) a later crash leaves.  Trigger hypothesis as in `any_tail_partial`. -/
theorem append_after_tail_partial (rs : List Rec) (file t : Bytes) (hw : Written rs file)
    (hp : ProtoOk (rs ++ (complete t).1) = true) (x : Nat) (hx : x < two64) (ops : List Rec)
    (hops : ∀ r ∈ ops, r.wf = true ∧ Rec.isOp r = true) (h' : Handle)
    (ha : appendAll WalFrame.Cfg.current (walOpen (file ++ t)) (txBlock x ops) = .ok h')
    (t' : Bytes) (ht' : nextRecord WalFrame.Cfg.current t' = .eof) :
    recover WalFrame.Cfg.current (h'.file ++ t') = .ok (specTxs (rs ++ (complete t).1) ++ [⟨x, ops⟩]) := by
  have hwf : ∀ q ∈ Rec.beginTx x :: (ops ++ [.commitTx x]), q.wf = true := by
    intro q hq
    simp only [List.mem_cons, List.mem_append, List.mem_nil_iff, or_false] at hq
    rcases hq with rfl | hq | rfl
    · simpa [Rec.wf, u64] using hx
    · exact (hops q hq).1
    · simpa [Rec.wf, u64] using hx
  have hc' := complete_of_eof t' ht'
  have ha' : appendAll WalFrame.Cfg.current (walOpen (file ++ t)) (Rec.beginTx x :: (ops ++ [.commitTx x])) = .ok h' := ha
  have hread := append_after_tail_read rs file t hw (.beginTx x) (ops ++ [.commitTx x]) hwf h' ha' t'
  unfold recover
  rw [hread, hc', List.append_nil, committedCfg_eq fix_present.resets]
  have hd := commitGo_durable x ops (fun r hr => (hops r hr).2) (rs ++ (complete t).1) none [] [] _
    (committed_of_proto _ hp)
  unfold committed
  rw [hd]

/-- **C17, proved part**: `C17_full` with the trigger hypothesis (the completely written records obey the
    transaction protocol), second tails without a complete record at their head, and the new txid a `u64`. -/
theorem C17_partial (rs : List Rec) (file t : Bytes) (hw : Written rs file)
    (hp : ProtoOk (rs ++ (complete t).1) = true) :
    (∃ txs, recover WalFrame.Cfg.current (file ++ t) = .ok txs ∧ txs = specTxs (rs ++ (complete t).1)) ∧
    ∀ (x : Nat) (ops : List Rec) (h' : Handle) (t' : Bytes), x < two64 →
      (∀ r ∈ ops, r.wf = true ∧ Rec.isOp r = true) →
      appendAll WalFrame.Cfg.current (walOpen (file ++ t)) (txBlock x ops) = .ok h' →
      nextRecord WalFrame.Cfg.current t' = .eof →
      ∃ txs', recover WalFrame.Cfg.current (h'.file ++ t') = .ok txs' ∧
        ⟨x, ops⟩ ∈ txs' ∧ specTxs rs <+: txs' := by
  have h1 := any_tail_partial rs file t hw hp
  refine ⟨⟨_, h1.1, rfl⟩, ?_⟩
  intro x ops h' t' hx hops ha ht'
  refine ⟨_, append_after_tail_partial rs file t hw hp x hx ops hops h' ha t' ht', by simp, ?_⟩
  exact List.IsPrefix.trans h1.2.1 (List.prefix_append _ _)

/-! ### non-vacuity -/

/-- a written log with two transactions (one with a nested property value) and an unfinished third -/
example : ∃ file, Written witnessLog file ∧ ProtoOk witnessLog = true := by
  have hok : (appendAll WalFrame.Cfg.current (walOpen []) witnessLog).toBool = true := by decide +kernel
  rcases hh : appendAll WalFrame.Cfg.current (walOpen []) witnessLog with e | h
  · rw [hh] at hok; cases hok
  · exact ⟨h.file, ⟨by decide, h, hh, rfl⟩, by decide⟩

/-- zero fill and an oversized length field are tails in the sense of `any_tail` -/
example : nextRecord WalFrame.Cfg.current (List.replicate 13 0) = .eof := zero_fill_is_tail 13
example : nextRecord WalFrame.Cfg.current [0xff, 0xff, 0xff, 0x7f, 1, 2] = .eof :=
  oversized_length_is_tail _ (by decide)
/-- a tail that is a complete valid frame is read as a record (it IS completely written) -/
example : (complete (frame [7, 5, 0, 0, 0])).1 = [.tombstoneNode 5] := by decide +kernel

/-! ### the limit of the guarantee, and the tree as pinned -/

/-- `C17_full` is false of the repaired tree in one corner: bytes after the log that form a complete,
    checksum-valid, decodable record which violates the transaction protocol (here `CommitTx 7` with no
    `BeginTx`) make `replay_committed` fail.  Known finding `C17-crc-valid-protocol-violating-frames`. -/
theorem C17_counterexample_protocol_violating_frames : ¬ C17_full := by
  intro h
  obtain ⟨⟨txs, hr, -⟩, -⟩ := h [] [] (frame [2, 7, 0, 0, 0, 0, 0, 0, 0]) ⟨by simp, _, rfl, rfl⟩ rfl
  have : recover WalFrame.Cfg.current ([] ++ frame [2, 7, 0, 0, 0, 0, 0, 0, 0]) = .error (.proto .commitWithoutBegin) := by
    decide +kernel
  rw [this] at hr; cases hr

/-- a replay that does not reset its buffer at `BeginTx` (the shape the `TxAssembler` seed has for a reused txid)
    hands the torn transaction's operation out with the new transaction: why the reset is part of the tie -/
theorem replay_without_reset_leaks :
    commitGoKeep none [] [] [.beginTx 2, .tombstoneNode 7, .beginTx 2, .createEdge 1 1 1, .commitTx 2]
      = .ok [⟨2, [.tombstoneNode 7, .createEdge 1 1 1]⟩] ∧
    committed [.beginTx 2, .tombstoneNode 7, .beginTx 2, .createEdge 1 1 1, .commitTx 2]
      = .ok [⟨2, [.createEdge 1 1 1]⟩] := by decide

/-- pinned tree, zero tail: `len = 0, crc = 0` parses as a frame whose empty body is a decode ERROR -/
theorem C17_counterexample_zero_tail :
    recover WalFrame.Cfg.pinned (logOf WalFrame.Cfg.pinned witnessTx ++ List.replicate 8 0)
      = .error (.read (.decode (.proto "empty record body"))) := by decide +kernel

/-- pinned tree, garbage length field above 1 MiB: an ERROR instead of end of log -/
theorem C17_counterexample_garbage_length :
    recover WalFrame.Cfg.pinned (logOf WalFrame.Cfg.pinned witnessTx ++ [0xff, 0xff, 0xff, 0x7f])
      = .error (.read (.tooLarge 2147483647)) := by decide +kernel

/-- pinned tree, torn tail then commit: `append` writes behind the two garbage bytes; the acknowledged
    transaction 2 is not recovered (here the next open even fails) -/
theorem C17_counterexample_append_behind_tail :
    ∃ h, appendAll WalFrame.Cfg.pinned (walOpen (logOf WalFrame.Cfg.pinned witnessTx ++ [1, 2]))
        (txBlock 2 [.tombstoneNode 0]) = .ok h ∧
      recover WalFrame.Cfg.pinned h.file ≠ .ok (specTxs (witnessTx ++ txBlock 2 [.tombstoneNode 0])) ∧
      recover WalFrame.Cfg.current (match appendAll WalFrame.Cfg.current
          (walOpen (logOf WalFrame.Cfg.pinned witnessTx ++ [1, 2])) (txBlock 2 [.tombstoneNode 0]) with
        | .ok h => h.file
        | .error _ => []) = .ok (specTxs (witnessTx ++ txBlock 2 [.tombstoneNode 0])) := by
  refine ⟨_, rfl, by decide +kernel, by decide +kernel⟩

/-- pinned tree, one record above the cap: `append` acknowledges it and every later read is an ERROR —
    for every such record and whatever follows it -/
theorem C17_counterexample_oversize (r : Rec) (body : Bytes) (file rest : Bytes)
    (he : encodeBody WalRec.Cfg.pinned r = .ok body) (hbig : 1048576 < body.length) (hb : body.length < two32) :
    append WalFrame.Cfg.pinned (walOpen file) r = .ok ⟨file ++ frame body, false⟩ ∧
    nextRecord WalFrame.Cfg.pinned (frame body ++ rest) = .err (.tooLarge body.length) :=
  ⟨append_pinned_oversize r body file he hb, nextRecord_pinned_oversize body rest hbig hb⟩

end Nervus.Props.C17
