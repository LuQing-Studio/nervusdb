/-
  C02 — Crash recovery yields a committed prefix.
  Statements only (lemmas live in Nervus.Proofs.Crash*).

  Model: Nervus.Model.IOSteps (every operation as its I/O steps in code order, validated against
  the H1 step log of the real engine; file system = durable image + unsynced operations; process
  death keeps everything written, power loss keeps the durable image plus ANY subset of the
  unsynced page operations — each whole or torn — plus any prefix of the unsynced log fragments)
  and Nervus.Model.Recovery (what `GraphEngine::open` reads).  Spec: Nervus.Spec.CrashTxLog.
  Switches of the model come from the source (`Generated.CrashCfg`): the theorems below are about
  `cfgOfSource`, i.e. about the current tree.
-/
import Nervus.Proofs.CrashMain
import Nervus.Proofs.CrashIndex
namespace Nervus.Props.C02
open Nervus Nervus.Crash

/-- the obligations the theorems put on the source: the node-table slot is synced before it is
    counted, and the ordering facts the step model is built on are as extracted -/
theorem source_ok :
    cfgOfSource.syncSlot = true ∧ cfgOfSource.syncCreate = true ∧ cfgOfSource.freshZero = true ∧
    cfgOfSource.tailTolerant = true ∧
    Generated.commitSyncsLogBeforeApply = true ∧ Generated.compactSyncsPagesBeforeManifest = true ∧
    Generated.closeSyncsPagesBeforeRewrite = true ∧ Generated.rewriteSyncsTmpBeforeRename = true ∧
    Generated.compactCheckpointIsMaxRunTxid = true ∧ Generated.closeCheckpointIsLastTxid = true ∧
    Generated.replaySkipsUpToCheckpoint = true := by decide

/-- **C02, full strength** (not proved — kept visible): for every history of incarnations (open,
    commits and compactions, death at every I/O step of an open, a commit, a compaction or a
    close, in both crash modes, iterated) with no precondition other than fresh external ids, the
    next open succeeds and shows an admissible transaction list.  False on this tree because of the
    known finding C01-live-tree-in-place (`counterexample_live_tree`: a torn in-place write of a
    live leaf, `counterexample_live_split`: an in-place split of the live leaf); not proved for
    compactions that sink keys into a live tree with an internal root which are not above all its
    keys.  The proved part is `crash_prefix` / `crash_prefix_cfg`, which add exactly these
    conditions (`CondHist`). -/
def C02_full : Prop :=
  ∀ (rounds : List Round), FreshHist [] rounds →
    ∃ T m fs', Spec.Admissible [] (rounds.map Round.obs) T ∧
      recover cfgOfSource (afterRounds cfgOfSource (created cfgOfSource) rounds) = .ok (m, fs') ∧
      Spec.Content.same (content m fs'.pv) (Spec.run T)

/-- a freshly created database represents the empty transaction list -/
theorem created_closed : Closed [] (created cfgOfSource) := by
  obtain ⟨_, _, _, _, hinv, _⟩ := (create_safe (cfg := cfgOfSource) source_ok.2.2.1 source_ok.2.1 nascent_empty).run_none
  exact ⟨⟨by decide, ⟨by decide, by decide⟩⟩, hinv.rep⟩

theorem leafCap_pos : 1 ≤ cfgOfSource.leafCap := by decide

/-- **C02 (every step, one commit)**: from any state in which files and handle agree on `T`,
    after EVERY prefix of the I/O steps of a commit, in EVERY crash mode (process death; power loss
    with any subset of the unsynced page operations persisted, whole or torn, and any prefix of the
    unsynced log fragments), the files represent `T` or `T ++ [tx]` — no transaction in part — and
    once the log sync has been performed they represent `T ++ [tx]`. -/
theorem commit_every_step {T : List Tx} {fs : FS} {m : Mem} {cs : List CTx} {c : Nat}
    (h : InvOpen T fs m cs c) (ht : TailPre cfgOfSource fs m) (tx : Tx) (hf : FreshTx T tx) :
    let S := ioSteps (commitA cfgOfSource m fs.pv fs.wf tx)
    (∀ n mode, ∃ T' ∈ [T, T ++ [tx]], Rep T' ((fs.steps (S.take n)).crashP mode) ((fs.steps (S.take n)).crashW mode)) ∧
    (∀ n mode, (cutSteps cfgOfSource (m.ws fs.wf)).length + 3 * (txRecs m.nextTxid m.idLen tx).length < n →
      Rep (T ++ [tx]) ((fs.steps (S.take n)).crashP mode) ((fs.steps (S.take n)).crashW mode)) := by
  intro S
  obtain ⟨h1, h2⟩ := commit_safe (cfg := cfgOfSource) source_ok.1 h ht tx hf
  exact ⟨fun n mode => h1 n mode, fun n mode hn => rep_of_singleton (h2 n hn mode)⟩

/-- **C02 (recovery itself)**: on files that represent `T`, `open` succeeds, every crash image at
    every I/O step of the recovery still represents `T`, and the handle shows exactly `T`. -/
theorem open_every_step {T : List Tx} {fs : FS} (hc : Closed T fs) :
    (∀ n mode, Rep T ((fs.steps ((ioSteps (openA cfgOfSource fs.pv fs.wf)).take n)).crashP mode)
      ((fs.steps ((ioSteps (openA cfgOfSource fs.pv fs.wf)).take n)).crashW mode)) ∧
    ∃ m fs', recover cfgOfSource fs = .ok (m, fs') ∧ Spec.Content.same (content m fs'.pv) (Spec.run T) := by
  have hb := blk_open (cfg := cfgOfSource) source_ok.1 hc.flat.pj hc.flat.quiet hc.rep
  obtain ⟨m, fs', hrec, _, cs, c, hinv, _⟩ := hb.recover_ok
  exact ⟨fun n mode => rep_of_singleton (hb.safe n mode), m, fs', hrec, content_of_inv hinv⟩

/-- **C02 (every step, compaction)**: from any state in which files and handle agree on `T`,
    after EVERY prefix of the I/O steps of `compact` (segment persist, property sinking into the
    live or a new tree, statistics blob, manifest + checkpoint records, log sync), in EVERY crash
    mode that tears no leaf write of the live property tree, the files represent `T` — leaf splits
    in a NEW tree included; only the last leaf of the LIVE tree must have room, and under an
    internal root the keys must lie above its keys (`NoLiveSplit`: an in-place split of the live
    tree is finding C01-live-tree-in-place). -/
theorem compact_every_step {T : List Tx} {fs : FS} {m : Mem} {cs : List CTx} {c : Nat}
    (h : InvOpen T fs m cs c) (ht : TailPre cfgOfSource fs m) (hns : NoLiveSplit cfgOfSource m fs.pv) :
    let S := ioSteps (compactA cfgOfSource m fs.pv fs.wf)
    ∀ n mode, mode.tearsLive m.proot (fs.steps (S.take n)).pj = false →
      Rep T ((fs.steps (S.take n)).crashP mode) ((fs.steps (S.take n)).crashW mode) := by
  exact fun n mode hm => rep_of_singleton (compact_safe leafCap_pos h ht hns n mode hm)

/-- a completed compaction leaves handle and files in agreement on the same list `T` (so that
    every later operation starts from the invariant again) -/
theorem compact_keeps_invariant {T : List Tx} {fs : FS} {m : Mem} {cs : List CTx} {c : Nat}
    (h : InvOpen T fs m cs c) (ht : TailPre cfgOfSource fs m) (hns : NoLiveSplit cfgOfSource m fs.pv) :
    ∃ cs' c', InvOpen T (run (compactA cfgOfSource m fs.pv fs.wf) .none fs m).fs
      (run (compactA cfgOfSource m fs.pv fs.wf) .none fs m).mem cs' c' := by
  obtain ⟨cs', c', hinv, _⟩ := compact_post leafCap_pos h ht hns
  exact ⟨cs', c', hinv⟩

/-- **C02 (every step, checkpoint-on-close)**: after EVERY prefix of the I/O steps of
    `checkpoint_on_close` (page sync, then either a log sync or the rewrite of the log as a
    snapshot: temporary file, its sync, rename, sync of the renamed log, which is taken to make the
    rename durable), in EVERY crash mode — including a lost rename — the files represent `T`. -/
theorem close_every_step {T : List Tx} {fs : FS} {m : Mem} {cs : List CTx} {c : Nat} (h : InvOpen T fs m cs c) :
    let S := ioSteps (closeA cfgOfSource m fs.pv fs.wf)
    ∀ n mode, Rep T ((fs.steps (S.take n)).crashP mode) ((fs.steps (S.take n)).crashW mode) := by
  exact fun n mode => rep_of_singleton (close_safe (cfg := cfgOfSource) h n mode)

/-- **C02 (all histories: `crash_prefix`)**: starting from a freshly created database, for EVERY
    list of incarnations — open, any commits and compactions, death inside the open, a commit, a
    compaction or the close at ANY I/O step, or between operations, in ANY crash mode — iterated
    any number of times, with fresh non-zero external ids (what the API guarantees) and the two
    compaction conditions `CondHist` (no compaction splits a leaf of the LIVE property tree in
    place — leaf splits in a new tree are covered; a power loss inside a compaction tears no leaf
    write of the live tree: both are the known finding C01-live-tree-in-place), the next open
    succeeds and its content is that of an admissible transaction list: every acknowledged commit,
    and each commit in flight at a death entirely or not at all, in commit order. -/
theorem crash_prefix (rounds : List Round) (hok : FreshHist [] rounds)
    (hc : CondHist cfgOfSource (created cfgOfSource) rounds) :
    ∃ T m fs', Spec.Admissible [] (rounds.map Round.obs) T ∧
      recover cfgOfSource (afterRounds cfgOfSource (created cfgOfSource) rounds) = .ok (m, fs') ∧
      Spec.Content.same (content m fs'.pv) (Spec.run T) :=
  crash_recover (cfg := cfgOfSource) source_ok.1 source_ok.2.2.1 source_ok.2.1 leafCap_pos rounds [] (created cfgOfSource) []
    (Or.inl created_closed) (by simp [allNodes]) (histOK_of_fresh source_ok.2.2.2.1 rounds _ _ hok hc)

/-- **C02 (all histories, including the creation)**: the same starting from files that do not
    exist yet: the first `open` creates the database (page-file header and bitmap, catalog page,
    the two reserved index roots — 35 I/O steps) and may die at ANY of these steps in ANY crash
    mode, any number of times in a row: every crash image is a *nascent* database on which the
    next `open` completes the creation (`Proofs/CrashCreate`), and from then on everything is as
    in `crash_prefix`. -/
theorem crash_prefix_creation (rounds : List Round) (hok : FreshHist [] rounds)
    (hc : CondHist cfgOfSource ({} : FS) rounds) :
    ∃ T m fs', Spec.Admissible [] (rounds.map Round.obs) T ∧
      recover cfgOfSource (afterRounds cfgOfSource ({} : FS) rounds) = .ok (m, fs') ∧
      Spec.Content.same (content m fs'.pv) (Spec.run T) :=
  crash_recover (cfg := cfgOfSource) source_ok.1 source_ok.2.2.1 source_ok.2.1 leafCap_pos rounds [] ({} : FS) []
    (Or.inr ⟨rfl, nascent_empty⟩) (by simp [allNodes]) (histOK_of_fresh source_ok.2.2.2.1 rounds _ _ hok hc)

/-- **C02 for every configuration that meets `CfgOK`** — in particular for EVERY leaf capacity
    ≥ 1 — from files that do not exist yet.  With a small capacity the compactions of a history
    split leaves of a new tree many times (`ex_split` below); the hypothesis `CondHist` only asks
    that no compaction sinks into a LIVE tree that would have to be split in place (`NoLiveSplit`). -/
theorem crash_prefix_cfg (cfg : Cfg) (hcfg : CfgOK cfg) (rounds : List Round) (hok : FreshHist [] rounds)
    (hc : CondHist cfg ({} : FS) rounds) :
    ∃ T m fs', Spec.Admissible [] (rounds.map Round.obs) T ∧
      recover cfg (afterRounds cfg ({} : FS) rounds) = .ok (m, fs') ∧
      Spec.Content.same (content m fs'.pv) (Spec.run T) :=
  crash_recover (cfg := cfg) hcfg.1 hcfg.2.2.1 hcfg.2.1 hcfg.2.2.2.2 rounds [] ({} : FS) []
    (Or.inr ⟨rfl, nascent_empty⟩) (by simp [allNodes]) (histOK_of_fresh hcfg.2.2.2.1 rounds _ _ hok hc)

/-- **C02 (commits that set indexed properties; everything except lookups through the index)**:
    `WriteTxn::commit` writes the index leaf and the index catalog page in place BEFORE CommitTx
    (`Model/IndexSteps`: `commitIxSteps`).  A history that ends with a death at ANY step `n` of
    such a commit, in any crash mode and with any selection `c.keepIx` of the unsynced index
    entries, leaves files (without the index) that are those of the same history with a plain
    commit: the next open succeeds and nodes, edges and properties are those of an admissible
    list.  What `lookup_index` returns is NOT covered — see `counterexample_index_before_commit`. -/
theorem crash_prefix_indexed (rounds : List Round) (ops : List HOp) (tx : Tx) (ixs ixd : List (Nat × Nat)) (n : Nat) (c : ICrash)
    (hok : ∀ n', FreshHist [] (rounds ++ [⟨ops, .inCommit tx n', c.mode⟩]))
    (hc : ∀ n', CondHist cfgOfSource (created cfgOfSource) (rounds ++ [⟨ops, .inCommit tx n', c.mode⟩])) :
    ∃ T m fs', Spec.Admissible [] (rounds.map Round.obs ++ [⟨commitsOf ops, some tx⟩]) T ∧
      recover cfgOfSource
        (indexedDeath cfgOfSource (afterRounds cfgOfSource (created cfgOfSource) rounds) ixd ops tx ixs n c).fs = .ok (m, fs') ∧
      Spec.Content.same (content m fs'.pv) (Spec.run T) := by
  obtain ⟨n', hn'⟩ := indexedDeath_fs cfgOfSource (afterRounds cfgOfSource (created cfgOfSource) rounds) ixd ops tx ixs n c
  obtain ⟨T, m, fs', hadm, hrec, hsame⟩ := crash_prefix _ (hok n') (hc n')
  rw [afterRounds_snoc, ← hn'] at hrec
  rw [List.map_append] at hadm
  exact ⟨T, m, fs', hadm, hrec, hsame⟩

/-- **C02 (creation, every step)**: `open` on a nascent database — never created, or cut short at
    any step of an earlier creation — succeeds; after EVERY prefix of its I/O steps, in EVERY crash
    mode, the page file is nascent again and the log is empty; the handle it returns satisfies the
    invariant for the empty transaction list. -/
theorem create_every_step {fs : FS} (hn : Nascent fs) :
    (∀ n mode, Nascent ((fs.steps ((ioSteps (openA cfgOfSource fs.pv fs.wf)).take n)).crash mode)) ∧
    ∃ m fs', recover cfgOfSource fs = .ok (m, fs') ∧ Spec.Content.same (content m fs'.pv) (Spec.run []) := by
  have hb := create_safe (cfg := cfgOfSource) source_ok.2.2.1 source_ok.2.1 hn
  obtain ⟨m, fs', hrec, _, cs, c, hinv, _⟩ := hb.recover_ok
  exact ⟨hb.safe, m, fs', hrec, content_of_inv hinv⟩

/-! non-vacuity: a concrete four-incarnation history that meets the hypotheses: a power loss in
    the middle of the node-table phase of a two-node commit (unsynced meta write persisted); a
    completed compaction followed by a power loss inside a second compaction that sinks into the
    live tree (blob write persisted, leaf write lost); a third compaction and a power loss with a
    lost rename inside the close that rewrites the log; a last clean incarnation -/
def ex_tx1 : Tx := ⟨[1001], [1000], [10000]⟩
def ex_tx2 : Tx := ⟨[2001, 2002], [2000], [20000]⟩
def ex_tx3 : Tx := ⟨[3001], [], [30000]⟩
def ex_tx4 : Tx := ⟨[4001], [4000], [40000]⟩
def ex_rounds : List Round :=
  [⟨[.commit ex_tx1], .inCommit ex_tx2 29, .power [.keep, .drop] 0 false⟩,
   ⟨[.commit ex_tx3, .compact, .commit ex_tx4], .inCompact 32, .power [.keep, .drop] 0 false⟩,
   ⟨[.compact], .inClose 8, .power [] 0 true⟩,
   ⟨[], .idle, .proc⟩]

example : FreshHist [] ex_rounds := by decide
example : CondHist cfgOfSource (created cfgOfSource) ex_rounds := by decide +kernel
example : (match recover cfgOfSource (afterRounds cfgOfSource (created cfgOfSource) ex_rounds) with
    | .ok (m, fs) => some (content m fs.pv)
    | .error _ => none) =
    some ⟨[1001, 2001, 2002, 3001, 4001], [4000, 1000, 2000], [10000, 20000, 30000, 40000]⟩ := by decide +kernel

/-! non-vacuity for a re-sunk key: the second compaction dies (process death, step 20) after its
    first in-place leaf write — key 20000 is in the live leaf, the manifest is not written, the
    transaction is still replayed from the log; the next incarnation compacts again:
    `replace_property_entry` deletes the entry and inserts it again (two leaf writes), then loses
    power inside the close -/
def ex_resink : List Round :=
  [⟨[.commit ⟨[1001], [1000], [10000]⟩, .compact, .commit ⟨[2001], [], [20000, 20001]⟩], .inCompact 20, .proc⟩,
   ⟨[.compact], .inClose 1, .power [.keep] 0 false⟩, ⟨[], .idle, .proc⟩]

example : FreshHist [] ex_resink := by decide
example : CondHist cfgOfSource (created cfgOfSource) ex_resink := by decide +kernel
example : (match recover cfgOfSource (afterRounds cfgOfSource (created cfgOfSource) (ex_resink.take 1)) with
    | .ok (m, fs) => some (fs.pv.trees.map (fun t => t.leaves.map (·.entries)), m.runs.length)
    | .error _ => none) = some ([[[some 10000, some 20000]]], 1) := by decide +kernel
example : (match recover cfgOfSource (afterRounds cfgOfSource (created cfgOfSource) ex_resink) with
    | .ok (m, fs) => some (content m fs.pv)
    | .error _ => none) = some ⟨[1001, 2001], [1000], [10000, 20000, 20001]⟩ := by decide +kernel

/-! non-vacuity of the creation theorem: the process dies three times inside the creation of the
    database (power loss at steps 10, 25 and 3 of the respective `open`, some unsynced writes kept),
    the fourth incarnation completes it and commits -/
def ex_creation : List Round :=
  [⟨[], .inOpen 10, .power [.keep, .drop] 0 false⟩, ⟨[], .inOpen 25, .power [.drop, .keep, .keep] 0 false⟩,
   ⟨[], .inOpen 3, .power [.drop, .keep, .keep] 0 false⟩, ⟨[.commit ex_tx1], .idle, .proc⟩]

example : FreshHist [] ex_creation := by decide
example : CondHist cfgOfSource ({} : FS) ex_creation := by decide
example : (match recover cfgOfSource (afterRounds cfgOfSource ({} : FS) ex_creation) with
    | .ok (m, fs) => some (content m fs.pv)
    | .error _ => none) = some ⟨[1001], [1000], [10000]⟩ := by decide +kernel
example : (afterRounds cfgOfSource ({} : FS) (ex_creation.take 2)).pd.hdr.catRoot = 3 ∧
    (afterRounds cfgOfSource ({} : FS) (ex_creation.take 2)).pd.cat = some [4] := by decide +kernel

/-- the configuration of the pinned tree (before the `fix:` commits of this property) -/
def cfgPinned : Cfg :=
  { cfgOfSource with syncSlot := false, syncCreate := false, freshZero := false, walRollback := false, tailTolerant := false }

/-- pinned tree (fixed by bab8655): power loss while the second node of a commit is applied — the
    meta page with `i2e_len` persisted, the slot it counts did not — and the database can never be
    opened again (`non-dense internal id`). -/
theorem counterexample_pinned_slot_after_len :
    (match recover cfgPinned (afterRounds cfgPinned (created cfgPinned)
        [⟨[.commit ex_tx1], .inCommit ex_tx2 24, .power [.drop, .keep] 0 false⟩]) with
      | .ok _ => none
      | .error e => some e) = some Err.nonDense := by decide +kernel

/-- pinned tree (fixed by a848cdb): process death between `set_len` and the first meta page write
    of database creation leaves a file that `open` rejects forever. -/
theorem counterexample_pinned_creation :
    (match recover cfgPinned ((run (openA cfgPinned ({} : FS).pv []) (.crashAt 1) {} {}).fs.crash .proc) with
      | .ok _ => none
      | .error e => some e) = some Err.io := by decide

/-- current tree, known finding C01-live-tree-in-place: compaction sinks properties into the live
    property tree in place; power loss with a torn write of the leaf page during the second
    compaction makes a property of an acknowledged, already compacted transaction unreadable.
    The history has fresh ids and splits no leaf; the condition of `crash_prefix` it violates is
    exactly the torn live leaf (`CondHist`). -/
def live_tree_rounds : List Round :=
  [⟨[.commit ⟨[1001], [1000], [10000]⟩, .compact, .commit ⟨[2001], [2000], [20000]⟩], .inCompact 32,
    .power [.drop, .torn] 0 false⟩]

theorem counterexample_live_tree :
    FreshHist [] live_tree_rounds ∧ ¬ CondHist cfgOfSource (created cfgOfSource) live_tree_rounds ∧
    CondHist cfgOfSource (created cfgOfSource)
      (live_tree_rounds.map (fun r => { r with mode := .power [.drop, .keep] 0 false })) ∧
    (match recover cfgOfSource (afterRounds cfgOfSource (created cfgOfSource) live_tree_rounds) with
      | .ok (m, fs) => some ((content m fs.pv).props.contains 10000)
      | .error _ => none) = some false := by decide +kernel

/-- current tree, known finding C02-index-before-commit (`Model/IndexSteps`: node 1 {k:1} is
    committed and indexed; the commit of node 2 {k:2} dies at I/O step n; its steps are 9 log
    fragments, the index leaf, the index catalog page, 3 fragments of CommitTx, the log sync, the
    node table).  Process death before the leaf write (n = 9): the index has nothing for key 2.
    Process death right after it (n = 10), or power loss before the log sync (n = 14) with the
    leaf page persisted: the next open shows only node 1001 (internal id 0), but
    `lookup_index(L,k,2)` returns internal id 1 — a node that does not exist (the real engine
    returns `[1]`, `idx 10` line of the stream).  With the leaf page lost the index is clean; after
    the log sync (n = 15) the node exists. -/
theorem counterexample_index_before_commit :
    ixProbe cfgOfSource 9 ⟨.proc, []⟩ = some ([1001], []) ∧
    ixProbe cfgOfSource 10 ⟨.proc, []⟩ = some ([1001], [1]) ∧
    ixProbe cfgOfSource 14 ⟨.power [] 0 false, [true]⟩ = some ([1001], [1]) ∧
    ixProbe cfgOfSource 14 ⟨.power [] 0 false, [false]⟩ = some ([1001], []) ∧
    ixProbe cfgOfSource 15 ⟨.proc, []⟩ = some ([1001, 2001], [1]) := by decide +kernel

/-! ### leaf splits during property sinking

Proved (`Proofs/CrashSplit`, `Proofs/CrashTreeM`): sinking into a NEW tree is safe at every step
with any number of leaf splits (the chain of leaves, the sibling flags and the internal root stay in
the shape `TreeShape`, on which `route` + `leafFind` find exactly the keys), and the state after a
completed split compaction (multi-leaf tree, `ptop = true`) satisfies the invariant, so commits,
crashes, recoveries, closes and compactions that APPEND to the last leaf of the live tree without
splitting it (`Proofs/CrashSink.pblk_sinkLive`) are covered by `crash_prefix`.
`ex_split` is such a history (leaf capacity 4, so that `decide` can run it; the real capacity is
281 and the thorough tier of the stream runs the same scenarios on the real engine with 150–350
properties).

Not covered (`NoLiveSplit`): sinking into the LIVE tree when its last leaf has no room, or — under
an internal root — with keys that are not above all keys of the tree:
* a split of the LIVE leaf rewrites its left half IN PLACE and syncs it (with the next page
  allocation) long before the manifest: from that write on, until the system transaction is
  complete in the log, EVERY crash image — plain process death included — has lost the entries of
  the right half except its first (the old manifest enters at the old root leaf, the cursor only
  looks at slot 0 of the right sibling).  This is the known finding C01-live-tree-in-place; no
  selection of unsynced writes avoids it once the sync has happened (`counterexample_live_split`);
* with an internal root the split also rewrites the ROOT in place: a torn write of it makes the
  whole tree unreadable (`tornEff`; stream witness `corpus/crash/live-root-in-place.ops`, found by
  the thorough tier);
* the model always inserts into the last leaf (keys ascend with time); under an internal root the
  proofs therefore ask for keys above all keys of the tree (`LiveAscends`).  A live tree that is
  one leaf takes keys in any order, re-sunk keys included (`ex_resink`). -/

def cfgSplit : Cfg := { cfgOfSource with leafCap := 4 }
def split_tx0 : Tx := ⟨[1001], [], [10000, 10001, 10002, 10003, 10004, 10005]⟩
def split_tx1 : Tx := ⟨[1001], [], [10000, 10001, 10002, 10003]⟩
def split_tx2 : Tx := ⟨[2001], [], [20000]⟩

def split_tx5 : Tx := ⟨[1001], [], [10000, 10001, 10002, 10003, 10004]⟩
/-- non-vacuity of `crash_prefix_cfg` with leaf splits: power loss inside a compaction that has just
    split the leaf of a new tree (5 properties, capacity 4; step 58, before the manifest); the next
    incarnation repeats the compaction to the end, commits one more property and dies in the
    close; the third one works on the multi-leaf tree (`ptop = true`): its compaction APPENDS the
    property to the last leaf of the live tree (no split), then power is lost inside a commit;
    the fourth is clean -/
def ex_split : List Round :=
  [⟨[.commit split_tx5], .inCompact 58, .power [.keep, .drop, .keep] 0 false⟩,
   ⟨[.compact, .commit split_tx2], .inClose 3, .proc⟩,
   ⟨[.commit ⟨[3001], [3000], []⟩, .compact], .inCommit ⟨[4001], [], [40000]⟩ 5, .power [.keep] 1 false⟩,
   ⟨[], .idle, .proc⟩]

example : CfgOK cfgSplit := by decide
example : FreshHist [] ex_split := by decide
example : CondHist cfgSplit ({} : FS) ex_split := by decide +kernel
set_option maxRecDepth 8000 in
example : (match recover cfgSplit (afterRounds cfgSplit ({} : FS) ex_split) with
    | .ok (m, fs) => some (content m fs.pv, m.ptop)
    | .error _ => none) =
    some (⟨[1001, 2001, 3001], [3000], [10000, 10001, 10002, 10003, 10004, 20000]⟩, true) := by decide +kernel
set_option maxRecDepth 8000 in
example : (match recover cfgSplit (afterRounds cfgSplit ({} : FS) ex_split) with
    | .ok (m, fs) => (fs.pv.trees.find? (fun t => t.key == m.proot)).map (fun t => t.leaves.map (·.entries))
    | .error _ => none) =
    some [[some 10000, some 10001], [some 10002, some 10003, some 10004, some 20000]] := by decide +kernel

def splitProps (rounds : List Round) : Option (List Nat) :=
  match recover cfgSplit (afterRounds cfgSplit (created cfgSplit) rounds) with
  | .ok (m, fs) => some (content m fs.pv).props
  | .error _ => none

def sixOn (mode : CrashMode) (fs : FS) : Bool :=
  (match recover cfgSplit (fs.crash mode) with
    | .ok (m, fs) => some (content m fs.pv).props
    | .error _ => none).map List.length == some 6

/-- one walk along the I/O steps of the compaction (`alongB`) tests the crash images of every
    prefix, so the step number is arbitrary -/
theorem split_new_tree_all_steps (k : Nat) :
    ((splitProps [⟨[.commit split_tx0], .inCompact k, .proc⟩]).map List.length == some 6 &&
      (splitProps [⟨[.commit split_tx0], .inCompact k, .power [.keep, .drop, .keep] 0 false⟩]).map List.length == some 6 &&
      (splitProps [⟨[.commit split_tx0], .inCompact k, .power [.drop, .keep] 0 false⟩]).map List.length == some 6) = true := by
  have h : alongB (fun fs => sixOn .proc fs && sixOn (.power [.keep, .drop, .keep] 0 false) fs &&
        sixOn (.power [.drop, .keep] 0 false) fs)
      (Round.start cfgSplit (created cfgSplit) [.commit split_tx0]).1
      (ioSteps (compactA cfgSplit (Round.start cfgSplit (created cfgSplit) [.commit split_tx0]).2
        (Round.start cfgSplit (created cfgSplit) [.commit split_tx0]).1.pv
        (Round.start cfgSplit (created cfgSplit) [.commit split_tx0]).1.wf)) = true := by decide +kernel
  simp only [splitProps, afterRounds, Round.after_inCompact]
  exact safeAlong_of_alongB h k

/-- new tree, 6 properties, capacity 4 (one split, 80 I/O steps): all six are readable after a
    death at ANY step, by process death and by the power-loss selections tried here -/
theorem split_new_tree_every_step :
    (List.range 81).all (fun k =>
      (splitProps [⟨[.commit split_tx0], .inCompact k, .proc⟩]).map List.length == some 6 &&
      (splitProps [⟨[.commit split_tx0], .inCompact k, .power [.keep, .drop, .keep] 0 false⟩]).map List.length == some 6 &&
      (splitProps [⟨[.commit split_tx0], .inCompact k, .power [.drop, .keep] 0 false⟩]).map List.length == some 6) = true :=
  List.all_eq_true.mpr fun k _ => split_new_tree_all_steps k

/-- live leaf with 4 entries, one more property sunk by the second compaction (split at step 21):
    process death at step 20 loses nothing; process death at step 30 (after the in-place left half
    was synced, before the manifest) has lost the acknowledged, already compacted 10003; once the
    system transaction is in the log (step 44) everything is there again. -/
theorem counterexample_live_split :
    FreshHist [] [⟨[.commit split_tx1, .compact, .commit split_tx2], .inCompact 30, .proc⟩] ∧
    splitProps [⟨[.commit split_tx1, .compact, .commit split_tx2], .inCompact 20, .proc⟩] = some [20000, 10000, 10001, 10002, 10003] ∧
    splitProps [⟨[.commit split_tx1, .compact, .commit split_tx2], .inCompact 30, .proc⟩] = some [20000, 10000, 10001, 10002] ∧
    splitProps [⟨[.commit split_tx1, .compact, .commit split_tx2], .inCompact 44, .proc⟩] = some [10000, 10001, 10002, 10003, 20000] := by
  decide +kernel

end Nervus.Props.C02
