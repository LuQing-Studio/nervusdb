/-
  C29 — Backups restore a consistent committed state.
  Statements only (helper lemmas: Nervus.Proofs.BackupLTS).
  Model: Nervus.Model.BackupLTS (file-level writer steps against `copy page file; copy WAL`, recovery of
  the restored pair).  The copy order is pinned to the regenerated `Generated.BackupOrder`.
-/
import Nervus.Proofs.BackupLTS
import Nervus.Model.Generated.BackupOrder
namespace Nervus.Props.C29
open Nervus Nervus.BackupLTS

/-- **C29 at full strength**: every completed backup, whatever the writer did meanwhile, restores to
    a database that opens and shows the source's content at one instant of the backup window.
    FALSE (`C29_counterexample_compaction`, `C29_counterexample_index`). -/
def C29_full : Prop :=
  ∀ (h0 : Bool) (s : State), Reach (init h0) s → ∀ c0 c1 pf0 w1, s.bk = .done c0 c1 pf0 w1 →
    ∃ v c, recover pf0 w1 = some v ∧ c0 ≤ c ∧ c ≤ c1 ∧ Shows s.hasIndex v c

/-- the model's copy order is the order of the source; files are copied whole; the index is not logged -/
theorem backup_order_in_source :
    Generated.backupCopyOrder = ["copyNdb", "copyWal"] ∧ Generated.backupWholeFileCopies = true ∧
    Generated.indexLogged = false := by decide

/-- "no known finding is triggered" for the completed backup of state `s` (decidable) -/
def noTrigger (s : State) : Bool := !s.sawCompact && !(s.hasIndex && s.sawCommit)

/-- **Idempotent replay**: a page file that already holds the node records (and sunk properties) of
    some replayed transactions recovers to the same content as an older one that does not — replaying
    `CreateNode` on an idmap that has the node is a no-op.  (Same WAL, same segments, same index.) -/
theorem idempotent_replay (pf pf' : PF) (w : Wal)
    (hn : pf.nodes ≤ pf'.nodes) (hn' : pf'.nodes ≤ w.txs) (hs : pf'.segs = pf.segs) (hst : pf'.store = pf.store)
    (hi : pf'.index = pf.index) (hc : w.ckpt ≤ pf.nodes) : recover pf w = recover pf' w := by
  simp only [recover, hs, hst, hi, Nat.max_eq_right hn', Nat.max_eq_right (Nat.le_trans hn hn'), if_neg (Nat.not_lt.2 hc), if_neg (Nat.not_lt.2 (Nat.le_trans hc hn))]

/-- **C29 (partial)**: for all interleavings of commits, compactions and backups — if no compaction
    step ran between the two file copies and (when an index exists) no commit step did, the restored
    pair opens and shows exactly the transactions committed when the WAL was copied: an instant inside
    the backup window that includes everything committed before the backup began. -/
theorem C29_partial (h0 : Bool) (s : State) (hr : Reach (init h0) s) (c0 c1 : Nat) (pf0 : PF) (w1 : Wal)
    (hb : s.bk = .done c0 c1 pf0 w1) (hnt : noTrigger s = true) :
    ∃ v, recover pf0 w1 = some v ∧ Shows s.hasIndex v c1 ∧ c0 ≤ c1 := by
  have hi := (reach_inv hr).bk
  rw [BkInv, hb] at hi
  simp only [noTrigger, Bool.and_eq_true, Bool.not_eq_true', Bool.and_eq_false_iff] at hnt
  obtain ⟨v, hv, hs⟩ := hi.2.2 hnt.1 (fun hx => hnt.2.resolve_left (by rw [hx]; nofun))
  exact ⟨v, hv, hs, hi.1⟩

/-- **Quiescent backup**: with no writer step at all during the backup, the restored database shows
    the source's content (`c0` = the transactions committed when the backup began = when it ended). -/
theorem C29_quiescent (h0 : Bool) (s : State) (hr : Reach (init h0) s) (c0 c1 : Nat) (pf0 : PF) (w1 : Wal)
    (hb : s.bk = .done c0 c1 pf0 w1) (hq : s.sawAny = false) (hnt : noTrigger s = true) :
    ∃ v, recover pf0 w1 = some v ∧ Shows s.hasIndex v c0 ∧ c1 = c0 := by
  have hi := (reach_inv hr).bk
  rw [BkInv, hb] at hi
  obtain ⟨v, hv, hs, _⟩ := C29_partial h0 s hr c0 c1 pf0 w1 hb hnt
  have := hi.2.1 hq
  exact ⟨v, hv, this ▸ hs, this.symm⟩

/-- reopening the source itself (both files as they are) at rest shows every committed transaction -/
theorem source_recovers (h0 : Bool) (s : State) (hr : Reach (init h0) s) (hm : s.mode = .idle) :
    ∃ v, recover s.pf s.wal = some v ∧ Shows s.hasIndex v s.wal.txs :=
  (reach_inv hr).src.good

private theorem okR : (runTrace (init false)
    ([.cW, .cI, .kP, .kS, .kM, .bStart, .bPf, .close, .reopen, .cW, .cI, .bWal])).isSome = true := by decide
def stR : State := (runTrace (init false)
    ([.cW, .cI, .kP, .kS, .kM, .bStart, .bPf, .close, .reopen, .cW, .cI, .bWal])).get okR

/-- **Close-time WAL rewrite during a backup is harmless** (it is not a trigger): `Db::close` between —
    or around — the two copies replaces the log by a snapshot transaction only when every run is merged,
    and then the manifest, the checkpoint and the page file are what they were; `C29_partial` holds with
    any number of `close`/`reopen` steps inside the backup window.  This instance: page file copied,
    handle closed (log rewritten), handle reopened, one more commit, log copied. -/
theorem close_rewrite_between_copies_is_consistent :
    ∃ s, Reach (init false) s ∧ noTrigger s = true ∧
      s.bk = .done 1 2 ⟨1, 1, 1, 0⟩ ⟨2, 1, 1, 1⟩ ∧
      recover ⟨1, 1, 1, 0⟩ ⟨2, 1, 1, 1⟩ = some ⟨2, 2, 1, 1, 2, 0⟩ :=
  ⟨stR, reach_of_runTrace _ .refl (Option.some_get okR).symm, by decide, by decide, by decide⟩

/-- restore opens every destination so that its contents are REPLACED (regenerated table entry) -/
theorem restore_dest_in_source :
    Generated.restoreReplacesContents = true ∧ Generated.backupReplacesContents = true := by decide

/-- **restore replaces**: with a replacing open the restored file equals the backup file byte for
    byte, whatever the target held (longer, shorter, a different database). -/
theorem restore_replaces {α : Type} (old new : List α) : overwrite true old new = new := rfl

/-- … and so does the restored pair, whatever database was at the target path -/
theorem restore_replaces_pair (target : Option (PF × Wal)) (b : PF × Wal) : restoreOver true target b = b := rfl

/-- an in-place overwrite WITHOUT truncation is exact only when the old file is not longer -/
theorem overwrite_in_place_exact_iff {α : Type} (old new : List α) :
    overwrite false old new = new ↔ old.length ≤ new.length := by
  simp only [overwrite, Bool.false_eq_true, if_false]
  constructor
  · intro h
    have := congrArg List.length h
    simp at this; omega
  · intro h; simp [List.drop_eq_nil_of_le h]

/-- **Counterexample (in-place restore)**: when the target holds the backup's own log continued
    (`old = new ++ tail`), the tail survives: the "restored" file is the OLD file. -/
theorem C29_counterexample_restore_in_place {α : Type} (new tail : List α) (h : tail ≠ []) :
    overwrite false (new ++ tail) new = new ++ tail ∧ overwrite false (new ++ tail) new ≠ new := by
  have e : overwrite false (new ++ tail) new = new ++ tail := by simp [overwrite]
  refine ⟨e, ?_⟩
  rw [e]; intro h'
  have := congrArg List.length h'
  simp at this; exact h this

/-- at the level of the database: one transaction, backup, a second transaction, restore over the
    SAME path in place — the log's tail survives and recovery shows BOTH transactions instead of the
    state at backup time; with a compaction after the backup the surviving manifest makes open fail. -/
theorem C29_counterexample_restore_over_live :
    let b : PF × Wal := (⟨1, 0, 0, 0⟩, ⟨1, 0, 0, 0⟩)          -- backup after transaction 0
    let live : PF × Wal := (⟨2, 0, 0, 0⟩, ⟨2, 0, 0, 0⟩)       -- the source after one more commit
    let live2 : PF × Wal := (⟨2, 1, 2, 0⟩, ⟨2, 2, 1, 0⟩)      -- … and a compaction
    recover (restoreOver true (some live) b).1 (restoreOver true (some live) b).2 = some ⟨1, 1, 0, 0, 1, 0⟩ ∧
    recover (restoreOver false (some live) b).1 (restoreOver false (some live) b).2 = some ⟨2, 2, 0, 0, 2, 0⟩ ∧
    recover (restoreOver false (some live2) b).1 (restoreOver false (some live2) b).2 = none := by decide

def tx : List Label := [.cW, .cI]
def compaction : List Label := [.kP, .kS, .kM]

private theorem okK : (runTrace (init false) (tx ++ tx ++ [.bStart, .bPf] ++ compaction ++ [.bWal])).isSome = true := by decide
private theorem okI : (runTrace (init true) (tx ++ [.bStart, .bPf] ++ tx ++ [.bWal])).isSome = true := by decide
private theorem okC : (runTrace (init false) (tx ++ compaction ++ [.bStart, .bPf] ++ tx ++ tx ++ [.bWal])).isSome = true := by decide

def stK : State := (runTrace (init false) (tx ++ tx ++ [Label.bStart, Label.bPf] ++ compaction ++ [Label.bWal])).get okK
def stI : State := (runTrace (init true) (tx ++ [.bStart, .bPf] ++ tx ++ [.bWal])).get okI
def stC : State := (runTrace (init false) (tx ++ compaction ++ [.bStart, .bPf] ++ tx ++ tx ++ [.bWal])).get okC

/-- **Counterexample (compaction between the copies)**: the copied WAL's manifest lists a segment
    whose pages are not in the copied page file — the restored database does not open. -/
theorem C29_counterexample_compaction :
    Reach (init false) stK ∧ stK.bk = .done 2 2 ⟨2, 0, 0, 0⟩ ⟨2, 2, 1, 0⟩ ∧ recover ⟨2, 0, 0, 0⟩ ⟨2, 2, 1, 0⟩ = none :=
  ⟨reach_of_runTrace _ .refl (Option.some_get okK).symm, by decide, by decide⟩

/-- **Counterexample (index not in the log)**: a commit between the copies is replayed from the copied
    WAL, but its index entry exists only in the newer page file — the restored index misses the node. -/
theorem C29_counterexample_index :
    Reach (init true) stI ∧ stI.bk = .done 1 2 ⟨1, 0, 0, 1⟩ ⟨2, 0, 0, 0⟩ ∧
    recover ⟨1, 0, 0, 1⟩ ⟨2, 0, 0, 0⟩ = some ⟨2, 2, 0, 0, 2, 1⟩ ∧
    ¬ ∃ c, Shows true ⟨2, 2, 0, 0, 2, 1⟩ c := by
  refine ⟨reach_of_runTrace _ .refl (Option.some_get okI).symm, by decide, by decide, ?_⟩
  rintro ⟨c, h1, _, _, h4⟩
  simp at h1 h4; omega

theorem C29_full_is_false : ¬ C29_full := by
  intro h
  obtain ⟨hr, hb, hn⟩ := C29_counterexample_compaction
  obtain ⟨v, c, hv, _⟩ := h false stK hr _ _ _ _ hb
  rw [hn] at hv; cases hv

/-! non-vacuity: two commits between the copies, after an earlier compaction, no index: `C29_partial`
    applies and the restored pair shows all three transactions (later log replayed on earlier page file) -/
example : Reach (init false) stC ∧ noTrigger stC = true ∧ stC.bk = .done 1 3 ⟨1, 1, 1, 0⟩ ⟨3, 1, 1, 0⟩ ∧
    recover ⟨1, 1, 1, 0⟩ ⟨3, 1, 1, 0⟩ = some ⟨3, 3, 1, 1, 3, 0⟩ ∧
    recover ⟨1, 1, 1, 0⟩ ⟨3, 1, 1, 0⟩ = recover ⟨3, 1, 1, 0⟩ ⟨3, 1, 1, 0⟩ :=
  ⟨reach_of_runTrace _ .refl (Option.some_get okC).symm, by decide, by decide, by decide, by decide⟩

end Nervus.Props.C29
