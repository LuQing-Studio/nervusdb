/-
  C05 — Compaction and checkpoint are invisible.
  Statements only (helper lemmas: Nervus.Proofs.{CsrForward,CsrReverse,CsrIncoming,EngineCompact,StoreRoot,
  PropKind,EngineCompactProps,WholeMapReads,PublishRun,EngineCompactE,CompactHist}).
  Model: Nervus.Model.{Csr,Engine} (`compact` = Db::compact = Db::checkpoint:
  build_segment_from_runs, CsrSegment::persist, property sinking, manifest + checkpoint, runs cleared).
-/
import Nervus.Proofs.CompactHist
namespace Nervus.Props.C05
open Nervus Nervus.Storage
open Nervus.GraphSpec (TxOp Op)

/-- the two C05 fixes are present in the source (regenerated table entries) -/
theorem csr_guard_present : Cfg.current.csrGuard = true := by decide
theorem compact_own_tombstones_last : Cfg.current.compactOwnLast = true := by decide
/-- the whole-map fix is present: `extend_*_properties_from_store` keep the newest store entry of a key -/
theorem whole_map_keeps_newest : Generated.extendKeepsNewest = true := by decide
/-- the property sinking of `GraphEngine::compact` (in `compact` or in the helper it calls) reads
    `tree.root()` only AFTER the insert loops (regenerated table entry; seed C05-seed1 makes it false) -/
theorem compact_reads_root_after_inserts : Cfg.current.rootAfterInserts = true := by decide
/-- the sinking loops replace the store entry of a key (one entry per key: `replace_property_entry`) -/
theorem compact_sink_replaces : Cfg.current.sinkReplaces = true := by decide

/-- the current source with ANY behaviour of the property B-tree's root: `mv n k` says whether the root
    page changes (root split) while a compaction inserts `k` entries into a tree of `n` entries -/
def cfgWithRootSplits (mv : Nat → Nat → Bool) : Cfg := { Cfg.current with rootMoves := mv }

/-- **C05 at full strength**: inserting a compaction anywhere in a history changes no later read.
    NOT provable on this tree: compaction clears the runs and with them every tombstone and every
    property removal (see the counterexamples; the fourth mechanism, whole-map reads returning the oldest
    sunk value, is fixed). -/
def C05_full : Prop :=
  ∀ (h₁ h₂ : List Op) (s s' : Engine),
    Storage.run Cfg.current (h₁ ++ [.compact] ++ h₂) = .ok s → Storage.run Cfg.current (h₁ ++ h₂) = .ok s' →
    s.nodes = s'.nodes ∧ (∀ n rel, PermOpt (s.neighbors n rel) (s'.neighbors n rel)) ∧
    (∀ n rel, PermOpt (s.incoming Cfg.current n rel) (s'.incoming Cfg.current n rel)) ∧
    (∀ n k, s.nodeProp n k = s'.nodeProp n k) ∧ (∀ n k, (s.nodeProps n).lookup k = (s'.nodeProps n).lookup k) ∧
    (∀ e k, s.edgeProp e k = s'.edgeProp e k)

/-! `compactSafe c s` (Proofs/EngineCompactE, decidable): the runs of `s` hold no node tombstone and no
    property removal; no relationship tombstoned by a run is held by an older segment (`segsClear`: the
    tombstones of relationships that live in the runs themselves are fine — build_segment_from_runs
    applies them exactly like the read path, fix ed68347).
    `RootOK s` / `rootOK s` (Proofs/StoreRoot): the page the engine takes for the root of the property tree
    (`propsRoot`: reads, manifest, checkpoint) IS the root of the tree (`storeRoot`), and there is no entry
    without a root.  Reads enter the tree at `propsRoot` (`Engine.visibleStore`). -/

/-- **the root of the property store** (class of seed C05-seed1).  For EVERY root-split behaviour of the
    B-tree (`mv` arbitrary: the root page may change on any insert) and every engine state whose root is
    right: after `compact` the root the engine keeps in memory, writes into the ManifestSwitch and
    Checkpoint records and reads through is the root of the tree that holds every old and every sunk
    entry; every later read sees that whole tree. -/
theorem compact_root_is_store_root (mv : Nat → Nat → Bool) (s : Engine) (hroot : RootOK s) :
    let s' := s.compact (cfgWithRootSplits mv)
    RootOK s' ∧ s'.visibleStore = s'.store ∧
    (s.runs.isEmpty = false → (∀ key, s'.store.lookup key = (sunkOf s ++ s.store).lookup key) ∧
      ∃ epoch segs upTo, s'.wal = s.wal ++ [.beginTx s.nextTxid, .manifestSwitch epoch segs s'.storeRoot,
        .checkpoint upTo epoch s'.storeRoot, .commitTx s.nextTxid]) := by
  have h' := hroot.compact (cfgWithRootSplits mv) compact_reads_root_after_inserts
  refine ⟨h', visibleStore_ok h', fun he => ⟨compact_store_lookup _ s he, ?_⟩⟩
  have hr := h'.eq
  rw [compact_eq _ s he] at hr ⊢
  exact ⟨_, _, _, by rw [← hr]; rfl⟩

/-- the root stays right along every history of transactions and compactions, whatever the root splits -/
theorem root_ok_along_history (mv : Nat → Nat → Bool) : ∀ (h : List Op) (s : Engine), RootOK s →
    compactHistSafe (cfgWithRootSplits mv) s h = true →
    ∃ s', h.foldlM (runOp (cfgWithRootSplits mv)) s = .ok s' ∧ RootOK s' :=
  hist_rootOK (cfgWithRootSplits mv) compact_reads_root_after_inserts

/-- **C05 (proved part, state level)**: from EVERY engine state that is `compactSafe` — any number of
    runs with any edges (parallel, self loops, none at all), any properties, edge tombstones that hit
    only run-resident relationships, any older segments, any store — `compact` changes neither node
    enumeration, nor outgoing / incoming neighbours with any type filter (as multisets; a panicking older
    segment panics before and after), nor any single-key node / relationship property read, nor labels,
    external ids or external-id lookup. -/
theorem C05_partial (s : Engine) (hs : compactSafe Cfg.current s = true) (hr : rootOK s = true) :
    let s' := s.compact Cfg.current
    s'.nodes = s.nodes ∧ s'.nodesSnap = s.nodesSnap ∧
    (∀ n rel, PermOpt (s'.neighbors n rel) (s.neighbors n rel)) ∧
    (∀ n rel, PermOpt (s'.incoming Cfg.current n rel) (s.incoming Cfg.current n rel)) ∧
    (∀ n k, s'.nodeProp n k = s.nodeProp n k) ∧ (∀ e k, s'.edgeProp e k = s.edgeProp e k) ∧
    s'.nodeLabels = s.nodeLabels ∧ s'.resolveExternal = s.resolveExternal ∧
    s'.lookupInternal = s.lookupInternal ∧ s'.interner = s.interner := by
  obtain ⟨nodes, snap, _, out, inc, nprop, eprop, _, _, labels, _, ext, lookup, interner, _⟩ :=
    (compact_eqv Cfg.current csr_guard_present compact_own_tombstones_last compact_reads_root_after_inserts
      (Eqv.refl _ s) ((rootOK_iff s).mp hr) hs).reads
  exact ⟨nodes, snap, out, inc, nprop, eprop, labels, ext, lookup, interner⟩

/-- **whole-map reads = single-key reads, in EVERY engine state** (any runs, segments, store):
    `node_properties(n)` / `edge_properties(e)` hold for every key exactly what `node_property(n, k)` /
    `edge_property(e, k)` answer.  (Pinned tree: false for a key with two store entries — the finding
    `C05-whole-map-read-returns-oldest-sunk-value`, fixed.) -/
theorem whole_map_eq_single_key (s : Engine) :
    (∀ n k, (s.nodeProps n).lookup k = s.nodeProp n k) ∧ (∀ e k, (s.edgeProps e).lookup k = s.edgeProp e k) :=
  ⟨nodeProps_lookup s, edgeProps_lookup s⟩

/-- **C05 (proved part, whole-map reads)**: from every `compactSafe` state `node_properties` and
    `edge_properties` (the whole maps) answer the same value for every key before and after `compact`. -/
theorem C05_partial_whole_map (s : Engine) (hs : compactSafe Cfg.current s = true) (hr : rootOK s = true) :
    (∀ n k, ((s.compact Cfg.current).nodeProps n).lookup k = (s.nodeProps n).lookup k) ∧
    (∀ e k, ((s.compact Cfg.current).edgeProps e).lookup k = (s.edgeProps e).lookup k) := by
  obtain ⟨_, _, _, _, _, _, _, nprops, eprops, _⟩ :=
    (compact_eqv Cfg.current csr_guard_present compact_own_tombstones_last compact_reads_root_after_inserts
      (Eqv.refl _ s) ((rootOK_iff s).mp hr) hs).reads
  exact ⟨nprops, eprops⟩

/-! ### history level: compactions at arbitrary positions

    `compactHistSafe c s h` (Proofs/CompactHist, decidable — it runs the model): `h` consists of
    transactions (committed or dropped) and compactions; every compaction starts from a state that is
    `compactSafe`; after every transaction no published property removal sits over a value in the store
    (`removalsClear`).  `dropCompactions h` = `h` without its `.compact` entries. -/

/-- every read interface answers alike: node enumeration (both kinds), tombstone test, neighbours in
    both directions with any type filter (as multisets; a panic on one side is a panic on the other),
    single-key node / relationship properties, `node_properties` / `edge_properties` key by key, labels
    (ids and names), external ids, external-id lookup, interned names, vector search -/
def SameReads (s u : Engine) : Prop :=
  s.nodes = u.nodes ∧ s.nodesSnap = u.nodesSnap ∧ s.isTombstoned = u.isTombstoned ∧
  (∀ n rel, PermOpt (s.neighbors n rel) (u.neighbors n rel)) ∧
  (∀ n rel, PermOpt (s.incoming Cfg.current n rel) (u.incoming Cfg.current n rel)) ∧
  (∀ n k, s.nodeProp n k = u.nodeProp n k) ∧ (∀ e k, s.edgeProp e k = u.edgeProp e k) ∧
  (∀ n k, (s.nodeProps n).lookup k = (u.nodeProps n).lookup k) ∧
  (∀ e k, (s.edgeProps e).lookup k = (u.edgeProps e).lookup k) ∧
  s.nodeLabels = u.nodeLabels ∧ s.nodeLabelNames = u.nodeLabelNames ∧ s.resolveExternal = u.resolveExternal ∧
  s.lookupInternal = u.lookupInternal ∧ s.interner = u.interner ∧ s.vecNodes = u.vecNodes

/-- **C05 (proved part, history level)**: for EVERY history of transactions and compactions that is
    `compactHistSafe` — any number of compactions at any positions — the engine answers every read
    exactly as the engine that ran the same history WITHOUT any of the compactions. -/
theorem C05_partial_hist (h : List Op) (hs : compactHistSafe Cfg.current {} h = true) :
    ∃ s u, Storage.run Cfg.current h = .ok s ∧ Storage.run Cfg.current (dropCompactions h) = .ok u ∧
      SameReads s u := by
  obtain ⟨s, u, h1, h2, hE, _⟩ := hist_eqv Cfg.current csr_guard_present compact_own_tombstones_last compact_reads_root_after_inserts h {} {}
    (Eqv.refl _ _) RootOK.empty' rfl hs
  exact ⟨s, u, h1, h2, hE.reads⟩

/-- `C05_partial_hist` for EVERY root-split behaviour of the property B-tree (the root page may change on
    any insert of any compaction), together with the fact that the engine's root is the tree's root at
    the end -/
theorem C05_partial_hist_any_root_split (mv : Nat → Nat → Bool) (h : List Op)
    (hs : compactHistSafe (cfgWithRootSplits mv) {} h = true) :
    ∃ s u, Storage.run (cfgWithRootSplits mv) h = .ok s ∧
      Storage.run (cfgWithRootSplits mv) (dropCompactions h) = .ok u ∧ SameReads s u ∧ RootOK s := by
  obtain ⟨s, u, h1, h2, hE, hR⟩ := hist_eqv (cfgWithRootSplits mv) csr_guard_present compact_own_tombstones_last
    compact_reads_root_after_inserts h {} {} (Eqv.refl _ _) RootOK.empty' rfl hs
  exact ⟨s, u, h1, h2, hE.reads, hR⟩

/-- **C05 in the shape of `C05_full`**: inserting one compaction anywhere in a history changes no later
    read, when both histories are `compactHistSafe` (either may hold further compactions). -/
theorem C05_partial_insert (h₁ h₂ : List Op)
    (hs : compactHistSafe Cfg.current {} (h₁ ++ [.compact] ++ h₂) = true)
    (hs' : compactHistSafe Cfg.current {} (h₁ ++ h₂) = true) :
    ∃ s s', Storage.run Cfg.current (h₁ ++ [.compact] ++ h₂) = .ok s ∧
      Storage.run Cfg.current (h₁ ++ h₂) = .ok s' ∧ SameReads s s' := by
  obtain ⟨s, u, h1, h2, hE, _⟩ := hist_eqv Cfg.current csr_guard_present compact_own_tombstones_last compact_reads_root_after_inserts _ {} {}
    (Eqv.refl _ _) RootOK.empty' rfl hs
  obtain ⟨s', u', h1', h2', hE', _⟩ := hist_eqv Cfg.current csr_guard_present compact_own_tombstones_last compact_reads_root_after_inserts _ {} {}
    (Eqv.refl _ _) RootOK.empty' rfl hs'
  rw [dropCompactions_insert] at h2
  have : u = u' := by rw [h2] at h2'; cases h2'; rfl
  subst this
  exact ⟨s, s', h1, h1', (hE.trans hE'.symm).reads⟩

/-- **CSR construction lemma** (shared with C30): for EVERY edge list, the built and persisted
    segment answers `neighbors` / `incoming_neighbors` with exactly the edges of that source /
    destination and type, and never panics -/
theorem segment_neighbors (id : Nat) (es : List Edge) (src : Nat) (rel : Option Nat) :
    ∃ l, ((buildForward id es).persist).neighbors src rel = some l ∧
      l.Perm (es.filter (fun e => e.src == src && relOk rel e)) :=
  buildForward_neighbors id es src rel

theorem segment_incoming (id : Nat) (es : List Edge) (dst : Nat) (rel : Option Nat) :
    ∃ l, ((buildForward id es).persist).incomingG Cfg.current.csrGuard dst rel = some l ∧
      l.Perm (es.filter (fun e => e.dst == dst && relOk rel e)) :=
  built_incoming _ id es dst rel (Or.inl csr_guard_present)

/-! ### non-vacuity: a safe state with two runs (parallel edges, a self loop, overwritten property)
    and an older segment -/

def A : Nat := 321
def R : Nat := 338
def K : Nat := 363

def hSafe : List Op :=
  [ .tx [.node 10 (some A), .node 11 (some A), .edge 0 R 1, .nprop 0 K 1] true, .compact,
    .tx [.edge 0 R 1, .edge 0 R 1, .edge 1 R 1, .nprop 1 K 2] true,
    .tx [.nprop 1 K 3, .eprop 0 R 1 K 4] true ]

example : ∃ s, Storage.run Cfg.current hSafe = .ok s ∧ compactSafe Cfg.current s = true ∧ rootOK s = true ∧ s.runs.length = 2 ∧
    s.segs.length = 1 := ⟨_, rfl, by decide +kernel, by decide +kernel, by decide +kernel, by decide +kernel⟩

/-- non-vacuity of the history-level statements: two compactions, transactions between and after -/
def hSafe2 : List Op := hSafe ++ [ .compact, .tx [.node 12 none, .edge 2 R 0, .nprop 2 K 7] true,
  .tx [.tombEdge 2 R 0, .edge 2 R 0, .edge 2 R 1] true, .tx [.tombEdge 2 R 1] true, .compact,
  .tx [.edge 0 R 2] true ]

example : compactHistSafe Cfg.current {} hSafe2 = true := by decide +kernel
example : compactHistSafe Cfg.current {} (dropCompactions hSafe2) = true := by decide +kernel
example : (dropCompactions hSafe2).length + 3 = hSafe2.length := by decide +kernel

/-! ### counterexamples on the CURRENT tree (known findings; witnesses in corpus/engine_compact/) -/

/-- compaction drops node tombstones: the deleted node is enumerated again -/
def hNodeTomb : List Op :=
  [ .tx [.node 10 (some A), .node 11 (some A)] true, .tx [.tombNode 1] true ]

theorem C05_counterexample_node_tombstone :
    (∃ s, Storage.run Cfg.current hNodeTomb = .ok s ∧ s.nodes = [0]) ∧
    (∃ s, Storage.run Cfg.current (hNodeTomb ++ [.compact]) = .ok s ∧ s.nodes = [0, 1]) ∧
    StorageTriggers.c05TriggerList Cfg.current (hNodeTomb ++ [.compact]) = ["C05-compact-drops-node-tombstone"] :=
  ⟨⟨_, rfl, by decide +kernel⟩, ⟨_, rfl, by decide +kernel⟩, by decide +kernel⟩

/-- compaction drops the tombstone of an edge that already sits in a segment: the edge is back -/
def hEdgeTomb : List Op :=
  [ .tx [.node 10 (some A), .node 11 (some A), .edge 0 R 1] true, .compact, .tx [.tombEdge 0 R 1] true ]

theorem C05_counterexample_edge_tombstone :
    (∃ s, Storage.run Cfg.current hEdgeTomb = .ok s ∧ s.neighbors 0 none = some []) ∧
    (∃ s, Storage.run Cfg.current (hEdgeTomb ++ [.compact]) = .ok s ∧ s.neighbors 0 none = some [⟨0, 1, 1⟩]) ∧
    StorageTriggers.c05TriggerList Cfg.current (hEdgeTomb ++ [.compact]) = ["C05-compact-drops-edge-tombstone"] :=
  ⟨⟨_, rfl, by decide +kernel⟩, ⟨_, rfl, by decide +kernel⟩, by decide +kernel⟩

/-- a property removal over a compacted value is lost at once: reads fall through to the store -/
def hPropRemoval (compacted : Bool) : List Op :=
  [ .tx [.node 10 (some A), .nprop 0 K 5] true ] ++ (if compacted then [.compact] else []) ++
  [ .tx [.npropDel 0 K] true ]

theorem C05_counterexample_property_removal :
    (∃ s, Storage.run Cfg.current (hPropRemoval false) = .ok s ∧ s.nodeProp 0 K = none) ∧
    (∃ s, Storage.run Cfg.current (hPropRemoval true) = .ok s ∧ s.nodeProp 0 K = some 5 ∧ s.nodeProps 0 = [(K, 5)]) ∧
    StorageTriggers.c05TriggerList Cfg.current (hPropRemoval true) = ["C05-compact-drops-property-removal"] :=
  ⟨⟨_, rfl, by decide +kernel⟩, ⟨_, rfl, by decide +kernel, by decide +kernel⟩, by decide +kernel⟩

/-! ### the three defects of the pinned tree that are fixed (witnesses stay in the corpus) -/

/-- a value overwritten across two compactions.  Pinned tree: the store holds BOTH entries of the key and
    the insertion loop of the whole-map read (`props.insert`, `extendWith false`) returned the OLD one
    (the scan kept the last = oldest duplicate).  Current tree: the whole-map scan keeps the first entry
    (c44ed2c) and the sinking replaces the entry of the key, so the store holds ONE entry. -/
def hOverwrite : List Op :=
  [ .tx [.node 10 (some A), .nprop 0 K 1] true, .compact, .tx [.nprop 0 K 2] true, .compact ]

theorem C05_counterexample_whole_map_oldest :
    (∃ s, Storage.run Cfg.pinned hOverwrite = .ok s ∧ s.store.length = 2 ∧
      Store.extendWith false (s.store.fetchNode 0 []) [] = [(K, 1)]) ∧
    (∃ s, Storage.run Cfg.current hOverwrite = .ok s ∧ s.nodeProp 0 K = some 2 ∧ s.store.length = 1 ∧
      s.nodeProps 0 = [(K, 2)]) ∧
    StorageTriggers.c05TriggerList Cfg.current hOverwrite = [] :=
  ⟨⟨_, rfl, by decide +kernel, by decide +kernel⟩, ⟨_, rfl, by decide +kernel, by decide +kernel, by decide +kernel⟩, by decide +kernel⟩

/-- pinned tree: an edge-free compaction yields a segment without reverse offsets and
    `incoming_neighbors(0)` panics (csr.rs:67); fixed by 2666d9b -/
theorem C05_counterexample_edge_free_segment_panics :
    (∃ s, Storage.run Cfg.pinned [ .tx [.node 10 (some A), .nprop 0 K 1] true, .compact ] = .ok s ∧
      s.incoming Cfg.pinned 0 none = none) ∧
    (∃ s, Storage.run Cfg.current [ .tx [.node 10 (some A), .nprop 0 K 1] true, .compact ] = .ok s ∧
      s.incoming Cfg.current 0 none = some []) :=
  ⟨⟨_, rfl, by decide +kernel⟩, ⟨_, rfl, by decide +kernel⟩⟩

/-- pinned tree: a relationship deleted and re-created in one transaction is dropped by compaction
    (the run's own tombstone is applied to its own edges); fixed by ed68347 -/
def hRecreate : List Op :=
  [ .tx [.node 10 (some A), .node 11 (some A), .edge 0 R 1] true, .tx [.tombEdge 0 R 1, .edge 0 R 1] true, .compact ]

theorem C05_counterexample_recreated_edge_dropped :
    (∃ s, Storage.run Cfg.pinned hRecreate = .ok s ∧ s.neighbors 0 none = some []) ∧
    (∃ s, Storage.run Cfg.current hRecreate = .ok s ∧ s.neighbors 0 none = some [⟨0, 1, 1⟩]) :=
  ⟨⟨_, rfl, by decide +kernel⟩, ⟨_, rfl, by decide +kernel⟩⟩

end Nervus.Props.C05
