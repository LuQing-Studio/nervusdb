/-
  C27 — Index key encoding preserves order and equality.
  Statements, proved here from the monotonicity of the pieces of the encoding (`Proofs/OKey`, `Proofs/BytesOrder`)
  and, for the float link, `Proofs/F64Bits`.
  Model: Nervus.Model.OKey (mirrors ordered_key.rs, tags and the −0.0 normalisation flag
  regenerated from the source).  Spec: Nervus.Spec.OrderedValue.
-/
import Nervus.Proofs.OKey
import Nervus.Proofs.F64Bits
namespace Nervus.Props.C27
open Nervus Nervus.OKey

/-- the −0.0 normalisation is present in the source (regenerated table entry) -/
theorem norm_present : Generated.okeyNormalisesNegZero = true := by decide

private theorem int_lt (a b : Int) (ha : I64.inRange a) (hb : I64.inRange b) (h : a < b) :
    bytesLt (beBytes 8 (signFlip a)) (beBytes 8 (signFlip b)) = true := by
  apply beBytes_lt _ _ _ _ (signFlip_lt b hb)
  have := signFlip_eq a ha; have := signFlip_eq b hb; omega

private theorem float_lt (a b : Nat) (ha : a < two64) (hb : b < two64) (h : fkey a < fkey b) :
    bytesLt (beBytes 8 (floatSortable (normZero a))) (beBytes 8 (floatSortable (normZero b))) = true := by
  apply beBytes_lt _ _ _ _ (floatSortable_lt _ (normZero_lt b hb))
  have h1 := floatSortable_norm a ha norm_present
  have h2 := floatSortable_norm b hb norm_present
  split at h1 <;> split at h2 <;> omega

/-- **C27 (order)**: for values of one kind, `a < b` implies `enc a < enc b` byte-wise —
    for *all* integers, booleans, byte strings and non-NaN floats. -/
theorem order_preserved (a b : OV) (ha : Valid a) (hb : Valid b) (h : lt a b) :
    bytesLt (enc a) (enc b) = true := by
  cases a <;> cases b <;> simp only [lt] at h <;> simp only [enc, bytesLt_cons_same]
  case bool.bool x y => obtain ⟨rfl, rfl⟩ := h; decide
  case int.int x y => exact int_lt x y ha hb h
  case float.float x y => exact float_lt x y ha.1 hb.1 h
  case str.str x y => exact stuff_lt x y h
  case datetime.datetime x y => exact int_lt x y ha hb h
  case blob.blob x y => exact stuff_lt x y h

/-- within one kind the value order is total up to value equality -/
theorem lt_total (a b : OV) (hk : kind a = kind b) : lt a b ∨ eqv a b ∨ lt b a := by
  cases a <;> cases b <;> simp [kind] at hk <;> simp only [lt, eqv]
  case null.null => simp
  case bool.bool x y => cases x <;> cases y <;> simp
  case int.int x y => omega
  case float.float x y => omega
  case str.str x y => exact bytesLt_total x y
  case datetime.datetime x y => omega
  case blob.blob x y => exact bytesLt_total x y

theorem enc_head (a : OV) : ∃ t rest, enc a = t :: rest ∧ t.toNat = kind a := by
  cases a <;> exact ⟨_, _, rfl, by simp only [kind]; decide⟩

/-- **C27 (equality ⇒)**: equal values have equal encodings (needs the −0.0 normalisation). -/
theorem enc_eq_of_eqv (a b : OV) (ha : Valid a) (hb : Valid b) (h : eqv a b) : enc a = enc b := by
  unfold eqv at h
  split at h <;> first | exact h.elim | (subst h; rfl) | rfl | skip
  -- floats: equal keys have the same sortable image
  rename_i x y
  have h1 := floatSortable_norm x ha.1 norm_present
  have h2 := floatSortable_norm y hb.1 norm_present
  have : floatSortable (normZero x) = floatSortable (normZero y) := by
    split at h1 <;> split at h2 <;> omega
  simp [enc, this]

/-- **C27 (equality ⇐)**: equal encodings come from equal values, across all kinds. -/
theorem eqv_of_enc_eq (a b : OV) (ha : Valid a) (hb : Valid b) (h : enc a = enc b) : eqv a b := by
  have hk : kind a = kind b := by
    obtain ⟨t, r, e1, k1⟩ := enc_head a
    obtain ⟨t', r', e2, k2⟩ := enc_head b
    rw [e1, e2] at h; injection h with ht _; subst ht; omega
  exact mid_of_bytes_eq (lt_total a b hk) (order_preserved a b ha hb) (order_preserved b a hb ha) h

/-- **C27 (equality)**: `a = b` exactly when `enc a = enc b`. -/
theorem equality_iff (a b : OV) (ha : Valid a) (hb : Valid b) : eqv a b ↔ enc a = enc b :=
  ⟨enc_eq_of_eqv a b ha hb, eqv_of_enc_eq a b ha hb⟩

/-- **C27 (order reflected)**: within one kind the byte order decides the value order. -/
theorem order_reflected (a b : OV) (ha : Valid a) (hb : Valid b) (hk : kind a = kind b)
    (h : bytesLt (enc a) (enc b) = true) : lt a b := by
  rcases lt_total a b hk with hlt | heq | hgt
  · exact hlt
  · rw [enc_eq_of_eqv a b ha hb heq, bytesLt_irrefl] at h; cases h
  · have := bytesLt_asymm _ _ (order_preserved b a hb ha hgt); rw [this] at h; cases h

/-- **C27 (prefix-free)**: no encoding is a proper prefix of another one, across all kinds. -/
theorem prefix_free (a b : OV) (ha : Valid a) (hb : Valid b) : properPrefix (enc a) (enc b) = false := by
  cases hp : properPrefix (enc a) (enc b) with
  | false => rfl
  | true =>
    exfalso
    have hl := properPrefix_length _ _ hp
    cases a <;> cases b <;> simp only [enc, properPrefix_cons, Bool.and_eq_true, beq_iff_eq] at hp <;>
      first
      | exact absurd hp.1 (by decide)
      | (simp [enc, beBytes_length] at hl; done)
      | (simp [stuff_not_prefix] at hp; done)

/-- Consequence used by the composite index key `[index_id][value][node_id]`: the value decides
    the order whatever the node ids are. -/
theorem index_key_order (i : Nat) (a b : OV) (n m : Nat) (ha : Valid a) (hb : Valid b)
    (h : lt a b) :
    bytesLt (encIndexKey i a n) (encIndexKey i b m) = true := by
  unfold encIndexKey
  rw [List.append_assoc, List.append_assoc, bytesLt_append_same]
  exact bytesLt_append_of_lt _ _ _ _ (order_preserved a b ha hb h) (prefix_free a b ha hb)

/-- **C27 (range scans)**: the converse for the composite index key — if one entry sorts before another in
    the index (whatever the node ids), its value is smaller or equal: walking the index in key order never
    steps back in value order, so a range scan `[lo, hi)` sees exactly a contiguous run of entries. -/
theorem index_key_order_reflected (i : Nat) (a b : OV) (n m : Nat) (ha : Valid a) (hb : Valid b)
    (hk : kind a = kind b) (h : bytesLt (encIndexKey i a n) (encIndexKey i b m) = true) :
    lt a b ∨ eqv a b := by
  rcases lt_total a b hk with hlt | heq | hgt
  · exact Or.inl hlt
  · exact Or.inr heq
  · have := bytesLt_asymm _ _ (index_key_order i b a m n hb ha hgt); rw [this] at h; cases h

/-- … and among entries with equal values (`-0.0`/`+0.0` included) the node id alone decides the order -/
theorem index_key_equal_values (i : Nat) (a b : OV) (n m : Nat) (ha : Valid a) (hb : Valid b) (h : eqv a b) :
    bytesLt (encIndexKey i a n) (encIndexKey i b m) = bytesLt (beBytes 8 n) (beBytes 8 m) := by
  unfold encIndexKey
  rw [enc_eq_of_eqv a b ha hb h, List.append_assoc, List.append_assoc, bytesLt_append_same, bytesLt_append_same]

/-- … so the index key is strictly monotone in the pair (value, node id), lexicographically: the index is a
    sorted multimap value ↦ node ids, for all values and all 64-bit node ids -/
theorem index_key_lex (i : Nat) (a b : OV) (n m : Nat) (ha : Valid a) (hb : Valid b) (hm : m < 256 ^ 8)
    (h : lt a b ∨ (eqv a b ∧ n < m)) :
    bytesLt (encIndexKey i a n) (encIndexKey i b m) = true := by
  rcases h with h | ⟨he, hn⟩
  · exact index_key_order i a b n m ha hb h
  · rw [index_key_equal_values i a b n m ha hb he]; exact beBytes_lt 8 n m hn hm

/-! ### the Spec's float order IS the IEEE-754 order (link to the dyadic float model `Nervus.F64`) -/

/-- **C27 (float order = IEEE order)**: on non-NaN doubles the Spec's `lt` (sign-magnitude key `fkey`) is exactly
    `<` of the values the bit patterns denote (`F64.ofBits`: exact IEEE-754 field decoding, compared as dyadic
    rationals): that the IEEE order is the sign-magnitude order of the bit pattern is proved, not assumed. -/
theorem float_lt_is_ieee (a b : Nat) (ha : Valid (.float a)) (hb : Valid (.float b)) :
    lt (.float a) (.float b) ↔ F64.lt (F64.ofBits a) (F64.ofBits b) = true :=
  fkey_lt_iff a b ha.1 hb.1 ha.2 hb.2

/-- **C27 (float equality = IEEE equality)**: the Spec's `eqv` on non-NaN doubles is IEEE `==` (±0.0 equal) -/
theorem float_eqv_is_ieee (a b : Nat) (ha : Valid (.float a)) (hb : Valid (.float b)) :
    eqv (.float a) (.float b) ↔ F64.eqv (F64.ofBits a) (F64.ofBits b) = true :=
  fkey_eq_iff a b ha.1 hb.1 ha.2 hb.2

/-! non-vacuity: concrete values meeting the hypotheses, including the ±0.0 corner -/
example : Valid (.float 0x8000000000000000) ∧ Valid (.float 0) ∧
    eqv (.float 0x8000000000000000) (.float 0) := by decide
example : enc (.float 0x8000000000000000) = enc (.float 0) := by decide
example : Valid (.int (-9223372036854775808)) ∧ Valid (.int 9223372036854775807) ∧
    lt (.int (-9223372036854775808)) (.int 9223372036854775807) := by decide
example : lt (.str [0x61]) (.str [0x61, 0x00]) ∧ lt (.str [0x61, 0x00]) (.str [0x61, 0x00, 0x78]) := by decide
/-- `-inf < -0.0 = +0.0 < 5e-324 < +inf` -/
example : lt (.float 0xFFF0000000000000) (.float 0x8000000000000000) ∧
    lt (.float 0) (.float 1) ∧ lt (.float 1) (.float 0x7FF0000000000000) := by decide

end Nervus.Props.C27
