/-
  C25 — Value and log encodings round-trip safely.
  Statements only (helper lemmas: Nervus.Proofs.{LeBytes,PropValSafe,PropValRoundtrip,PropValNesting,WalRec,WalRecSafe}).
  Models: Nervus.Model.PropVal (PropertyValue::{encode,decode,decode_recursive,nesting_depth}),
          Nervus.Model.WalRec  (WalRecord::{record_type,encode_body,decode_body}),
  both parameterised by what the *current source* does (`Cfg.current`, regenerated by tools/extract.py) and
  compared with the real code by the `codec` stream.  `Cfg.pinned` is the tree before the `fix:` commits.
-/
import Nervus.Proofs.WalRecSafe
import Nervus.Proofs.PropValNesting
namespace Nervus.Props.C25
open Nervus Nervus.PropVal Nervus.WalRec

/-- the values a Rust `PropertyValue` can hold (`wf`: i64 / u64 ranges, UTF-8 strings and keys, lengths below
    2^32, strictly sorted map keys) whose container nesting the decoder accepts -/
def Encodable (cfg : PropVal.Cfg) (v : PV) : Prop := v.wf = true ∧ Fits cfg v.nesting

/-- the well-formed records `encode_body` accepts -/
def WF (cfg : WalRec.Cfg) (r : Rec) : Prop := r.wf = true ∧ r.fitsWire cfg = true

/-- **C25 at full strength**, about the current source: every value and every record decodes to exactly what
    was encoded; decoding any byte string yields a value or an error — never a panic, never an allocation
    request larger than the remaining input, never more than `MAX_NESTING_DEPTH` nested frames. -/
def C25_full : Prop :=
  (∀ v, Encodable PropVal.Cfg.current v → decode PropVal.Cfg.current (encode v) = .ok v) ∧
  (∀ r, WF WalRec.Cfg.current r → ∃ body, encodeBody WalRec.Cfg.current r = .ok body ∧
      decodeBody WalRec.Cfg.current body = .ok r) ∧
  (∀ bs, (decodeRes PropVal.Cfg.current bs).val ≠ .error .panic ∧ (decodeRes PropVal.Cfg.current bs).val ≠ .error .fuel) ∧
  (∀ bs, ∀ p ∈ (decodeRes PropVal.Cfg.current bs).allocs, p.1 ≤ p.2 ∧ p.2 ≤ bs.length) ∧
  (∀ bs, (decodeRes PropVal.Cfg.current bs).depth ≤ 128) ∧
  (∀ body, decodeBody WalRec.Cfg.current body ≠ .error .panic)

/-! ### the repairs are present in the source (regenerated table entries) -/

theorem alloc_cap_present : PropVal.Cfg.current.capAlloc = true := by decide
theorem depth_limit_present : PropVal.Cfg.current.maxDepth = some 128 := by decide
theorem manifest_check_present : 16 ≤ WalRec.Cfg.current.manifestTailCheck := by decide
theorem wal_codec_coherent : Coherent WalRec.Cfg.current := ⟨Or.inr (by decide), by decide⟩

/-- `nesting_depth` in the source is the recursive `1 + max(children)` that `PV.nesting` mirrors (regenerated) -/
theorem nesting_depth_mirrored : Generated.pvNestingDepthMirrored = true := by decide

/-! ### values -/

/-- **value round trip**, for every configuration of the decoder and *all* values (structural induction):
    NaN payloads, −0.0, empty / non-ASCII strings, blobs, nested lists and maps included. -/
theorem pv_roundtrip_cfg (cfg : PropVal.Cfg) (v : PV) (h : Encodable cfg v) : decode cfg (encode v) = .ok v := by
  have := decode_encode_append cfg v [] h.1 h.2
  simpa using this

/-- **value round trip** on the current source -/
theorem pv_roundtrip (v : PV) (h : Encodable PropVal.Cfg.current v) :
    decode PropVal.Cfg.current (encode v) = .ok v := pv_roundtrip_cfg _ v h

/-- semantic note: `decode` ignores whatever follows the first value -/
theorem decode_ignores_trailing (cfg : PropVal.Cfg) (v : PV) (rest : Bytes) (h : Encodable cfg v) :
    decode cfg (encode v ++ rest) = .ok v := decode_encode_append cfg v rest h.1 h.2

/-- semantic note: `Bool` accepts any non-zero byte as `true` -/
theorem bool_accepts_any_nonzero (cfg : PropVal.Cfg) (b : UInt8) :
    decode cfg [Generated.pvTagBool, b] = .ok (.bool (b != 0)) := by
  unfold decode decodeRes; rw [decodeRec_bool]; rfl

/-- semantic note: duplicate map keys — the last entry wins, keys come back sorted (`BTreeMap::insert`) -/
theorem duplicate_keys_last_wins :
    decode PropVal.Cfg.current [8, 3,0,0,0, 1,0,0,0,0x62, 0, 1,0,0,0,0x61, 1,0, 1,0,0,0,0x62, 1,1]
      = .ok (.map (.cons [0x61] (.bool false) (.cons [0x62] (.bool true) .nil))) := by decide

/-- **decode is total**: a value or a `DecodeError`, never a panic (every slice is covered by its length
    check) and the model's recursion budget `|bytes| + 1` is never exhausted — for every configuration. -/
theorem decode_total (cfg : PropVal.Cfg) (bs : Bytes) :
    (decodeRes cfg bs).val ≠ .error .panic ∧ (decodeRes cfg bs).val ≠ .error .fuel :=
  ⟨(decodeRes_good cfg bs).noPanic, (decodeRes_good cfg bs).noFuel⟩

/-- **allocation is bounded**: every request (`Vec::with_capacity`, `to_vec`) is at most the number of input
    bytes that remain at that point, which is at most `|bytes|`. -/
theorem decode_alloc_bounded (bs : Bytes) :
    ∀ p ∈ (decodeRes PropVal.Cfg.current bs).allocs, p.1 ≤ p.2 ∧ p.2 ≤ bs.length := fun p hp =>
  ⟨(decodeRes_good _ bs).capped alloc_cap_present p hp, (decodeRes_good _ bs).rem_le p hp⟩

/-- **recursion depth is bounded** by `MAX_NESTING_DEPTH = 128`, whatever the input. -/
theorem decode_depth_bounded (bs : Bytes) : (decodeRes PropVal.Cfg.current bs).depth ≤ 128 :=
  (decodeRes_good _ bs).depth_le 128 depth_limit_present

/-- the unconsumed suffix is never longer than the input (so `consumed ≤ bytes.len()`) -/
theorem decode_consumes (cfg : PropVal.Cfg) (bs : Bytes) (v : PV) (rest : Bytes)
    (h : (decodeRes cfg bs).val = .ok (v, rest)) : rest.length ≤ bs.length :=
  (decodeRes_good cfg bs).rest_le v rest h

/-! ### log records -/

theorem rec_roundtrip_of_encoded (r : Rec) (hw : r.wf = true) (body : Bytes)
    (he : encodeBody WalRec.Cfg.current r = .ok body) : decodeBody WalRec.Cfg.current body = .ok r :=
  rec_roundtrip_cfg _ wal_codec_coherent r hw body he

/-- **whatever `encode_body` accepts, `decode_body` decodes back** — for all records and all property values;
    the only hypothesis besides "encode_body returned Ok" is that `r` is a Rust value (`wf`: integer widths,
    UTF-8 strings, sorted maps).  In particular the write-side nesting guard lets nothing through that the
    decoder's limit would refuse, empty innermost containers included. -/
theorem accepted_is_decodable (r : Rec) (hw : r.wf = true) :
    ∀ body, encodeBody WalRec.Cfg.current r = .ok body → decodeBody WalRec.Cfg.current body = .ok r :=
  rec_roundtrip_cfg _ wal_codec_coherent r hw

/-- the guard measures containers, not scalars: an empty list or map counts -/
theorem empty_containers_count :
    (PV.list .nil).nesting = 1 ∧ (PV.map .nil).nesting = 1 ∧ ∀ n, (nestEmpty n).nesting = n + 1 := by
  refine ⟨rfl, rfl, ?_⟩
  intro n
  induction n with
  | zero => rfl
  | succ n ih => simp [nestEmpty, PV.nesting, PVList.nesting, ih]

/-- the guard refuses exactly the values nested deeper than `MAX_NESTING_DEPTH` -/
theorem guard_refuses_iff (v : PV) : nestingRefused WalRec.Cfg.current v = true ↔ 128 < v.nesting := by
  have h1 : WalRec.Cfg.current.encodeChecksNesting = true := by decide
  have h2 : WalRec.Cfg.current.pv.maxDepth = some 128 := by decide
  simp [nestingRefused, h1, h2]

/-- the boundary with an EMPTY innermost container: 128 nested containers are logged and read back,
    129 are refused by `encode_body` (and the decoder would indeed refuse them) -/
theorem empty_innermost_boundary :
    (∃ body, encodeBody WalRec.Cfg.current (.setNodeProperty 0 [0x6b] (nestEmpty 127)) = .ok body ∧
      decodeBody WalRec.Cfg.current body = .ok (.setNodeProperty 0 [0x6b] (nestEmpty 127))) ∧
    encodeBody WalRec.Cfg.current (.setNodeProperty 0 [0x6b] (nestEmpty 128))
      = .error (.proto "property value nested too deeply") ∧
    decode PropVal.Cfg.current (encode (nestEmpty 128)) = .error .tooDeep := by
  refine ⟨?_, by decide +kernel, ?_⟩
  · obtain ⟨body, hb⟩ := encodeBody_ok WalRec.Cfg.current (.setNodeProperty 0 [0x6b] (nestEmpty 127))
      (by decide +kernel) (by decide +kernel)
    exact ⟨body, hb, accepted_is_decodable _ (by decide +kernel) body hb⟩
  · exact decode_nestEmpty_tooDeep depth_limit_present 128 (Nat.le_refl _)

/-- **record round trip**: `encode_body` succeeds on every well-formed record and `decode_body` inverts it -/
theorem rec_roundtrip (r : Rec) (h : WF WalRec.Cfg.current r) :
    ∃ body, encodeBody WalRec.Cfg.current r = .ok body ∧ decodeBody WalRec.Cfg.current body = .ok r := by
  obtain ⟨body, hb⟩ := encodeBody_ok _ r h.1 h.2
  exact ⟨body, hb, accepted_is_decodable r h.1 body hb⟩

/-- **decode_body is total**: a record or an error, never a panic, on any byte string -/
theorem rec_decode_total (body : Bytes) : decodeBody WalRec.Cfg.current body ≠ .error .panic :=
  decodeBody_noPanic _ manifest_check_present body

theorem C25 : C25_full :=
  ⟨pv_roundtrip, rec_roundtrip, decode_total _, decode_alloc_bounded, decode_depth_bounded, rec_decode_total⟩

/-! ### non-vacuity: concrete values and records meeting the hypotheses -/

/-- NaN with payload, −0.0, non-ASCII string, invalid-UTF-8 blob, nested list in a map with two keys -/
example : Encodable PropVal.Cfg.current
    (.map (.cons [0x61] (.list (.cons (.float 0x7FF8DEADBEEF0001) (.cons (.float 0x8000000000000000) .nil)))
      (.cons [0xC3, 0xA9] (.list (.cons (.str [0xE4, 0xB8, 0x96]) (.cons (.blob [0xFF, 0x00]) (.cons (.int (-9223372036854775808)) .nil)))) .nil))) :=
  ⟨by decide, by intro m hm; cases hm; decide⟩
example : Encodable PropVal.Cfg.current (nestVal 3) := ⟨by decide, by intro m hm; cases hm; decide⟩
example : WF WalRec.Cfg.current (.setEdgeProperty 1 2 4294967295 [0x6B] (.list (.cons (.str []) .nil))) := ⟨by decide, by decide⟩
example : WF WalRec.Cfg.current (.manifestSwitch 18446744073709551615 [(1, 2), (3, 4)] 5 6) := ⟨by decide, by decide⟩
example : ∃ bs, (decodeRes PropVal.Cfg.current bs).allocs ≠ [] := ⟨[7, 2, 0, 0, 0, 0, 0], by decide⟩

/-! ### counterexamples: the tree as pinned (before the `fix:` commits) violates C25 -/

/-- five bytes make the pinned decoder ask for 4294967295 elements with no input left -/
theorem C25_counterexample_alloc :
    (decodeRes PropVal.Cfg.pinned [7, 0xff, 0xff, 0xff, 0xff]).allocs = [(4294967295, 0)] := by decide

/-- hence the allocation bound is false of the pinned decoder -/
theorem C25_counterexample_alloc_unbounded :
    ¬ (∀ bs, ∀ p ∈ (decodeRes PropVal.Cfg.pinned bs).allocs, p.1 ≤ p.2) := by
  intro h
  have := h [7, 0xff, 0xff, 0xff, 0xff] (4294967295, 0) (by rw [C25_counterexample_alloc]; simp)
  simp at this

/-- the pinned decoder's recursion depth is bounded by nothing but the input length:
    `5n + 1` bytes reach depth `n`, for every `n` -/
theorem C25_counterexample_depth (n : Nat) : (decodeRes PropVal.Cfg.pinned (nestBytes n)).depth = n := by
  unfold decodeRes
  rw [nest_depth n _ 0 (by rw [nestBytes_length]; omega)]
  omega

theorem C25_counterexample_depth_unbounded : ¬ ∃ D, ∀ bs, (decodeRes PropVal.Cfg.pinned bs).depth ≤ D := by
  intro ⟨D, h⟩
  have := h (nestBytes (D + 1))
  rw [C25_counterexample_depth] at this
  omega

/-- a ManifestSwitch body with one segment and 36 payload bytes makes the pinned `decode_body`
    panic (`payload[offset + 8..offset + 16]` after checking only `segments_end + 8`) -/
theorem C25_counterexample_manifest_panic :
    decodeBody WalRec.Cfg.pinned
      ([9, 1,0,0,0,0,0,0,0, 1,0,0,0, 2,0,0,0,0,0,0,0, 3,0,0,0,0,0,0,0, 4,0,0,0,0,0,0,0]) = .error .panic := by
  decide

/-- with a nesting limit but no guard in `encode_body` a logged value could be unreadable: the reason the
    `fix:` commit adds the guard -/
theorem C25_guard_needed :
    let cfg : WalRec.Cfg := ⟨⟨true, some 1⟩, 16, false⟩
    ∃ body, encodeBody cfg (.setNodeProperty 0 [] (nestVal 2)) = .ok body ∧
      decodeBody cfg body = .error (.proto "property decode error") := by
  exact ⟨_, rfl, by decide⟩

end Nervus.Props.C25
