/-
  C06 — Storage reads agree with a graph model.
  Statements only (helper lemmas: Nervus.Proofs.Engine*).
  Model: Nervus.Model.{MemTable,Run,Csr,IdMap,Engine,EngineRun} (mirrors memtable.rs, snapshot.rs,
  read_path_*.rs, idmap.rs, engine.rs, api.rs).  Spec: Nervus.Spec.Graph (a plain property graph),
  Nervus.Spec.History (well-formedness and trigger predicates).
-/
import Nervus.Proofs.EngineReadsAgree
import Nervus.Proofs.ReadsAgreeEqv
import Nervus.Proofs.CheckpointHist
namespace Nervus.Props.C06
open Nervus Nervus.Storage
open Nervus.GraphSpec (Graph TxOp Op Rel wellFormed txOnly noC06Trigger)

/-- **C06 at full strength**: after every compaction-free, well-formed history every read interface
    answers what the plain property graph built from the committed writes answers — including
    external-id lookup of any id.  NOT provable on this tree (see the counterexamples below). -/
def C06_full : Prop :=
  ∀ (c : Cfg) (h : List Op), txOnly h = true → wellFormed h = true → histSize h ≤ labelMax →
    ∃ s, Storage.run c h = .ok s ∧ ReadsAgree c s (GraphSpec.run h) ∧
      ∀ x, s.lookupInternal x = (GraphSpec.run h).extLookup x

/-- the invariant behind `C06_partial` (`abs (M.run h) = S.run h`, pointwise); C04, C05, C07 and C14 carry the same invariant `Sim` along their own histories -/
theorem refinement (c : Cfg) (h : List Op) (htx : txOnly h = true) (hwf : wellFormed h = true)
    (hk : noC06Trigger h = true) (hsz : histSize h ≤ labelMax) :
    ∃ s, Storage.run c h = .ok s ∧ Sim s (GraphSpec.run h) :=
  run_sim c h {} {} Sim.empty htx (HistOK.of_noTrigger hwf hk hsz)

/-- **C06 (proved part)**: for every compaction-free, well-formed history that triggers none of the
    known findings, every read interface — node enumeration (both), external id, labels, single
    property and whole property map of nodes and relationships, outgoing and incoming neighbours with
    multiplicity and optional type filter — agrees with the Spec graph; external-id lookup agrees for
    every id that did not belong to a deleted node.  `hsz`: at most `LabelId::MAX` staged writes, so that
    the label table stays below the "no label" marker.  By induction over ALL histories (`run_sim`). -/
theorem C06_partial (c : Cfg) (h : List Op) (htx : txOnly h = true) (hwf : wellFormed h = true)
    (hk : noC06Trigger h = true) (hsz : histSize h ≤ labelMax) :
    ∃ s, Storage.run c h = .ok s ∧ ReadsAgree c s (GraphSpec.run h) := by
  obtain ⟨s, hrun, hsim⟩ := refinement c h htx hwf hk hsz
  exact ⟨s, hrun, hsim.reads c⟩

/-- **C06 with compactions**: for every well-formed history of transactions (committed or dropped,
    label operations included) and compactions — any number, anywhere — that triggers no C06 finding and
    is `compactHistSafe` (the C05 side conditions: every compaction starts from a `compactSafe` state, no
    removal over a store value), every read interface of the engine — with segments and property store
    behind the runs — agrees with the Spec graph of the history.  Composition of `C05_partial_hist`
    (compacting engine ≈ never-compacting engine) with `C06_partial` (never-compacting engine refines the
    Spec): `run_sim_compact`, `ReadsAgree.of_eqv`. -/
theorem C06_partial_compact (h : List Op) (hwf : wellFormed h = true) (hk : noC06Trigger h = true)
    (hsz : histSize h ≤ labelMax) (hs : compactHistSafe Cfg.current {} h = true) :
    ∃ s, Storage.run Cfg.current h = .ok s ∧ ReadsAgree Cfg.current s (GraphSpec.run h) := by
  have k := HistOK.of_noTrigger hwf hk hsz
  obtain ⟨s, u, hrun, hE, hsim, _⟩ := run_sim_compact Cfg.current (by decide +kernel) (by decide +kernel) (by decide +kernel) h hs hwf hsz
    k.relProps k.reAdd k.endDel k.extZero
  exact ⟨s, hrun, ReadsAgree.of_eqv hE (hsim.reads _)⟩

/-- **C06 with compactions, closes and reopens**: the same for histories that also close
    (`checkpoint_on_close` + open) and reopen the database, under `ckptHistSafe` (the side conditions of
    `C04_partial_ckpt`): after every such history all reads agree with the Spec graph. -/
theorem C06_partial_ckpt (h : List Op) (hwf : wellFormed h = true) (hk : noC06Trigger h = true)
    (hsz : histSize h ≤ labelMax) (hs : ckptHistSafe Cfg.current {} h = true) :
    ∃ s, Storage.run Cfg.current h = .ok s ∧ ReadsAgree Cfg.current s (GraphSpec.run h) := by
  have k := HistOK.of_noTrigger hwf hk hsz
  obtain ⟨s, u, hrun, _, hP⟩ := hist_pair h {} {} {} Pair.empty hs hwf k.size k.relProps k.reAdd k.endDel k.extZero
  exact ⟨s, hrun, ReadsAgree.of_eqv hP.eqv (hP.sim.reads _)⟩

/-- the whole-map property read and the single-key read agree on every key, for ANY run list
    (no hypothesis at all): node and relationship versions -/
theorem whole_map_eq_single (n : Nat) (runs : List Run) (k : Nat) :
    (mergeNProps n runs [] []).lookup k = npropRuns n k runs := mergeNProps_eq_npropRuns n runs k

theorem whole_map_eq_single_edge (e : Edge) (runs : List Run) (k : Nat) :
    (mergeEProps e runs [] []).lookup k = epropRuns e k runs := mergeEProps_eq_epropRuns e runs k

/-! ### non-vacuity: a history with delete-and-recreate, parallel edges, a self loop, overwrites,
    removals, label changes, an abandoned transaction — it meets every hypothesis -/

def A : Nat := 321
def B : Nat := 322
def R : Nat := 338
def K : Nat := 363

def hGood : List Op :=
  [ .tx [.node 10 (some A), .node 11 none, .edge 0 R 1, .edge 0 R 1, .edge 1 R 1, .nprop 0 K 7,
         .eprop 0 R 1 K 5] true,
    .tx [.node 12 (some B), .edge 2 R 0] false,
    .tx [.epropDel 0 R 1 K, .tombEdge 0 R 1, .edge 0 R 1, .labelAdd 1 B, .labelDel 0 A, .nprop 0 K 8,
         .npropDel 0 K] true,
    .tx [.tombEdge 1 R 1, .tombNode 1, .node 13 (some A)] true ]

example : txOnly hGood = true ∧ wellFormed hGood = true ∧ noC06Trigger hGood = true ∧
    histSize hGood ≤ labelMax := by decide +kernel

/-- non-vacuity of `C06_partial_compact`: label operations, delete + re-create, parallel relationships and
    overwrites around two compactions -/
def hGoodCompact : List Op :=
  [ .tx [.node 10 (some A), .node 11 none, .edge 0 R 1, .edge 0 R 1, .labelAdd 1 B, .nprop 0 K 7] true,
    .compact,
    .tx [.edge 1 R 1, .eprop 0 R 1 K 5, .labelDel 1 B, .labelAdd 0 B, .nprop 0 K 8] true,
    .tx [.node 12 (some B)] false,
    .tx [.tombEdge 1 R 1, .edge 1 R 1, .node 12 (some B), .edge 2 R 0] true,
    .compact,
    .tx [.nprop 2 K 1, .edge 2 R 2] true ]

example : compactHistSafe Cfg.current {} hGoodCompact = true ∧ wellFormed hGoodCompact = true ∧
    noC06Trigger hGoodCompact = true ∧ histSize hGoodCompact ≤ labelMax := by decide +kernel

/-! ### counterexamples (the faithful model reproduces the defects; witnesses in corpus/engine/) -/

/-- properties of a deleted relationship reappear on a re-created one
    (identity = triple, `tombstone_edge` never tombstones the properties) -/
def hEdgeProps : List Op :=
  [ .tx [.node 10 (some A), .node 11 (some A), .edge 0 R 1, .eprop 0 R 1 K 5] true,
    .tx [.tombEdge 0 R 1] true,
    .tx [.edge 0 R 1] true ]

theorem C06_counterexample_edge_props :
    txOnly hEdgeProps = true ∧ wellFormed hEdgeProps = true ∧
    (∃ s, Storage.run Cfg.pinned hEdgeProps = .ok s ∧ s.edgeProp ⟨0, 1, 1⟩ K = some 5 ∧ s.interner[1]? = some R) ∧
    (GraphSpec.run hEdgeProps).eprop ⟨0, R, 1⟩ K = none ∧
    GraphSpec.trigRelPropsSurvive hEdgeProps = true := by
  refine ⟨by decide +kernel, by decide +kernel, ⟨_, rfl, by decide +kernel, by decide +kernel⟩, by decide +kernel, by decide +kernel⟩

/-- external-id lookup keeps answering for a deleted node -/
def hExtId : List Op :=
  [ .tx [.node 10 (some A)] true, .tx [.tombNode 0] true ]

theorem C06_counterexample_extid :
    txOnly hExtId = true ∧ wellFormed hExtId = true ∧ noC06Trigger hExtId = true ∧
    (∃ s, Storage.run Cfg.pinned hExtId = .ok s ∧ s.lookupInternal 10 = some 0) ∧
    (GraphSpec.run hExtId).extLookup 10 = none ∧ GraphSpec.extOfDeleted (GraphSpec.run hExtId) 10 = true := by
  refine ⟨by decide +kernel, by decide +kernel, by decide +kernel, ⟨_, rfl, by decide +kernel⟩, by decide +kernel, by decide +kernel⟩

/-- `REMOVE n:A SET n:A` in one transaction ends without the label
    (commit applies all additions before all removals) -/
def hLabelReAdd : List Op :=
  [ .tx [.node 10 (some A)] true, .tx [.labelDel 0 A, .labelAdd 0 A] true ]

theorem C06_counterexample_label_readd :
    txOnly hLabelReAdd = true ∧ wellFormed hLabelReAdd = true ∧
    (∃ s, Storage.run Cfg.pinned hLabelReAdd = .ok s ∧ s.nodeLabelNames 0 = []) ∧
    (GraphSpec.run hLabelReAdd).hasLabel 0 A = true ∧ GraphSpec.trigLabelReAdd hLabelReAdd = true := by
  refine ⟨by decide +kernel, by decide +kernel, ⟨_, rfl, by decide +kernel⟩, by decide +kernel, by decide +kernel⟩

/-- a relationship created in the transaction that deletes its end node stays visible from the other
    end (and only in that direction) -/
def hEdgeEndpoint : List Op :=
  [ .tx [.node 10 (some A), .node 11 (some A)] true, .tx [.edge 0 R 1, .tombNode 1] true ]

theorem C06_counterexample_edge_to_deleted_node :
    txOnly hEdgeEndpoint = true ∧ wellFormed hEdgeEndpoint = true ∧
    (∃ s, Storage.run Cfg.pinned hEdgeEndpoint = .ok s ∧ s.neighbors 0 none = some [⟨0, 1, 1⟩] ∧
      s.nodes = [0]) ∧
    (GraphSpec.run hEdgeEndpoint).out 0 none = [] ∧
    GraphSpec.trigEdgeAndEndpointDelete hEdgeEndpoint = true := by
  refine ⟨by decide +kernel, by decide +kernel, ⟨_, rfl, by decide +kernel, by decide +kernel⟩, by decide +kernel, by decide +kernel⟩

/-- external id 0 reads back as "no external id" -/
def hExtZero : List Op := [ .tx [.node 0 (some A)] true ]

theorem C06_counterexample_ext_zero :
    txOnly hExtZero = true ∧ wellFormed hExtZero = true ∧
    (∃ s, Storage.run Cfg.pinned hExtZero = .ok s ∧ s.resolveExternal 0 = none) ∧
    (GraphSpec.run hExtZero).extOf 0 = some 0 ∧ GraphSpec.trigExtZero hExtZero = true := by
  refine ⟨by decide +kernel, by decide +kernel, ⟨_, rfl, by decide +kernel⟩, by decide +kernel, by decide +kernel⟩

end Nervus.Props.C06
