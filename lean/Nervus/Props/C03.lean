/-
  C03 — Snapshots are consistent and stable.
  Statements only (helper lemmas: Nervus.Proofs.SnapLTS).
  Model: Nervus.Model.SnapLTS (one writer: commit / compaction publication steps; any number of readers
  assembling snapshots field by field).  The step orders are pinned to the regenerated
  `Generated.PubOrder` below.
-/
import Nervus.Proofs.SnapLTS
import Nervus.Model.Generated.PubOrder
namespace Nervus.Props.C03
open Nervus Nervus.SnapLTS

/-- **C03 at full strength**: every completed snapshot shows the Spec state of ONE instant inside its
    acquisition window (consistency), and what it shows never changes afterwards (stability) — for all
    interleavings of commits, compactions and any number of readers.  FALSE (six counterexamples below). -/
def C03_full : Prop :=
  ∀ (h0 : Bool) (s : State), Reach (init h0) s →
    (∀ j σ, s.snaps j = some σ → σ.pc = 5 → ∃ c, σ.lo ≤ c ∧ c ≤ σ.hi ∧ Shows s.hasIndex (view s σ) c) ∧
    (∀ l s' j σ, step s l = some s' → s.snaps j = some σ → σ.pc = 5 → l ≠ .dropSnap j →
      ∃ σ', s'.snaps j = some σ' ∧ view s' σ' = view s σ)

/-- the model's step orders ARE the orders of the source (regenerated on every run) -/
theorem pub_order_in_source :
    Generated.commitPubOrder = ["indexUpdate", "walCommit", "idmapApply", "publishNodeLabels", "publishRun"] ∧
    Generated.compactPubOrder = ["persistSegment", "sinkProps", "walManifest", "storeRoots", "clearRuns", "setSegments"] ∧
    Generated.beginReadOrder = ["readRuns", "readSegments", "readLabels", "readNodeLabels", "readRoots"] ∧
    Generated.snapshotOrder = ["scanI2e", "beginRead"] ∧
    Generated.sinkInPlace = true ∧ Generated.indexLive = true ∧ Generated.storeLive = true := by decide +kernel

/-- `compact` (and `checkpoint_on_close`) read the published run list only AFTER taking the writer lock
    (regenerated: position of `write_lock.lock()` vs the first `published_runs` access) -/
theorem runs_read_under_writer_lock_in_source :
    Generated.compactHead = ["lockWriter", "readRuns"] ∧ Generated.compactRunsReadUnderLock = true ∧
    Generated.checkpointRunsReadUnderLock = true := by decide +kernel

/-- "no known finding is triggered" for snapshot `σ` read in state `s` (decidable):
    no commit step and no compaction step overlapped its acquisition, compaction has not sunk
    properties under its (non-zero) root since, and the live index has not changed since. -/
def noTrigger (s : State) (σ : Snap) : Bool :=
  !σ.dirtyCommit && !σ.dirtyCompact && !(σ.stale && σ.root) && (s.index == σ.idxAtDone)

/-- **C03 (partial)**: a snapshot taken while no writer step is in flight, read before the next
    compaction sinks properties under its root and before the index changes, shows exactly the
    transactions committed when it was taken (`σ.lo = σ.hi`), in every reachable state of every
    interleaving with any number of other readers — hence it is also stable for as long as no trigger
    holds (`σ.lo` never changes). -/
theorem C03_partial (h0 : Bool) (s : State) (hr : Reach (init h0) s) (j : Nat) (σ : Snap)
    (hj : s.snaps j = some σ) (hdone : σ.pc = 5) (hnt : noTrigger s σ = true) :
    Shows s.hasIndex (view s σ) σ.lo ∧ σ.hi = σ.lo := by
  simp only [noTrigger, Bool.and_eq_true, Bool.not_eq_true', beq_iff_eq] at hnt
  obtain ⟨⟨⟨h1, h2⟩, h3⟩, h4⟩ := hnt
  obtain ⟨hn, hl, hhi, he, hix, hprops⟩ := ((reach_inv hr).snaps j σ hj).2 hdone ⟨h1, h2⟩
  exact ⟨⟨hn, hl, he, hprops h3, by simp only [view, h4]; exact hix⟩, hhi⟩

/-- the engine side at rest: when no writer step is in flight every separately published component
    reflects exactly the committed transactions -/
theorem quiescent_engine_consistent (h0 : Bool) (s : State) (hr : Reach (init h0) s) (hw : s.w = .idle) :
    s.nodes = s.committed ∧ s.labels = s.committed ∧ (∀ k, k ∈ s.runs ++ s.segs ↔ k < s.committed) ∧
    (∀ k, k ∈ s.index ↔ (s.hasIndex = true ∧ k < s.committed)) := by
  have := (reach_inv hr).w
  simp only [WInv, hw] at this
  obtain ⟨⟨hn, hl, he, _, hix⟩, _⟩ := this
  exact ⟨hn, hl, he, hix⟩

/-- **compaction preserves the committed transactions**: when every read of the run list that feeds
    the segment build and the final clear happens under the writer lock (what the source does), then in
    every reachable state at rest every committed transaction's run is in the published runs or merged
    into the published segments — for all interleavings of commits, compactions and readers. -/
theorem compact_preserves_committed (h0 : Bool) (s : State) (hr : Reach (init h0) s) (hw : s.w = .idle)
    (k : Nat) (hk : k < s.committed) : k ∈ s.runs ++ s.segs :=
  ((quiescent_engine_consistent h0 s hr hw).2.2.1 k).mpr hk

/-! ### counterexample traces, one per confirmed cause (each replayed on the real code through hook H2:
    corpus/snapsched/*.ops) -/

def tx : List Label := [.commitStep, .commitStep, .commitStep, .commitStep]
def compaction : List Label := List.replicate 6 .compactStep
def snap (j : Nat) : List Label := List.replicate 5 (.readStep j)

private theorem okG : (runTrace (init false true)
    (tx ++ [.compactRead] ++ tx ++ List.replicate 6 .compactStep)).isSome = true := by decide +kernel
/-- run-list read BEFORE the writer lock: one commit, the compactor captures `[0]`, a second commit
    (the compactor waits for the lock), the compaction runs from the stale list and clears ALL runs -/
def stG : State := (runTrace (init false true)
    (tx ++ [.compactRead] ++ tx ++ List.replicate 6 .compactStep)).get okG

/-- **Counterexample (run list read before the writer lock)**: transaction 1 is committed and
    acknowledged, yet after the compaction it is neither in the published runs nor in the segments, and
    a fresh, undisturbed snapshot does not show it. -/
theorem C03_counterexample_stale_run_list :
    Reach (init false true) stG ∧ stG.w = .idle ∧ stG.committed = 2 ∧ stG.runs = [] ∧ stG.segs = [0] ∧
    ¬ (∀ k, k < stG.committed → k ∈ stG.runs ++ stG.segs) := by
  refine ⟨reach_of_runTrace _ .refl (Option.some_get okG).symm, by decide, by decide, by decide, by decide, ?_⟩
  intro h
  have := h 1 (by decide)
  revert this
  decide +kernel


private theorem okA : (runTrace (init false) (tx ++ tx ++ List.replicate 5 .compactStep ++ snap 0)).isSome = true := by decide +kernel
private theorem okB : (runTrace (init false) (tx ++ [.commitStep, .commitStep] ++ snap 0)).isSome = true := by decide +kernel
private theorem okC1 : (runTrace (init false) (tx ++ compaction ++ snap 0)).isSome = true := by decide +kernel
private theorem okC2 : (runTrace (init false) (tx ++ compaction ++ snap 0 ++ tx ++ compaction)).isSome = true := by decide +kernel
private theorem okD : (runTrace (init true) (tx ++ snap 0 ++ tx)).isSome = true := by decide +kernel
private theorem okE : (runTrace (init false) (tx ++ [.readStep 0, .readStep 0] ++ tx ++ List.replicate 3 (.readStep 0))).isSome = true := by decide +kernel
private theorem okF : (runTrace (init false) (tx ++ [.readStep 0] ++ tx ++ List.replicate 4 (.readStep 0))).isSome = true := by decide +kernel

/-- state after: two commits; compaction up to and including `clearRuns`; a whole snapshot -/
def stA : State := (runTrace (init false) (tx ++ tx ++ List.replicate 5 .compactStep ++ snap 0)).get okA
def stB : State := (runTrace (init false) (tx ++ [Label.commitStep, Label.commitStep] ++ snap 0)).get okB
def stC1 : State := (runTrace (init false) (tx ++ compaction ++ snap 0)).get okC1
def stC2 : State := (runTrace (init false) (tx ++ compaction ++ snap 0 ++ tx ++ compaction)).get okC2
def stD : State := (runTrace (init true) (tx ++ snap 0 ++ tx)).get okD
def stE : State := (runTrace (init false) (tx ++ [.readStep 0, .readStep 0] ++ tx ++ List.replicate 3 (.readStep 0))).get okE
def stF : State := (runTrace (init false) (tx ++ [.readStep 0] ++ tx ++ List.replicate 4 (.readStep 0))).get okF

def view0 (s : State) : View := match s.snaps 0 with
  | some σ => view s σ
  | none => ⟨0, 0, [], [], []⟩
def window0 (s : State) : Nat × Nat := match s.snaps 0 with
  | some σ => (σ.lo, σ.hi)
  | none => (0, 0)

/-- the fields snapshot 0 copied (everything except the ghost fields) -/
def copied0 (s : State) : Option (Nat × List Nat × List Nat × Nat × Bool) :=
  (s.snaps 0).map (fun σ => (σ.i2e, σ.runs, σ.segs, σ.nlabels, σ.root))

/-- **(a) compaction window** `clearRuns; ⟨snapshot⟩; setSegments`: both committed edges are in neither
    the runs nor the segments the snapshot copied. -/
theorem C03_counterexample_compact_window :
    Reach (init false) stA ∧ window0 stA = (2, 2) ∧ view0 stA = ⟨2, 2, [], [1, 0], []⟩ ∧
    ¬ ∃ c, Shows false (view0 stA) c := by
  refine ⟨reach_of_runTrace _ .refl (Option.some_get okA).symm, by decide, by decide, ?_⟩
  rw [show view0 stA = ⟨2, 2, [], [1, 0], []⟩ by decide]
  rintro ⟨c, h1, _, h3, _⟩
  have := (h3 0).mpr (by simp at h1; omega)
  simp at this

/-- **(b) commit window** `idmapApply; ⟨snapshot⟩; publishNodeLabels; publishRun`: the snapshot
    enumerates the new node without its label, property and edge. -/
theorem C03_counterexample_commit_window :
    Reach (init false) stB ∧ window0 stB = (1, 1) ∧ view0 stB = ⟨2, 1, [0], [0], []⟩ ∧
    ¬ ∃ c, Shows false (view0 stB) c := by
  refine ⟨reach_of_runTrace _ .refl (Option.some_get okB).symm, by decide, by decide, ?_⟩
  rw [show view0 stB = ⟨2, 1, [0], [0], []⟩ by decide]
  rintro ⟨c, h1, h2, _⟩
  simp at h1 h2; omega

/-- **(c) properties sunk in place under an old root**: the snapshot was consistent and complete
    (`stC1`), then a later commit and compaction change what it shows (`stC2`) — not stable. -/
theorem C03_counterexample_props_sunk_in_place :
    Reach (init false) stC1 ∧ Reach (init false) stC2 ∧ window0 stC2 = (1, 1) ∧
    view0 stC1 = ⟨1, 1, [0], [0], []⟩ ∧ view0 stC2 = ⟨1, 1, [0], [1, 0], []⟩ ∧
    copied0 stC1 = copied0 stC2 ∧ ¬ ∃ c, Shows false (view0 stC2) c := by
  refine ⟨reach_of_runTrace _ .refl (Option.some_get okC1).symm,
    reach_of_runTrace _ .refl (Option.some_get okC2).symm, by decide, by decide, by decide, ?_, ?_⟩
  · decide +kernel
  · rw [show view0 stC2 = ⟨1, 1, [0], [1, 0], []⟩ by decide]
    rintro ⟨c, h1, _, _, h4, _⟩
    have := (h4 1).mp (by simp)
    simp at h1; omega

/-- **(d) live index**: `lookup_index` on an old snapshot finds a node committed later. -/
theorem C03_counterexample_index_live :
    Reach (init true) stD ∧ window0 stD = (1, 1) ∧ view0 stD = ⟨1, 1, [0], [0], [1, 0]⟩ ∧
    ¬ ∃ c, Shows true (view0 stD) c := by
  refine ⟨reach_of_runTrace _ .refl (Option.some_get okD).symm, by decide, by decide, ?_⟩
  rw [show view0 stD = ⟨1, 1, [0], [0], [1, 0]⟩ by decide]
  rintro ⟨c, h1, _, _, _, h5⟩
  have := ((h5 1).mp (by simp)).2
  simp at h1; omega

/-- **(e) commit between the field reads of `begin_read`** (`readRuns; ⟨commit⟩; readNodeLabels`): labels
    of a transaction whose node and run the snapshot lacks. -/
theorem C03_counterexample_begin_read_window :
    Reach (init false) stE ∧ window0 stE = (1, 2) ∧ view0 stE = ⟨1, 2, [0], [0], []⟩ ∧
    ¬ ∃ c, Shows false (view0 stE) c := by
  refine ⟨reach_of_runTrace _ .refl (Option.some_get okE).symm, by decide, by decide, ?_⟩
  rw [show view0 stE = ⟨1, 2, [0], [0], []⟩ by decide]
  rintro ⟨c, h1, h2, _⟩
  simp at h1 h2; omega

/-- **(f) commit between the node-table scan and `begin_read`**: edges and properties of a node that
    `nodes()` does not enumerate. -/
theorem C03_counterexample_i2e_window :
    Reach (init false) stF ∧ window0 stF = (1, 2) ∧ view0 stF = ⟨1, 2, [1, 0], [1, 0], []⟩ ∧
    ¬ ∃ c, Shows false (view0 stF) c := by
  refine ⟨reach_of_runTrace _ .refl (Option.some_get okF).symm, by decide, by decide, ?_⟩
  rw [show view0 stF = ⟨1, 2, [1, 0], [1, 0], []⟩ by decide]
  rintro ⟨c, h1, h2, _⟩
  simp at h1 h2; omega

theorem C03_full_is_false : ¬ C03_full := by
  intro h
  obtain ⟨hr, _, hv, hno⟩ := C03_counterexample_commit_window
  have hs : ∃ σ, stB.snaps 0 = some σ ∧ σ.pc = 5 ∧ view stB σ = view0 stB := by
    cases hσ : stB.snaps 0 with
    | none => exact absurd hσ (by decide)
    | some σ =>
      have hp : (stB.snaps 0).map (·.pc) = some 5 := by decide +kernel
      rw [hσ] at hp
      exact ⟨σ, rfl, by simpa using hp, by simp [view0, hσ]⟩
  obtain ⟨σ, hσ, hpc, hview⟩ := hs
  obtain ⟨c, _, _, hc⟩ := (h false stB hr).1 0 σ hσ hpc
  have hidx : stB.hasIndex = false := by decide +kernel
  rw [hview, hidx] at hc
  exact hno ⟨c, hc⟩

/-! non-vacuity of `C03_partial`: a long-lived clean snapshot spanning two later commits, taken after a
    compaction (no index) — all hypotheses hold and it still shows exactly transaction 0 -/
private theorem okN : (runTrace (init false) (tx ++ compaction ++ snap 0 ++ tx ++ tx ++ snap 1)).isSome = true := by decide +kernel
private def stN : State := (runTrace (init false) (tx ++ compaction ++ snap 0 ++ tx ++ tx ++ snap 1)).get okN
example : Reach (init false) stN ∧ (stN.snaps 0).map (noTrigger stN) = some true ∧
    (stN.snaps 1).map (noTrigger stN) = some true ∧ stN.committed = 3 ∧
    view0 stN = ⟨1, 1, [0], [0], []⟩ :=
  ⟨reach_of_runTrace _ .refl (Option.some_get okN).symm, by decide, by decide, by decide, by decide⟩

end Nervus.Props.C03
