/-
  C20 — ORDER BY sorts and SKIP/LIMIT slice it.   Statements only (lemmas live in Nervus.Proofs.*).

  Model: `Nervus.Model.Eval.orderCompare` (mirrors `order_compare` / `order_compare_non_null`, rank table
  regenerated from the source), `Nervus.Model.Order` (`execute_order_by`, `execute_skip`, `execute_limit`).
  Spec:  `Nervus.Spec.Order` (total preorder, sorted, stable), `Nervus.Spec.Findings` (trigger predicates).
-/
import Nervus.Proofs.KeyCompare
import Nervus.Proofs.TopK
import Nervus.Spec.CypherValue
set_option exponentiation.threshold 4096
namespace Nervus.Props.C20
open Nervus Nervus.Eval Nervus.Order Nervus.Spec Value

/-- **C20 at full strength** (NOT provable, see the counterexamples): for every instantiation of the
    model's parameters `order_compare` is a total preorder on all values, hence every ORDER BY output is the
    stable sorted permutation of its input. -/
def C20_full : Prop := ∀ E : Env, CmpLaws (orderCompare E)

/-- `order_compare` is antisymmetric (`cmp a b = (cmp b a).swap`, hence reflexive and total) on ALL values,
    for every environment — no hypothesis. -/
theorem orderCompare_antisymm (E : Env) (a b : Value) : orderCompare E a b = (orderCompare E b a).swap :=
  orderCompare_swap E a b

/-- **C20_partial (comparator)**: on every set of well-formed values outside the two known triggers
    (`ordOK`: no NaN inside a map — C20-nan-in-map; the engine's string comparison is transitive on the
    strings present — C20-temporal-string-order) `order_compare` is a total preorder.  This covers every mix
    of nulls, booleans, integers of any size next to floats (±0, ±∞, NaN), strings, lists, maps, ids. -/
theorem orderCompare_totalPreorder_partial (E : Env) (vs : List Value) (h : ordOK E vs = true) :
    CmpLawsOn (orderCompare E) (fun v => v ∈ vs) :=
  orderCompare_lawsOn E vs h

/-- numbers are ordered by the rationals they denote (NaN last): the comparator agrees with the Spec's
    `numOrder` on every pair of well-formed numbers, integers beyond 2^53 next to floats included. -/
theorem orderCompare_numbers (E : Env) (a b : Value) (ha : isNum a = true) (hb : isNum b = true)
    (wa : a.wf = true) (wb : b.wf = true) : some (orderCompare E a b) = Spec.numOrder a b := by
  rw [orderCompare_num E a b ha hb, numCmpNanLast_exact a b ha hb wa wb]
  obtain ⟨x, rfl⟩ | ⟨x, rfl⟩ := isNum_cases ha <;> obtain ⟨y, rfl⟩ | ⟨y, rfl⟩ := isNum_cases hb <;> rfl

/-- the rank table regenerated from `value_order_rank` IS the openCypher orderability of kinds … -/
theorem rank_is_spec_rank (v : Value) : rank v = Spec.typeRank v := by cases v <;> rfl

/-- … and values of different kinds are ordered by it, whatever their payloads (all values, every `E`) -/
theorem cross_kind_order (E : Env) (a b : Value) (h : Spec.typeRank a < Spec.typeRank b) :
    orderCompare E a b = .lt := by
  rw [← rank_is_spec_rank, ← rank_is_spec_rank] at h
  rw [orderCompare_eq_ocElem]
  by_cases ha : a = .null
  · subst ha; cases b <;> rank_absurd h
  · by_cases hb : b = .null
    · have ht : nullTag a = 0 := if_neg ha
      subst hb; rw [ocElem_tagFirst E a .null (by rw [ht]; decide), ht]; rfl
    · rw [ocElem_nonnull E ha hb, ocnn_tagFirst E a b (by omega), cmpNat_lt.2 h]; rfl

/-- the shared string comparator attempts the temporal parse for EVERY pair of strings (regenerated table
    `Comparators`): no text-only shortcut, so the model's `strCmp` — which consults `temporalKey` for every pair — is
    the comparator of ORDER BY, `<` and min/max -/
theorem string_compare_always_parses : Generated.stringCompareAlwaysParses = true := by decide

/-- the model's string comparison IS the Spec's string order: same-kind temporal strings chronologically (by the
    keys of the temporal parser), every other pair as text -/
theorem strCmp_is_spec_order (E : Env) (x y : Str) : strCmp E x y = Spec.strOrder E x y := rfl

/-- the composed comparator of an ORDER BY with several ASC/DESC items is a total preorder on rows whose
    keys come from a set of values outside the triggers -/
theorem keyCompare_totalPreorder_partial (E : Env) (vs : List Value) (h : ordOK E vs = true) (dirs : List Dir) :
    CmpLawsOn (keyCompare E) (KeyOK vs dirs) :=
  keyCompare_lawsOn E vs h dirs

/-- **permutation** (unconditional): ORDER BY neither loses nor duplicates rows -/
theorem orderBy_perm {α : Type} (E : Env) (rows : List (Keyed α)) : (orderBy E rows).Perm rows :=
  isort_perm _ rows

/-- **sorted**: no pair of output rows is out of order w.r.t. the composed key comparator -/
theorem orderBy_sorted {α : Type} (E : Env) (vs : List Value) (h : ordOK E vs = true) (dirs : List Dir)
    (rows : List (Keyed α)) (hk : ∀ r ∈ rows, KeyOK vs dirs r.1) :
    SortedBy (fun a b : Keyed α => keyCompare E a.1 b.1) (orderBy E rows) := by
  have laws : CmpLawsOn (fun a b : Keyed α => keyCompare E a.1 b.1) (fun r => KeyOK vs dirs r.1) :=
    ⟨fun a b ha hb => (keyCompare_lawsOn E vs h dirs).swap a.1 b.1 ha hb,
     fun a b c ha hb hc => (keyCompare_lawsOn E vs h dirs).trans a.1 b.1 c.1 ha hb hc⟩
  exact isort_sorted _ laws rows hk

/-- **stable**: rows that are not out of order keep their input order; in particular rows with equal keys -/
theorem orderBy_stable {α : Type} (E : Env) (rows : List (Keyed α)) :
    StableWrt (fun a b : Keyed α => keyCompare E a.1 b.1) rows (orderBy E rows) :=
  fun a b hab hsub => isort_stable _ a b hab rows hsub

/-- the three facts for ANY comparison that is a total preorder on the rows (what is assumed of std's
    `sort_by`, proved of the model's insertion sort) -/
theorem sort_of_total_preorder {α : Type} (cmp : α → α → Ordering) (P : α → Prop) (h : CmpLawsOn cmp P)
    (l : List α) (hl : ∀ x ∈ l, P x) :
    (isort cmp l).Perm l ∧ SortedBy cmp (isort cmp l) ∧ StableWrt cmp l (isort cmp l) :=
  ⟨isort_perm cmp l, isort_sorted cmp h l hl, fun a b hab hs => isort_stable cmp a b hab l hs⟩

/-- **SKIP s LIMIT l** returns exactly the rows at positions `s … s+l-1` of the sorted order -/
theorem skip_limit_positions {α : Type} (E : Env) (rows : List (Keyed α)) (s l i : Nat) :
    (orderBySkipLimit E (some s) (some l) rows)[i]? = if i < l then (orderBy E rows)[s + i]? else none :=
  skip_limit_get (orderBy E rows) s l i

theorem skip_limit_count {α : Type} (E : Env) (rows : List (Keyed α)) (s l : Nat) :
    (orderBySkipLimit E (some s) (some l) rows).length = min l (rows.length - s) := by
  have := skip_limit_length (orderBy E rows) s l
  rw [(orderBy_perm E rows).length_eq] at this
  exact this

/-! ### non-vacuity: concrete key sets inside the domain -/

/-- a dummy float arithmetic / environment without temporal strings -/
def F0 : FArith := ⟨fun a _ => a, fun a _ => a, fun a _ => a, fun a _ => a, fun a _ => a, fun a _ => a⟩
def E0 : Env := ⟨F0, fun _ => none, fun _ => false, fun _ _ => .null, fun _ _ => .null, fun _ _ _ => .null⟩

/-- large integers next to floats, ±0, NaN, null, strings, a list with a null, a NaN-free map -/
def sampleKeys : List Value :=
  [.int 9007199254740993, .float 0x4340000000000000, .int 9007199254740992, .int 9223372036854775807,
   .float 0x43E0000000000000, .float 0x8000000000000000, .float 0, .float 0x7FF8000000000000, .null,
   .str [0x61], .str [], .list [.int 1, .null], .map [([0x61], .float 0x3FF0000000000000)], .bool true]

example : ordOK E0 sampleKeys = true := by decide
/-- the witness of `counterexample_pinned_int_float` under the exact comparison: 2^53 = 2^53.0 < 2^53+1 -/
example : orderCompare E0 (.int 9007199254740992) (.float 0x4340000000000000) = .eq ∧
    orderCompare E0 (.float 0x4340000000000000) (.int 9007199254740993) = .lt ∧
    orderCompare E0 (.int 9007199254740992) (.int 9007199254740993) = .lt := by decide
example : (orderBy E0 [([(.int 2, .asc)], "b"), ([(.int 1, .asc)], "a"), ([(.float 0x4000000000000000, .asc)], "c")]).map (·.2)
    = ["a", "b", "c"] := by decide

/-! ### SKIP/LIMIT over ORDER BY returns the slice of the FULL sort, for every input size -/

/-- the source has the shape the model covers: `execute_order_by` receives no row bound and sorts its whole
    input, Skip/Limit are plain `skip`/`take` over the unrestricted input (regenerated table `OrderBy`; a top-k
    rewrite flips the flag or breaks the recogniser, and this theorem with it) -/
theorem composition_is_modelled : orderByBuffersAll = true := by decide

/-- **top-k pruning is sound when it uses the full comparison**: under `ORDER BY … SKIP s LIMIT l` a row `r` may be
    dropped from the input once `s + l` rows that arrived before it are not placed after it by the FULL key
    vector (ties resolved by arrival order, i.e. the stable order): the slice is unchanged — for any input size,
    any number of keys and directions, any comparator that is a total preorder on the rows. -/
theorem topk_sound {α : Type} (cmp : α → α → Ordering) (P : α → Prop) (h : CmpLawsOn cmp P)
    (pre post : List α) (r : α) (s l : Nat) (hP : ∀ x ∈ pre ++ r :: post, P x)
    (hk : s + l ≤ cntLe cmp r pre) :
    limit l (skip s (isort cmp (pre ++ r :: post))) = limit l (skip s (isort cmp (pre ++ post))) :=
  topk_drop_sound_slice cmp h pre post r s l hP hk

/-- **pruning on the LEADING key alone is wrong** (the seeded change C20-seed1): with `ORDER BY k1, k2 LIMIT 1`
    and input (1,5), (2,0), (1,0) the cutoff after the first rows is (1,5); the third row ties with it on `k1`
    (not strictly `Less`, so the leading-key filter drops it) although the full comparison puts it FIRST
    (no earlier row precedes it: `cntLe = 0`); dropping it changes the result. -/
theorem counterexample_leading_key_prune :
    let k (a b : Int) : List (Value × Dir) := [(.int a, .asc), (.int b, .asc)]
    let rows : List (Keyed Nat) := [(k 1 5, 0), (k 2 0, 1), (k 1 0, 2)]
    orderCompare E0 (.int 1) (.int 1) ≠ .lt ∧
    cntLe (fun a b : Keyed Nat => keyCompare E0 a.1 b.1) (k 1 0, 2) [(k 1 5, 0), (k 2 0, 1)] = 0 ∧
    (orderBySkipLimit E0 none (some 1) rows).map (·.2) = [2] ∧
    (orderBySkipLimit E0 none (some 1) [(k 1 5, 0), (k 2 0, 1)]).map (·.2) = [0] := by decide

/-! ### counterexamples to `C20_full` -/

/-- the temporal reading of three strings as the real parser gives it (validated on every run by the `sort`
    stream: `@…` oracle tokens of corpus/sort/temporal-text-mix.ops):
    '2020-W01-1' ↦ Date 737423 (= 2019-12-30), '2019-12-31' ↦ Date 737424, '2019-12-31x' ↦ not temporal -/
def sW01 : Str := [0x32,0x30,0x32,0x30,0x2d,0x57,0x30,0x31,0x2d,0x31]
def s1231 : Str := [0x32,0x30,0x31,0x39,0x2d,0x31,0x32,0x2d,0x33,0x31]
def s1231x : Str := [0x32,0x30,0x31,0x39,0x2d,0x31,0x32,0x2d,0x33,0x31,0x78]
def tkW (s : Str) : Option (Nat × TKey) :=
  if s = sW01 then some (0, TKey.mk 737423 0 0) else if s = s1231 then some (0, TKey.mk 737424 0 0) else none
def EW : Env := ⟨F0, tkW, fun _ => false, fun _ _ => .null, fun _ _ => .null, fun _ _ _ => .null⟩

/-- **known finding C20-temporal-string-order**: a cycle `a < b < c < a` — two strings that both parse as
    dates are compared as dates, every other pair as text. -/
theorem counterexample_temporal_strings :
    orderCompare EW (.str sW01) (.str s1231) = .lt ∧ orderCompare EW (.str s1231) (.str s1231x) = .lt ∧
    orderCompare EW (.str s1231x) (.str sW01) = .lt := by decide +kernel

theorem counterexample_temporal_strings_not_full : ¬ C20_full := by
  intro h
  have t := (h EW).trans (.str sW01) (.str s1231) (.str s1231x) (by decide +kernel) (by decide +kernel)
  revert t; decide +kernel

/-- **known finding C20-nan-in-map**: maps are compared with the derived `partial_cmp`; a NaN inside makes
    it `None`, which `order_compare` turns into `Equal`: {a:NaN} ~ {a:1.0}, {a:NaN} ~ {a:2.0}, {a:1.0} < {a:2.0} -/
theorem counterexample_nan_in_map :
    orderCompare E0 (.map [([0x61], .float 0x4000000000000000)]) (.map [([0x61], .float 0x7FF8000000000000)]) = .eq ∧
    orderCompare E0 (.map [([0x61], .float 0x7FF8000000000000)]) (.map [([0x61], .float 0x3FF0000000000000)]) = .eq ∧
    orderCompare E0 (.map [([0x61], .float 0x4000000000000000)]) (.map [([0x61], .float 0x3FF0000000000000)]) = .gt := by
  decide

/-- **fixed finding (pinned tree)**: before the `fix:` commit Int/Float pairs were compared through
    `as f64`: 2^53+1 ~ 2^53.0 ~ 2^53 although 2^53+1 > 2^53. -/
theorem counterexample_pinned_int_float :
    Pinned.numOrder (.int 9007199254740993) (.float 0x4340000000000000) = .eq ∧
    Pinned.numOrder (.float 0x4340000000000000) (.int 9007199254740992) = .eq ∧
    Pinned.numOrder (.int 9007199254740993) (.int 9007199254740992) = .gt := by decide

end Nervus.Props.C20
