/-
  C08 — Failed commits are all-or-nothing.
  Statements only.  Same step model as C01/C02, but step k returns an injected I/O error and the
  process keeps running (`Stop.faultAt k`): the error path of the call site is executed
  (`Action.io … onFail`), memory keeps the updates made before the failing call.
-/
import Nervus.Props.C02
namespace Nervus.Props.C08
open Nervus Nervus.Crash

theorem source_ok : cfgOfSource.walRollback = true ∧ cfgOfSource.syncSlot = true := by decide

/-- **C08, full strength** (not proved — kept visible): an I/O error injected at ANY I/O step `k` of
    a commit: `commit` reports the error, the handle shows the same content as before, every crash
    image of the files represents the old list or the old list plus this transaction — never a
    part — and the handle still satisfies the invariant from which every later commit is
    crash-safe and durable (`C02.commit_every_step`).  False on this tree for `k` in the node-table
    phase: `counterexample_node_table_phase` (known finding C08-node-table-apply-failure). -/
def C08_full : Prop :=
  ∀ (T : List Tx) (fs : FS) (m : Mem) (cs : List CTx) (c : Nat) (tx : Tx) (k : Nat),
    InvOpen T fs m cs c → TailPre cfgOfSource fs m → FreshTx T tx →
    k < (ioSteps (commitA cfgOfSource m fs.pv fs.wf tx)).length →
    let out := run (commitA cfgOfSource m fs.pv fs.wf tx) (.faultAt k) fs m
    out.err = some .io ∧
    Spec.Content.same (content out.mem out.fs.pv) (Spec.run T) ∧
    SafeFS [T, T ++ [tx]] out.fs ∧
    ∃ T' cs' c', (T' = T ∨ T' = T ++ [tx]) ∧ InvOpen T' out.fs out.mem cs' c'

/-- **C08 (`failed_commit_atomic`), log phase**: an I/O error at ANY I/O step of the log phase of a
    commit — the tail cut of the first append through a handle, any of the three writes of any
    record, or the log sync after CommitTx was written — (1) is reported and leaves the content the
    handle shows unchanged, and (2) leaves files whose EVERY crash image (process death, power loss
    with any subset of unsynced writes and any prefix of the unsynced log) represents exactly the
    old list: the transaction is not there, neither now nor after any reopen. -/
theorem failed_commit_atomic {T : List Tx} {fs : FS} {m : Mem} {cs : List CTx} {c : Nat}
    (h : InvOpen T fs m cs c) (ht : TailPre cfgOfSource fs m) (tx : Tx) (hf : FreshTx T tx) (k : Nat)
    (hk : k ≤ (cutSteps cfgOfSource (m.ws fs.wf)).length + 3 * (txRecs m.nextTxid m.idLen tx).length) :
    let out := run (commitA cfgOfSource m fs.pv fs.wf tx) (.faultAt k) fs m
    out.err = some .io ∧
    Spec.Content.same (content out.mem out.fs.pv) (Spec.run T) ∧
    (∀ mode, Rep T (out.fs.crashP mode) (out.fs.crashW mode)) := by
  intro out
  obtain ⟨h1, h2, _⟩ := failed_commit_wal (cfg := cfgOfSource) source_ok.1 h ht tx hf k hk
  exact ⟨h1, content_of_inv h2, fun mode => rep_of_singleton (h2.safeFS mode)⟩

/-- **C08 (`failed_commit_continues`)**: after such a failed commit the handle is back in the
    invariant for the old list, with a log without torn tail or the tail cut still armed (`TailPre`;
    the log is at most followed by unsynced complete records of the unfinished transaction, which
    the next BeginTx discards) — so (3) EVERY later commit through the same handle is crash-safe at
    every step and durable once it returns (`C02.commit_every_step` applies verbatim, stated here
    for the next commit), a further failed commit is again atomic, and the next open shows the old
    list plus the later commits. -/
theorem failed_commit_continues {T : List Tx} {fs : FS} {m : Mem} {cs : List CTx} {c : Nat}
    (h : InvOpen T fs m cs c) (ht : TailPre cfgOfSource fs m) (tx : Tx) (hf : FreshTx T tx) (k : Nat)
    (hk : k ≤ (cutSteps cfgOfSource (m.ws fs.wf)).length + 3 * (txRecs m.nextTxid m.idLen tx).length) :
    let out := run (commitA cfgOfSource m fs.pv fs.wf tx) (.faultAt k) fs m
    InvOpen T out.fs out.mem cs c ∧ TailPre cfgOfSource out.fs out.mem ∧
    ∀ tx', FreshTx T tx' →
      ∀ n mode, ∃ T' ∈ [T, T ++ [tx']],
        Rep T' ((out.fs.steps ((ioSteps (commitA cfgOfSource out.mem out.fs.pv out.fs.wf tx')).take n)).crashP mode)
          ((out.fs.steps ((ioSteps (commitA cfgOfSource out.mem out.fs.pv out.fs.wf tx')).take n)).crashW mode) := by
  intro out
  obtain ⟨_, hinv, htp⟩ := failed_commit_wal (cfg := cfgOfSource) source_ok.1 h ht tx hf k hk
  refine ⟨hinv, htp, ?_⟩
  intro tx' hf' n mode
  exact (C02.commit_every_step hinv htp tx' hf').1 n mode

/-- **C08 (failed compaction is harmless)**: an I/O error at ANY I/O step of `compact` (page
    allocation, segment / blob / leaf / statistics page write, page sync, tail cut, any write of the
    four system records, log sync) is reported, leaves the content the handle shows unchanged, and
    leaves files whose every crash image (that tears no leaf write of the live tree: known finding
    C01-live-tree-in-place) represents the committed list — nothing is lost, nothing appears.
    (Leaf splits in a new tree included; only the last leaf of the LIVE tree must have room, and
    under an internal root the keys must lie above its keys: `NoLiveSplit`.) -/
theorem failed_compact_atomic {T : List Tx} {fs : FS} {m : Mem} {cs : List CTx} {c : Nat}
    (h : InvOpen T fs m cs c) (ht : TailPre cfgOfSource fs m) (hns : NoLiveSplit cfgOfSource m fs.pv) (k : Nat)
    (hk : k < (ioSteps (compactA cfgOfSource m fs.pv fs.wf)).length) :
    let out := run (compactA cfgOfSource m fs.pv fs.wf) (.faultAt k) fs m
    out.err = some .io ∧
    Spec.Content.same (content out.mem out.fs.pv) (Spec.run T) ∧
    (∀ mode, mode.tearsLive m.proot out.fs.pj = false → Rep T (out.fs.crashP mode) (out.fs.crashW mode)) := by
  intro out
  obtain ⟨h1, h2, h3⟩ := failed_compact (cfg := cfgOfSource) source_ok.1 C02.leafCap_pos h ht hns k hk
  exact ⟨h1, h3, fun mode hm => rep_of_singleton (h2 mode hm)⟩

/-- **C08 (failed compaction, log phase: the handle continues)**: when the failing step is the
    tail cut or a write of one of the system records (the append is rolled back) the handle is back
    in the invariant for the same list, so every later commit or compaction is covered by the
    crash theorems again.  (Errors in the page phase leave unsynced page writes behind and an
    error of the log sync leaves the complete system transaction in the page cache of the log: for
    those two the continuation is enumerated on model and real engine, not proved.) -/
theorem failed_compact_continues {T : List Tx} {fs : FS} {m : Mem} {cs : List CTx} {c : Nat}
    (h : InvOpen T fs m cs c) (ht : TailPre cfgOfSource fs m) (hns : NoLiveSplit cfgOfSource m fs.pv) (k : Nat)
    (hk1 : (ioSteps (pagesA cfgOfSource m fs.pv).1).length ≤ k)
    (hk2 : k + 1 < (ioSteps (compactA cfgOfSource m fs.pv fs.wf)).length) :
    let out := run (compactA cfgOfSource m fs.pv fs.wf) (.faultAt k) fs m
    InvOpen T out.fs out.mem cs c ∧ TailPre cfgOfSource out.fs out.mem := by
  intro out
  exact failed_compact_log (cfg := cfgOfSource) source_ok.1 C02.leafCap_pos h ht hns k hk1 hk2

/-- **C08 (failed compaction, every step — page phase and log sync included: the database
    continues after a restart)**: whatever step of `compact` failed, when the process then exits or
    is killed (the handle is dropped; no destructor does I/O) the files are a closed database for
    the committed list: the next `open` succeeds, shows exactly that list, and every later
    operation and crash is covered by `C02.crash_prefix` again.  (The same-handle continuation after
    an error in the page phase or in the log sync is enumerated on model and real engine, not
    proved: see `design/C08.md` for the invariant it needs.) -/
theorem failed_compact_restart {T : List Tx} {fs : FS} {m : Mem} {cs : List CTx} {c : Nat}
    (h : InvOpen T fs m cs c) (ht : TailPre cfgOfSource fs m) (hns : NoLiveSplit cfgOfSource m fs.pv) (k : Nat)
    (hk : k < (ioSteps (compactA cfgOfSource m fs.pv fs.wf)).length) :
    let out := run (compactA cfgOfSource m fs.pv fs.wf) (.faultAt k) fs m
    Closed T (out.fs.crash .proc) ∧
    ∃ m' fs', recover cfgOfSource (out.fs.crash .proc) = .ok (m', fs') ∧ Spec.Content.same (content m' fs'.pv) (Spec.run T) := by
  intro out
  obtain ⟨_, h2, _⟩ := failed_compact (cfg := cfgOfSource) source_ok.1 C02.leafCap_pos h ht hns k hk
  have hcl : Closed T (out.fs.crash .proc) := ⟨crash_flat _ _, rep_of_singleton (h2 .proc rfl)⟩
  exact ⟨hcl, (C02.open_every_step hcl).2⟩

/-- **C08 (failed checkpoint-on-close is harmless)**: an I/O error at ANY I/O step of
    `checkpoint_on_close` (page sync, temporary file creation / writes / sync, rename, log sync) is
    reported, what the handle showed is unchanged, and every crash image of the files — process
    death (what a reopen on the same machine finds) or power loss, including a lost rename —
    represents the committed list: by `C02.open_every_step` the next open succeeds, shows exactly
    that list, and later commits are durable. -/
theorem failed_close_atomic {T : List Tx} {fs : FS} {m : Mem} {cs : List CTx} {c : Nat}
    (h : InvOpen T fs m cs c) (k : Nat) (hk : k < (ioSteps (closeA cfgOfSource m fs.pv fs.wf)).length) :
    let out := run (closeA cfgOfSource m fs.pv fs.wf) (.faultAt k) fs m
    out.err = some .io ∧
    Spec.Content.same (content out.mem out.fs.pv) (Spec.run T) ∧
    (∀ mode, Closed T (out.fs.crash mode)) := by
  intro out
  obtain ⟨h1, h2, h3⟩ := failed_close (cfg := cfgOfSource) h k hk
  exact ⟨h1, h3, fun mode => of_exists_singleton (P := (Closed · _)) (closed_of_safe h2 mode)⟩

/-! non-vacuity: the invariant and the hypotheses hold after `open; commit ex_tx1` on a fresh
    database, and the failing step 18 of the next commit is its log sync -/
example : (3 * (txRecs 3 1 C02.ex_tx2).length) = 18 := by decide

def runW (cfg : Cfg) (ops : List (Op × Stop)) : World :=
  ops.foldl (fun w o => (w.step cfg o.1 o.2).1) ⟨created cfg, none⟩

/-! non-vacuity of the compaction / close theorems: after `open; commit ex_tx1` the compaction has 55
    I/O steps (42 in the page phase), splits no leaf, an error at step 20 is reported, and an error
    at step 47 (a write of the second system record) leaves the 15 fragments of the log plus the 3 of the
    complete first record of the aborted block (the frame is rolled back, the block is unsynced
    and is discarded by the next BeginTx) -/
def exCompactFacts : Bool :=
  match (runW cfgOfSource [(.openOp, .none), (.commit C02.ex_tx1, .none)]).mem with
  | some m =>
    let fs := (runW cfgOfSource [(.openOp, .none), (.commit C02.ex_tx1, .none)]).fs
    decide (NoLiveSplit cfgOfSource m fs.pv) &&
    (ioSteps (compactA cfgOfSource m fs.pv fs.wf)).length == 55 &&
    (ioSteps (pagesA cfgOfSource m fs.pv).1).length == 42 &&
    (run (compactA cfgOfSource m fs.pv fs.wf) (.faultAt 20) fs m).err == some .io &&
    (run (compactA cfgOfSource m fs.pv fs.wf) (.faultAt 47) fs m).fs.wf.length == 18 &&
    (ioSteps (closeA cfgOfSource m fs.pv fs.wf)).length == 2
  | none => false

example : exCompactFacts = true := by decide +kernel

/-- current tree, known finding C08-node-table-apply-failure: the error hits the first page write
    of the node-table phase (the log commit is already durable); `commit` returns Err, the next
    transaction logs the same internal node ids again, and the database cannot be opened any
    more (`non-dense internal id`). -/
theorem counterexample_node_table_phase :
    (match recover cfgOfSource (runW cfgOfSource
        [(.openOp, .none), (.commit C02.ex_tx1, .none), (.commit C02.ex_tx2, .faultAt 19),
         (.commit C02.ex_tx3, .none), (.drop, .none)]).fs with
      | .ok _ => none
      | .error e => some e) = some Err.nonDense := by decide +kernel

/-- pinned tree (fixed by 9454398): the log sync fails after CommitTx was written; nothing is
    applied in memory, the next transaction reuses the internal ids, reopen fails. -/
theorem counterexample_pinned_fsync :
    (match recover C02.cfgPinned (runW C02.cfgPinned
        [(.openOp, .none), (.commit C02.ex_tx1, .none), (.commit C02.ex_tx2, .faultAt 18),
         (.commit C02.ex_tx3, .none), (.drop, .none)]).fs with
      | .ok _ => none
      | .error e => some e) = some Err.nonDense := by decide +kernel

/-- pinned tree (fixed by 9454398): a write fails in the middle of a record; the torn frame stays
    in the log, the next — acknowledged — transaction is appended behind it and is only partly
    there after a reopen (its node from the node table; its property is gone). -/
theorem counterexample_pinned_torn_frame :
    (match recover C02.cfgPinned (runW C02.cfgPinned
        [(.openOp, .none), (.commit C02.ex_tx1, .none), (.commit C02.ex_tx2, .faultAt 1),
         (.commit C02.ex_tx3, .none), (.drop, .none)]).fs with
      | .ok (m, fs) => some (content m fs.pv)
      | .error _ => none) = some ⟨[1001, 3001], [1000], [10000]⟩ := by decide +kernel

end Nervus.Props.C08
