/-
  C12 — Cypher updates match reference semantics.
  Statements, each proved in a few lines from the lemmas of Nervus.Proofs.CypherUpdate, CypherUpdateRows, CypherLastWins.
  Spec: Nervus.Spec.UpdateSem (`Spec.apply : Graph → Nat → Stmt → Except Err (Graph × Nat × Counts)`, the `Nat` being
  the next unused internal node id).
  Model: Nervus.Model.QUpdate (`Update.step`: plan stages, snapshot reads, row overlays, merge overlay, the list
  of WriteableGraph calls applied at commit).  Parametric in the value algebra `A` and the parameters.

  Status: PARTIAL.  `C12_full` is false on the pinned tree (counterexample theorems below, replayed on the real
  engine through corpus/update/*.ops).  Proved: MERGE idempotence (reference semantics; model, single-node
  pattern); the multi-row induction `update_refines_rows` (a per-row simulation between a write stage and an
  update clause lifts to every driving table); for the first stage of a statement, over all tables: SET x.k = e on
  nodes and relationships (storable non-null values, no further condition; the issued log is one call per row and
  the last assignment wins); SET x:L…, REMOVE x.k and SET x.k = null on nodes (no node targeted by two rows — the
  condition the known finding C12-writes-decided-against-snapshot drops); CREATE of a fresh node per row
  (consecutive ids).  `C12_partial_statement` itself is stated, not proved.
-/
import Nervus.Proofs.CypherUpdate
import Nervus.Proofs.CypherUpdateRows
import Nervus.Proofs.CypherLastWins
import Nervus.Model.QAlgebra
namespace Nervus.Props.C12
open Nervus Nervus.Cy

/-- **C12 at full strength**: for every statement of the fragment, committing what the modelled engine writes
    yields the graph of the reference semantics, and the reported count is the reference total. -/
def C12_full : Prop :=
  ∀ (A : Algebra) (params : List (String × Val)) (g : Graph) (next : Nat) (names : List String) (s : Stmt),
    g.NodesDistinct → (∀ n ∈ g.nodes, n.id < next) →
    UAgrees (Update.step A params g next names s) (Spec.apply A params g next s)

/-- the restriction that is claimed: no known finding is triggered -/
def C12_partial_statement : Prop :=
  ∀ (A : Algebra) (params : List (String × Val)) (g : Graph) (next : Nat) (names : List String) (s : Stmt),
    g.NodesDistinct → (∀ n ∈ g.nodes, n.id < next) → NoKnownUTrigger A params g names s = true →
    UAgrees (Update.step A params g next names s) (Spec.apply A params g next s)

/-! ### proved obligations -/

/-- **merge_idempotent** (reference semantics): if the pattern of a MERGE has a match, the statement changes
    nothing and reports zero counts — in particular the second of two identical MERGE statements. -/
theorem merge_idempotent (A : Algebra) (params : List (String × Val)) (g : Graph) (next : Nat) (pat : PathPat)
    (onC : List SetItem) (h : Spec.matches_ A { g, params } [] [pat] ≠ []) :
    Spec.apply A params g next ⟨[], [.merge pat onC []]⟩ = .ok (g, next, {}) := by
  have hc : Spec.applyClause A params { g, next } [[]] (.merge pat onC []) =
      .ok ({ g, next }, Spec.matches_ A { g, params } [] [pat]) := by
    simp only [Spec.applyClause, Spec.forRows, List.foldlM_cons, List.foldlM_nil,
      mergeRow_matched A params pat onC { g, next } [] h, bind, Except.bind, pure, Except.pure, List.nil_append]
  simp only [Spec.apply, show Spec.prefixTable A params g [] = .ok [[]] from rfl, Spec.applyClauses, hc, bind,
    Except.bind, pure, Except.pure]

/-- **merge_idempotent** (modelled engine, single-node pattern): when candidates exist, MERGE issues no
    WriteableGraph call, counts nothing, consumes no node id, and returns one row per candidate. -/
theorem merge_idempotent_model (A : Algebra) (params : List (String × Val)) (g : Graph) (next : Nat)
    (np : NodePat) (onC : List SetItem) (s : Update.St) (u : Update.URow) (props : Props)
    (hp : Update.mergeProps A params g u np.props = .ok props)
    (hunbound : np.var.bind (Update.rowNode u.row) = none)
    (hc : Update.findCandidates g s np.labels props ≠ []) :
    ∃ rows, Update.mergeRow A params g next ⟨np, []⟩ onC [] s u = .ok (s, rows) ∧
      rows.length = (Update.findCandidates g s np.labels props).length := by
  simp only [Update.mergeRow, hp, hunbound, bind, Except.bind, List.isEmpty_nil, List.isEmpty_iff, hc,
    Bool.false_eq_true, ↓reduceIte]
  refine (foldlM_keep _ _ s [] fun acc n => ?_).imp fun rows h => ⟨h.1, by simpa using h.2⟩
  rw [mergeApplySet_nil]
  exact ⟨_, rfl⟩

/-- **update_refines** (SET x.k = e on a node, storable non-null value, one row): one `set_node_property` call,
    count 1; committed, it is the graph and the count of the reference semantics. -/
theorem update_refines_set_prop (A : Algebra) (params : List (String × Val)) (g : Graph) (hg : g.NodesDistinct)
    (next : Nat) (r : Row) (x k : String) (e : Expr) (n : Nat) (pv : Scalar)
    (hx : r.get x = some (.node n)) (hv : Update.toProp (eval A { g, params } r e) = .ok pv) (hnn : pv ≠ .null) :
    (∃ u', Update.setPropertyRow A params g [(x, k, e)] {} ⟨r, []⟩ =
        .ok ({ ops := [.setNodeProp n k pv], count := 1 }, u')) ∧
    Spec.setItem A params g r { g, next } (.prop x k e) =
      .ok { g := Update.applyOp g (.setNodeProp n k pv), next, c := { propsSet := 1 } } :=
  Nervus.Cy.update_refines_set_prop A params g hg next r x k e n pv hx hv hnn

/-- **update_refines, the multi-row induction**: the simulation relation between the model's state (calls issued
    so far, reported count) and the reference's (current graph, counters) is any `R`; if one row of the model stage
    and one row of the reference clause preserve it — the relation may mention the rows already processed — then
    the whole stage and the whole clause over any table `T` do, and the reference keeps the rows. -/
theorem update_refines_rows (fm : Update.St → Update.URow → Except Err (Update.St × Update.URow))
    (fs : Spec.St → Row → Except Err Spec.St) (R : List Update.URow → Update.St → Spec.St → Prop)
    (T : List Update.URow)
    (hstep : ∀ pre u post, T = pre ++ u :: post → ∀ m sp, R pre m sp →
      ∃ m' u' sp', fm m u = .ok (m', u') ∧ fs sp u.row = .ok sp' ∧ R (pre ++ [u]) m' sp')
    (m : Update.St) (sp : Spec.St) (h0 : R [] m sp) :
    ∃ m' T' sp',
      T.foldlM (fun (a : Update.St × List Update.URow) u => do
        let x ← fm a.1 u
        pure (x.1, a.2 ++ [x.2])) (m, []) = .ok (m', T') ∧
      (T.map (·.row)).foldlM (fun (acc : Spec.St × Table) r => do
        let (s, rs) ← (do pure (← fs acc.1 r, [r]) : Except Err (Spec.St × Table))
        pure (s, acc.2 ++ rs)) (sp, []) = .ok (sp', [] ++ T.map (·.row)) ∧
      R T m' sp' := by
  obtain ⟨a, b, h1, h2, hR, hout⟩ := foldlM_simulation
    (fun (a : Update.St × List Update.URow) u => do
      let x ← fm a.1 u
      pure (x.1, a.2 ++ [x.2]))
    (fun (acc : Spec.St × Table) (u : Update.URow) => do
      let (s, rs) ← (do pure (← fs acc.1 u.row, [u.row]) : Except Err (Spec.St × Table))
      pure (s, acc.2 ++ rs))
    (fun pre a b => R pre a.1 b.1 ∧ b.2 = pre.map (·.row)) T
    (fun pre u post hT a b hR => by
      obtain ⟨m', u', sp', a1, a2, a3⟩ := hstep pre u post hT a.1 b.1 hR.1
      exact ⟨(m', a.2 ++ [u']), (sp', b.2 ++ [u.row]), by rw [a1]; rfl, by rw [a2]; rfl, a3, by simp [hR.2]⟩)
    T [] rfl (m, []) (sp, []) ⟨h0, rfl⟩
  rw [List.foldlM_map]
  exact ⟨a.1, a.2, b.1, h1, hout ▸ h2, hR⟩

/-- node-only form of `update_refines_set_prop_rows` -/
theorem update_refines_set_prop_rows_nodes (A : Algebra) (params : List (String × Val)) (g : Graph)
    (hg : g.NodesDistinct) (next : Nat) (names : List String) (w : Update.WPlan) (x k : String) (e : Expr)
    (T : Table)
    (hT : ∀ r ∈ T, ∃ n pv, r.get x = some (.node n) ∧ Update.toProp (eval A { g, params } r e) = .ok pv ∧
      pv ≠ .null) :
    ∃ m T' sp, Update.runStage A params g next names w {} (T.map fun r => { row := r }) (.setProperty [(x, k, e)]) =
        .ok (m, T') ∧
      Spec.applyClause A params { g, next } T (.set [.prop x k e]) = .ok (sp, T) ∧
      USim g next m sp :=
  Nervus.Cy.update_refines_set_prop_rows A params g hg next names w x k e T hT

/-! ### the last assignment wins (the class of seeded/C12-seed1: a write elided against the snapshot) -/

/-- **update_refines (SET x.k = e, every table)** — no "distinct target", no "value differs" proviso: for every
    driving table whose rows bind `x` to a node or a relationship and give `e` a storable non-null value — the same
    (entity, key) as often as the table likes, with values that may come back to the stored one — the SetProperty
    stage issues exactly one `set_*_property` call per row, in row order (`m.ops = T.filterMap assignOf`: the staged
    write log is the list of calls actually issued, nothing is elided); committing that log to the snapshot yields
    exactly the graph of the reference SET clause, with the same count. -/
theorem update_refines_set_prop_rows (A : Algebra) (params : List (String × Val)) (g : Graph)
    (hg : g.NodesDistinct) (hgr : g.rels.Pairwise fun a b => a.id ≠ b.id) (next : Nat) (names : List String)
    (w : Update.WPlan) (x k : String) (e : Expr) (T : Table)
    (hT : ∀ r ∈ T, ∃ pv, Update.toProp (eval A { g, params } r e) = .ok pv ∧ pv ≠ .null ∧
      ((∃ n, r.get x = some (.node n)) ∨ (∃ ed, r.get x = some (.rel ed)))) :
    ∃ m T' sp, Update.runStage A params g next names w {} (T.map fun r => { row := r }) (.setProperty [(x, k, e)]) =
        .ok (m, T') ∧
      Spec.applyClause A params { g, next } T (.set [.prop x k e]) = .ok (sp, T) ∧
      USimR g next m sp ∧ m.ops = T.filterMap (assignOf A params g x k e) := by
  obtain ⟨m, T', sp, h1, h2, hR, hops⟩ := stage_simulation_rows (Update.setPropertyRow A params g [(x, k, e)])
    (fun sp r => Spec.applySetItems A params g r sp [.prop x k e])
    (fun pre m sp => USimR g next m sp ∧ m.ops = pre.filterMap (assignOf A params g x k e)) T
    (fun pre r post hsplit m sp ⟨hR, hops⟩ => by
      obtain ⟨pv, hv, hnn, ⟨n, hx⟩ | ⟨ed, hx⟩⟩ := hT r (mem_of_split hsplit)
      · obtain ⟨m', u', sp', a1, a2, a3, a4, a5⟩ := set_prop_row A params hR.1 r x k e n pv hx hv hnn
        exact ⟨m', u', sp', a1, a2, ⟨a3, a5 ▸ hR.2⟩, by simp [a4, hops, assignOf, hv, hx]⟩
      · obtain ⟨m', u', sp', a1, a2, a3, a4⟩ := set_prop_row_rel A params hR r x k e ed pv hx hv hnn
        exact ⟨m', u', sp', a1, a2, a3, by simp [a4, hops, assignOf, hv, hx]⟩)
    {} { g, next } ⟨⟨USim.init g hg next, hgr⟩, rfl⟩
  exact ⟨m, T', sp, h1, h2, hR, hops⟩

/-- **the last assignment wins** (commit contract): after committing a log of `set_*_property` calls, every
    (node, key) holds the value of the last call naming it — else its previous value; same for relationships -/
theorem last_assignment_wins (ops : List Update.TxOp) (hops : ∀ op ∈ ops, isSet op = true) (g : Graph) :
    (∀ n k, (g.node? n).isSome = true →
      nodeVal (Update.applyOps g ops) n k = (lastNodeSet ops n k).or (nodeVal g n k)) ∧
    (∀ r k, (g.rel? r).isSome = true →
      relVal (Update.applyOps g ops) r k = (lastRelSet ops r k).or (relVal g r k)) :=
  ⟨fun n k hn => (last_assignment_wins_node ops hops g n k hn).1,
   fun r k hr => (last_assignment_wins_rel ops hops g r k hr).1⟩

/-- … end to end: what the reference graph (= the committed model graph) holds after `SET x.k = e` over any table -/
theorem update_refines_set_prop_last_wins (A : Algebra) (params : List (String × Val)) (g : Graph)
    (hg : g.NodesDistinct) (hgr : g.rels.Pairwise fun a b => a.id ≠ b.id) (next : Nat) (x k : String) (e : Expr)
    (T : Table)
    (hT : ∀ r ∈ T, ∃ pv, Update.toProp (eval A { g, params } r e) = .ok pv ∧ pv ≠ .null ∧
      ((∃ n, r.get x = some (.node n)) ∨ (∃ ed, r.get x = some (.rel ed)))) :
    ∃ sp, Spec.applyClause A params { g, next } T (.set [.prop x k e]) = .ok (sp, T) ∧
      (∀ n k', (g.node? n).isSome = true →
        nodeVal sp.g n k' = (lastNodeSet (T.filterMap (assignOf A params g x k e)) n k').or (nodeVal g n k')) ∧
      (∀ r k', (g.rel? r).isSome = true →
        relVal sp.g r k' = (lastRelSet (T.filterMap (assignOf A params g x k e)) r k').or (relVal g r k')) := by
  obtain ⟨m, _, sp, _, h2, hR, hops⟩ :=
    update_refines_set_prop_rows A params g hg hgr next [] { input := .returnOne, stages := [] } x k e T hT
  refine ⟨sp, h2, ?_⟩
  rw [hR.1.graph, hops]
  exact ⟨fun n k' hn => (last_assignment_wins_node _ (assignOf_isSet A params g x k e T) g n k' hn).1,
    fun r k' hr => (last_assignment_wins_rel _ (assignOf_isSet A params g x k e T) g r k' hr).1⟩

/-- **write elision is sound only against `committed ⊕ staged so far`**: leaving `set_node_property(n, k, v)` out of
    the log is unobservable when `v` is the value visible for (n, k) after the calls issued BEFORE it … -/
theorem write_elision_sound (g : Graph) (pre post : List Update.TxOp) (hpre : ∀ op ∈ pre, isSet op = true)
    (hpost : ∀ op ∈ post, isSet op = true) (n : Nat) (k : String) (v : Scalar)
    (hvis : nodeVal (Update.applyOps g pre) n k = some v) (n' : Nat) (k' : String)
    (hn' : (g.node? n').isSome = true) :
    nodeVal (Update.applyOps g (pre ++ [.setNodeProp n k v] ++ post)) n' k' =
      nodeVal (Update.applyOps g (pre ++ post)) n' k' := by
  obtain ⟨_, hG⟩ := last_assignment_wins_node pre hpre g n' k' hn'
  obtain ⟨h1, h2⟩ := nodeVal_applyOp (Update.applyOps g pre) (.setNodeProp n k v) rfl n' k' hG
  rw [applyOps_append, applyOps_append, applyOps_append, (last_assignment_wins_node post hpost _ n' k' hG).1]
  refine ((last_assignment_wins_node post hpost _ n' k' h2).1.trans ?_)
  rw [h1]
  congr 1
  simp only [stepNode]
  split
  next hh =>
    obtain ⟨rfl, rfl⟩ : n = n' ∧ k = k' := by simpa using hh
    rw [hvis]; rfl
  next => rfl

/-- … and observable whenever the visible value differs and no later call assigns (n, k) again — so a comparison
    with the pre-statement snapshot (`nodeVal g n k = some v`) does not justify the elision once an earlier call of
    the same log has changed (n, k) -/
theorem write_elision_unsound (g : Graph) (pre post : List Update.TxOp) (hpre : ∀ op ∈ pre, isSet op = true)
    (hpost : ∀ op ∈ post, isSet op = true) (n : Nat) (k : String) (v : Scalar)
    (hn : (g.node? n).isSome = true)
    (hvis : nodeVal (Update.applyOps g pre) n k ≠ some v) (hlast : lastNodeSet post n k = none) :
    nodeVal (Update.applyOps g (pre ++ [.setNodeProp n k v] ++ post)) n k = some v ∧
    nodeVal (Update.applyOps g (pre ++ post)) n k ≠ some v := by
  obtain ⟨_, hG⟩ := last_assignment_wins_node pre hpre g n k hn
  obtain ⟨h1, h2⟩ := nodeVal_applyOp (Update.applyOps g pre) (.setNodeProp n k v) rfl n k hG
  rw [applyOps_append, applyOps_append, applyOps_append, (last_assignment_wins_node post hpost _ n k hG).1, hlast]
  refine ⟨((last_assignment_wins_node post hpost _ n k h2).1.trans ?_), hvis⟩
  rw [h1, hlast]
  simp [stepNode]

/-- **update_refines (SET x:L1:L2…, every table in which no node is targeted by two rows)** -/
theorem update_refines_set_labels_rows (A : Algebra) (params : List (String × Val)) (g : Graph)
    (hg : g.NodesDistinct) (next : Nat) (names : List String) (w : Update.WPlan) (x : String) (ls : List String)
    (hls : ls.Nodup) (T : Table) (hT : ∀ r ∈ T, ∃ n, r.get x = some (.node n))
    (hdist : (targetsOf x (T.map fun r => { row := r })).Nodup) :
    ∃ m T' sp, Update.runStage A params g next names w {} (T.map fun r => { row := r }) (.setLabels [(x, ls)]) =
        .ok (m, T') ∧
      Spec.applyClause A params { g, next } T (.set [.labels x ls]) = .ok (sp, T) ∧
      USim g next m sp :=
  stage_simulation_distinct Update.nodeLabels g hg next x (Update.setLabelsRow g [(x, ls)])
    (fun sp r => Spec.applySetItems A params g r sp [.labels x ls]) T
    (fun r hr => (hT r hr).imp fun n hx =>
      ⟨hx, fun _ _ hR hsame => set_labels_row A params hR r x ls n hx hls hsame⟩)
    hdist

/-- **update_refines (REMOVE x.k, every table in which no node is targeted by two rows)**: the model counts a removal
    when the SNAPSHOT has the property, the reference when the CURRENT graph has it -/
theorem update_refines_remove_prop_rows (A : Algebra) (params : List (String × Val)) (g : Graph)
    (hg : g.NodesDistinct) (next : Nat) (names : List String) (w : Update.WPlan) (x k : String) (T : Table)
    (hT : ∀ r ∈ T, ∃ n, r.get x = some (.node n))
    (hdist : (targetsOf x (T.map fun r => { row := r })).Nodup) :
    ∃ m T' sp, Update.runStage A params g next names w {} (T.map fun r => { row := r }) (.removeProperty [(x, k)]) =
        .ok (m, T') ∧
      Spec.applyClause A params { g, next } T (.remove [.prop x k]) = .ok (sp, T) ∧
      USim g next m sp :=
  stage_simulation_distinct (fun G n => Spec.propsOf G (.node n)) g hg next x (Update.removePropertyRow g [(x, k)])
    (fun sp r => [RemItem.prop x k].foldlM (Spec.remItem r) sp) T
    (fun r hr => (hT r hr).imp fun n hx => ⟨hx, fun _ _ hR hsame => remove_prop_row hR r x k n hx hsame⟩) hdist

/-- **update_refines (SET x.k = e where e is null on every row — a removal; distinct targets)** -/
theorem update_refines_set_null_rows (A : Algebra) (params : List (String × Val)) (g : Graph)
    (hg : g.NodesDistinct) (next : Nat) (names : List String) (w : Update.WPlan) (x k : String) (e : Expr) (T : Table)
    (hT : ∀ r ∈ T, (∃ n, r.get x = some (.node n)) ∧ eval A { g, params } r e = .null)
    (hdist : (targetsOf x (T.map fun r => { row := r })).Nodup) :
    ∃ m T' sp, Update.runStage A params g next names w {} (T.map fun r => { row := r }) (.setProperty [(x, k, e)]) =
        .ok (m, T') ∧
      Spec.applyClause A params { g, next } T (.set [.prop x k e]) = .ok (sp, T) ∧
      USim g next m sp :=
  stage_simulation_distinct (fun G n => Spec.propsOf G (.node n)) g hg next x
    (Update.setPropertyRow A params g [(x, k, e)]) (fun sp r => Spec.applySetItems A params g r sp [.prop x k e]) T
    (fun r hr => (hT r hr).1.imp fun n hx =>
      ⟨hx, fun _ _ hR hsame => set_null_row A params hR r x k e n hx (hT r hr).2 hsame⟩)
    hdist

/-- **update_refines (CREATE (x:L…), every table)**: one `create_node` per row with the consecutive ids `next`,
    `next + 1`, …; `next` is above every node id of the snapshot, the rows do not bind `x` -/
theorem update_refines_create_node_rows (A : Algebra) (params : List (String × Val)) (g : Graph)
    (hg : g.NodesDistinct) (next : Nat) (hnext : ∀ nd ∈ g.nodes, nd.id < next) (names : List String)
    (w : Update.WPlan) (var : Option String) (ls : List String) (T : Table)
    (hT : ∀ r ∈ T, ∀ x, var = some x → r.get x = none) :
    ∃ m T' sp outS, Update.runStage A params g next names w {} (T.map fun r => { row := r })
        (.create ⟨⟨var, ls, []⟩, []⟩ false) = .ok (m, T') ∧
      Spec.applyClause A params { g, next } T (.create [⟨⟨var, ls, []⟩, []⟩]) = .ok (sp, outS) ∧
      USim g next m sp := by
  obtain ⟨m, T', ⟨sp, outS⟩, h1, h2, hR, _⟩ :=
    stage_simulation (Update.createRow A params g next ⟨⟨var, ls, []⟩, []⟩)
      (fun sp r => do
        let (s, r) ← [(⟨⟨var, ls, []⟩, []⟩ : PathPat)].foldlM
          (fun (acc : Spec.St × Row) p => Spec.createPath A params g acc.1 acc.2 p) (sp, r)
        pure (s, [r]))
      (fun _ m b => USim g next m b.1 ∧ ∀ nd ∈ b.1.g.nodes, nd.id < b.1.next) T
      (fun pre r post hsplit m b hR => by
        obtain ⟨m', u', sp', r', a1, a2, a3, a4⟩ :=
          create_node_row A params hR.1 hR.2 r var ls (hT r (mem_of_split hsplit))
        exact ⟨m', u', sp', [r'], a1, by rw [List.foldlM_cons, a2]; rfl, a3, a4⟩)
      {} { g, next } ⟨USim.init g hg next, hnext⟩
  exact ⟨m, T', sp, outS, h1, h2, hR⟩

/-- the commit of a property removal is the reference removal -/
theorem update_refines_remove_graph (g : Graph) (hg : g.NodesDistinct) (n : Nat) (k : String) :
    Update.applyOp g (.removeNodeProp n k) =
      Spec.setProps g (.node n) (Spec.delKey (Spec.propsOf g (.node n)) k) :=
  (setProps_propsOf_node g hg n (Spec.delKey · k)).symm

/-! ### non-vacuity -/

/-- (0:A {k:1}), (1:B), (0)-[:T]->(1) -/
def g1 : Graph := ⟨[⟨0, ["A"], [("k", .int 1)]⟩, ⟨1, ["B"], []⟩], [⟨⟨0, "T", 1⟩, 1, []⟩]⟩

def mergeA : Stmt := ⟨[], [.merge ⟨⟨some "m", ["A"], [("k", .lit (.int 1))]⟩, []⟩ [] []]⟩

example : Spec.matches_ small { g := g1 } [] [⟨⟨some "m", ["A"], [("k", .lit (.int 1))]⟩, []⟩] ≠ [] := by decide +kernel
example : UAgrees (Update.step small [] g1 2 ["A", "B", "T"] mergeA) (Spec.apply small [] g1 2 mergeA) := by decide +kernel

/-- `MATCH (n:A) SET n.k = 5` and `CREATE (c:B {k: 2})` agree with the reference -/
def setK : Stmt := ⟨[.match_ false [⟨⟨some "n", ["A"], []⟩, []⟩]], [.set [.prop "n" "k" (.lit (.int 5))]]⟩
def createB : Stmt := ⟨[], [.create [⟨⟨some "c", ["B"], [("k", .lit (.int 2))]⟩, []⟩]]⟩

example : NoKnownUTrigger small [] g1 ["A", "B", "T"] setK = true := by decide +kernel
example : UAgrees (Update.step small [] g1 2 ["A", "B", "T"] setK) (Spec.apply small [] g1 2 setK) := by decide +kernel
example : UAgrees (Update.step small [] g1 2 ["A", "B", "T"] createB) (Spec.apply small [] g1 2 createB) := by decide +kernel

/-- the hypotheses of the all-rows theorems are satisfiable: two rows targeting the two nodes of `g1` -/
example : (targetsOf "n" ([[("n", Val.node 0)], [("n", Val.node 1)]].map fun r => ({ row := r } : Update.URow))).Nodup := by
  decide
example : USim g1 2 {} { g := g1, next := 2 } := USim.init g1 (by decide) 2

/-- the seed's scenario: `v` = 0 stored, `UNWIND [5, 0] AS x MATCH (n:P) SET n.v = x` — model and reference agree,
    the node ends with v = 0, and no finding is triggered (a repeated plain assignment is outside every trigger) -/
def gP : Graph := ⟨[⟨0, ["P"], [("v", .int 0)]⟩], [⟨⟨0, "T", 0⟩, 1, [("w", .int 7)]⟩]⟩
def sBackToStored : Stmt :=
  ⟨[.unwind (.listLit [.int 5, .int 0]) "x", .match_ false [⟨⟨some "n", ["P"], []⟩, []⟩]],
   [.set [.prop "n" "v" (.var "x")]]⟩
def sTwoItems : Stmt :=
  ⟨[.match_ false [⟨⟨some "n", ["P"], []⟩, []⟩]], [.set [.prop "n" "v" (.lit (.int 2)), .prop "n" "v" (.lit (.int 0))]]⟩
def sRelBack : Stmt :=
  ⟨[.unwind (.listLit [.int 8, .int 7]) "x",
    .match_ false [⟨⟨some "a", [], []⟩, [(⟨some "r", ["T"], .out, []⟩, ⟨some "b", [], []⟩)]⟩]],
   [.set [.prop "r" "w" (.var "x")]]⟩

example : NoKnownUTrigger small [] gP ["P", "T"] sBackToStored = true ∧ NoKnownUTrigger small [] gP ["P", "T"] sTwoItems = true
    ∧ NoKnownUTrigger small [] gP ["P", "T"] sRelBack = true := by decide +kernel
example : UAgrees (Update.step small [] gP 1 ["P", "T"] sBackToStored) (Spec.apply small [] gP 1 sBackToStored) := by decide +kernel
example : UAgrees (Update.step small [] gP 1 ["P", "T"] sTwoItems) (Spec.apply small [] gP 1 sTwoItems) := by decide +kernel
example : UAgrees (Update.step small [] gP 1 ["P", "T"] sRelBack) (Spec.apply small [] gP 1 sRelBack) := by decide +kernel
example : (Update.step small [] gP 1 ["P", "T"] sBackToStored).toOption.map (fun r => nodeVal r.1 0 "v") =
    some (some (.int 0)) := by decide +kernel
/-- the log the model issues for it holds BOTH calls (nothing elided) -/
example : (Update.runStmt small [] gP 1 ["P", "T"] sBackToStored).toOption.map (·.1) =
    some [.setNodeProp 0 "v" (.int 5), .setNodeProp 0 "v" (.int 0)] := by decide +kernel
/-- what the seeded engine does (drop the second call because 0 is the SNAPSHOT value) changes the result -/
example : nodeVal (Update.applyOps gP [.setNodeProp 0 "v" (.int 5)]) 0 "v" = some (.int 5) ∧
    nodeVal (Update.applyOps gP [.setNodeProp 0 "v" (.int 5), .setNodeProp 0 "v" (.int 0)]) 0 "v" = some (.int 0) := by
  decide
/-- two statements in one transaction against one snapshot: the staged log is the concatenation, the last wins -/
example : (Update.stepTxn small [] gP 1 ["P", "T"]
      [⟨[.match_ false [⟨⟨some "n", ["P"], []⟩, []⟩]], [.set [.prop "n" "v" (.lit (.int 5))]]⟩,
       ⟨[.match_ false [⟨⟨some "n", ["P"], []⟩, []⟩]], [.set [.prop "n" "v" (.lit (.int 0))]]⟩]).toOption.map
      (fun r => (nodeVal r.1 0 "v", r.2.2.1)) = some (some (.int 0), [1, 1]) := by decide +kernel

/-! ### counterexamples: `C12_full` is false of the model (and of the engine: corpus/update/*.ops) -/

/-- ON MATCH SET writes are not counted: `MERGE (m:A) ON MATCH SET m.j = 9` reports 0 (kept as a known finding:
    tests/t323_merge_semantics.rs pins MERGE's count as the number of entities created) -/
def sMergeSet : Stmt :=
  ⟨[], [.merge ⟨⟨some "m", ["A"], []⟩, []⟩ [] [.prop "m" "j" (.lit (.int 9))]]⟩

theorem counterexample_merge_set_not_counted :
    ¬ UAgrees (Update.step small [] g1 2 ["A", "B", "T"] sMergeSet) (Spec.apply small [] g1 2 sMergeSet) := by
  decide +kernel

/-- a variable bound to null is taken for unbound: `MATCH (a) OPTIONAL MATCH (a)-[r]->(b) CREATE (a)-[:T]->(b)`
    over a single node creates a second node instead of failing -/
def gOne : Graph := ⟨[⟨0, [], []⟩], []⟩

def sNullBound : Stmt :=
  ⟨[.match_ false [⟨⟨some "a", [], []⟩, []⟩],
    .match_ true [⟨⟨some "a", [], []⟩, [(⟨some "r", [], .out, []⟩, ⟨some "b", [], []⟩)]⟩]],
   [.create [⟨⟨some "a", [], []⟩, [(⟨none, ["T"], .out, []⟩, ⟨some "b", [], []⟩)]⟩]]⟩

theorem counterexample_null_bound_variable :
    ¬ UAgrees (Update.step small [] gOne 1 [] sNullBound) (Spec.apply small [] gOne 1 sNullBound) := by
  decide +kernel

/-- counts are computed against the statement-start snapshot: `MATCH (a:A), (b:B) REMOVE a.k` over two B nodes
    counts the one removal twice -/
def gAB : Graph := ⟨[⟨0, ["A"], [("k", .int 1)]⟩, ⟨1, ["B"], []⟩, ⟨2, ["B"], []⟩], []⟩

def sRemoveTwice : Stmt :=
  ⟨[.match_ false [⟨⟨some "a", ["A"], []⟩, []⟩, ⟨⟨some "b", ["B"], []⟩, []⟩]], [.remove [.prop "a" "k"]]⟩

theorem counterexample_writes_against_snapshot :
    ¬ UAgrees (Update.step small [] gAB 3 ["A", "B"] sRemoveTwice) (Spec.apply small [] gAB 3 sRemoveTwice) := by
  decide +kernel

/-- witness of fix b8eb26d (`MATCH (a) SET a:A` on a node that already has :A reported 1 change) -/
def gA : Graph := ⟨[⟨0, ["A"], []⟩], []⟩
def sLabelAgain : Stmt := ⟨[.match_ false [⟨⟨some "a", [], []⟩, []⟩]], [.set [.labels "a" ["A"]]]⟩

example : UAgrees (Update.step small [] gA 1 ["A"] sLabelAgain) (Spec.apply small [] gA 1 sLabelAgain) := by
  decide +kernel

/-- relationship MERGE with unbound ends re-uses existing nodes: `MERGE (a:A)-[m:T]->(b:B)` over an unconnected
    :A and :B node only creates the relationship (reference: the whole pattern) -/
def gTwo : Graph := ⟨[⟨0, ["A"], []⟩, ⟨1, ["B"], []⟩], []⟩
def sMergeRel : Stmt :=
  ⟨[], [.merge ⟨⟨some "a", ["A"], []⟩, [(⟨some "m", ["T"], .out, []⟩, ⟨some "b", ["B"], []⟩)]⟩ [] []]⟩

theorem counterexample_merge_partial :
    ¬ UAgrees (Update.step small [] gTwo 2 ["A", "B"] sMergeRel) (Spec.apply small [] gTwo 2 sMergeRel) := by
  decide +kernel

/-- the merge overlay is not updated by ON CREATE SET: `UNWIND [1,2] AS x MERGE (m:A {k: 1}) ON CREATE SET m.k = 2`
    creates one node, the reference two -/
def sMergeStale : Stmt :=
  ⟨[.unwind (.listLit [.int 1, .int 2]) "x"],
   [.merge ⟨⟨some "m", ["A"], [("k", .lit (.int 1))]⟩, []⟩ [.prop "m" "k" (.lit (.int 2))] []]⟩

theorem counterexample_merge_stale_overlay :
    ¬ UAgrees (Update.step small [] ⟨[], []⟩ 0 [] sMergeStale) (Spec.apply small [] ⟨[], []⟩ 0 sMergeStale) := by
  decide +kernel

/-- witness of fix 502b006 (property items of a SET clause ran before its map items:
    `MATCH (a) SET a = {j: 2}, a.k = 1` ended without k) -/
def gK : Graph := ⟨[⟨0, ["A"], [("k", .int 5)]⟩], []⟩
def sReordered : Stmt :=
  ⟨[.match_ false [⟨⟨some "a", [], []⟩, []⟩]],
   [.set [.mapReplace "a" [("j", .lit (.int 2))], .prop "a" "k" (.lit (.int 1))]]⟩

example : UAgrees (Update.step small [] gK 1 ["A"] sReordered) (Spec.apply small [] gK 1 sReordered) := by
  decide +kernel

/-- the same inside a MERGE, where that fix does not reach: `compile_merge_set_items` flattens the SET subclauses
    into property / map / label lists: `MERGE (m:C) ON CREATE SET m = {j: 2}, m.k = 1` ends without k -/
def sMergeReordered : Stmt :=
  ⟨[], [.merge ⟨⟨some "m", ["C"], []⟩, []⟩ [.mapReplace "m" [("j", .lit (.int 2))], .prop "m" "k" (.lit (.int 1))] []]⟩

theorem counterexample_merge_set_items_reordered :
    ¬ UAgrees (Update.step small [] ⟨[], []⟩ 0 [] sMergeReordered) (Spec.apply small [] ⟨[], []⟩ 0 sMergeReordered) := by
  decide +kernel

/-- the property map of a deleted relationship identity survives in the store (`mult = 0` record) and is found
    again when the identity is re-created: after `DELETE r` of (0)-[:T {w: 4}]->(1), `CREATE (a)-[:T]->(b)` brings
    w = 4 back (root cause: C06) -/
def gDead : Graph := ⟨[⟨0, ["A"], []⟩, ⟨1, ["B"], []⟩], [⟨⟨0, "T", 1⟩, 0, [("w", .int 4)]⟩]⟩
def sRecreate : Stmt :=
  ⟨[.match_ false [⟨⟨some "a", ["A"], []⟩, []⟩, ⟨⟨some "b", ["B"], []⟩, []⟩]],
   [.create [⟨⟨some "a", [], []⟩, [(⟨none, ["T"], .out, []⟩, ⟨some "b", [], []⟩)]⟩]]⟩

theorem counterexample_deleted_rel_props_resurrect :
    ¬ UAgrees (Update.step small [] gDead 2 ["A", "B", "T"] sRecreate)
      (Spec.apply small [] (Update.live gDead) 2 sRecreate) := by
  decide +kernel

/-- hence the full-strength statement fails -/
theorem C12_full_false : ¬ C12_full := by
  intro h
  exact counterexample_writes_against_snapshot (h small [] gAB 3 ["A", "B"] sRemoveTwice (by decide) (by decide))

end Nervus.Props.C12
