/-
  C30 — Bulk load equals transactional load.
  Statements only (helper lemmas: Nervus.Proofs.{Csr*,BulkOpen,BulkSpec,BulkAgree,BulkTx,BulkInterner,
  ReadsAgreeEqv}; the transactional side is `C06_partial`).  Model: Nervus.Model.Bulk (bulkload.rs
  BulkLoader::commit) + Nervus.Model.Engine (GraphEngine::open, write transactions).
-/
import Nervus.Proofs.CsrIncoming
import Nervus.Model.Bulk
import Nervus.Proofs.BulkTx
import Nervus.Proofs.BulkInterner
import Nervus.Proofs.EngineDangling
import Nervus.Props.C06
namespace Nervus.Props.C30
open Nervus Nervus.Storage
open Nervus.GraphSpec (Op)

theorem csr_guard_present : Cfg.current.csrGuard = true := by decide

/-- **C30 at full strength**: for every valid node / relationship set, the bulk-loaded database
    and the database that committed the same data through a transaction give the same dump through
    every read interface, relationship lists compared as lists of (src, type ID, dst).  Proved for the
    live part of the id space: `bulk_eq_tx` (both databases agree in every read with the same property
    graph), `bulk_eq_tx_nodes`, `bulk_eq_tx_edges` (same label table, same relationship lists with ids).
    Not proved as stated: the clauses of this `def` also quantify over node ids that do not exist and over
    type ids that were never interned.  The one difference found on the pinned tree — whole-map property
    reads when two parallel bulk relationships carry the same property key
    (`C30_counterexample_parallel_edge_key`) — is fixed. -/
def C30_full : Prop :=
  ∀ (ns : List BulkNode) (es : List BulkEdge), bulkValid ns es = true →
    ∃ d b t, bulkLoad ns es = some d ∧ Engine.open d = .ok b ∧
      Storage.run Cfg.current [.tx (txLoad ns es) true] = .ok t ∧
      b.nodes = t.nodes ∧ (∀ n, b.nodeLabelNames n = t.nodeLabelNames n) ∧
      (∀ n, b.resolveExternal n = t.resolveExternal n) ∧
      (∀ n k, b.nodeProp n k = t.nodeProp n k) ∧ (∀ n k, (b.nodeProps n).lookup k = (t.nodeProps n).lookup k) ∧
      (∀ e k, b.edgeProp e k = t.edgeProp e k) ∧ (∀ e k, (b.edgeProps e).lookup k = (t.edgeProps e).lookup k) ∧
      (∀ n rel, ∃ l l', b.neighbors n rel = some l ∧ t.neighbors n rel = some l' ∧ l.Perm l') ∧
      (∀ n rel, ∃ l l', b.incoming Cfg.current n rel = some l ∧ t.incoming Cfg.current n rel = some l' ∧ l.Perm l')

/-- **C30 (proved part): the segment the bulk loader writes.**  For EVERY valid input (no
    relationships at all, parallel relationships, self loops, shared names included) the one CSR
    segment of the bulk-loaded database answers `neighbors` and `incoming_neighbors`, under any type
    filter, with exactly the loaded relationships of that source / destination (as a multiset) and
    never panics — the CSR construction lemma shared with C05. -/
theorem bulk_segment_reads (ns : List BulkNode) (es : List BulkEdge) (hv : bulkValid ns es = true) :
    ∃ d g, bulkLoad ns es = some d ∧ d.segStore = [g] ∧ g.id = 0 ∧
      (∀ src rel, ∃ l, g.neighbors src rel = some l ∧
        l.Perm ((bulkEdges ns es).filter (fun e => e.src == src && relOk rel e))) ∧
      (∀ dst rel, ∃ l, g.incomingG Cfg.current.csrGuard dst rel = some l ∧
        l.Perm ((bulkEdges ns es).filter (fun e => e.dst == dst && relOk rel e))) := by
  have hb : bulkLoad ns es = some
      { wal := [.beginTx 0] ++ (bulkInterner ns es).zipIdx.map (fun p => WalRec.createLabel p.1 p.2) ++
                [.manifestSwitch 0 [0] 1, .checkpoint 0 0 1, .commitTx 0],
        i2e := ns.map (fun n => ⟨n.ext, ((bulkInterner ns es).getId n.label).getD 0⟩),
        segStore := [(buildForward 0 (bulkEdges ns es)).persist],
        store := bulkStore ns es, storeRoot := 1, vecs := [] } := by
    unfold bulkLoad; rw [hv]; rfl
  refine ⟨_, (buildForward 0 (bulkEdges ns es)).persist, hb, rfl, ?_, ?_, ?_⟩
  · rw [persist_id, buildForward_id]
  · intro src rel; exact buildForward_neighbors 0 _ src rel
  · intro dst rel; exact built_incoming _ 0 _ dst rel (Or.inl csr_guard_present)

/-! `bulkOK ns es` (Proofs/BulkAgree, decidable): what BulkLoader::validate checks (distinct external
    ids, relationship end points among the nodes) and no external id 0 (the known findings of C06 / C04
    about id 0 apply to both load paths and are not C30's). -/

/-- **C30 (proved part): `bulk_eq_tx`**, full strength on the live part of the id space.  For EVERY valid
    input — any nodes with any labels and property lists (duplicate keys included: the last value wins on both paths), any relationships
    (parallel ones, self loops, shared names, properties on parallel relationships) — the database that
    `GraphEngine::open` builds from the files of `BulkLoader::commit` and the database that committed
    `txLoad ns es` through one write transaction BOTH agree, in every read interface (node enumeration of
    both kinds, external ids, label names, single-key and whole-map node and relationship properties,
    outgoing and incoming neighbours with multiplicity under any type filter, external-id lookup of every
    id), with one and the same property graph: the Spec graph of the transactional load.
    Bulk side: `bulk_open` (the opened engine, explicitly), `txLoad_graph` (the Spec graph in closed form),
    `bulk_reads_agree`; transactional side: `txLoad_wf` + `C06_partial`. -/
theorem bulk_eq_tx (ns : List BulkNode) (es : List BulkEdge) (hok : bulkOK ns es = true)
    (hsz : (txLoad ns es).length ≤ labelMax) :
    ∃ d b t, bulkLoad ns es = some d ∧ Engine.open d = .ok b ∧
      Storage.run Cfg.current [.tx (txLoad ns es) true] = .ok t ∧
      ReadsAgree Cfg.current b (GraphSpec.run [.tx (txLoad ns es) true]) ∧
      ReadsAgree Cfg.current t (GraphSpec.run [.tx (txLoad ns es) true]) := by
  obtain ⟨hv, _, hz, _⟩ := bulkOK_unpack ns es hok
  obtain ⟨d, hd, hopen, hi2e⟩ := bulk_open ns es hv
  have hops := txLoad_loadOps ns es
  obtain ⟨t, ht, hrt⟩ := C06.C06_partial Cfg.current [.tx (txLoad ns es) true] rfl
    (by show (GraphSpec.txWF {} (txLoad ns es) && true) = true; rw [txLoad_wf ns es hok]; rfl)
    (by
      simp only [GraphSpec.noC06Trigger, GraphSpec.trigRelPropsSurvive, GraphSpec.trigLabelReAdd,
        GraphSpec.trigEdgeAndEndpointDelete, GraphSpec.trigExtZero, GraphSpec.anyCommitted, Bool.or_false,
        load_noDeletes _ hops, load_noLabelReAdd _ hops, load_noEndpointDelete _ hops,
        txLoad_noExtZero ns es hz]
      rfl)
    (by show (txLoad ns es).length + 0 ≤ labelMax; omega)
  exact ⟨d, _, t, hd, hopen, ht, bulk_reads_agree ns es (bulkEngine_isBulk ns es d hi2e) hok, hrt⟩

/-- `bulk_eq_tx` spelled out for the reads that need no translation between the two label tables: the two
    databases enumerate the same nodes and answer external ids, label names, every node property (single
    key and whole map) and every external-id lookup alike -/
theorem bulk_eq_tx_nodes (ns : List BulkNode) (es : List BulkEdge) (hok : bulkOK ns es = true)
    (hsz : (txLoad ns es).length ≤ labelMax) :
    ∃ d b t, bulkLoad ns es = some d ∧ Engine.open d = .ok b ∧
      Storage.run Cfg.current [.tx (txLoad ns es) true] = .ok t ∧
      b.nodes = t.nodes ∧ b.nodesSnap = t.nodesSnap ∧
      (∀ n ∈ b.nodes, b.resolveExternal n = t.resolveExternal n ∧
        (∀ l, l ∈ b.nodeLabelNames n ↔ l ∈ t.nodeLabelNames n) ∧
        (∀ k, b.nodeProp n k = t.nodeProp n k) ∧
        (∀ k, (b.nodeProps n).lookup k = (t.nodeProps n).lookup k)) ∧
      (∀ x, b.lookupInternal x = t.lookupInternal x) := by
  obtain ⟨d, b, t, h1, h2, h3, rb, rt⟩ := bulk_eq_tx ns es hok hsz
  obtain ⟨_, hnd, _, _⟩ := bulkOK_unpack ns es hok
  have hdead : (GraphSpec.run [.tx (txLoad ns es) true]).dead = [] := bulkGraph_dead ns es hnd
  refine ⟨d, b, t, h1, h2, h3, rb.nodes.trans rt.nodes.symm, rb.nodesSnap.trans rt.nodesSnap.symm, ?_, ?_⟩
  · intro n hn
    have hl : (GraphSpec.run [.tx (txLoad ns es) true]).live n = true := by
      rw [← mem_nodes_iff_live, ← rb.nodes]; exact hn
    exact ⟨(rb.ext n hl).trans (rt.ext n hl).symm, fun l => (rb.labels n l hl).trans (rt.labels n l hl).symm,
      fun k => (rb.nprop n k hl).trans (rt.nprop n k hl).symm, fun k => (rb.nprops n k hl).trans (rt.nprops n k hl).symm⟩
  · intro x
    have hx : GraphSpec.extOfDeleted (GraphSpec.run [.tx (txLoad ns es) true]) x = false := by
      unfold GraphSpec.extOfDeleted; rw [hdead]; simp
    exact (rb.extLookup x hx).trans (rt.extLookup x hx).symm

/-- `bulk_eq_tx` for the relationship reads, literally: the two databases have the SAME label table
    (`txLoad_interner`: same names, same ids), and from every node, under no type filter or under any
    interned type id, `neighbors` and `incoming_neighbors` return the same relationships — same (src, type
    id, dst) triples with the same multiplicities — on both. -/
theorem bulk_eq_tx_edges (ns : List BulkNode) (es : List BulkEdge) (hok : bulkOK ns es = true)
    (hsz : (txLoad ns es).length ≤ labelMax) :
    ∃ d b t, bulkLoad ns es = some d ∧ Engine.open d = .ok b ∧
      Storage.run Cfg.current [.tx (txLoad ns es) true] = .ok t ∧ b.interner = t.interner ∧
      ∀ n ∈ b.nodes, ∀ rel : Option Nat, (rel = none ∨ ∃ r nm, rel = some r ∧ b.interner[r]? = some nm) →
        (∃ l l', b.neighbors n rel = some l ∧ t.neighbors n rel = some l' ∧ l.Perm l') ∧
        (∃ l l', b.incoming Cfg.current n rel = some l ∧ t.incoming Cfg.current n rel = some l' ∧ l.Perm l') := by
  obtain ⟨hv, _, _, _⟩ := bulkOK_unpack ns es hok
  obtain ⟨d, hd, hopen, hi2e⟩ := bulk_open ns es hv
  obtain ⟨d', b, t, h1, h2, h3, rb, rt⟩ := bulk_eq_tx ns es hok hsz
  have hdd : d' = d := by rw [hd] at h1; cases h1; rfl
  subst hdd
  have hbE : b = bulkEngine ns es d' := by rw [hopen] at h2; cases h2; rfl
  have hint : b.interner = t.interner := by
    have ht : t = runTx Cfg.current {} (txLoad ns es) true :=
      (Except.ok.inj (h3 : Except.ok (runTx Cfg.current {} (txLoad ns es) true) = Except.ok t)).symm
    rw [ht, txLoad_interner, hbE]; rfl
  refine ⟨d', b, t, hd, h2, h3, hint, ?_⟩
  intro n hn rel hrel
  exact rb.neighbors_perm rt hint n (by rw [← mem_nodes_iff_live, ← rb.nodes]; exact hn) rel hrel

/-! ### non-vacuity and a worked equality (labels shared between nodes and types, parallel
    relationships, a self loop, properties of several kinds) -/

def A : Nat := 321
def R : Nat := 338
def K : Nat := 363

def ns1 : List BulkNode := [⟨10, A, [(K, 1)]⟩, ⟨11, A, []⟩, ⟨12, 322, [(K, 2), (364, 3)]⟩]
def es1 : List BulkEdge := [⟨10, R, 11, [(K, 5)]⟩, ⟨10, R, 11, []⟩, ⟨12, A, 12, []⟩, ⟨11, R, 10, [(364, 6)]⟩]

example : bulkValid ns1 es1 = true ∧ bulkDupEdgeKey es1 = false := by decide +kernel

/-- non-vacuity of `bulk_eq_tx` -/
example : bulkOK ns1 es1 = true ∧ (txLoad ns1 es1).length ≤ labelMax := by decide +kernel

theorem worked_example :
    ∃ d b t, bulkLoad ns1 es1 = some d ∧ Engine.open d = .ok b ∧
      Storage.run Cfg.current [.tx (txLoad ns1 es1) true] = .ok t ∧
      b.nodes = t.nodes ∧
      (b.neighbors 0 none).map (isort Edge.le) = (t.neighbors 0 none).map (isort Edge.le) ∧
      (b.incoming Cfg.current 0 none).map (isort Edge.le) = (t.incoming Cfg.current 0 none).map (isort Edge.le) ∧
      (b.nodeProps 2).lookup 364 = (t.nodeProps 2).lookup 364 ∧ b.edgeProp ⟨0, 2, 1⟩ K = t.edgeProp ⟨0, 2, 1⟩ K ∧
      b.nodeLabelNames 2 = t.nodeLabelNames 2 ∧ b.interner = t.interner :=
  ⟨_, _, _, rfl, rfl, rfl, by decide +kernel, by decide +kernel, by decide +kernel, by decide +kernel, by decide +kernel, by decide +kernel, by decide +kernel⟩

/-! ### counterexamples -/

/-- two parallel bulk relationships with the same property key: the single-key read returns the
    value of the LAST one on both sides; the pinned insertion loop of the whole-map read
    (`extendWith false`) returned the FIRST one for the bulk-loaded store, the current one agrees with
    the transactional load (same root cause as C05-whole-map-read-returns-oldest-sunk-value; fixed by
    c44ed2c) -/
def esDup : List BulkEdge := [⟨10, R, 11, [(K, 5)]⟩, ⟨10, R, 11, [(K, 6)]⟩]

theorem C30_counterexample_parallel_edge_key :
    ∃ d b t, bulkLoad ns1 esDup = some d ∧ Engine.open d = .ok b ∧
      Storage.run Cfg.current [.tx (txLoad ns1 esDup) true] = .ok t ∧
      b.edgeProp ⟨0, 2, 1⟩ K = some 6 ∧ t.edgeProp ⟨0, 2, 1⟩ K = some 6 ∧
      Store.extendWith false (b.store.fetchEdge ⟨0, 2, 1⟩ []) [] = [(K, 5)] ∧
      b.edgeProps ⟨0, 2, 1⟩ = [(K, 6)] ∧ t.edgeProps ⟨0, 2, 1⟩ = [(K, 6)] ∧ bulkDupEdgeKey esDup = true :=
  ⟨_, _, _, rfl, rfl, rfl, by decide +kernel, by decide +kernel, by decide +kernel, by decide +kernel, by decide +kernel, by decide +kernel⟩

/-- pinned tree: a bulk load without relationships opens, and the first incoming traversal panics
    (edge-free segment, csr.rs:67); fixed by 2666d9b -/
theorem C30_counterexample_no_relationships_panics :
    ∃ d b, bulkLoad ns1 [] = some d ∧ Engine.open d = .ok b ∧
      b.incoming Cfg.pinned 0 none = none ∧ b.incoming Cfg.current 0 none = some [] :=
  ⟨_, _, rfl, rfl, by decide +kernel, by decide +kernel⟩

end Nervus.Props.C30
