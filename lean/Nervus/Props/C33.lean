/-
  C33 — Execution limits fail cleanly.
  Model: Nervus.Model.PlanOps (guard iterator around every node, the `check_collection_size` /
  `check_apply_rows_per_outer` / `check_timeout` sites inside the operators) and Nervus.Model.Limits
  (`Opts`, effective limits with the defaults regenerated from query_api.rs).
  The row budget (one global counter) and the clock are ORACLES of the limit environment: every
  theorem holds for every firing pattern, hence for the real counter and the real clock.
  Not in the model (partial): wall-clock time itself — "stops within a bounded amount of extra
  work" is proved as a bound on PULLS (`bounded_extra_work` over the whole plan, `stops_at_error_*`
  per operator), not on seconds.
-/
import Nervus.Proofs.Limits
import Nervus.Proofs.PlanInst
import Nervus.Proofs.Bounded
import Nervus.Proofs.WriteOps
namespace Nervus.Props.C33
open Nervus Nervus.PlanOps Nervus.PlanInst

/-- as in Props/C22: the audited link to the regenerated flags -/
theorem quirks_repaired : Quirks.current.forwardsErr := Quirks.current_forwardsErr

/-- the limit defaults the model uses are those of the source (regenerated table) -/
theorem defaults : Opts.default = ⟨500000, 200000, 5000, 200000⟩ := by decide

section
variable {χ ρ ν ε κ α : Type} [DecidableEq κ]

/-- **complete_or_error**: under ANY limit environment whose verdicts are limit errors (any
    `ExecuteOptions`, any behaviour of the row counter and of the clock), for every plan: the
    limited run answers exactly what the unlimited run answers, or a limit error — never a proper
    sub-bag, never an altered result.  (Induction over the plan: every operator forwards `Err`
    items — C22 — and a limit check only ever ADDS an `Err`.) -/
theorem complete_or_error (isLimit : ε → Bool) (S : Sem χ ρ ν ε κ α) (Q : Quirks) (hq : Q.forwardsErr)
    (L : LimEnv ε) (hL : L.Lawful isLimit) (hS : S.LimitLawful L.coll isLimit)
    (params : ρ) (p : Plan χ ρ ε α) : CompleteOrError S Q L isLimit params p :=
  (runL_limRel isLimit S Q hq L hL hS p .root params).collect isLimit

/-- in particular: if the limited run answers `Ok rows`, these are the rows of the unlimited run -/
theorem limited_ok_is_complete (isLimit : ε → Bool) (S : Sem χ ρ ν ε κ α) (Q : Quirks) (hq : Q.forwardsErr)
    (L : LimEnv ε) (hL : L.Lawful isLimit) (hS : S.LimitLawful L.coll isLimit)
    (params : ρ) (p : Plan χ ρ ε α) (rows : List ρ) (h : execute S Q L params p = .ok rows) :
    execute S Q .unlimited params p = .ok rows :=
  OrLimit.ok_left (complete_or_error isLimit S Q hq L hL hS params p) h

theorem not_completeOrError {isLimit : ε → Bool} {S : Sem χ ρ ν ε κ α} {Q : Quirks} {L : LimEnv ε} {params : ρ}
    {p : Plan χ ρ ε α} {a b : List ρ} (h1 : execute S Q .unlimited params p = .ok a)
    (h2 : execute S Q L params p = .ok b) (hne : a ≠ b) : ¬ CompleteOrError S Q L isLimit params p :=
  fun h => hne (Except.ok.inj (h1.symm.trans (OrLimit.ok_left h h2)))

/-! ### bounded extra work, per operator on the path of the error: once an operator has pulled an
    `Err` item (the limit error of a failing check below it) it pulls no further input item when
    its consumer stops at the first `Err` it receives -/

theorem stops_at_error_guard (L : LimEnv ε) (site : Site) : StopsAtError (guardT (ρ := ρ) L site) :=
  Trans.stopsAtError _ (guardT_errFwd L site)

omit [DecidableEq κ] in
theorem stops_at_error_filter (S : Sem χ ρ ν ε κ α) (Q : Quirks) (L : LimEnv ε) (env : ρ) (pred : χ) :
    StopsAtError (filterT S Q L env pred) :=
  Trans.stopsAtError _ (mapT_errFwd _)

omit [DecidableEq κ] in
theorem stops_at_error_project (S : Sem χ ρ ν ε κ α) (L : LimEnv ε) (env : ρ) (projs : List (String × χ)) :
    StopsAtError (projectT S L env projs) :=
  Trans.stopsAtError _ (mapT_errFwd _)

theorem stops_at_error_distinct (S : Sem χ ρ ν ε κ α) : StopsAtError (distinctT (ρ := ρ) S false) :=
  Trans.stopsAtError _ (distinctT_errFwd S)

theorem stops_at_error_skip : StopsAtError (skipT (ε := ε) (ρ := ρ) false) :=
  Trans.stopsAtError _ skipT_errFwd

theorem stops_at_error_limit : StopsAtError (limitT (ε := ε) (ρ := ρ)) :=
  Trans.stopsAtError _ limitT_errFwd

theorem stops_at_error_expansion (g : Nat → ρ → PlanOps.Stream ε ρ) : StopsAtError (flatMapT g) :=
  Trans.stopsAtError _ (flatMapT_errFwd g)

omit [DecidableEq κ] in
theorem stops_at_error_orderBy (S : Sem χ ρ ν ε κ α) (Q : Quirks) (hq : Q.orderByKeepsErr = false)
    (L : LimEnv ε) (site : Site) (env : ρ) (keys : List (χ × Bool)) :
    StopsAtError (orderByT S Q L site env keys) :=
  Trans.stopsAtError _ (orderByT_errFwd S Q hq L site env keys)

theorem stops_at_error_aggregate (S : Sem χ ρ ν ε κ α) (L : LimEnv ε) (site : Site) (env : ρ)
    (groupBy : List String) (aggs : List (α × String)) :
    StopsAtError (aggregateT S L site env groupBy aggs) :=
  Trans.stopsAtError _ (aggregateT_errFwd S L site env groupBy aggs)

/-- **bounded extra work, over the plan** (full strength in pulls): a consumer of ANY node of ANY
    plan that does not call again after an `Err` (as the driver's `collect` does) makes every
    operator below behave the same way towards its own inputs — no iterator anywhere in the tree
    is pulled again after it has returned an `Err` (`late = false` for every hand-over) — and the
    pulls that return an `Err` number at most the length of the operator path below the node
    (`Plan.depth`; nested executions count as children).  After the first failing check every pull
    there still is returns that error: it travels up one `next()` per level and nothing else runs. -/
theorem bounded_extra_work_node (S : Sem χ ρ ν ε κ α) (Q : Quirks) (hq : Q.forwardsErr) (L : LimEnv ε)
    (p : Plan χ ρ ε α) (site : Site) (env : ρ) (d : Nat) (hc : Calls (runL S Q L site env p) d) :
    (∀ h ∈ trace false S Q L site env p d, h.late = false) ∧
    errPulls (trace false S Q L site env p d) ≤ p.depth :=
  (trace_sound S Q hq L p site env).good d hc

/-- `bounded_extra_work_node` at the driver: while the query's result is collected -/
theorem bounded_extra_work (S : Sem χ ρ ν ε κ α) (Q : Quirks) (hq : Q.forwardsErr) (L : LimEnv ε)
    (params : ρ) (p : Plan χ ρ ε α) : BoundedExtraWork S Q L params p :=
  bounded_extra_work_node S Q hq L p .root params _ (Calls.driver _)

/-- **complete_or_error for write statements** (`execute_write_with_rows`: staged read clauses,
    write clauses, FOREACH): under any lawful limit environment the statement does exactly what the
    unlimited run does — same modification count, rows handed on and graph state — or fails with a
    limit error.  The list expressions of FOREACH clauses are assumed not to park failures. -/
theorem write_complete_or_error {ω τ : Type} (isLimit : ε → Bool) (S : Sem χ ρ ν ε κ α) (Q : Quirks)
    (hq : Q.forwardsErr) (L : LimEnv ε) (hL : L.Lawful isLimit) (hS : S.LimitLawful L.coll isLimit)
    (W : WSem ω ρ ε τ) (wp : WPlan χ ρ ε α ω)
    (hnp : ∀ e ∈ wp.lists, ∀ env r, S.park L.coll e env r = none) (site : Site) (env : ρ) (t : τ) :
    execW S Q L W site env wp t = execW S Q LimEnv.unlimited W site env wp t ∨
    ∃ e, execW S Q L W site env wp t = .error e ∧ isLimit e = true := by
  show OrLimit isLimit _ _
  have hrun : ∀ (p : Plan χ ρ ε α) (site : Site) (env : ρ),
      OrLimit isLimit (collect (runL S Q L site env p)) (collect (runL S Q LimEnv.unlimited site env p)) :=
    fun p site env => (runL_limRel isLimit S Q hq L hL hS p site env).collect isLimit
  induction wp generalizing site env t with
  | read p =>
    unfold execW
    exact (hrun _ _ _).elim (fun _ => .refl _ _) (fun _ => .refl _ _) (fun _ hl => .limit _ hl _)
  | stage op inp ih =>
    unfold execW
    refine (ih hnp _ _ _).elim (fun _ => .refl _ _) (fun ⟨n, rows, t1⟩ => ?_) (fun _ hl => .limit _ hl _)
    dsimp only
    exact (hrun _ _ _).elim (fun _ => .refl _ _) (fun _ => .refl _ _) (fun _ hl => .limit _ hl _)
  | stage2 op l r ihl ihr =>
    unfold execW
    refine (ihl (fun e he => hnp e (List.mem_append_left _ he)) _ _ _).elim (fun _ => .refl _ _)
      (fun ⟨n, lrows, t1⟩ => ?_) (fun _ hl => .limit _ hl _)
    dsimp only
    refine (ihr (fun e he => hnp e (List.mem_append_right _ he)) _ _ _).elim (fun _ => .refl _ _)
      (fun ⟨m, rrows, t2⟩ => ?_) (fun _ hl => .limit _ hl _)
    dsimp only
    exact (hrun _ _ _).elim (fun _ => .refl _ _) (fun _ => .refl _ _) (fun _ hl => .limit _ hl _)
  | write w inp ih =>
    unfold execW
    refine (ih hnp _ _ _).elim (fun _ => .refl _ _) (fun ⟨n, rows, t1⟩ => ?_) (fun _ hl => .limit _ hl _)
    dsimp only
    exact (hrun _ _ _).elim (fun _ => .refl _ _) (fun _ => .refl _ _) (fun _ hl => .limit _ hl _)
  | foreach list var sub inp ihs ihi =>
    unfold execW
    refine (ihi (fun e he => hnp e (List.mem_cons_of_mem _ (List.mem_append_right _ he))) _ _ _).elim
      (fun _ => .refl _ _) (fun ⟨n, rows, t1⟩ => ?_) (fun _ hl => .limit _ hl _)
    dsimp only
    refine (hrun _ _ _).elim (fun _ => .refl _ _) (fun rows' => ?_) (fun _ hl => .limit _ hl _)
    dsimp only
    exact (foreachLoop_lim isLimit S W L.coll hS list var env (hnp list List.mem_cons_self env) _ _
      (fun i j r t' => ihs (fun e he => hnp e (List.mem_cons_of_mem _ (List.mem_append_left _ he))) _ _ _) _ _).elim
      (fun _ => .refl _ _) (fun _ => .refl _ _) (fun _ hl => .limit _ hl _)

end

/-- **C33, bounded extra work (full strength in pulls)** on the working tree, for every
    instantiation, every limit environment (lawful or not: ANY error counts), every plan -/
theorem C33_bounded_work_full {χ ρ ν ε κ α : Type} [DecidableEq κ] (S : Sem χ ρ ν ε κ α) (L : LimEnv ε)
    (params : ρ) (p : Plan χ ρ ε α) : BoundedExtraWork S Quirks.current L params p :=
  bounded_extra_work S _ quirks_repaired L params p

/-- **C33 (full strength, as far as the model reaches)** on the working tree: complete-or-error
    for every lawful limit environment, every instantiation, every plan.  PARTIAL with respect to
    the property text: wall-clock time is outside the model (see the header). -/
theorem C33_full {χ ρ ν ε κ α : Type} [DecidableEq κ] (isLimit : ε → Bool) (S : Sem χ ρ ν ε κ α)
    (L : LimEnv ε) (hL : L.Lawful isLimit) (hS : S.LimitLawful L.coll isLimit)
    (params : ρ) (p : Plan χ ρ ε α) : CompleteOrError S Quirks.current L isLimit params p :=
  complete_or_error isLimit S _ quirks_repaired L hL hS params p

/-- the theorem applies to the instance the `planlim` stream runs, for every `ExecuteOptions`, every
    behaviour of the row counter and the clock, and every lawful way the EXISTS subqueries that sit
    inside expressions answer (as without limits, or failing with a limit error) -/
theorem C33_instance (X : (String → Nat → Option DErr) → ExFn) (o : Opts)
    (rowFires timeFires : Site → Nat → Bool)
    (hX : ExLawful X (LimEnv.ofOpts DErr.limit o rowFires timeFires).coll) (params : DRow)
    (p : Plan DE DRow DErr DAgg) :
    CompleteOrError (dsemX X) Quirks.current (LimEnv.ofOpts DErr.limit o rowFires timeFires) DErr.isLimit params p :=
  C33_full DErr.isLimit (dsemX X) _ (ofOpts_lawful o rowFires timeFires)
    (dsemX_limitLawful X _ (ofOpts_collLawful o rowFires timeFires) hX) params p

/-- the evaluator's list builtins build the whole list: no construction is cut short by a limit
    (regenerated from evaluator/evaluator_collections.rs and evaluator_comprehension.rs: the loops of
    `evaluate_range` run to `end`, nothing there reads a limit) -/
theorem list_builtins_unbounded : Generated.boundedListBuiltins = [] := by decide

/-- every list-producing expression of the instance, under a collection limit: the FULL value of
    the unlimited evaluation, or the limit error — never a shortened list -/
theorem list_builtins_full_or_error (X : (String → Nat → Option DErr) → ExFn)
    (coll : String → Nat → Option DErr) (hc : CollLawful coll) (hX : ExLawful X coll) (e : DE) (env r : DRow)
    (hp : (dsemX X).park coll e env r = none) :
    (dsemX X).eval coll e env r = (dsemX X).eval (fun _ _ => none) e env r ∨
    ∃ er, (dsemX X).eval coll e env r = .error er ∧ DErr.isLimit er = true :=
  (dsemX_limitLawful X coll hc hX).eval e env r hp

/-! ### witnesses on the concrete instance (replayed on the engine: corpus/planlim/c33-*.ops) -/

/-- `UNWIND [1, 2, 3] AS x RETURN DISTINCT x` -/
def qDistinct3 : Plan DE DRow DErr DAgg :=
  .distinct (.project [("x", .var "x")] (.unwind (.lit (.list [.int 1, .int 2, .int 3])) "x" (.scan [[]])))

def never : Site → Nat → Bool := fun _ _ => false

/-- `max_collection_items = 2`, everything else unlimited -/
def coll2 : LimEnv DErr := LimEnv.ofOpts DErr.limit ⟨10 ^ 9, 2, 0, 10 ^ 9⟩ never never

/-- the row budget runs out at the second row of the Project node (an oracle pattern the real
    counter produces for `max_intermediate_rows = 5`) -/
def rows5 : LimEnv DErr :=
  LimEnv.ofOpts DErr.limit ⟨5, 10 ^ 9, 0, 10 ^ 9⟩ (fun site i => site == .left .root && i ≥ 1) never

def rowX (i : Int) : DRow := [("x", dint i)]

/-- non-vacuity: without DISTINCT the run under `coll2` fails with the limit error on the pinned tree too -/
example : execute dsem Quirks.pinned coll2 []
    (.project [("x", .var "x")] (.unwind (.lit (.list [.int 1, .int 2, .int 3])) "x" (.scan [[]])))
    = .error (.limit .coll) := by decide +kernel

/-- pinned tree: the `Unwind.list` check fails (3 > 2), DISTINCT drops the limit error and the
    query answers `Ok []` — an altered result, not a limit error -/
theorem C33_counterexample_distinct_collection :
    execute dsem Quirks.pinned .unlimited [] qDistinct3 = .ok [rowX 1, rowX 2, rowX 3] ∧
    execute dsem Quirks.pinned coll2 [] qDistinct3 = .ok [] ∧
    ¬ CompleteOrError dsem Quirks.pinned coll2 DErr.isLimit [] qDistinct3 := by
  have h1 : execute dsem Quirks.pinned .unlimited [] qDistinct3 = .ok [rowX 1, rowX 2, rowX 3] := by decide +kernel
  have h2 : execute dsem Quirks.pinned coll2 [] qDistinct3 = .ok [] := by decide +kernel
  exact ⟨h1, h2, not_completeOrError h1 h2 (by simp)⟩

/-- pinned tree: the row budget fails below DISTINCT and the query answers a truncated result -/
theorem C33_counterexample_distinct_rows :
    execute dsem Quirks.pinned rows5 [] qDistinct3 = .ok [rowX 1] ∧
    ¬ CompleteOrError dsem Quirks.pinned rows5 DErr.isLimit [] qDistinct3 := by
  have h1 : execute dsem Quirks.pinned .unlimited [] qDistinct3 = .ok [rowX 1, rowX 2, rowX 3] := by decide +kernel
  have h2 : execute dsem Quirks.pinned rows5 [] qDistinct3 = .ok [rowX 1] := by decide +kernel
  exact ⟨h2, not_completeOrError h1 h2 (by simp)⟩

/-- the same runs on the repaired operators: limit errors -/
theorem C33_witnesses_repaired :
    execute dsem Quirks.repaired coll2 [] qDistinct3 = .error (.limit .coll) ∧
    execute dsem Quirks.repaired rows5 [] qDistinct3 = .error (.limit .rows) := by
  constructor <;> decide +kernel

/-- pinned tree, extra work: after the error of the second row DISTINCT keeps pulling to the end
    of its input (4 calls for a 3-item input); the repaired DISTINCT stops at the error (2 calls) -/
theorem C33_counterexample_distinct_keeps_pulling :
    (distinctT dsem true).need [] [.ok (rowX 1), .error (DErr.limit .rows), .ok (rowX 2)]
      (driverDemand ((distinctT dsem true).run [] [.ok (rowX 1), .error (DErr.limit .rows), .ok (rowX 2)])) = 4 ∧
    (distinctT dsem false).need [] [.ok (rowX 1), .error (DErr.limit .rows), .ok (rowX 2)]
      (driverDemand ((distinctT dsem false).run [] [.ok (rowX 1), .error (DErr.limit .rows), .ok (rowX 2)])) = 2 := by
  constructor <;> decide +kernel

/-- `UNWIND ['true', 1, 'false'] AS v RETURN DISTINCT toBoolean(v) AS b` — the second row fails -/
def qDistinctMixed : Plan DE DRow DErr DAgg :=
  .distinct (.project [("b", .toBoolean (.var "v"))]
    (.unwind (.lit (.list [.str "true", .int 1, .str "false"])) "v" (.scan [[]])))

/-- pinned tree, in the terms of `BoundedExtraWork`: DISTINCT drops the error of the second row and
    pulls its input again — the third row is a `late` hand-over; on the repaired operators nothing
    is `late` and the error costs at most 3 pulls (the depth of the plan) -/
theorem C33_counterexample_late_pull :
    ¬ BoundedExtraWork dsem Quirks.pinned .unlimited [] qDistinctMixed ∧
    BoundedExtraWork dsem Quirks.repaired .unlimited [] qDistinctMixed := by
  constructor
  · intro h
    have := h.1 ⟨false, .ok [("b", dbool false)], true⟩ (by decide +kernel)
    cases this
  · exact bounded_extra_work dsem Quirks.repaired (by decide +kernel) .unlimited [] qDistinctMixed

/-! ### a parked limit error and the end of the stream -/

/-- `EXISTS { UNWIND range(1, n) AS k RETURN k }` for the row's `n`: the `Function(range)` check -/
def existsRange : (String → Nat → Option DErr) → ExFn := fun coll _ _ row =>
  match rowGet row "n" with
  | some (.s (.int n)) =>
    (match coll "Function(range)" n.toNat with
     | some e => .failed e
     | none => .has (n > 0))
  | _ => .has false

/-- `UNWIND [3, 5, 50] AS n UNWIND CASE WHEN EXISTS { … range(1, n) … } THEN [n] ELSE [] END AS y` -/
def qParkLast : Plan DE DRow DErr DAgg :=
  .unwind (.caseWhen (.existsSub 0) (.single (.var "n")) (.lit (.list []))) "y"
    (.unwind (.lit (.list [.int 3, .int 5, .int 50])) "n" (.scan [[]]))

/-- `max_collection_items = 10` -/
def coll10 : LimEnv DErr := LimEnv.ofOpts DErr.limit ⟨10 ^ 9, 10, 0, 10 ^ 9⟩ never never

/-- a guard that skips `take_failure` on the exhausting pull -/
def Quirks.guardDrops : Quirks := { Quirks.repaired with guardDropsFailureAtEnd := true }

def rowNY (i : Int) : DRow := [("n", dint i), ("y", dint i)]

/-- the limit error is parked while the LAST row is processed, that row yields nothing, the stream
    ends — and a guard that does not look for a parked failure at the end answers a truncated result -/
theorem C33_counterexample_guard_drops_parked_failure :
    execute (dsemX existsRange) Quirks.guardDrops .unlimited [] qParkLast = .ok [rowNY 3, rowNY 5, rowNY 50] ∧
    execute (dsemX existsRange) Quirks.guardDrops coll10 [] qParkLast = .ok [rowNY 3, rowNY 5] ∧
    ¬ CompleteOrError (dsemX existsRange) Quirks.guardDrops coll10 DErr.isLimit [] qParkLast := by
  have h1 : execute (dsemX existsRange) Quirks.guardDrops .unlimited [] qParkLast = .ok [rowNY 3, rowNY 5, rowNY 50] := by decide +kernel
  have h2 : execute (dsemX existsRange) Quirks.guardDrops coll10 [] qParkLast = .ok [rowNY 3, rowNY 5] := by decide +kernel
  exact ⟨h1, h2, not_completeOrError h1 h2 (by simp)⟩

/-- the repaired guard reports it -/
theorem C33_witness_parked_failure_reported :
    execute (dsemX existsRange) Quirks.repaired coll10 [] qParkLast = .error (.limit .coll) := by decide +kernel

example : ExLawful existsRange coll10.coll := by
  intro i env row
  simp only [existsRange]
  cases rowGet row "n" with
  | none => left; rfl
  | some v =>
    cases v with
    | list xs => left; rfl
    | s x =>
      cases x with
      | int n =>
        simp only
        cases h : coll10.coll "Function(range)" n.toNat with
        | none => left; rfl
        | some e => right; exact ⟨e, rfl, (ofOpts_lawful _ _ _).coll _ _ _ h⟩
      | _ => left; rfl

end Nervus.Props.C33
