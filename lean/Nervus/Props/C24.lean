/-
  C24 — Transactions see their own writes.
  Statements only (helper lemmas: Nervus.Proofs.Txn, Nervus.Proofs.TxnLabels).  Model: Nervus.Model.Txn —
  `execute_write_in_txn` evaluates every statement on `db.snapshot()`, the committed state.  Reference:
  Nervus.Spec.TxnSem.rywStep — statement `i` of a transaction evaluates on committed ⊕ staged(1..i−1) (failed
  statements have no effect in both).  The fragment that does hold, label writes by name, is on
  Nervus.Model.TxnLabels (last section).
-/
import Nervus.Proofs.Txn
import Nervus.Spec.TxnSem
import Nervus.Proofs.TxnLabels
namespace Nervus.Props.C24
open Nervus.Txn Nervus.Spec.TxnSem

/-- **read_your_writes / C24 at full strength**: for every history the code behaves like the semantics in which
    each statement of an explicit transaction reads committed ⊕ the writes staged by the earlier statements. -/
def C24_full : Prop := ∀ (σ : State) (ops : List Op), codeRun σ ops = rywRun σ ops
abbrev read_your_writes := C24_full

/-- **C24_partial**: what does hold.  If no statement of an explicit transaction reads a label that an earlier
    statement of the same transaction writes (trigger `readsOwnWrites`, decidable on the statement sequence), the
    transaction behaves exactly as if every statement had been run on committed ⊕ its own staged writes —
    for all histories and all committed graphs, by induction over the history. -/
theorem C24_partial (σ : State) (w : Option (List Nat)) (ops : List Op) (ht : Tracks σ w)
    (htrig : readsOwnWrites w ops = false) : codeRun σ ops = rywRun σ ops := by
  rw [codeRun_def]
  exact ryw_run_eq true ops σ w ht htrig

/-- from the empty database (or any state without an open transaction) the tracker starts at `none` -/
theorem C24_partial_init (ops : List Op) (htrig : readsOwnWrites none ops = false) :
    codeRun State.init ops = rywRun State.init ops :=
  C24_partial State.init none ops Tracks.init htrig

/-- one statement: when the staged writes do not touch the label the statement reads, evaluating it on the
    committed state is evaluating it on committed ⊕ staged (the frame property behind `C24_partial`). -/
theorem stmt_reads_only_its_label (g : Graph) (ps : List Prim) (n : Nat) (s : Stmt)
    (h : ∀ l, s.reads = some l → ∀ p ∈ ps, p.lbl ≠ l) : exec (applyAll g ps) n s = exec g n s :=
  exec_frame g ps n s h

/-- the same held on the pinned tree, before failed statements were made atomic (the two repairs are independent) -/
theorem ryw_independent_of_atomicity (ops : List Op) (htrig : readsOwnWrites none ops = false) :
    legacyRun State.init ops = legacyRywRun State.init ops :=
  ryw_run_eq false ops State.init none Tracks.init htrig

/-! ### non-vacuity: a transaction with several statements on different labels, then one on a fresh label -/

def okHistory : List Op :=
  [.auto (.create 0 [(1, .t), (2, .f)] false), .begin, .tq (.setw 0 .t .x), .tq (.create 1 [(3, .t)] true),
   .commit, .begin, .tq (.del 1), .tq (.merge 0 7), .rollback]

example : readsOwnWrites none okHistory = false := by decide
example : (codeRun State.init okHistory).committed =
    [⟨0, 0, 1, some .x, none⟩, ⟨1, 0, 2, some .f, none⟩, ⟨2, 1, 3, some .t, some true⟩] := by decide

/-! ### the defect (known finding C24-txn-reads-committed-snapshot), replayed by corpus/capiryw/*.ops -/

/-- `CREATE (:A {k:1, q:true})` then `MATCH (n:A) WHERE n.q = true SET n.q = false` in one transaction:
    the second statement matches nothing, `q` stays `true` (the probe's `CREATE (:X {k:1})`, `MATCH (n:X) SET n.k = 2`). -/
def witness : List Op := [.begin, .tq (.create 0 [(1, .t)] false), .tq (.setw 0 .t .f), .commit]

theorem counterexample_match_after_create :
    (codeRun State.init witness).committed.map (·.q) = [some .t] ∧
      (rywRun State.init witness).committed.map (·.q) = [some .f] ∧
      readsOwnWrites none witness = true := by decide

/-- MERGE twice in one transaction creates two nodes: the second MERGE does not see the first one's node. -/
theorem counterexample_merge_twice :
    (codeRun State.init [.begin, .tq (.merge 0 1), .tq (.merge 0 1), .commit]).committed.length = 2 ∧
      (rywRun State.init [.begin, .tq (.merge 0 1), .tq (.merge 0 1), .commit]).committed.length = 1 := by decide

/-- a statement acts on a node that an earlier statement of the transaction has deleted: the update is staged for
    the dead node (and lost), where read-your-writes would not have matched it at all; here the visible difference
    is in what a *following* statement sees: DELETE then MERGE of the same key does not re-create the node. -/
theorem counterexample_delete_then_merge :
    let h := [.auto (.create 0 [(1, .t)] false), .begin, .tq (.del 0), .tq (.merge 0 1), .commit]
    (codeRun State.init h).committed = [] ∧ (rywRun State.init h).committed.length = 1 := by decide

theorem C24_full_false : ¬ C24_full := fun h => by
  have := h State.init witness
  exact absurd this (by decide)


/-! ### the name-level fragment that DOES hold: labels added / removed by name (Nervus.Model.TxnLabels)

  Label names are interned write-through (published at once) and every `ndb_txn_query` statement gets a fresh
  snapshot, so a later statement can resolve a label name that an earlier statement of the same transaction
  introduced; additions and removals for the same node compose in the transaction's pending lists. -/

section Labels
open Nervus.TxnLabels

/-- what the source does today: `execute_write_in_txn` calls `db.snapshot()` for every statement (regenerated) -/
theorem snapshot_taken_per_statement : Generated.capiTxnSnapshotPerStatement = true := snapshot_per_statement

/-- **labels_read_your_writes**: for every committed graph `g`, every label table that contains the labels in use,
    every committed node `n` (with an id of its own) and every transaction of the fragment
    (`MATCH (n:Base) SET n:X`, `… REMOVE n:X`, `MATCH (n) REMOVE n:X`, `CREATE (:X …)`, unrelated statements; base
    labels 0/1 are only matched on, labels ≥ 2 only written) in which no label is re-added after the transaction
    removed it, the labels `n` has after `begin; statements; commit` on the code are exactly the labels obtained by
    applying the statements one after the other — each statement observes the label writes of the earlier ones,
    including names that were new to the database. -/
theorem labels_read_your_writes (σ : TxnLabels.State) (hopen : σ.staged = none) (n : TxnLabels.Node)
    (hn : n ∈ σ.committed) (huniq : ∀ m ∈ σ.committed, m.id = n.id → m.labels = n.labels)
    (hlt : ∀ m ∈ σ.committed, m.id < σ.allocated) (hknown : ∀ y ∈ n.labels, y ∈ σ.known)
    (stmts : List TxnLabels.Stmt) (hwf : ∀ s ∈ stmts, s.wellFormed = true) (hre : reAdds [] stmts = false) :
    ∃ ps, (TxnLabels.run true σ (txnOps stmts)).committed = applyCommit σ.committed ps ∧
      ∀ l, l ∈ finalLabels n ps ↔ l ∈ specNodeLabels n.labels stmts :=
  ⟨_, run_txn_committed σ hopen stmts,
    node_labels_agree σ.committed n σ.allocated hn huniq hlt stmts [] σ.known [] n.labels hwf
      (Agree.init n σ.allocated σ.known hknown) hre⟩

/-- non-vacuity, and the shape the seeded fault needs: an unrelated first statement, then a label that is new to
    the database is added and removed again by name -/
def lblState : TxnLabels.State := ⟨[⟨0, [0], 1, false⟩, ⟨1, [1], 2, false⟩], [], 2, [0, 1], none, none⟩
def lblTxn : List TxnLabels.Stmt := [.seen 0, .addl 0 2, .addl 1 3, .reml 0 2, .crx 4 7, .remall 4]

example : reAdds [] lblTxn = false ∧ (∀ s ∈ lblTxn, s.wellFormed = true) := by decide
example : ((TxnLabels.run true lblState (txnOps lblTxn)).committed.map (·.labels)) = [[0], [1, 3], []] := by decide +kernel
example : specNodeLabels [0] lblTxn = [0] ∧ specNodeLabels [1] lblTxn = [1, 3] := by decide

/-- **one snapshot per transaction breaks the fragment** (the shape of seeded fault C24-seed1): with the label table
    of the transaction's first snapshot, `REMOVE n:X` cannot resolve a name interned later and stages nothing —
    the label survives the commit. -/
theorem per_transaction_snapshot_breaks_labels :
    ((TxnLabels.run false lblState (txnOps [.seen 0, .addl 0 2, .reml 0 2])).committed.map (·.labels)) = [[0, 2], [1]] ∧
      ((TxnLabels.run true lblState (txnOps [.seen 0, .addl 0 2, .reml 0 2])).committed.map (·.labels)) = [[0], [1]] := by
  decide +kernel

/-- **counterexample (known finding C24-label-readd-lost-at-commit)**: commit applies every label addition and then
    every label removal, so `SET n:X`, `REMOVE n:X`, `SET n:X` in one transaction ends without the label. -/
theorem counterexample_label_readd :
    ((TxnLabels.run true lblState (txnOps [.addl 0 2, .reml 0 2, .addl 0 2])).committed.map (·.labels)) = [[0], [1]] ∧
      specNodeLabels [0] [.addl 0 2, .reml 0 2, .addl 0 2] = [0, 2] ∧
      reAdds [] [.addl 0 2, .reml 0 2, .addl 0 2] = true := by decide

end Labels

end Nervus.Props.C24
