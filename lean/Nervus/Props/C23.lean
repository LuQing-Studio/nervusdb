/-
  C23 — Expression evaluation obeys Cypher laws.   Statements, and the proofs of those that are proved nowhere else
  (lemmas live in Nervus.Proofs.*).

  Model: `Nervus.Model.Eval` (mirrors evaluator.rs + evaluator_{equality,compare,numeric,arithmetic,
  membership}.rs after the `fix:` commits; the pinned comparison through `as f64` is kept as `Eval.Pinned`).
  Spec:  `Nervus.Spec.CypherValue` (Kleene logic, numbers as exact rationals, THE overflow rule),
         `Nervus.Spec.Findings` (trigger predicates).
  Every theorem quantifies over ALL environments `E` (float arithmetic, temporal parser, duration
  arithmetic) and over all values of the stated domain.
-/
import Nervus.Proofs.Logic
import Nervus.Proofs.Compare
import Nervus.Proofs.ListEq
set_option exponentiation.threshold 4096
namespace Nervus.Props.C23
open Nervus Nervus.Eval Nervus.Spec Value

/-- **C23 at full strength** (NOT provable, see the counterexamples): `<=` is `<` or `=` for all
    well-formed null/NaN-free values, in every environment.  (All the other laws below ARE proved for all
    values.) -/
def C23_full : Prop := ∀ (E : Env) (a b : Value), a.wf = true → b.wf = true → clean a = true → clean b = true →
  compareValues E .le a b = orEq (compareValues E .lt a b) (cypherEquals a b)

/-! ### three-valued logic, including non-boolean operands -/

/-- AND / OR / XOR / NOT are Kleene's connectives; an operand that is not a boolean acts as `null`. -/
theorem and_table (a b : Value) : Eval.and3 a b = triValue (Spec.and3 (tri a) (tri b)) := and3_spec a b
theorem or_table (a b : Value) : Eval.or3 a b = triValue (Spec.or3 (tri a) (tri b)) := or3_spec a b
theorem xor_table (a b : Value) : Eval.xor3 a b = triValue (Spec.xor3 (tri a) (tri b)) := xor3_spec a b
theorem not_table (a : Value) : Eval.not3 a = triValue (Spec.not3 (tri a)) := not3_spec a

/-- the 3×3 cores are the published truth tables (T, F, null) -/
theorem kleene_tables :
    [Spec.and3 (some true) (some true), Spec.and3 (some true) (some false), Spec.and3 (some true) none,
     Spec.and3 (some false) (some true), Spec.and3 (some false) (some false), Spec.and3 (some false) none,
     Spec.and3 none (some true), Spec.and3 none (some false), Spec.and3 none none]
      = [some true, some false, none, some false, some false, some false, none, some false, none] ∧
    [Spec.or3 (some true) (some true), Spec.or3 (some true) (some false), Spec.or3 (some true) none,
     Spec.or3 (some false) (some true), Spec.or3 (some false) (some false), Spec.or3 (some false) none,
     Spec.or3 none (some true), Spec.or3 none (some false), Spec.or3 none none]
      = [some true, some true, some true, some true, some false, none, some true, none, none] ∧
    [Spec.xor3 (some true) (some true), Spec.xor3 (some true) (some false), Spec.xor3 (some true) none,
     Spec.xor3 none (some false), Spec.xor3 none none]
      = [some false, some true, none, none, none] ∧
    [Spec.not3 (some true), Spec.not3 (some false), Spec.not3 none] = [some false, some true, none] := by decide

theorem de_morgan_and (a b : Value) : Eval.not3 (Eval.and3 a b) = Eval.or3 (Eval.not3 a) (Eval.not3 b) := by
  rw [and3_spec, not3_spec, tri_triValue, or3_spec, not3_spec a, not3_spec b, tri_triValue, tri_triValue,
    spec_deMorgan_and]
theorem de_morgan_or (a b : Value) : Eval.not3 (Eval.or3 a b) = Eval.and3 (Eval.not3 a) (Eval.not3 b) := by
  rw [or3_spec, not3_spec, tri_triValue, and3_spec, not3_spec a, not3_spec b, tri_triValue, tri_triValue,
    spec_deMorgan_or]

/-! ### null propagation -/

/-- `= <> < <= > >= + - * / % ^ STARTS WITH, ENDS WITH, CONTAINS` yield `null` when either operand is `null` -/
theorem null_propagation (E : Env) (op : BinOp) (hop : op ∈ nullPropagating) (v : Value) :
    evalBin E op .null v = .null ∧ evalBin E op v .null = .null :=
  ⟨null_left E op hop v, null_right E op hop v⟩
theorem in_null_list (E : Env) (v : Value) : evalBin E .inList v .null = .null := inList_null_right E v
theorem unary_null : Eval.negate .null = .null ∧ Eval.not3 .null = .null := ⟨rfl, rfl⟩
/-- IS NULL / IS NOT NULL never yield `null` -/
theorem is_null_total (E : Env) (a b : Value) :
    evalBin E .isNull a b = .bool a.isNull ∧ evalBin E .isNotNull a b = .bool (!a.isNull) := ⟨rfl, rfl⟩

/-! ### `=` is an equivalence -/

/-- symmetric on ALL well-formed values (nulls, NaNs, maps, lists, graph ids included) -/
theorem eq_symm (a b : Value) (wa : a.wf = true) (wb : b.wf = true) : cypherEquals a b = cypherEquals b a :=
  ce_symm a b wa wb
/-- transitive on ALL well-formed values, across integers and floats of any size -/
theorem eq_trans (a b c : Value) (wa : a.wf = true) (wb : b.wf = true) (wc : c.wf = true)
    (h1 : cypherEquals a b = .bool true) (h2 : cypherEquals b c = .bool true) : cypherEquals a c = .bool true :=
  ce_trans a b c wa wb wc h1 h2
/-- reflexive on all well-formed values without `null` and NaN inside -/
theorem eq_refl (a : Value) (wa : a.wf = true) (ca : clean a = true) : cypherEquals a a = .bool true :=
  ce_refl a wa ca
/-- the result is always `true`, `false` or `null` -/
theorem eq_three_valued (a b : Value) : isTri (cypherEquals a b) = true := cypherEquals_tri a b

/-! ### `=` on lists and maps: the Kleene AND of the element equalities, independent of position -/

/-- `[x₁,…,xₙ] = [y₁,…,yₙ]` is `(x₁ = y₁) AND … AND (xₙ = yₙ)` in three-valued logic (a `false` anywhere wins over
    a `null` anywhere); lists of different lengths are unequal — ALL values -/
theorem list_eq_is_kleene_and (xs ys : List Value) :
    cypherEquals (.list xs) (.list ys) =
      if xs.length = ys.length then triValue (Spec.kleeneAll (pairTris (xs.zip ys))) else .bool false := by
  rw [ce_list]
  split
  · exact seq_is_kleene xs ys ‹_›
  · rfl
/-- the same for maps with the same keys (well-formed, i.e. key-sorted maps); different key sets are unequal -/
theorem map_eq_is_kleene_and (l r : List (Str × Value)) (hl : keysSorted l = true) (hr : keysSorted r = true) :
    cypherEquals (.map l) (.map r) =
      if l.length = r.length ∧ keysOf l = keysOf r then
        triValue (Spec.kleeneAll (pairTris ((valsOf l).zip (valsOf r)))) else .bool false := by
  rw [cypherEquals_map l r hl hr]
  by_cases h : l.length = r.length ∧ keysOf l = keysOf r
  · rw [if_pos h, if_pos h]; exact seq_is_kleene _ _ (by simpa [valsOf] using h.1)
  · rw [if_neg h, if_neg h]
/-- **position independence**: permuting the (left, right) element pairs does not change the result -/
theorem list_eq_permutation_invariant (ps qs : List (Value × Value)) (h : ps.Perm qs) :
    cypherEquals (.list (ps.map Prod.fst)) (.list (ps.map Prod.snd)) =
      cypherEquals (.list (qs.map Prod.fst)) (.list (qs.map Prod.snd)) := by
  rw [ce_list_of_pairs, ce_list_of_pairs]
  unfold pairTris
  rw [kleeneAll_perm (h.map _)]
/-- e.g. `[null,1] = [null,2]` is `false`, exactly like `[1,null] = [2,null]` -/
example : cypherEquals (.list [.null, .int 1]) (.list [.null, .int 2]) = .bool false ∧
    cypherEquals (.list [.int 1, .null]) (.list [.int 2, .null]) = .bool false ∧
    cypherEquals (.list [.null, .int 1]) (.list [.null, .int 1]) = .null := by decide

/-! ### numbers: Int/Int, Int/Float, Float/Float compared as the exact rationals they denote -/

theorem eq_numbers_exact (a b : Value) (ha : isNum a = true) (hb : isNum b = true) (wa : a.wf = true)
    (wb : b.wf = true) : cypherEquals a b = .bool (Spec.numCmp a b == some .eq) :=
  cypherEquals_num a b ha hb wa wb
theorem compare_numbers_exact (E : Env) (op : CmpOp) (a b : Value) (ha : isNum a = true) (hb : isNum b = true)
    (wa : a.wf = true) (wb : b.wf = true) :
    compareValues E op a b = match Spec.numCmp a b with
      | some o => .bool (op.test o)
      | none => .bool false := by
  rw [← numCmp_eq_spec a b ha hb wa wb]
  exact cv_numbers E op a b ha hb

/-! ### `<`, `<=`, `>`, `>=` agree with each other and with `=` -/

/-- converse, for ALL values: `a < b` is `b > a`, `a <= b` is `b >= a` (null results included) -/
theorem lt_gt_converse (E : Env) (a b : Value) :
    compareValues E .lt a b = compareValues E .gt b a ∧ compareValues E .le a b = compareValues E .ge b a :=
  ⟨cv_conv E .lt a b, cv_conv E .le a b⟩

/-- **C23_partial**: on every set of well-formed null/NaN-free values outside the two known triggers
    (`lawDomain`: plain values — C23-list-nonplain-order; on the strings present "ordered equal" is text equality
    and the comparison is transitive — C23-temporal-string-compare; strings that are temporal values of one kind with
    different keys are INSIDE the domain and ordered chronologically): `<=` is `<` or `=`, `>=` is `>` or `=` … -/
theorem C23_partial_le_iff (E : Env) (vs : List Value) (h : lawDomain E vs = true) (a b : Value)
    (ha : a ∈ vs) (hb : b ∈ vs) :
    compareValues E .le a b = orEq (compareValues E .lt a b) (cypherEquals a b) ∧
    compareValues E .ge a b = orEq (compareValues E .gt a b) (cypherEquals a b) := by
  have f := lawDomain_cv E h ha hb
  rw [f .le, f .lt, f .ge, f .gt, lawDomain_ce E h ha hb]
  cases sameClass a b <;> cases orderCompare E a b <;> simp [orEq, CmpOp.test]
/-- … exactly one of `<`, `=`, `>` holds for comparable operands … -/
theorem C23_partial_trichotomy (E : Env) (vs : List Value) (h : lawDomain E vs = true) (a b : Value)
    (ha : a ∈ vs) (hb : b ∈ vs) (hc : compareValues E .lt a b ≠ .null) :
    ∃ l e g, compareValues E .lt a b = .bool l ∧ cypherEquals a b = .bool e ∧ compareValues E .gt a b = .bool g ∧
      ((l && !e && !g) || (!l && e && !g) || (!l && !e && g)) = true := by
  have f := lawDomain_cv E h ha hb
  rw [f .lt] at hc
  rw [f .lt, f .gt, lawDomain_ce E h ha hb]
  cases hs : sameClass a b
  · simp [hs] at hc
  · cases orderCompare E a b <;> simp [CmpOp.test]
/-- … and `<`, `<=` are transitive. -/
theorem C23_partial_lt_trans (E : Env) (vs : List Value) (h : lawDomain E vs = true) (a b c : Value)
    (ha : a ∈ vs) (hb : b ∈ vs) (hc : c ∈ vs) (h1 : compareValues E .lt a b = .bool true)
    (h2 : compareValues E .lt b c = .bool true) : compareValues E .lt a c = .bool true := by
  obtain ⟨s1, t1⟩ := cv_true E h ha hb .lt h1
  obtain ⟨s2, t2⟩ := cv_true E h hb hc .lt h2
  have e1 : orderCompare E a b = .lt := eq_of_beq t1
  have e2 : orderCompare E b c = .lt := eq_of_beq t2
  have laws := orderCompare_lawsOn E vs (lawDomain_ordOK E vs h)
  rw [lawDomain_cv E h ha hc .lt, sameClass_trans s1 s2,
    laws.trans a b c ha hb hc (by rw [e1]; nofun) (by rw [e2]; nofun), e1, e2]
  rfl
theorem C23_partial_le_trans (E : Env) (vs : List Value) (h : lawDomain E vs = true) (a b c : Value)
    (ha : a ∈ vs) (hb : b ∈ vs) (hc : c ∈ vs) (h1 : compareValues E .le a b = .bool true)
    (h2 : compareValues E .le b c = .bool true) : compareValues E .le a c = .bool true := by
  obtain ⟨s1, t1⟩ := cv_true E h ha hb .le h1
  obtain ⟨s2, t2⟩ := cv_true E h hb hc .le h2
  have e1 : orderCompare E a b ≠ .gt := fun e => by rw [e] at t1; cases t1
  have e2 : orderCompare E b c ≠ .gt := fun e => by rw [e] at t2; cases t2
  have := (orderCompare_lawsOn E vs (lawDomain_ordOK E vs h)).le_trans ha hb hc e1 e2
  rw [lawDomain_cv E h ha hc .le, sameClass_trans s1 s2]
  cases ho : orderCompare E a c <;> first | rfl | exact absurd ho this
/-- values that are in scope but not plain (maps, graph ids, blobs, paths at top level) are not ordered:
    every comparison is `null`, so the laws hold vacuously there -/
theorem nonplain_incomparable (E : Env) (op : CmpOp) (a b : Value) (ha : inScope a = true) (hb : inScope b = true)
    (hp : plain a = false ∨ plain b = false) : compareValues E op a b = .null := by
  apply cv_of_not_sameClass
  apply Bool.eq_false_iff.2
  intro hs
  -- comparable operands in scope are plain
  have hk := kind_of_sameClass hs
  have : plain a = true ∧ plain b = true := by
    cases a with
    | int x | float x => obtain ⟨y, rfl⟩ | ⟨y, rfl⟩ := isNum_cases hk <;> exact ⟨rfl, rfl⟩
    | bool x | str x => obtain ⟨y, rfl⟩ := hk; exact ⟨rfl, rfl⟩
    | list xs => obtain ⟨ys, rfl⟩ := hk; exact ⟨ha, hb⟩
    | _ => exact hk.elim
  rw [this.1, this.2] at hp
  exact hp.elim nofun nofun

/-! ### one integer-overflow rule: exact in ℤ; fits i64 ⇒ Int, otherwise Float of the float operation -/

theorem overflow_add (E : Env) (l r : Int) :
    evalBin E .add (.int l) (.int r) = Spec.intRule (l + r) (E.F.add (castF l) (castF r)) := add_int E l r
theorem overflow_sub (E : Env) (l r : Int) :
    evalBin E .sub (.int l) (.int r) = Spec.intRule (l - r) (E.F.sub (castF l) (castF r)) := sub_int E l r
theorem overflow_mul (E : Env) (l r : Int) :
    evalBin E .mul (.int l) (.int r) = Spec.intRule (l * r) (E.F.mul (castF l) (castF r)) := mul_int E l r
theorem overflow_div (E : Env) (l r : Int) (hr : r ≠ 0) :
    evalBin E .div (.int l) (.int r) = Spec.intRule (Int.tdiv l r) (E.F.div (castF l) (castF r)) :=
  div_int E l r hr
theorem overflow_neg (i : Int) : Eval.negate (.int i) = Spec.intRule (-i) (F64.negBits (castF i)) := neg_int i

/-! ### non-vacuity -/

def F0 : FArith := ⟨fun a _ => a, fun a _ => a, fun a _ => a, fun a _ => a, fun a _ => a, fun a _ => a⟩
def E0 : Env := ⟨F0, fun _ => none, fun _ => false, fun _ _ => .null, fun _ _ => .null, fun _ _ _ => .null⟩

/-- integers beyond 2^53 next to floats, ±0.0, ∞, strings, nested lists: inside the law domain -/
def sample : List Value :=
  [.int 9007199254740993, .float 0x4340000000000000, .int 9007199254740992, .int 9223372036854775807,
   .float 0x43E0000000000000, .float 0x8000000000000000, .float 0, .float 0x7FF0000000000000,
   .str [0x61], .str [], .bool true, .list [.int 1, .list [.float 0x3FF0000000000000]], .list []]
example : lawDomain E0 sample = true := by decide
/-- the witnesses of `counterexample_pinned_*` under the exact comparison: 2^53+1 > 2^53, not `<=`;
    2^53+1 ≠ 2^53.0 = 2^53 -/
example : compareValues E0 .le (.int 9007199254740993) (.int 9007199254740992) = .bool false ∧
    cypherEquals (.int 9007199254740993) (.float 0x4340000000000000) = .bool false ∧
    cypherEquals (.float 0x4340000000000000) (.int 9007199254740992) = .bool true ∧
    compareValues E0 .gt (.int 9007199254740993) (.float 0x4340000000000000) = .bool true := by decide
example : evalBin E0 .add (.int 9223372036854775807) (.int 1) = .float 0x43E0000000000000 ∧
    evalBin E0 .add (.int 9223372036854775806) (.int 1) = .int 9223372036854775807 := by decide
example : cypherEquals (.map [([0x61], .int 1), ([0x62], .null)]) (.map [([0x61], .float 0x3FF0000000000000), ([0x62], .null)])
    = .null := by decide

/-! ### counterexamples -/

/-- **fixed finding (pinned tree)**: before the `fix:` commits numbers were compared through `as f64`:
    `9007199254740993 <= 9007199254740992` is true while `<` and `=` are false … -/
theorem counterexample_pinned_le_not_lt_or_eq :
    Pinned.compareNumbers .le (.int 9007199254740993) (.int 9007199254740992) = .bool true ∧
    Pinned.compareNumbers .lt (.int 9007199254740993) (.int 9007199254740992) = .bool false ∧
    Pinned.numEquals (.int 9007199254740993) (.int 9007199254740992) = false := by decide
/-- … and `=` was not transitive: 2^53+1 = 2^53.0 and 2^53.0 = 2^53 but 2^53+1 ≠ 2^53. -/
theorem counterexample_pinned_eq_not_transitive :
    Pinned.numEquals (.int 9007199254740993) (.float 0x4340000000000000) = true ∧
    Pinned.numEquals (.float 0x4340000000000000) (.int 9007199254740992) = true ∧
    Pinned.numEquals (.int 9007199254740993) (.int 9007199254740992) = false := by decide

/-- the temporal reading of two strings as the real parser gives it (validated on every run by the `value`
    stream: oracle tokens of corpus/value/temporal-le-not-eq.ops): both are the date 2019-12-30 -/
def sW01 : Str := [0x32,0x30,0x32,0x30,0x2d,0x57,0x30,0x31,0x2d,0x31]      -- '2020-W01-1'
def s1230 : Str := [0x32,0x30,0x31,0x39,0x2d,0x31,0x32,0x2d,0x33,0x30]     -- '2019-12-30'
def tkW (s : Str) : Option (Nat × TKey) :=
  if s = sW01 then some (0, TKey.mk 737423 0 0) else if s = s1230 then some (0, TKey.mk 737423 0 0) else none
def EW : Env := ⟨F0, tkW, fun _ => false, fun _ _ => .null, fun _ _ => .null, fun _ _ _ => .null⟩

/-- **known finding C23-temporal-string-compare**: strings that parse as temporal values of one kind are
    ordered as such but compared for equality as text: `'2020-W01-1' <= '2019-12-30'` is true while `<` and `=`
    are false. -/
theorem counterexample_temporal_strings :
    compareValues EW .le (.str sW01) (.str s1230) = .bool true ∧
    compareValues EW .lt (.str sW01) (.str s1230) = .bool false ∧
    cypherEquals (.str sW01) (.str s1230) = .bool false := by decide +kernel

/-- **known finding C23-list-nonplain-order**: inside lists `<` uses the ORDER BY comparator, which orders
    maps structurally (Int before Float), while `=` compares numbers by value: both `[{a:1}] < [{a:1.0}]` and
    `[{a:1}] = [{a:1.0}]` are true. -/
theorem counterexample_list_of_maps :
    compareValues E0 .lt (.list [.map [([0x61], .int 1)]]) (.list [.map [([0x61], .float 0x3FF0000000000000)]]) = .bool true ∧
    cypherEquals (.list [.map [([0x61], .int 1)]]) (.list [.map [([0x61], .float 0x3FF0000000000000)]]) = .bool true := by
  decide

theorem not_C23_full : ¬ C23_full := by
  intro h
  have := h EW (.str sW01) (.str s1230) rfl rfl rfl rfl
  revert this; decide +kernel

end Nervus.Props.C23
