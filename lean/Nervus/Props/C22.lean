/-
  C22 — Runtime errors are never swallowed.
  Model: Nervus.Model.PlanOps / Limits (operators as transducers, mirrors executor/plan_*.rs,
  runtime_limits.rs; quirk flags regenerated from the source).  Spec: Nervus.Spec.Streams.
  Every theorem holds for EVERY instantiation of rows / values / errors / expressions (`Sem`),
  every limit environment and every plan.
-/
import Nervus.Proofs.Bounded
import Nervus.Model.WriteOps
import Nervus.Model.PlanInst
namespace Nervus.Props.C22
open Nervus Nervus.PlanOps Nervus.PlanInst

/-- `Quirks.current_forwardsErr` restated in this module: the check audits (`#print axioms`) the
    theorems of the property's `Props` modules, and this one is the link to the regenerated flags -/
theorem quirks_repaired : Quirks.current.forwardsErr := Quirks.current_forwardsErr

section
variable {χ ρ ν ε κ α : Type} [DecidableEq κ]

/-! ### per operator: `err_preserved` — an `Err` item among the input items the operator pulls
    ⇒ an `Err` among the items it hands out (for every state, input stream and demand) -/

theorem err_preserved_guard (L : LimEnv ε) (site : Site) : ErrPreserved (guardT (ρ := ρ) L site) :=
  Trans.errPreserved _ (guardT_errFwd L site)

omit [DecidableEq κ] in
theorem err_preserved_filter (S : Sem χ ρ ν ε κ α) (Q : Quirks) (L : LimEnv ε) (env : ρ) (pred : χ) :
    ErrPreserved (filterT S Q L env pred) :=
  Trans.errPreserved _ (mapT_errFwd _)

omit [DecidableEq κ] in
theorem err_preserved_project (S : Sem χ ρ ν ε κ α) (L : LimEnv ε) (env : ρ) (projs : List (String × χ)) :
    ErrPreserved (projectT S L env projs) :=
  Trans.errPreserved _ (mapT_errFwd _)

theorem err_preserved_distinct (S : Sem χ ρ ν ε κ α) : ErrPreserved (distinctT (ρ := ρ) S false) :=
  Trans.errPreserved _ (distinctT_errFwd S)

theorem err_preserved_skip : ErrPreserved (skipT (ε := ε) (ρ := ρ) false) :=
  Trans.errPreserved _ skipT_errFwd

theorem err_preserved_limit : ErrPreserved (limitT (ε := ε) (ρ := ρ)) :=
  Trans.errPreserved _ limitT_errFwd

/-- Unwind, CartesianProduct, Apply, EXISTS filter, MatchOut-with-input: per-row expansions -/
theorem err_preserved_expansion (g : Nat → ρ → PlanOps.Stream ε ρ) : ErrPreserved (flatMapT g) :=
  Trans.errPreserved _ (flatMapT_errFwd g)

theorem err_preserved_orderBy (S : Sem χ ρ ν ε κ α) (Q : Quirks) (hq : Q.orderByKeepsErr = false)
    (L : LimEnv ε) (site : Site) (env : ρ) (keys : List (χ × Bool)) :
    ErrPreserved (orderByT S Q L site env keys) :=
  Trans.errPreserved _ (orderByT_errFwd S Q hq L site env keys)

theorem err_preserved_aggregate (S : Sem χ ρ ν ε κ α) (L : LimEnv ε) (site : Site) (env : ρ)
    (groupBy : List String) (aggs : List (α × String)) :
    ErrPreserved (aggregateT S L site env groupBy aggs) :=
  Trans.errPreserved _ (aggregateT_errFwd S L site env groupBy aggs)

/-- ORDER BY checks the sort keys of EVERY collected row: a key that fails on some row makes it
    answer exactly that error, for an input of ANY length ≥ 1 — a single row included — wherever the
    failing row stands (an empty input evaluates no key) -/
theorem err_preserved_orderBy_keys (S : Sem χ ρ ν ε κ α) (Q : Quirks) (hq : Q.orderByKeepsErr = false)
    (site : Site) (env : ρ) (keys : List (χ × Bool)) (pre : List ρ) (r : ρ) (post : List ρ) (e : ε)
    (hpre : ∀ x ∈ pre, ∃ ks, orderKeys S LimEnv.unlimited env keys x = .ok ks)
    (hr : orderKeys S LimEnv.unlimited env keys r = .error e) :
    (orderByT S Q LimEnv.unlimited site env keys).run ⟨[], 0, false⟩ ((pre ++ r :: post).map .ok) = [.error e] := by
  rw [orderByT_run_ok]
  simp only [List.reverse_nil, List.nil_append, orderByFinish, hq, Bool.false_eq_true, if_false]
  have : ((pre ++ r :: post).map (Except.ok (ε := ε))).mapM (keyedRow S LimEnv.unlimited env keys) = .error e := by
    rw [List.map_append, List.map_cons]
    apply mapM_first_error
    · intro y hy
      obtain ⟨x, hx, rfl⟩ := List.mem_map.1 hy
      obtain ⟨ks, hks⟩ := hpre x hx
      exact ⟨(x, ks), by simp [keyedRow, hks, Except.map]⟩
    · simp [keyedRow, hr, Except.map]
  rw [this]

/-! ### parked failures (`Params::record_failure` / the guard's `take_failure`): a failure parked
    while a pulled row was processed is reported — by the item the operator hands out next or, if
    there is none, at the end of the stream -/

/-- Project / Unwind / ProcedureCall (operators that never say `done`): if the `d ≥ 1` items handed out are all
    `Ok`, nothing was pending and no pulled row parked a failure, WHEREVER the stream ends -/
theorem park_reported_stream {σ : Type} (t : Trans σ ε ρ) (hf : ErrFwd t) (hnd : ∀ st, t.done st = false)
    (parks : σ → Except ε ρ → Option ε) (fp : σ → Option ε) (s : PlanOps.Stream ε ρ) (st : σ)
    (pend : Option ε) (d : Nat) (hd : d ≠ 0)
    (h : allOk (((parkT t parks fp false).run (st, pend) s).take d) = true) :
    pend = none ∧ parkEvents t parks fp st s d = [] := by
  obtain ⟨d, rfl⟩ := Nat.exists_eq_succ_of_ne_zero hd
  cases pend with
  | some e => obtain ⟨e', tl, hp⟩ := parkT_pending t hf hnd parks fp st e s; rw [hp] at h; cases h
  | none => exact ⟨rfl, parkEvents_eq_nil t parks fp (fun _ _ e _ => parkT_pending t hf hnd parks fp _ e) s st _ h⟩

/-- OrderBy / Aggregate (failures are parked by the work done once the input is exhausted) -/
theorem park_reported_block {σ : Type} (t : Trans σ ε ρ) (fp : σ → Option ε) (s : PlanOps.Stream ε ρ)
    (st : σ) (d : Nat)
    (h : allOk (((parkT t (fun _ _ => none) fp false).run (st, none) s).take d) = true) :
    parkEvents t (fun _ _ => none) fp st s d = [] :=
  parkEvents_eq_nil t _ fp (Owes.of_none t fp).pend s st d h

/-! ### the per-row runtime check is applied to every row independently -/

/-- execute_project runs `ensure_runtime_expression_compatible` inside the per-row closure, for
    every projection item, unconditionally (regenerated from the source; a hoisted, cached or
    first-row-only check turns the flag on, an unknown shape breaks the table) -/
theorem project_check_not_hoisted : Generated.projectHoistsCheck = false := by decide

omit [DecidableEq κ] in
/-- the model's Project is pointwise: the item for a row is `projectRow` of THAT row (check and
    evaluation, `Sem.eval`), whatever its position in the stream and whatever came before -/
theorem project_checks_every_row (S : Sem χ ρ ν ε κ α) (L : LimEnv ε) (env : ρ) (projs : List (String × χ))
    (rows : List ρ) :
    (projectT S L env projs).run () (rows.map .ok) = rows.map (fun r => projectRow S L env projs r) := by
  induction rows with
  | nil => rfl
  | cons r rs ih =>
    simp only [List.map_cons, Trans.run_cons]
    show [projectRow S L env projs r] ++ (projectT S L env projs).run () (rs.map .ok) = _
    rw [ih]; rfl

/-! ### query level, by induction over `Plan` -/

/-- for every plan, at every node and for every demand: if the items handed out are all `Ok`,
    every item handed over anywhere below was `Ok` (induction over the plan; nested executions of
    CartesianProduct / Apply / EXISTS included) -/
theorem err_preserved_plan (S : Sem χ ρ ν ε κ α) (Q : Quirks) (hq : Q.forwardsErr) (L : LimEnv ε)
    (p : Plan χ ρ ε α) (site : Site) (env : ρ) (d : Nat)
    (h : allOk ((runL S Q L site env p).take d) = true) :
    ∀ x ∈ trace false S Q L site env p d, Item.isOk x.item = true :=
  (trace_sound S Q hq L p site env).ok d h

/-- `Ok rows` at the driver ⇒ nothing handed over anywhere in the tree was an `Err` -/
theorem never_swallows (S : Sem χ ρ ν ε κ α) (Q : Quirks) (hq : Q.forwardsErr) (L : LimEnv ε)
    (params : ρ) (p : Plan χ ρ ε α) : NeverSwallows S Q L params p := by
  intro rows hrows
  have hall : allOk (runL S Q L .root params p) = true := (collect_ok_iff _).1 ⟨rows, hrows⟩
  exact err_preserved_plan S Q hq L p .root params _ (allOk_take _ _ hall)

/-- `Ok rows` although an `Err` item was handed over in what the query consumed -/
theorem not_neverSwallows {S : Sem χ ρ ν ε κ α} {Q : Quirks} {L : LimEnv ε}
    {params : ρ} {p : Plan χ ρ ε α} {rows : List ρ} (hex : execute S Q L params p = .ok rows) (h : Handed ε ρ)
    (hmem : h ∈ trace false S Q L .root params p (driverDemand (runL S Q L .root params p)))
    (hbad : Item.isOk h.item = false) : ¬ NeverSwallows S Q L params p := fun hn => by
  rw [hn rows hex h hmem] at hbad; cases hbad

/-- the corollary in the words of the property: an `Err` item met anywhere in what the query
    consumes ⇒ the query-level result is `Err` -/
theorem err_reported (S : Sem χ ρ ν ε κ α) (Q : Quirks) (hq : Q.forwardsErr) (L : LimEnv ε)
    (params : ρ) (p : Plan χ ρ ε α) : ErrReported S Q L params p := by
  rintro ⟨h, hmem, hbad⟩
  cases hex : execute S Q L params p with
  | error e => exact ⟨e, rfl⟩
  | ok rows => rw [never_swallows S Q hq L params p rows hex h hmem] at hbad; cases hbad

/-! ### write statements (Model/WriteOps.lean: `execute_write_with_rows`, strict and staged) -/

/-- an error of an earlier stage of a write statement is the statement's error: a staged read
    clause, a write clause and FOREACH all fail with the error of the stage below them -/
theorem write_err_forwarded {ω τ : Type} (S : Sem χ ρ ν ε κ α) (Q : Quirks) (L : LimEnv ε) (W : WSem ω ρ ε τ)
    (site : Site) (env : ρ) (inp : WPlan χ ρ ε α ω) (t : τ) (e : ε)
    (h : execW S Q L W (.left site) env inp t = .error e) :
    (∀ op, execW S Q L W site env (.stage op inp) t = .error e) ∧
    (∀ w, execW S Q L W site env (.write w inp) t = .error e) ∧
    (∀ list var sub, execW S Q L W site env (.foreach list var sub inp) t = .error e) :=
  ⟨fun op => by simp only [execW, h], fun w => by simp only [execW, h],
   fun list var sub => by simp only [execW, h]⟩

/-- a read clause inside a write statement that answers `Ok`: the stage below answered `Ok rows`,
    and while the clause ran over those rows nothing handed over anywhere in its operator tree was
    an `Err` (the read-side theorem applies to every stage) -/
theorem write_stage_never_swallows {ω τ : Type} (S : Sem χ ρ ν ε κ α) (Q : Quirks) (hq : Q.forwardsErr)
    (L : LimEnv ε) (W : WSem ω ρ ε τ) (site : Site) (env : ρ) (op : Plan χ ρ ε α → Plan χ ρ ε α)
    (inp : WPlan χ ρ ε α ω) (t t1 : τ) (n : Nat) (out : List ρ)
    (h : execW S Q L W site env (.stage op inp) t = .ok (n, out, t1)) :
    ∃ rows, execW S Q L W (.left site) env inp t = .ok (n, rows, t1) ∧
      ∀ x ∈ trace false S Q L (.inner site) env (op (.scan rows))
          (driverDemand (runL S Q L (.inner site) env (op (.scan rows)))), Item.isOk x.item = true := by
  simp only [execW] at h
  cases hi : execW S Q L W (.left site) env inp t with
  | error e => rw [hi] at h; cases h
  | ok r =>
    obtain ⟨n', rows, t'⟩ := r
    rw [hi] at h
    simp only at h
    cases hc : collect (runL S Q L (.inner site) env (op (.scan rows))) with
    | error e => rw [hc] at h; cases h
    | ok out' =>
      rw [hc] at h
      simp only [Except.ok.injEq, Prod.mk.injEq] at h
      obtain ⟨rfl, rfl, rfl⟩ := h
      refine ⟨rows, rfl, ?_⟩
      have hall : allOk (runL S Q L (.inner site) env (op (.scan rows))) = true := (collect_ok_iff _).1 ⟨out', hc⟩
      exact err_preserved_plan S Q hq L _ _ env _ (allOk_take _ _ hall)

omit [DecidableEq κ] in
/-- a write clause stops at the first row whose write fails, with that error -/
theorem write_row_error {ω τ : Type} (W : WSem ω ρ ε τ) (w : ω) (pre : List ρ) (r : ρ) (post : List ρ) (n m : Nat)
    (t t' : τ) (e : ε) (hpre : writeRows W w pre n t = .ok (m, t')) (hr : W.apply w r t' = .error e) :
    writeRows W w (pre ++ r :: post) n t = .error e := by
  induction pre generalizing n t with
  | nil =>
    simp only [writeRows, Except.ok.injEq, Prod.mk.injEq] at hpre
    obtain ⟨rfl, rfl⟩ := hpre
    simp only [List.nil_append, writeRows, hr]
  | cons x xs ih =>
    simp only [List.cons_append, writeRows] at hpre ⊢
    cases hx : W.apply w x t with
    | error e0 => rw [hx] at hpre; cases hpre
    | ok kt =>
      obtain ⟨k, t2⟩ := kt
      rw [hx] at hpre
      exact ih _ _ hpre

end

/-- **C22 (full strength)**: on the working tree (quirk flags read from the source), for every
    instantiation of values and expressions, every limit setting and oracle, every parameter row
    and every plan: the query never answers `Ok` after an `Err` was handed over in what it consumed. -/
theorem C22_full {χ ρ ν ε κ α : Type} [DecidableEq κ] (S : Sem χ ρ ν ε κ α) (L : LimEnv ε)
    (params : ρ) (p : Plan χ ρ ε α) :
    NeverSwallows S Quirks.current L params p ∧ ErrReported S Quirks.current L params p :=
  ⟨never_swallows S _ quirks_repaired L params p, err_reported S _ quirks_repaired L params p⟩

/-! ### witnesses on the concrete instance (replayed on the engine: corpus/plan/c22-*.ops) -/

/-- `UNWIND ['true', 1, 'false'] AS v` — `toBoolean(1)` raises InvalidArgumentValue -/
def unwindMixed : Plan DE DRow DErr DAgg :=
  .unwind (.lit (.list [.str "true", .int 1, .str "false"])) "v" (.scan [[]])

def projB (inp : Plan DE DRow DErr DAgg) : Plan DE DRow DErr DAgg :=
  .project [("b", .toBoolean (.var "v"))] inp

/-- `… RETURN DISTINCT toBoolean(v) AS b` -/
def qDistinct : Plan DE DRow DErr DAgg := .distinct (projB unwindMixed)
/-- `… RETURN toBoolean(v) AS b UNION RETURN true AS b` -/
def qUnion : Plan DE DRow DErr DAgg :=
  .union false (projB unwindMixed) (.project [("b", .lit (dbool true))] (.scan [[]]))
/-- `… RETURN toBoolean(v) AS b SKIP 2` -/
def qSkip : Plan DE DRow DErr DAgg := .skip (.lit (dint 2)) (projB unwindMixed)
/-- `… RETURN toBoolean(v) AS b ORDER BY b LIMIT 1` -/
def qOrderLimit : Plan DE DRow DErr DAgg :=
  .limit (.lit (dint 1)) (.orderBy [(.var "b", true)] (projB unwindMixed))
/-- `UNWIND [1] AS v WITH v WHERE EXISTS { WITH v RETURN toBoolean(v) AS b } RETURN v` (shape) -/
def qExists : Plan DE DRow DErr DAgg :=
  .filterExists (.project [("b", .toBoolean (.var "v"))] .arg)
    (.unwind (.lit (.list [.int 1])) "v" (.scan [[]]))

def rowB (b : Bool) : DRow := [("b", dbool b)]

/-- non-vacuity: the plain query reports the error, on the pinned and on the repaired tree alike -/
example : execute dsem Quirks.pinned .unlimited [] (projB unwindMixed) = .error .runtime := by decide +kernel
example : execute dsem Quirks.repaired .unlimited [] (projB unwindMixed) = .error .runtime := by decide +kernel

/-- pinned tree: DISTINCT answers two rows although the second input row raised an error -/
theorem C22_counterexample_distinct :
    execute dsem Quirks.pinned .unlimited [] qDistinct = .ok [rowB true, rowB false] ∧
    ¬ NeverSwallows dsem Quirks.pinned .unlimited [] qDistinct := by
  have hex : execute dsem Quirks.pinned .unlimited [] qDistinct = .ok [rowB true, rowB false] := by decide +kernel
  exact ⟨hex, not_neverSwallows hex ⟨false, .error .runtime, false⟩ (by decide +kernel) rfl⟩

theorem C22_counterexample_union :
    execute dsem Quirks.pinned .unlimited [] qUnion = .ok [rowB true, rowB false] ∧
    ¬ NeverSwallows dsem Quirks.pinned .unlimited [] qUnion := by
  have hex : execute dsem Quirks.pinned .unlimited [] qUnion = .ok [rowB true, rowB false] := by decide +kernel
  exact ⟨hex, not_neverSwallows hex ⟨false, .error .runtime, false⟩ (by decide +kernel) rfl⟩

theorem C22_counterexample_skip :
    execute dsem Quirks.pinned .unlimited [] qSkip = .ok [rowB false] ∧
    ¬ NeverSwallows dsem Quirks.pinned .unlimited [] qSkip := by
  have hex : execute dsem Quirks.pinned .unlimited [] qSkip = .ok [rowB false] := by decide +kernel
  exact ⟨hex, not_neverSwallows hex ⟨false, .error .runtime, false⟩ (by decide +kernel) rfl⟩

theorem C22_counterexample_orderBy_limit :
    execute dsem Quirks.pinned .unlimited [] qOrderLimit = .ok [rowB true] ∧
    ¬ NeverSwallows dsem Quirks.pinned .unlimited [] qOrderLimit := by
  have hex : execute dsem Quirks.pinned .unlimited [] qOrderLimit = .ok [rowB true] := by decide +kernel
  exact ⟨hex, not_neverSwallows hex ⟨false, .error .runtime, false⟩ (by decide +kernel) rfl⟩

theorem C22_counterexample_exists :
    execute dsem Quirks.pinned .unlimited [] qExists = .ok [] ∧
    ¬ NeverSwallows dsem Quirks.pinned .unlimited [] qExists := by
  have hex : execute dsem Quirks.pinned .unlimited [] qExists = .ok [] := by decide +kernel
  exact ⟨hex, not_neverSwallows hex ⟨true, .error .runtime, false⟩ (by decide +kernel) rfl⟩

/-- the same five queries on the repaired operators: the error is reported -/
theorem C22_witnesses_repaired :
    execute dsem Quirks.repaired .unlimited [] qDistinct = .error .runtime ∧
    execute dsem Quirks.repaired .unlimited [] qUnion = .error .runtime ∧
    execute dsem Quirks.repaired .unlimited [] qSkip = .error .runtime ∧
    execute dsem Quirks.repaired .unlimited [] qOrderLimit = .error .runtime ∧
    execute dsem Quirks.repaired .unlimited [] qExists = .error .runtime := by
  refine ⟨?_, ?_, ?_, ?_, ?_⟩ <;> decide +kernel

/-- laziness is respected: `… RETURN toBoolean(v) AS b LIMIT 1` never pulls the failing row, so `Ok`
    is the right answer -/
example : execute dsem Quirks.repaired .unlimited [] (.limit (.lit (dint 1)) (projB unwindMixed)) = .ok [rowB true] := by
  decide +kernel

end Nervus.Props.C22
