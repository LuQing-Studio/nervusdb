/-
  C28 — Vacuum preserves the database.
  Statements only (helper lemmas live in Nervus.Proofs.Vacuum and VacuumSucc).
  Model: Nervus.Model.Vacuum (typed page graph; `succV`/`mark` mirror vacuum.rs, `succR` = what open and
  the read paths dereference; the CSR meta layout vacuum reads is regenerated in Generated/Layout).

  Verdict on the pinned tree: FALSE — vacuum checked the magic `NDBCSRv1` and read two page lists at
  offset 48; segments are written as `NDBCSRv2` with four lists at offset 80, so vacuum failed with
  `invalid csr meta magic` on every compacted database.  Fixed by repo commit 7b070b0 (vacuum decodes
  the page lists with csr.rs's own `meta_page_ids`); `layout_agrees` re-checks the agreement on every run.
-/
import Nervus.Proofs.VacuumSucc
import Nervus.Model.VacuumReal
namespace Nervus.Props.C28
open Nervus Nervus.Vacuum

/-- a well-formed closed database: every page is read in one role only (`Typed`), page ids occur once
    in the file, every reachable page passes the check vacuum applies to its role (it is allocated, a
    B-tree page where a B-tree page is expected, no zero child), every blob page is referenced once
    (`Markable`), and a segment meta page holds the page lists csr.rs writes -/
def WellFormed (L : Layout) (d : Db) (τ : Nat → Role) : Prop :=
  Markable L d τ ∧ ∀ p lists, d.pages.get p = some (.csrMeta lists) → lists.length ≤ Generated.csrMetaLists

/-- fuel that always suffices: one unit per root and per page reference in the file -/
def enoughFuel (L : Layout) (d : Db) (τ : Nat → Role) : Nat :=
  (roots L d).length + (futureOf (succV L d) (univ d τ) []).length

/-- what a reader of `d'` sees is what a reader of `d` sees: the same roots, the same reachable
    (page, role) nodes, the same content in each of them -/
def SameView (L : Layout) (d d' : Db) : Prop :=
  roots L d' = roots L d ∧
  (∀ n, Reach (succR d') (roots L d') n ↔ Reach (succR d) (roots L d) n) ∧
  (∀ n, Reach (succR d) (roots L d) n → d'.pages.get n.1 = d.pages.get n.1)

/-- **C28 at full strength** (on the typed page-graph model): vacuum succeeds on every well-formed
    closed database — with any fuel ≥ roots + page references — and leaves what a reader sees unchanged -/
def C28_full : Prop :=
  ∀ (d : Db) (τ : Nat → Role), WellFormed Layout.real d τ → ∀ fuel, enoughFuel Layout.real d τ ≤ fuel →
    ∃ d', vacuum Layout.real d fuel = .ok d' ∧ SameView Layout.real d d'

/-- vacuum reads the CSR meta page exactly as csr.rs writes it: same magic, same offsets, all the
    page lists (regenerated from vacuum.rs / csr.rs on every run; fails to build if they drift apart) -/
theorem layout_agrees :
    Layout.real.magicOk = true ∧ Generated.csrMetaLists ≤ Layout.real.csrLists ∧
    Generated.vacuumCsrCountsOff = Generated.csrMetaCountsOff ∧
    Generated.vacuumCsrListsOff = Generated.csrMetaListsOff := by decide

/-- vacuum follows the payloads of exactly the reserved B-trees whose payloads are blob ids, and marks
    the node table, the catalog, the property store, the statistics and the segments -/
theorem roots_agree :
    Generated.vacuumBlobTrees = Generated.engineBlobTrees ∧ Generated.vacuumMarksProps = true ∧
    Generated.vacuumMarksStats = true ∧ Generated.vacuumMarksI2e = true ∧
    Generated.vacuumMarksCatalog = true ∧ Generated.vacuumMarksSegments = true := by decide

/-- the comparison operators of the two WAL scans, regenerated from vacuum.rs and engine.rs, are the same
    (`>=` for a ManifestSwitch, `==` for a Checkpoint, initial epoch 0) -/
theorem scan_ops_agree : ScanOps.vacuumReal = ScanOps.engineReal := by decide

/-- for EVERY log (any list of committed transactions, any epochs, any order)
    vacuum's `scan_wal_roots` selects the segment list, property root and statistics root that the
    engine's `scan_recovery_state` selects when the database is opened -/
theorem wal_roots_agree (log : List Tx) :
    (vacuumScan ScanOps.vacuumReal log).roots = (engineScan ScanOps.engineReal log).roots := by
  rw [scan_ops_agree]; exact scan_agree _ log

/-- **inclusion obligation**: on every database whose meta pages hold at most the lists csr.rs writes,
    every (page, role) a reader can reach is reached by vacuum's traversal -/
theorem C28_inclusion (d : Db)
    (h : ∀ p lists, d.pages.get p = some (.csrMeta lists) → lists.length ≤ Generated.csrMetaLists) :
    ∀ n, Reach (succR d) (roots Layout.real d) n → Reach (succV Layout.real d) (roots Layout.real d) n :=
  reader_sub_vacuum Layout.real d _ (fun p lists hp => Nat.le_trans (h p lists hp) layout_agrees.2.1)

/-- keeping any page set that contains the reader-reachable pages leaves the
    reader's view unchanged -/
theorem vacuum_preserves (L : Layout) (d : Db) (keep : List Nat)
    (h : ∀ n, Reach (succR d) (roots L d) n → n.1 ∈ keep) : SameView L d (keepPages d keep) :=
  ⟨roots_keep L d keep, (keep_preserves L d keep h).1, (keep_preserves L d keep h).2⟩

/-- **C28 (partial)**: for EVERY well-formed closed database, whenever vacuum's mark phase returns Ok
    (any fuel), the vacuumed database shows a reader exactly what the original showed -/
theorem C28_partial (d : Db) (τ : Nat → Role) (wf : WellFormed Layout.real d τ) (fuel : Nat) (d' : Db)
    (h : vacuum Layout.real d fuel = .ok d') : SameView Layout.real d d' := by
  unfold vacuum at h
  cases hm : mark Layout.real d fuel with
  | error e => simp [hm] at h
  | ok keep =>
    simp only [hm, Except.ok.injEq] at h
    subst h
    apply vacuum_preserves
    intro n hn
    exact mark_complete Layout.real d τ wf.1.typed fuel keep hm n (C28_inclusion d wf.2 n hn)

/-- **C28 (success)**: on a well-formed database the mark phase returns a page set, whatever the shape
    and size of the file, as soon as the fuel covers the roots and the page references -/
theorem C28_mark_succeeds (d : Db) (τ : Nat → Role) (wf : WellFormed Layout.real d τ) (fuel : Nat)
    (hf : enoughFuel Layout.real d τ ≤ fuel) : ∃ keep, mark Layout.real d fuel = .ok keep :=
  mark_succeeds Layout.real d τ wf.1 fuel hf

/-- **C28**: the full statement holds of the model -/
theorem C28 : C28_full := by
  intro d τ wf fuel hf
  obtain ⟨keep, hk⟩ := C28_mark_succeeds d τ wf fuel hf
  refine ⟨keepPages d keep, by simp [vacuum, hk], ?_⟩
  exact C28_partial d τ wf fuel _ (by simp [vacuum, hk])

/-- **C28 (partial, with the WAL)**: the page file `d` is vacuumed with the roots VACUUM finds in the
    log and read with the roots the ENGINE finds in the log; for every log and every well-formed file,
    when the mark phase returns Ok the reader's view is unchanged -/
theorem C28_partial_log (d : Db) (log : List Tx) (τ : Nat → Role)
    (wf : WellFormed Layout.real (d.withRoots (engineScan ScanOps.engineReal log).roots) τ) (fuel : Nat) (d' : Db)
    (h : vacuum Layout.real (d.withRoots (vacuumScan ScanOps.vacuumReal log).roots) fuel = .ok d') :
    SameView Layout.real (d.withRoots (engineScan ScanOps.engineReal log).roots) d' := by
  rw [wal_roots_agree log] at h
  exact C28_partial _ τ wf fuel d' h

/-! ### non-vacuity: a database with every kind of structure -/

/-- node table (3 records on page 4), catalog → HNSW vector tree (leaf 3 → blob 7 → blob 14),
    user index tree (internal 15 → leaves 16, 17), property store (leaf 11 → blob 12), statistics
    blob 13, one segment (meta 5 → offsets 6, edges 8, in_offsets 9, in_edges 10), orphan page 20 -/
def exampleDb : Db :=
  { pages := [(2, .catalog [(3, true), (15, false)]), (3, .leaf [7] 0), (7, .blob 14), (14, .blob 0),
              (15, .internal [16, 17] 0), (16, .leaf [1, 2] 17), (17, .leaf [3] 0),
              (4, .raw), (5, .csrMeta [[6], [8], [9], [10]]), (6, .raw), (8, .raw), (9, .raw), (10, .raw),
              (11, .leaf [12] 0), (12, .blob 0), (13, .blob 0), (20, .blob 0)],
    i2eStart := 4, i2eLen := 3, catalogRoot := 2, propsRoot := 11, statsRoot := 13, segments := [5] }

def exampleTyping (p : Nat) : Role :=
  if p = 2 then .catalog else if p = 3 then .tree true else if p = 7 ∨ p = 14 ∨ p = 12 ∨ p = 13 then .blob
  else if p = 15 ∨ p = 16 ∨ p = 17 then .tree false else if p = 11 then .tree true
  else if p = 5 then .csrMeta else if p = 6 ∨ p = 8 ∨ p = 9 ∨ p = 10 then .csrData else .i2e

example : WellFormed Layout.real exampleDb exampleTyping :=
  ⟨markable_of_refs _ _ _ (typed_of_pages _ _ _ (by decide +kernel) (by decide +kernel)) (by decide +kernel)
    (by decide +kernel) (by decide +kernel), lists_of_pages _ _ (by decide +kernel)⟩
example : enoughFuel Layout.real exampleDb exampleTyping = 17 := by decide +kernel

/-- vacuum succeeds on it, keeps the 16 live pages (plus pages 0 and 1) and drops the orphan -/
example : (okOf (mark Layout.real exampleDb 100)).map (fun l => (l.length, l.contains 20)) = some (18, false) := by
  decide +kernel

/-! ### counterexamples -/

/-- the pinned vacuum (NDBCSRv1 magic) fails on any database with a segment -/
theorem C28_counterexample_pinned : errOf (mark Layout.pinned exampleDb 100) = some .magic := by decide +kernel

/-- a vacuum that accepted the magic but read only the two forward page lists would drop the
    reverse-index pages a reader needs (incoming relationships) -/
theorem C28_counterexample_forgot_reverse_lists :
    (okOf (mark { Layout.real with csrLists := 2 } exampleDb 100)).map (fun l => (l.contains 9, l.contains 10)) =
      some (false, false) ∧
    (reachR Layout.real exampleDb 100).contains (10, Role.csrData) = true := by decide +kernel

/-- a scan that accepts a ManifestSwitch only for a LARGER epoch (seeded change C28-seed1) ignores the
    epoch-0 manifest the bulk loader writes: it finds no segment where the engine finds one, so vacuum
    would treat every CSR page of a bulk-loaded database as garbage -/
theorem C28_counterexample_epoch0 :
    (vacuumScan ⟨">", "==", 0⟩ [⟨0, [.manifest 0 [7] 3 4, .checkpoint 0 0 3 4]⟩]).roots = ([], 3, 4) ∧
    (engineScan ScanOps.engineReal [⟨0, [.manifest 0 [7] 3 4, .checkpoint 0 0 3 4]⟩]).roots = ([7], 3, 4) := by
  decide

/-- non-vacuity of `wal_roots_agree`: a bulk load (epoch 0), a transaction, two compactions, a
    checkpoint-on-close snapshot that re-emits the current manifest -/
example : (engineScan ScanOps.engineReal
    [⟨0, [.manifest 0 [7] 3 4, .checkpoint 0 0 3 4]⟩, ⟨1, [.other]⟩,
     ⟨3, [.manifest 1 [20, 7] 21 22, .checkpoint 2 1 21 22]⟩, ⟨5, [.manifest 2 [30, 20, 7] 31 32, .checkpoint 4 2 31 32]⟩,
     ⟨6, [.manifest 2 [30, 20, 7] 31 32, .checkpoint 5 2 31 32]⟩]).roots = ([30, 20, 7], 31, 32) := by decide

end Nervus.Props.C28
