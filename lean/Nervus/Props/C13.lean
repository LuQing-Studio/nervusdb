/-
  C13 — A failed statement has no effect.
  Statements, and the proof of `pinned_tree_partial` (helper lemmas: Nervus.Proofs.Txn).  Model: Nervus.Model.Txn.  `codeStep` is the C API's
  execute_write_count / execute_write_in_txn / ndb_txn_commit / ndb_txn_rollback over the row-by-row staging of the
  write executors; its two switches are read off the source on every build (`Generated.CapiTxn`).  After the
  statement-savepoint fix `codeStep = step true false`; the pinned tree was `step false false` (`legacyRun`) and is
  kept for the counterexample theorems.
-/
import Nervus.Proofs.Txn
import Nervus.Spec.TxnSem
import Nervus.Proofs.Savepoint
namespace Nervus.Props.C13
open Nervus.Txn Nervus.Spec.TxnSem

/-- **C13 at full strength**: whatever the history, wherever a statement fails (auto-commit or inside an explicit
    transaction that is committed later), the database evolves as if the failed statements had not been issued. -/
def C13_full : Prop := ∀ (σ : State) (ops : List Op), codeRun σ ops = atomicRun σ ops

/-- **C13** holds on the repaired code, for all states and histories. -/
theorem C13 : C13_full := fun σ ops => by rw [codeRun_def]

/-- **failed_stmt_no_effect** (one step, full strength): an operation that returns an error leaves the whole state —
    committed graph, id counter, staged writes of the open transaction — exactly as it was. -/
theorem failed_stmt_no_effect (σ : State) (op : Op) (h : (codeStep σ op).2 = .err) : (codeStep σ op).1 = σ := by
  rw [codeStep_def] at h ⊢
  obtain ⟨c, a, st⟩ := σ
  cases op with
  | auto s =>
    cases st with
    | some ps => simp [step] at h
    | none =>
      by_cases hf : (exec c a s).failed = true
      · simp [step, hf]
      · exfalso
        have hf' : (exec c a s).failed = false := by simpa using hf
        simp only [step, hf', Bool.false_eq_true, if_false] at h
        split at h <;> cases h
  | tq s =>
    cases st with
    | none => simp [step] at h
    | some ps =>
      simp only [step, Bool.false_eq_true, if_false, if_true] at h ⊢
      split
      · rfl
      · rename_i hf; simp [hf] at h
  | begin => cases st <;> simp [step] at h
  | commit => cases st <;> simp [step] at h
  | rollback => cases st <;> simp [step] at h

/-- in particular what a later commit persists does not depend on the failed statement -/
theorem failed_stmt_then_commit (σ : State) (s : Stmt) (h : (codeStep σ (.tq s)).2 = .err) :
    codeStep (codeStep σ (.tq s)).1 .commit = codeStep σ .commit := by
  rw [failed_stmt_no_effect σ (.tq s) h]

/-- rolling back discards everything staged -/
theorem rollback_discards (σ : State) (ps : List Prim) (h : σ.staged = some ps) :
    (codeStep σ .rollback).1 = ⟨σ.committed, σ.allocated, none⟩ := by
  simp [codeStep_def, step, h]

/-! ### non-vacuity: the witnesses of the pinned tree's violation (below), on the repaired code -/

def witness : List Op := [.begin, .tq (.create 0 [(1, .t), (2, .t), (3, .one)] true), .commit]
def witnessSet : List Op :=
  [.auto (.create 0 [(1, .t), (2, .x), (3, .one), (4, .f)] false), .begin, .tq (.setp 0), .commit]

example : (codeStep (codeRun State.init [.begin]) (.tq (.create 0 [(1, .t), (2, .t), (3, .one)] true))).2 = .err := by
  decide
example : (codeRun State.init witness).committed = [] := by decide
example : (codeRun State.init witnessSet).committed.map (·.p) = [none, none, none, none] := by decide

/-! ### the pinned tree (before the fix): `ndb_txn_query` ran the statement on the caller's transaction and
    returned the error as is — replayed by corpus/capi/*.ops -/

/-- `UNWIND [[1,true],[2,true],[3,1]] AS r CREATE (:A {k: r[0], q: r[1], p: toBoolean(r[1])})` fails at its third
    row; the later commit persisted three `:A` nodes (the node of the failing row is staged before its property
    expression is checked). -/
theorem counterexample_create :
    (legacyRun State.init witness).committed.length = 3 ∧ (atomicRun State.init witness).committed = [] := by decide

/-- `MATCH (n:A) SET n.p = toBoolean(n.q)` over `q = true, 'x', 1, false` failed at the third node after the first
    two had been updated. -/
theorem counterexample_set :
    (legacyRun State.init witnessSet).committed.map (·.p) = [some true, none, none, none] ∧
      (atomicRun State.init witnessSet).committed.map (·.p) = [none, none, none, none] ∧
      anyPartialEffect State.init witnessSet = true := by decide

/-- what did hold there: histories without a statement failing after it had staged something -/
theorem pinned_tree_partial (σ : State) (ops : List Op) (htrig : anyPartialEffect σ ops = false) :
    legacyRun σ ops = atomicRun σ ops := by
  induction ops generalizing σ with
  | nil => rfl
  | cons op ops ih =>
    simp only [anyPartialEffect, Bool.or_eq_false_iff] at htrig
    simp only [run]
    rw [← step_atomic_eq σ op (fun s e => by subst e; exact htrig.1)]
    exact ih _ htrig.2

theorem pinned_tree_violates : ¬ (∀ (σ : State) (ops : List Op), legacyRun σ ops = atomicRun σ ops) := fun h => by
  have := h State.init witness
  exact absurd this (by decide)


/-! ### the savepoint mechanism: "restore the staged state as of the savepoint"

  `step true _` above models `rollback_to` as exactly that.  Two mechanisms implement it: keeping a copy (what
  `WriteTxn::savepoint` does today — regenerated), or an undo journal of previous slot contents replayed
  newest-first.  They are the same function for every sequence of writes, however often a slot is written;
  replaying the journal oldest-first is not. -/

section Mechanism
open Nervus.Savepoint

/-- what the source does today (regenerated; the recogniser rejects a journal that is not replayed newest-first) -/
theorem savepoint_mechanism_is_sound :
    Generated.txnSavepointMechanism = "clone" ∨ Generated.txnSavepointMechanism = "journalNewestFirst" := by decide

/-- **any correct undo is the clone restore**: for every staged state at the savepoint and every sequence of writes
    the failed statement made (same slot any number of times), replaying the journal of previous contents
    newest-first gives back exactly the state the clone-based savepoint restores. -/
theorem journal_undo_equals_clone_restore (saved : Store) (ws : Writes) :
    undoNewestFirst (applyWrites saved ws) (journal saved ws) = restoreClone saved (applyWrites saved ws) :=
  undo_newest_first_restores ws saved

/-- **counterexample (the shape of seeded fault C13-seed2)**: a statement writes slot 1 twice (5, then 7) and fails;
    replaying the journal oldest-first leaves the statement's FIRST write (5) in the slot instead of the content at
    the savepoint (nothing). -/
theorem counterexample_oldest_first_replay :
    let saved : Store := fun _ => none
    let ws : Writes := [(1, some 5), (1, some 7)]
    undoOldestFirst (applyWrites saved ws) (journal saved ws) 1 = some 5 ∧
      undoNewestFirst (applyWrites saved ws) (journal saved ws) 1 = none := by
  decide

/-- oldest-first is only right when no slot is written twice (one write: both orders coincide) -/
example (saved : Store) (s : Nat) (v : Option Nat) :
    undoOldestFirst (applyWrites saved [(s, v)]) (journal saved [(s, v)]) = saved :=
  undo_newest_first_restores [(s, v)] saved

end Mechanism

end Nervus.Props.C13
