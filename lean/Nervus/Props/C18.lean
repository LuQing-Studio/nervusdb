/-
  C18 — Growing one structure never corrupts another.
  Statements only (helper lemmas live in Nervus.Proofs.Pager).
  Model: Nervus.Model.Pager (mirrors pager.rs allocate_page / ensure_allocated / free_page and
  idmap.rs i2e_location / write_i2e_record; constants regenerated in Generated/Sizes).

  Verdict on the pinned tree: FALSE (known finding C18-i2e-growth): the record of node k is written to
  page `i2e_start + k/512` through `ensure_allocated`, which accepts any page — also one that a CSR
  segment, a B-tree, a blob chain … allocated in the meantime.  Every other structure only writes pages
  it allocated itself, and the allocator never hands out an allocated page: `C18_partial`.
-/
import Nervus.Proofs.Pager
import Nervus.Model.PagerReal
namespace Nervus.Props.C18
open Nervus Nervus.Pager

/-- **C18 at full strength** (not provable): after ANY history of page-level engine operations no page
    is claimed by two structures (so a write by one structure cannot change what another stored) -/
def C18_full : Prop := ∀ ops : List Op, ownedOnce (run Cfg.real (init Cfg.real) ops).1

/-- no known finding is triggered: no node record went to a page the node table had not claimed
    and that another structure owns -/
def NoTrigger (c : Cfg) (ops : List Op) : Bool := !(run c (init c) ops).2

/-- **C18 (partial)**: for EVERY history outside the trigger — any interleaving of node creation,
    page allocation by any number of other structures and rewrites of own pages, of any length —
    page ownership stays a partial function, every claimed page is allocated -/
theorem C18_partial (c : Cfg) (ops : List Op) (h : NoTrigger c ops = true) :
    ownedOnce (run c (init c) ops).1 ∧ ∀ x ∈ (run c (init c) ops).1.own, x.1 ∈ (run c (init c) ops).1.pg.bits := by
  simp only [NoTrigger, Bool.not_eq_true'] at h
  have inv := run_inv c ops (init c) (init_inv c) h
  exact ⟨inv.once, inv.alloc⟩

/-- **C18 (isolation)**: in a state where ownership is a partial function, an operation outside the
    trigger changes the stored content of no page owned by a structure other than the one operating -/
theorem C18_isolation (c : Cfg) (s s' : Sys) (op : Op) (inv : Inv s) (ht : i2eConflict c s op = false)
    (h : step c s op = .ok s') (p : Nat) (o : Owner) (ho : o ≠ writer op) (hown : (p, o) ∈ s.own) :
    s'.data.get p = s.data.get p :=
  step_isolated c s s' op inv ht h p o ho hown

/-- **C18 (isolation over histories)**: along EVERY history outside the trigger (any length, any
    interleaving), a page claimed by structure `o` keeps exactly the content `o` last stored — and `o`
    keeps its claim — however much every OTHER structure grows or rewrites in the meantime -/
theorem C18_run_isolation (c : Cfg) (ops₀ ops : List Op) (h : NoTrigger c (ops₀ ++ ops) = true)
    (p : Nat) (o : Owner) (hown : (p, o) ∈ (run c (init c) ops₀).1.own)
    (hw : ∀ op ∈ ops, writer op ≠ o) :
    (run c (init c) (ops₀ ++ ops)).1.data.get p = (run c (init c) ops₀).1.data.get p ∧
    (p, o) ∈ (run c (init c) (ops₀ ++ ops)).1.own := by
  simp only [NoTrigger, Bool.not_eq_true'] at h
  rw [run_append] at h ⊢
  simp only [Bool.or_eq_false_iff] at h
  exact run_isolated c ops _ (run_inv c ops₀ (init c) (init_inv c) h.1) h.2 p o hown hw

/-- the allocator never hands out an allocated page (first free bit below next_page_id, else
    next_page_id), whatever was freed before -/
theorem C18_allocate_fresh (c : Cfg) (s s' : Pg) (p : Nat) (ok : PgOK s) (h : allocate c s = .ok (p, s')) :
    p ∉ s.bits ∧ p ∈ s'.bits :=
  ⟨(allocate_spec c s s' p ok h).1, (allocate_spec c s s' p ok h).2.1⟩

/-- allocation is monotone under engine operations: the engine never frees a page -/
theorem C18_monotone (c : Cfg) (s s' : Sys) (op : Op) (ok : PgOK s.pg) (h : step c s op = .ok s') :
    ∀ p, p ∈ s.pg.bits → p ∈ s'.pg.bits :=
  (step_ok c s s' op ok h).mono

/-- allocation is monotone over EVERY history outside the trigger: whatever was allocated after a prefix
    is still allocated after any continuation, so (with `C18_allocate_fresh`) no later allocation by any
    structure returns a page that some structure was given earlier -/
theorem C18_run_monotone (c : Cfg) (ops₀ ops : List Op) (h : NoTrigger c (ops₀ ++ ops) = true) :
    ∀ p, p ∈ (run c (init c) ops₀).1.pg.bits → p ∈ (run c (init c) (ops₀ ++ ops)).1.pg.bits := by
  simp only [NoTrigger, Bool.not_eq_true'] at h
  rw [run_append] at h ⊢
  simp only [Bool.or_eq_false_iff] at h
  exact run_mono c ops _ (run_inv c ops₀ (init c) (init_inv c) h.1) h.2

/-- **no page is handed out twice**: after EVERY trigger-free history, whatever `Pager::allocate_page`
    returns next is a page no structure has a claim on (claimed pages are allocated — the invariant —
    and the allocator returns only unallocated pages) -/
theorem C18_never_reallocated (c : Cfg) (ops : List Op) (h : NoTrigger c ops = true) (q : Nat) (pg' : Pg)
    (ha : allocate c (run c (init c) ops).1.pg = .ok (q, pg')) :
    ∀ x ∈ (run c (init c) ops).1.own, x.1 ≠ q := by
  simp only [NoTrigger, Bool.not_eq_true'] at h
  have inv := run_inv c ops (init c) (init_inv c) h
  intro x hx e
  exact (allocate_spec c _ pg' q inv.pg ha).1 (e ▸ inv.alloc x hx)

/-! ### non-vacuity (2 records per node-table page) -/

def tiny : Cfg := ⟨2, 64, 2⟩

/-- the node table grows over three pages, then three other structures allocate and rewrite -/
def exampleOps : List Op :=
  [.alloc 1, .createNode, .createNode, .createNode, .createNode, .createNode, .alloc 2, .alloc 3,
   .rewrite 2 6, .rewrite 1 2, .createNode]

example : NoTrigger tiny exampleOps = true := by decide
example : (run tiny (init tiny) exampleOps).1.own =
    [(7, .other 3), (6, .other 2), (5, .i2e), (4, .i2e), (3, .i2e), (2, .other 1)] := by decide +kernel
example : Inv (init tiny) := init_inv tiny
example : (allocate tiny (run tiny (init tiny) exampleOps).1.pg).toOption.map (·.1) = some 8 := by decide
/-- `C18_run_isolation` is not vacuous: structure 1's page 2 survives five node creations, two foreign
    allocations and a foreign rewrite (prefix = first op, suffix without `rewrite 1 2`) -/
example : NoTrigger tiny ([.alloc 1] ++ (exampleOps.drop 1).dropLast.dropLast) = true ∧
    (2, Owner.other 1) ∈ (run tiny (init tiny) [.alloc 1]).1.own ∧
    (∀ op ∈ (exampleOps.drop 1).dropLast.dropLast, writer op ≠ .other 1) ∧
    (run tiny (init tiny) ([.alloc 1] ++ (exampleOps.drop 1).dropLast.dropLast)).1.data.get 2 = some (.other 1, 0) := by
  decide +kernel

/-! ### counterexample -/

/-- one node, then another structure allocates the page right behind the node table's first page,
    then the node table grows past its page: the third node's record goes into that structure's
    page — two owners, and the structure's content is gone (last writer: the node table) -/
theorem C18_counterexample :
    ¬ ownedOnce (run tiny (init tiny) [.createNode, .alloc 7, .createNode, .createNode]).1 ∧
    (run tiny (init tiny) [.createNode, .alloc 7]).1.data.get 3 = some (.other 7, 1) ∧
    (run tiny (init tiny) [.createNode, .alloc 7, .createNode, .createNode]).1.data.get 3 = some (.i2e, 3) ∧
    (run tiny (init tiny) [.createNode, .alloc 7, .createNode, .createNode]).2 = true := by decide

/-- the same at the real record size: 1 node, one foreign allocation, 512 more nodes -/
theorem C18_counterexample_real :
    ¬ ownedOnce (run Cfg.real (init Cfg.real) (.createNode :: .alloc 7 :: List.replicate 512 .createNode)).1 := by
  -- stated through `run_append_fst`, not by reducing `(_, _).1`: the kernel would run the whole history to check that
  rw [show Op.createNode :: Op.alloc 7 :: List.replicate 512 Op.createNode =
    [.createNode, .alloc 7] ++ List.replicate (511 + 1) .createNode from rfl, run_append_fst]
  -- after one node and one foreign allocation the node table has one record on page 2 and structure 7 owns
  -- page 3: 511 more records fill page 2, the 512th goes to page 3
  have hlen : (run Cfg.real (init Cfg.real) [.createNode, .alloc 7]).1.i2eLen = 1 := by decide
  exact grow_conflict Cfg.real 2 2 3 (by decide) (by decide) 511 _ (by decide)
    (fun k hk => by rw [hlen]; show 2 + (1 + k) / 512 = 2; omega) (by rw [hlen]; decide) (by decide) (by decide) (by decide)

theorem C18_counterexample_full : ¬ C18_full :=
  fun h => C18_counterexample_real (h _)

end Nervus.Props.C18
