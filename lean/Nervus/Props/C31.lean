/-
  C31 — Vector search is sound and durable.
  Statements only (helper lemmas: Nervus.Proofs.Hnsw{Heap,Search,Top,Graph,History,Store,Blob}).
  Model: Nervus.Model.Hnsw (HnswIndex::{insert, search_layer, select_neighbors, search},
  GraphEngine::search_vector; abstract distance, levels as input, repairs read from the regenerated
  table Generated/HnswFlags).  Spec: Nervus.Spec.VectorSearch (`Sound`, `Exact`, `bruteForce`).
  The f32 value of the Euclidean distance is NOT in these theorems (stream `hnsw`: brute-force
  recomputation on the real code).  Durability is proved at the level of the persistent store
  (Model/HnswStore over the B-tree of Model/BTree): `durable_*` below; that the B-tree behind a
  given root answers like the map of Model/Hnsw is C26's refinement, not re-proved here.
-/
import Nervus.Proofs.HnswHistory
import Nervus.Proofs.HnswStore
import Nervus.Proofs.HnswBlob
import Nervus.Model.BTreeReal
namespace Nervus.Props.C31
open Nervus Nervus.Hnsw

variable {V D : Type}

/-- **C31 at full strength** (the part a model can state): after every history of vector writes
    (re-writes included), deletions and compactions, every `search_vector` answer is sound and —
    when the index holds at most `2m+1` vectors (and `ef_search` is not configured below that) —
    exactly the k nearest.  False: `counterexample_reinsert`. -/
def C31_full (sp : Space V D) (p : Params) : Prop :=
  ∀ (ops : List (EOp V)) (st : EState V), erun sp p ops EState.init = .ok st →
    ∀ (q : V) (k : Nat) (r : List (D × Nat)), searchVector Cfg.current sp p st.ix st.tomb q k = .ok r →
      Sound sp st.ix st.tomb q k r ∧
      ((storedIds st.ix).length ≤ 2 * p.m + 1 → (storedIds st.ix).length ≤ p.efS →
        Exact sp st.ix st.tomb q k r)

/-- the two modelled `fix:` commits are present in the source (table regenerated on every run) -/
theorem fixes_present : Cfg.current = Cfg.fixed := by decide

/-- **soundness, for ANY distance and ANY index state** (whatever sequence of inserts, re-inserts,
    levels and truncations produced it, however broken its graph): at most k results, distinct
    ids, every id has a stored vector and carries `dist query vector`, no tombstoned node,
    distances non-decreasing -/
theorem sound (sp : Space V D) (law : sp.Lawful) (p : Params) (ix : Index V) (tomb : List Nat) (q : V)
    (k : Nat) (r : List (D × Nat)) (h : searchVector Cfg.current sp p ix tomb q k = .ok r) :
    Sound sp ix tomb q k r := by
  rw [fixes_present] at h; exact searchVector_sound law p ix tomb q k r h

/-- **exactness on a connected base layer**: if layer 0 links only stored ids and every stored id
    reaches every other, and `ef_search ≥ n`, the answer is exactly the first k of the brute-force
    ranking of the existing nodes (ties broken by id, as the heap does) -/
theorem exact_of_connected (sp : Space V D) (law : sp.Lawful) (p : Params) (ix : Index V)
    (hc : Connected0 ix) (hent : ix.entry = none → storedIds ix = [])
    (hef : (storedIds ix).length ≤ p.efS) (tomb : List Nat) (q : V) (k : Nat) (r : List (D × Nat))
    (h : searchVector Cfg.current sp p ix tomb q k = .ok r) :
    r = (bruteForce sp ix tomb q).take k := by
  rw [fixes_present] at h; exact searchVector_exact law p ix hc hef hent tomb q k r h

/-- **connectivity is an invariant of `insert`** for a first-time insert while the index holds at
    most `2m` other vectors — for any distance, any level: no truncation branch can fire, the base
    layer stays symmetric, duplicate-free and connected -/
theorem insert_keeps_connected (sp : Space V D) (p : Params) (ix : Index V) (hc : Conn ix) (id : Nat) (v : V)
    (level : Nat) (hid : id ∉ storedIds ix) (hn : (storedIds ix).length + 1 ≤ 2 * p.m + 1)
    (hefc : 1 ≤ p.efC) (ix' : Index V) (h : insert sp p ix id v level = .ok ix') :
    Conn ix' ∧ ∀ j, j ∈ storedIds ix' ↔ (j = id ∨ j ∈ storedIds ix) :=
  insert_conn sp p ix hc id v level hid (by omega) hefc ix' h

/-- **C31 (partial)**: every history in which each id receives its vector once (trigger
    `C31-reinsert-disconnects` excluded) and that stores at most `2m+1` vectors — any vectors, any
    distance, any levels, ties, duplicates, any interleaving of node deletions and compactions —
    answers every search soundly and with exactly the k nearest existing nodes -/
theorem C31_partial (sp : Space V D) (law : sp.Lawful) (p : Params) (ops : List (EOp V))
    (hfirst : (vecIds ops).Nodup) (hsmall : (vecIds ops).length ≤ 2 * p.m + 1)
    (hefs : (vecIds ops).length ≤ p.efS) (hefc : 1 ≤ p.efC)
    (st : EState V) (hrun : erun sp p ops EState.init = .ok st)
    (q : V) (k : Nat) (r : List (D × Nat)) (h : searchVector Cfg.current sp p st.ix st.tomb q k = .ok r) :
    Sound sp st.ix st.tomb q k r ∧ r = (bruteForce sp st.ix st.tomb q).take k ∧
      Exact sp st.ix st.tomb q k r := by
  obtain ⟨hconn, hlen⟩ := erun_conn (sp := sp) p hefc ops EState.init st conn_empty hfirst
    (fun _ _ hin => nomatch hin) (show 0 + (vecIds ops).length ≤ p.m * 2 + 1 by omega) hrun
  have hlen' : (storedIds st.ix).length = (vecIds ops).length := hlen.trans (Nat.zero_add _)
  have hex := exact_of_connected sp law p st.ix hconn.connected0 hconn.entry_none (by omega) st.tomb q k r h
  exact ⟨sound sp law p st.ix st.tomb q k r h, hex, by unfold Exact; rw [hex]⟩

/-! ### non-vacuity (the stream's concrete space: integer half-unit coordinates, squared distance) -/

def pSmall : Params := ⟨2, 200, 200⟩

/-- five vectors = 2m+1, with a tie (ids 1 and 3 are equidistant from the query), a duplicate vector
    (ids 0 and 4), levels 0‥2, a deleted node and a compaction in between -/
def opsClean : List (EOp Vec) := [
  .vec 0 0 [0, 0], .vec 1 2 [2, 0], .vec 2 0 [4, 4], .del 1, .vec 3 1 [0, 2], .compact, .vec 4 0 [0, 0], .del 2 ]

example : (vecIds opsClean).Nodup ∧ (vecIds opsClean).length ≤ 2 * pSmall.m + 1 := by decide

/-- the model runs it, finds all four live nodes in brute-force order and skips the deleted one -/
example :
    ((erun intSpace pSmall opsClean EState.init).toOption.bind fun st =>
      (searchVector Cfg.fixed intSpace pSmall st.ix st.tomb [1, 1] 10).toOption)
      = some [(2, 0), (2, 1), (2, 3), (2, 4)] := by decide +kernel

example : (intSpace).Lawful := intSpace_lawful

/-! ### counterexample on the current tree (KNOWN finding; witness corpus/hnsw/reinsert-disconnects.ops) -/

def pOne : Params := ⟨1, 200, 200⟩

def opsReinsert : List (EOp Vec) := [.vec 0 0 [0, 0], .vec 1 0 [2, 0], .vec 2 0 [4, 0], .vec 1 0 [2, 0]]

/-- C31-reinsert-disconnects: writing the vector of node 1 again replaces its adjacency by its
    single nearest stored id — itself; node 2 is no longer reachable from the entry point and a
    search over 3 = 2m+1 vectors misses the nearest one -/
theorem counterexample_reinsert :
    ((erun intSpace pOne opsReinsert EState.init).toOption.bind fun st =>
      (searchVector Cfg.fixed intSpace pOne st.ix st.tomb [4, 0] 3).toOption) = some [(4, 1), (16, 0)] ∧
    ((erun intSpace pOne opsReinsert EState.init).toOption.map fun st =>
      ((bruteForce intSpace st.ix st.tomb [4, 0]).take 3, (storedIds st.ix).length))
      = some ([(0, 2), (4, 1), (16, 0)], 3) ∧
    (vecIds opsReinsert).Nodup = False := by
  refine ⟨by decide +kernel, by decide +kernel, ?_⟩
  simp [opsReinsert, vecIds]

theorem C31_full_false : ¬ C31_full intSpace pOne := by
  intro hfull
  obtain ⟨h1, h2, _⟩ := counterexample_reinsert
  cases he : erun intSpace pOne opsReinsert EState.init with
  | error e => rw [he] at h1; simp [Except.toOption] at h1
  | ok st =>
    rw [he] at h1 h2
    simp only [Except.toOption, Option.bind_some, Option.map_some, Option.some.injEq, Prod.mk.injEq] at h1 h2
    cases hs : searchVector Cfg.fixed intSpace pOne st.ix st.tomb [4, 0] 3 with
    | error e => rw [hs] at h1; simp at h1
    | ok r =>
      rw [hs] at h1
      simp only [Option.some.injEq] at h1
      have := (hfull opsReinsert st he [4, 0] 3 r (by rw [fixes_present]; exact hs)).2
        (by rw [h2.2]; decide) (by rw [h2.2]; decide)
      unfold Exact at this
      rw [h2.1, h1] at this
      revert this; decide

/-! ### counterexamples on the pinned tree (repaired; witnesses corpus/hnsw/{k-zero,deleted-node}.ops) -/

def opsTwo : List (EOp Vec) := [.vec 0 0 [0, 0], .vec 1 0 [2, 0]]

/-- C31-k-zero (repaired): `search(query, 0)` returned one node (pinned tree: neither repair) -/
theorem counterexample_k_zero :
    ((erun intSpace pSmall opsTwo EState.init).toOption.bind fun st =>
      (searchVector Cfg.pinned intSpace pSmall st.ix st.tomb [1, 0] 0).toOption)
      = some [(1, 0)] := by decide +kernel

/-- C31-deleted-node (repaired): a deleted node was still returned -/
theorem counterexample_deleted_node :
    ((erun intSpace pSmall (opsTwo ++ [.del 0]) EState.init).toOption.bind fun st =>
      (searchVector { Cfg.fixed with skipTomb := false } intSpace pSmall st.ix st.tomb [0, 0] 2).toOption)
      = some [(0, 0), (4, 1)] ∧
    ((erun intSpace pSmall (opsTwo ++ [.del 0]) EState.init).toOption.bind fun st =>
      (searchVector Cfg.fixed intSpace pSmall st.ix st.tomb [0, 0] 2).toOption) = some [(4, 1)] := by
  constructor <;> decide +kernel

/-! ### durability: what the next `open` loads is what the running engine uses -/

section durability
open Nervus.BTree Nervus.HnswStore
variable {κ : Type} [KeyOrd κ]

/-- the root write-back of `insert_vector` is present in the source (regenerated) -/
theorem roots_written_back : rootsWrittenBack = true := by decide

/-- **durability of the two system B-trees**: after ANY history of successful engine inserts — any
    keys, any payloads, any number of leaf / internal / root splits, any page size — the catalog
    records the roots in use, so reopening changes nothing at all in the store the index reads -/
theorem durable_store (c : BTree.Cfg) (ops : List (List (κ × Nat) × List (κ × Nat))) (s : Store κ)
    (h : runStore rootsWrittenBack c (Store.create c) ops = (s, true)) : s.reopen = s := by
  rw [roots_written_back] at h
  exact store_reopen_of_synced s (runStore_synced c ops _ s ⟨create_synced c, create_synced c⟩ h)

/-- … hence every `get_vector` / `get_neighbors` / `get_meta` (a `lookup`) answers the same after
    the reopen, and so does every search built from them -/
theorem durable_reads (c : BTree.Cfg) (ops : List (List (κ × Nat) × List (κ × Nat))) (s : Store κ)
    (h : runStore rootsWrittenBack c (Store.create c) ops = (s, true)) (k : κ) :
    lookup c s.reopen.vec.tree k = lookup c s.vec.tree k ∧
    lookup c s.reopen.graph.tree k = lookup c s.graph.tree k := by
  rw [durable_store c ops s h]; exact ⟨rfl, rfl⟩

/-- non-vacuity / C31-root-split-reopen (repaired): on a 64-byte page six vector writes split the
    root; with the write-back the reopened store still finds all six keys … -/
example :
    let s := (runStore true (BTree.Cfg.small 64) (Store.create (BTree.Cfg.small 64) : Store Nat)
      [([(1, 10), (2, 20), (3, 30)], []), ([(4, 40), (5, 50), (6, 60)], [])]).1
    s.vec.tree.root ≠ (Store.create (BTree.Cfg.small 64) : Store Nat).vec.tree.root ∧
    [1, 2, 3, 4, 5, 6].map (fun k => lookup (BTree.Cfg.small 64) s.reopen.vec.tree k) =
      [.ok (some 10), .ok (some 20), .ok (some 30), .ok (some 40), .ok (some 50), .ok (some 60)] := by
  decide +kernel

/-- … without it (pinned tree) the reopened store reads through the old root and has lost three -/
theorem counterexample_root_split_reopen :
    let s := (runStore false (BTree.Cfg.small 64) (Store.create (BTree.Cfg.small 64) : Store Nat)
      [([(1, 10), (2, 20), (3, 30)], []), ([(4, 40), (5, 50), (6, 60)], [])]).1
    [1, 2, 3, 4, 5, 6].map (fun k => lookup (BTree.Cfg.small 64) s.vec.tree k) =
      [.ok (some 10), .ok (some 20), .ok (some 30), .ok (some 40), .ok (some 50), .ok (some 60)] ∧
    [1, 2, 3, 4, 5, 6].map (fun k => lookup (BTree.Cfg.small 64) s.reopen.vec.tree k) =
      [.ok (some 10), .ok (some 20), .ok (some 30), .ok none, .ok none, .ok none] := by
  decide +kernel

end durability

/-! ### the blob layer under the stores: what is stored is what is read back (cold cache) -/

section blob
open Nervus.HnswBlob

/-- `get_vector` / `get_neighbors` decode the concatenated blob, not page by page (regenerated from
    index/hnsw/storage.rs; the recogniser fails on shapes it does not know) -/
theorem decoders_use_concat : decodesPerPage = false := by decide

/-- the blob page payload (regenerated from blob_store.rs) is positive — and NOT a multiple of the
    word size, which is why a per-page decoder is wrong for values longer than one page -/
theorem page_payload_facts : 1 ≤ pagePayload ∧ pagePayload % 4 ≠ 0 := by decide

/-- **stored = read back**: a vector or neighbour list of ANY length written through
    `BlobStore::write_direct` and read with a cold cache through `read_direct` + word decoding comes
    back unchanged — for the engine's page payload … -/
theorem stored_is_read_back (ws : List Nat) (hw : ∀ w, w ∈ ws → w < 2 ^ 32) :
    roundTrip decodesPerPage pagePayload ws = .ok ws := by
  rw [decoders_use_concat]; exact roundTrip_concat pagePayload page_payload_facts.1 ws hw

/-- … and for every page payload `P ≥ 1` whatsoever -/
theorem stored_is_read_back_any_page (P : Nat) (hP : 1 ≤ P) (ws : List Nat) (hw : ∀ w, w ∈ ws → w < 2 ^ 32) :
    roundTrip false P ws = .ok ws := roundTrip_concat P hP ws hw

/-- **the per-page decoder is wrong** whenever the payload is not a multiple of 4 and the value
    crosses a page: the result is strictly shorter than what was stored (C31-seed1) -/
theorem counterexample_per_page_decoding (P : Nat) (hP4 : P % 4 ≠ 0) (ws : List Nat)
    (hcross : P < 4 * ws.length) (r : List Nat) (h : roundTrip true P ws = .ok r) : r ≠ ws := by
  intro e
  have := perPage_loses_words P hP4 ws hcross r h
  rw [e] at this; exact Nat.lt_irrefl _ this

/-- concretely, on a 6-byte page: the word straddling the boundary is dropped and the next one is
    decoded two bytes out of phase (3 becomes 3·2^16); the concatenating decoder is right -/
example : roundTrip true 6 [1, 2, 3] = .ok [1, 196608] ∧ roundTrip false 6 [1, 2, 3] = .ok [1, 2, 3] := by
  decide +kernel
/-- the engine's payload: 2046 words are one more than fit a page (instance of the theorems above) -/
example : pagePayload < 4 * 2046 ∧ 4 * 2045 ≤ pagePayload := by decide
/-- non-vacuity of `stored_is_read_back_any_page`: values of 0‥9 words over pages of 1‥9 bytes -/
example : (List.range 10).all (fun n => (List.range 9).all (fun p =>
    roundTrip false (p + 1) ((List.range n).map (· * 16843009 % 4294967296)) ==
      .ok ((List.range n).map (· * 16843009 % 4294967296)))) = true := by
  refine List.all_eq_true.mpr fun n _ => List.all_eq_true.mpr fun p _ => ?_
  rw [stored_is_read_back_any_page (p + 1) (Nat.succ_pos p) _ fun w hw => ?_]
  · exact beq_self_eq_true _
  · obtain ⟨x, _, rfl⟩ := List.mem_map.mp hw
    exact Nat.mod_lt _ (by decide)

end blob

end Nervus.Props.C31
